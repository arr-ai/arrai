import Arrai.Core.CanonLemmas
import Arrai.Facts.Generated
import Arrai.Proofs.C01
import Arrai.Proofs.C02
import Arrai.Proofs.C03
import Arrai.Proofs.C04
import Arrai.Proofs.C05
import Arrai.Proofs.C06
import Arrai.Proofs.C07
import Arrai.Proofs.C08
import Arrai.Proofs.C09
import Arrai.Proofs.C10
import Arrai.Proofs.C11
import Arrai.Proofs.C12
import Arrai.Proofs.C13
import Arrai.Proofs.C14
import Arrai.Proofs.C15
import Arrai.Proofs.C16
import Arrai.Proofs.C17
import Arrai.Proofs.C18
import Arrai.Proofs.C19
import Arrai.Proofs.C20
