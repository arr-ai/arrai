/-
  `Lit`: data values *as written* — every literal form in which arr.ai lets a value be spelled
  (sugar for strings, byte arrays, arrays with holes and offsets, dictionaries, relation literals,
  booleans, plain sets and tuples).  `Lit.src` prints arr.ai source, `Lit.den` is the meaning in `V`.
  Imported by the models of C01, C06 (C07 through it), C08, C09, C10, C12 and by the generators of C02, C03, C05.
  Not every `Lit` is a literal arr.ai accepts: a `rel` row that is not as long as the heading (`zipAttrs` cuts to the
  shorter) and a `dict` with a repeated key (`den` keeps both pairs) have a `den`, while arr.ai rejects their `src`
  ("heading-tuple mismatch", "duplicate key"); `genLit` produces neither.  Core-only.
-/
import Arrai.Core.Canon

namespace Arrai

inductive Lit where
  | num (n : Int)
  | str (off : Int) (cs : List Nat)                 -- off\'…' (code points)
  | bytes (off : Int) (bs : List Nat)               -- off\<<…>>
  | arr (off : Int) (xs : List (Option Lit))        -- off\[a, , b]
  | dict (kvs : List (Lit × Lit))                   -- {k: v, …}
  | set (xs : List Lit)                             -- {a, b, …}
  | tup (kvs : List (String × Lit))                 -- (a: 1, …)
  | rel (names : List String) (rows : List (List Lit))   -- {|a, b| (1, 2), …}
  | tt | ff
  deriving Inhabited

namespace Lit

/-! ## meaning -/
def zipAttrs : List String → List V → List (String × V)
  | n :: ns, v :: vs => (n, v) :: zipAttrs ns vs
  | _, _ => []

mutual
def den : Lit → V
  | .num n => .num n
  | .str off cs => V.mkSeq "@char" off (cs.map (fun c => some (.num (Int.ofNat c))))
  | .bytes off bs => V.mkSeq "@byte" off (bs.map (fun c => some (.num (Int.ofNat c))))
  | .arr off xs => V.mkSeq "@item" off (denOpts xs)
  | .dict kvs => V.mkSet (denPairs kvs)
  | .set xs => V.mkSet (denList xs)
  | .tup kvs => V.mkTup (denAttrs kvs)
  | .rel names rows => V.mkSet (denRows names rows)
  | .tt => V.tt
  | .ff => V.none
def denOpts : List (Option Lit) → List (Option V)
  | [] => []
  | some x :: r => some (den x) :: denOpts r
  | none :: r => none :: denOpts r
def denPairs : List (Lit × Lit) → List V
  | [] => []
  | (k, v) :: r => V.mkTup [("@", den k), ("@value", den v)] :: denPairs r
def denList : List Lit → List V
  | [] => []
  | x :: r => den x :: denList r
def denAttrs : List (String × Lit) → List (String × V)
  | [] => []
  | (n, v) :: r => (n, den v) :: denAttrs r
def denRows (names : List String) : List (List Lit) → List V
  | [] => []
  | row :: r => V.mkTup (zipAttrs names (denList row)) :: denRows names r
end

/-! ## source text -/
def hex4 (n : Nat) : String :=
  let d (k : Nat) : Char := "0123456789abcdef".toList.getD k '0'
  String.ofList [d (n / 4096 % 16), d (n / 256 % 16), d (n / 16 % 16), d (n % 16)]

/-- a code point inside single quotes (printable ASCII literally, everything else escaped) -/
def charSrc (c : Nat) : String :=
  if c == 39 then "\\'" else if c == 92 then "\\\\"
  else if c == 10 then "\\n" else if c == 9 then "\\t" else if c == 13 then "\\r"
  else if 32 ≤ c && c < 127 then String.singleton (Char.ofNat c)
  else if c < 65536 then "\\u" ++ hex4 c
  else String.singleton (Char.ofNat c)

def isIdent (s : String) : Bool :=
  match s.toList with
  | [] => false
  | c :: r => (c.isAlpha || c == '_' ) && r.all (fun d => d.isAlphanum || d == '_')

def nameSrc (n : String) : String :=
  if isIdent n || n == "@" || (n.startsWith "@" && isIdent (n.drop 1).toString) then n
  else "'" ++ String.join (n.toList.map (fun c => charSrc c.toNat)) ++ "'"

def offSrc (off : Int) (body : String) : String :=
  if off == 0 then body else "(" ++ toString off ++ ")\\" ++ body

def numSrc (n : Int) : String := if n < 0 then "(" ++ toString n ++ ")" else toString n

mutual
def src : Lit → String
  | .num n => numSrc n
  | .str off cs => offSrc off ("'" ++ String.join (cs.map charSrc) ++ "'")
  | .bytes off bs => offSrc off ("<<" ++ ", ".intercalate (bs.map toString) ++ ">>")
  | .arr off xs => offSrc off ("[" ++ ", ".intercalate (srcOpts xs) ++ "]")
  | .dict kvs => "{" ++ ", ".intercalate (srcPairs kvs) ++ "}"
  | .set xs => "{" ++ ", ".intercalate (srcList xs) ++ "}"
  | .tup kvs => "(" ++ ", ".intercalate (srcAttrs kvs) ++ ")"
  | .rel names rows => "{|" ++ ", ".intercalate (names.map nameSrc) ++ "| " ++ ", ".intercalate (srcRows rows) ++ "}"
  | .tt => "true"
  | .ff => "false"
def srcOpts : List (Option Lit) → List String
  | [] => []
  | some x :: r => src x :: srcOpts r
  | none :: r => "" :: srcOpts r
def srcPairs : List (Lit × Lit) → List String
  | [] => []
  | (k, v) :: r => (src k ++ ": " ++ src v) :: srcPairs r
def srcList : List Lit → List String
  | [] => []
  | x :: r => src x :: srcList r
def srcAttrs : List (String × Lit) → List String
  | [] => []
  | (n, v) :: r => (nameSrc n ++ ": " ++ src v) :: srcAttrs r
def srcRows : List (List Lit) → List String
  | [] => []
  | row :: r => ("(" ++ ", ".intercalate (srcList row) ++ ")") :: srcRows r
end

/-! ## generator -/

/-- drop later elements whose meaning (by `key`) repeats an earlier one -/
def dedupBy {α} (key : α → V) (l : List α) : List α :=
  (l.foldl (fun acc x => if acc.any (fun y => decide (key y = key x)) then acc else x :: acc) []).reverse

/- Not part of the generator: a second `BEq V` beside `instBEqOfDecidableEq` (from `DecidableEq V`, Core/V.lean).  Both
are `decide (a = b)` and `LawfulBEq V` holds of either, but which of them `==` on `V` elaborates to depends on whether
a module has this file among its imports. -/
instance : BEq V := ⟨fun a b => decide (a = b)⟩

def genSmallInt : Gen Int := randInt (-2) 3
def genChars : Gen (List Nat) := do
  let n ← rand 4
  genList n (do pure (97 + (← rand 3)))
def genOff : Gen Int := do
  let r ← rand 6
  pure (match r with | 0 => 2 | 1 => -1 | 2 => 1 | _ => 0)

/-- holes only strictly inside (arr.ai trims leading/trailing holes of a literal anyway) -/
def withHoles (xs : List Lit) : Gen (List (Option Lit)) := do
  let n := xs.length
  let mut out : List (Option Lit) := []
  let mut i := 0
  for x in xs do
    let hole ← chance 1 5
    out := (if hole && 0 < i && i + 1 < n then none else some x) :: out
    i := i + 1
  pure out.reverse

def attrNames : List String := ["a", "b", "c", "x"]

def genLit : Nat → Gen Lit
  | 0 => do
    let r ← rand 10
    match r with
    | 0 => pure .tt
    | 1 => pure .ff
    | 2 => do pure (.str 0 (← genChars))
    | 3 => pure (.set [])
    | _ => do pure (.num (← genSmallInt))
  | d + 1 => do
    let r ← rand 14
    match r with
    | 0 | 1 => genLit 0
    | 2 => do pure (.str (← genOff) (← genChars))
    | 3 => do
      let n ← rand 4
      pure (.bytes (← genOff) (← genList n (rand 3)))
    | 4 | 5 => do
      let n ← rand 4
      let xs ← genList n (genLit d)
      pure (.arr (← genOff) (← withHoles xs))
    | 6 | 7 => do
      let n ← rand 3
      let kvs ← genList n (do pure ((← genLit d), (← genLit d)))
      pure (.dict (dedupBy (fun kv => kv.1.den) kvs))
    | 8 | 9 => do
      let n ← rand 4
      pure (.set (← genList n (genLit d)))
    | 10 | 11 => do
      let n ← rand 3
      let names := (← genList n (pick attrNames)).eraseDups
      let vals ← genList names.length (genLit d)
      pure (.tup (names.zip vals))
    | _ => do
      let w ← rand 2
      let names := attrNames.take (w + 1)
      let m ← rand 3
      let rows ← genList (m + 1) (genList names.length (genLit d))
      pure (.rel names rows)

end Lit
end Arrai
