/-
  Canonical textual observables of a `V` (`V.canon`); the constructors that build a `V` in normal form (`V.mkSet`,
  `V.mkTup` with `V.insAttr`, and the sequence sugar `V.mkSeq` with `V.seqMembers`, `V.mkArr`, `V.mkStr`, `V.mkBytes`):
  they normalise the top level only (`mkSet` sorts and deduplicates the members it is given, `mkTup` sorts the names),
  so the result is canonical when the parts are (their lemmas: `Core/CanonLemmas.lean`); the PRNG; and the case line
  protocol shared by the Lean drivers and the Go harness.  Core-only.
-/
import Arrai.Core.FinSet

namespace Arrai

def sortStrs (l : List String) : List String := l.mergeSort (fun a b => !(b < a))

def dedupAdj : List String → List String
  | [] => []
  | [a] => [a]
  | a :: b :: r => if a == b then dedupAdj (b :: r) else a :: dedupAdj (b :: r)

namespace V

/- `canon v`: numbers in decimal, tuples `(name:canon,…)` sorted as strings, sets
`{canon,…}` sorted as strings with duplicates removed.  The Go harness computes the same
string by walking `Enumerator`s with its own string sort (never with arr.ai's `Less`). -/
mutual
def canon : V → String
  | .num n => toString n
  | .tup as => "(" ++ ",".intercalate (sortStrs (canonAttrs as)) ++ ")"
  | .set xs => "{" ++ ",".intercalate (dedupAdj (sortStrs (canonList xs))) ++ "}"
def canonAttrs : List (String × V) → List String
  | [] => []
  | (n, v) :: r => (n ++ ":" ++ canon v) :: canonAttrs r
def canonList : List V → List String
  | [] => []
  | v :: r => canon v :: canonList r
end

/-! smart constructors that keep `V` canonical (sets sorted/deduplicated by `V.cmp`) -/
def mkSet (xs : List V) : V := .set (FinSet.mk xs)

def insAttr (n : String) (v : V) : List (String × V) → List (String × V)
  | [] => [(n, v)]
  | (m, w) :: r => if n < m then (n, v) :: (m, w) :: r else if n = m then (n, v) :: r else (m, w) :: insAttr n v r
def mkTup (as : List (String × V)) : V := .tup (as.foldr (fun p acc => insAttr p.1 p.2 acc) [])

/-- sequence sugar: element `i` of `xs` (if present) becomes `(@: off+i, name: x)` -/
def seqMembers (name : String) (off : Int) : List (Option V) → List V
  | [] => []
  | some x :: r => mkTup [("@", .num off), (name, x)] :: seqMembers name (off + 1) r
  | Option.none :: r => seqMembers name (off + 1) r
def mkSeq (name : String) (off : Int) (xs : List (Option V)) : V := mkSet (seqMembers name off xs)
def mkArr (xs : List V) : V := mkSeq "@item" 0 (xs.map some)
def mkStr (cs : List Nat) : V := mkSeq "@char" 0 (cs.map (fun c => some (.num (Int.ofNat c))))
def mkBytes (cs : List Nat) : V := mkSeq "@byte" 0 (cs.map (fun c => some (.num (Int.ofNat c))))

end V

/-! ## PRNG: xorshift64*, every random choice of every generator comes from one state -/
abbrev Gen := StateM UInt64

def nextU64 : Gen UInt64 := do
  let s ← get
  let s := s ^^^ (s >>> 12)
  let s := s ^^^ (s <<< 25)
  let s := s ^^^ (s >>> 27)
  set s
  pure (s * 2685821657736338717)

def rand (n : Nat) : Gen Nat := do
  let x ← nextU64
  pure (if n = 0 then 0 else (x >>> 11).toNat % n)

def randInt (lo hi : Int) : Gen Int := do
  let k ← rand (hi - lo + 1).toNat
  pure (lo + k)

def pick {α} [Inhabited α] (xs : List α) : Gen α := do
  let i ← rand xs.length
  pure (xs.getD i default)

def chance (num den : Nat) : Gen Bool := do
  let k ← rand den
  pure (k < num)

def genList {α} (n : Nat) (g : Gen α) : Gen (List α) := do
  let mut out := []
  for _ in [0:n] do
    out := (← g) :: out
  pure out.reverse

def seedOf (seed : Nat) (salt : Nat) : UInt64 :=
  let s : UInt64 := (UInt64.ofNat seed) * 0x9E3779B97F4A7C15 + (UInt64.ofNat salt) * 0xBF58476D1CE4E5B9 + 0x94D049BB133111EB
  if s == 0 then 88172645463325252 else s

/-! ## Case lines -/
structure Case where
  id : String            -- unique within a run
  cls : String           -- "good" or a known-finding id
  kind : String          -- harness operation
  model : String         -- observable predicted by the Lean transliteration (Impl)
  spec : String          -- observable demanded by the specification
  payload : List String  -- arguments of the harness operation
  stratum : String := ""
  deriving Inhabited

def escField (s : String) : String :=
  s.foldl (fun acc c =>
    if c == '\\' then acc ++ "\\\\"
    else if c == '\t' then acc ++ "\\t"
    else if c == '\n' then acc ++ "\\n"
    else if c == '\r' then acc ++ "\\r"
    else acc.push c) ""

-- the line has `stratum` fourth; the structure declares it last (it has a default), so the two orders differ
def Case.line (c : Case) : String :=
  "\t".intercalate ((c.id :: c.cls :: c.kind :: c.stratum :: c.model :: c.spec :: c.payload).map escField)

end Arrai
