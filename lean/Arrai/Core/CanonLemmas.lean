/-
  The canonical constructors of `Core.Canon`.  `V.mkSet` depends on the members only (`V.mkSet_eq_iff`).  `V.mkTup`
  yields the name-sorted association list with the same lookups, and name-sorted lists are determined by their lookups,
  so `V.mkTup l = V.mkTup l'` says that `l` and `l'` bind the same names to the same values (`V.mkTup_eq_iff`).  Last,
  the tuple `(@: i, name: v)` of a keyed member (`V.keyed_inj`, `V.cmp_keyed_lt`).  Core-only.
-/
import Arrai.Core.Canon
import Arrai.Core.ListLemmas
import Arrai.Core.Assoc

namespace Arrai
namespace V

theorem mkSet_eq_iff (l l' : List V) : mkSet l = mkSet l' ↔ ∀ v, v ∈ l ↔ v ∈ l' := by
  rw [mkSet, mkSet, V.set.injEq, FinSet.mk_eq_iff]

theorem mkSet_congr {l l' : List V} (h : ∀ x, x ∈ l ↔ x ∈ l') : mkSet l = mkSet l' := (mkSet_eq_iff l l').2 h

/-! ### canonical tuples -/

theorem str_lt_of_not_lt_of_ne {a b : String} (h1 : ¬ a < b) (h2 : a ≠ b) : b < a :=
  Decidable.byContradiction fun h3 => h2 (String.le_antisymm (String.not_lt.1 h3) (String.not_lt.1 h1))

/-- attribute lists strictly sorted by name -/
def SortedAttrs (l : List (String × V)) : Prop := l.Pairwise fun a b => a.1 < b.1

/-- what `mkTup l` holds: `l` sorted by name, the first binding of a name kept.  Not a projection from `V`, and not
`V.canonAttrs` (the strings of `canon`), though C04 calls it `canonAttrs`. -/
def attrs (l : List (String × V)) : List (String × V) := l.foldr (fun p acc => insAttr p.1 p.2 acc) []

theorem mkTup_eq (l : List (String × V)) : mkTup l = .tup (attrs l) := rfl

theorem insAttr_nil (n : String) (v : V) : insAttr n v [] = [(n, v)] := rfl

theorem insAttr_cons (n : String) (v : V) (k : String) (w : V) (r : List (String × V)) :
    insAttr n v ((k, w) :: r) =
      if n < k then (n, v) :: (k, w) :: r else if n = k then (n, v) :: r else (k, w) :: insAttr n v r := rfl

theorem insAttr_ne_nil (n : String) (v : V) (l : List (String × V)) : insAttr n v l ≠ [] := by
  cases l with
  | nil => simp [insAttr]
  | cons p r =>
    obtain ⟨m, w⟩ := p
    simp only [insAttr]
    split
    · simp
    · split <;> simp

/-- one direction only: `insAttr n v l` drops a binding of `n` that `l` has, so the converse fails -/
theorem mem_insAttr {n : String} {v : V} {l : List (String × V)} {q : String × V} (h : q ∈ insAttr n v l) :
    q = (n, v) ∨ q ∈ l := by
  induction l with
  | nil => exact Or.inl (List.mem_singleton.1 h)
  | cons p r ih =>
    obtain ⟨k, w⟩ := p
    rw [insAttr_cons] at h
    split at h
    · exact List.mem_cons.1 h
    · split at h
      · exact (List.mem_cons.1 h).imp_right (List.mem_cons_of_mem _)
      · rcases List.mem_cons.1 h with e | h'
        · exact Or.inr (e ▸ List.mem_cons_self)
        · exact (ih h').imp_right (List.mem_cons_of_mem _)

theorem sorted_insAttr (n : String) (v : V) (l : List (String × V)) (hl : SortedAttrs l) :
    SortedAttrs (insAttr n v l) := by
  induction l with
  | nil => exact List.pairwise_singleton _ _
  | cons p r ih =>
    obtain ⟨k, w⟩ := p
    obtain ⟨hk, hr⟩ := List.pairwise_cons.1 hl
    rw [insAttr_cons]
    split
    · rename_i h1
      refine List.pairwise_cons.2 ⟨fun a ha => ?_, hl⟩
      rcases List.mem_cons.1 ha with rfl | ha
      · exact h1
      · exact String.lt_trans h1 (hk a ha)
    · split
      · rename_i h2
        subst h2
        exact List.pairwise_cons.2 ⟨hk, hr⟩
      · rename_i h1 h2
        refine List.pairwise_cons.2 ⟨fun a ha => ?_, ih hr⟩
        rcases mem_insAttr ha with rfl | ha
        · exact str_lt_of_not_lt_of_ne h1 h2
        · exact hk a ha

theorem sorted_attrs (l : List (String × V)) : SortedAttrs (attrs l) := by
  induction l with
  | nil => exact List.Pairwise.nil
  | cons p r ih => exact sorted_insAttr _ _ _ ih

theorem SortedAttrs.nodup {l : List (String × V)} (h : SortedAttrs l) : (l.map (·.1)).Nodup :=
  nodup_of_pairwise String.lt_irrefl (List.pairwise_map.2 h)

theorem SortedAttrs.eq_of_perm {a b : List (String × V)} (ha : SortedAttrs a) (hb : SortedAttrs b) (h : a.Perm b) :
    a = b :=
  pairwise_perm_eq (fun _ _ => String.lt_asymm) ha hb h

/-! #### lookups -/

theorem lookup_insAttr (n : String) (v : V) (l : List (String × V)) (m : String) :
    (insAttr n v l).lookup m = if m = n then some v else l.lookup m := by
  induction l with
  | nil => rw [insAttr_nil, lookup_cons_ite]
  | cons p r ih =>
    obtain ⟨k, w⟩ := p
    rw [insAttr_cons]
    by_cases h1 : n < k
    · rw [if_pos h1, lookup_cons_ite]
    · by_cases h2 : n = k
      · subst h2
        rw [if_neg h1, if_pos rfl, lookup_cons_ite, lookup_cons_ite]
        by_cases e : m = n <;> simp [e]
      · rw [if_neg h1, if_neg h2, lookup_cons_ite, lookup_cons_ite, ih]
        by_cases e : m = k
        · subst e; simp [Ne.symm h2]
        · simp [e]

theorem lookup_attrs (l : List (String × V)) (m : String) : (attrs l).lookup m = l.lookup m := by
  induction l with
  | nil => rfl
  | cons p r ih =>
    show (insAttr p.1 p.2 (attrs r)).lookup m = _
    rw [lookup_insAttr, ih, lookup_cons_ite]

/-- strictly sorted attribute lists are determined by their lookups -/
theorem SortedAttrs.ext {a b : List (String × V)} (ha : SortedAttrs a) (hb : SortedAttrs b)
    (h : ∀ n, a.lookup n = b.lookup n) : a = b :=
  eq_of_pairwise_of_mem_iff (fun _ _ => String.lt_asymm) ha hb ((lookup_ext_iff_mem ha.nodup hb.nodup).1 h)

theorem attrs_of_sorted (l : List (String × V)) (h : SortedAttrs l) : attrs l = l :=
  (sorted_attrs l).ext h (lookup_attrs l)

theorem mkTup_of_sorted (l : List (String × V)) (h : SortedAttrs l) : mkTup l = .tup l :=
  congrArg V.tup (attrs_of_sorted l h)

theorem mkTup_eq_iff (l l' : List (String × V)) : mkTup l = mkTup l' ↔ ∀ n, l.lookup n = l'.lookup n := by
  rw [mkTup_eq, mkTup_eq, V.tup.injEq]
  exact ⟨fun h n => by rw [← lookup_attrs l, ← lookup_attrs l', h],
    fun h => (sorted_attrs l).ext (sorted_attrs l') fun n => by rw [lookup_attrs, lookup_attrs, h n]⟩

/-! #### lists with distinct names -/

theorem insAttr_perm (n : String) (v : V) : ∀ (l : List (String × V)), (∀ p ∈ l, p.1 ≠ n) →
    (insAttr n v l).Perm ((n, v) :: l) :=
  forall_mem_rec (List.Perm.refl _) fun (m, w) r hm ih => by
    rw [insAttr_cons]
    split
    · exact List.Perm.refl _
    · split
      · rename_i hnm
        exact absurd hnm.symm hm
      · exact (List.Perm.cons _ ih).trans (List.Perm.swap _ _ _)

theorem attrs_perm : ∀ (l : List (String × V)), (l.map (·.1)).Nodup → (attrs l).Perm l
  | [], _ => List.Perm.refl _
  | p :: l, h => by
    rw [List.map_cons, List.nodup_cons] at h
    have ih := attrs_perm l h.2
    exact (insAttr_perm p.1 p.2 _ fun q hq e => h.1 (List.mem_map.2 ⟨q, ih.mem_iff.1 hq, e⟩)).trans
      (List.Perm.cons _ ih)

theorem mkTup_perm {l l' : List (String × V)} (hn : (l.map (·.1)).Nodup) (hp : l.Perm l') : mkTup l = mkTup l' :=
  congrArg V.tup ((sorted_attrs l).eq_of_perm (sorted_attrs l')
    ((attrs_perm l hn).trans (hp.trans (attrs_perm l' ((hp.map _).nodup_iff.1 hn)).symm)))

theorem perm_of_mkTup_eq {l l' : List (String × V)} (hn : (l.map (·.1)).Nodup) (hn' : (l'.map (·.1)).Nodup)
    (h : mkTup l = mkTup l') : l.Perm l' :=
  (attrs_perm l hn).symm.trans ((V.tup.inj h : attrs l = attrs l') ▸ attrs_perm l' hn')

/-! ### the tuple of a keyed member, `(@: i, name: v)`

The lemmas are about the literal `.tup [("@", i), (name, v)]`; `mkTup [("@", i), (name, v)]`, which `seqMembers` builds,
is that literal when `"@" < name` (`mkTup_at`).  A third spelling, `V.pair name i v`, is used by C05 only. -/

theorem keyed_inj {name : String} {i j : Int} {x y : V} :
    V.tup [("@", .num i), (name, x)] = V.tup [("@", .num j), (name, y)] ↔ i = j ∧ x = y := by
  simp

theorem cmp_keyed_lt (name : String) {i j : Int} (x y : V) (h : i < j) :
    V.cmp (.tup [("@", .num i), (name, x)]) (.tup [("@", .num j), (name, y)]) = .lt := by
  have c : compare i j = Ordering.lt := by rw [Int.compare_eq_lt]; exact h
  simp [V.cmp, V.cmpAttrs, c]

theorem mkTup_at (name : String) (i v : V) (h : "@" < name) :
    mkTup [("@", i), (name, v)] = .tup [("@", i), (name, v)] :=
  mkTup_of_sorted _ (List.pairwise_cons.2 ⟨fun _ hp => List.mem_singleton.1 hp ▸ h, List.pairwise_singleton _ _⟩)

theorem mkTup_at_swap (name : String) (i v : V) (h : name ≠ "@") :
    mkTup [(name, v), ("@", i)] = mkTup [("@", i), (name, v)] :=
  mkTup_perm (List.nodup_cons.2 ⟨fun hm => h (List.mem_singleton.1 hm), List.pairwise_singleton _ _⟩) (List.Perm.swap _ _ _)

end V
end Arrai
