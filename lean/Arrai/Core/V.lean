/-
  Core value type `V`: what an arr.ai data value *means* — a number, a tuple
  (finite map from names to values) or a finite set of values.
  The properties about data values (C01–C12, C14) state their specifications over `V`, directly or through a
  representation whose meaning is a `V`; C13 and C15–C20 have types of their own.

  Core-only (no Mathlib): this file is linked into the `driver-cXX` executables (one per property).
-/
namespace Arrai

inductive V where
  | num : Int → V
  | tup : List (String × V) → V
  | set : List V → V
  deriving Inhabited

namespace V

/-! ## Boolean equality (nested inductive: no `deriving DecidableEq`) -/

mutual
def beq : V → V → Bool
  | .num a, .num b => a == b
  | .tup a, .tup b => beqAttrs a b
  | .set a, .set b => beqList a b
  | _, _ => false
def beqAttrs : List (String × V) → List (String × V) → Bool
  | [], [] => true
  | (n, v) :: as, (m, w) :: bs => n == m && beq v w && beqAttrs as bs
  | _, _ => false
def beqList : List V → List V → Bool
  | [], [] => true
  | a :: as, b :: bs => beq a b && beqList as bs
  | _, _ => false
end

mutual
theorem beq_eq (a b : V) : beq a b = true ↔ a = b := by
  cases a with
  | num x => cases b <;> simp [beq]
  | tup x =>
    cases b with
    | tup y => simp [beq, beqAttrs_eq x y]
    | _ => simp [beq]
  | set x =>
    cases b with
    | set y => simp [beq, beqList_eq x y]
    | _ => simp [beq]
theorem beqAttrs_eq (a b : List (String × V)) : beqAttrs a b = true ↔ a = b := by
  cases a with
  | nil => cases b <;> simp [beqAttrs]
  | cons p as =>
    obtain ⟨n, v⟩ := p
    cases b with
    | nil => simp [beqAttrs]
    | cons q bs =>
      obtain ⟨m, w⟩ := q
      simp [beqAttrs, beq_eq v w, beqAttrs_eq as bs, and_assoc]
theorem beqList_eq (a b : List V) : beqList a b = true ↔ a = b := by
  cases a with
  | nil => cases b <;> simp [beqList]
  | cons x as =>
    cases b with
    | nil => simp [beqList]
    | cons y bs => simp [beqList, beq_eq x y, beqList_eq as bs]
end

instance : DecidableEq V := fun a b =>
  if h : beq a b = true then isTrue ((beq_eq a b).1 h)
  else isFalse (fun e => h ((beq_eq a b).2 e))

/-! ## A structural total order on `V` (used to keep sets in a canonical order) -/

mutual
def cmp : V → V → Ordering
  | .num a, .num b => compare a b
  | .num _, .tup _ => .lt
  | .num _, .set _ => .lt
  | .tup _, .num _ => .gt
  | .tup a, .tup b => cmpAttrs a b
  | .tup _, .set _ => .lt
  | .set _, .num _ => .gt
  | .set _, .tup _ => .gt
  | .set a, .set b => cmpList a b
def cmpAttrs : List (String × V) → List (String × V) → Ordering
  | [], [] => .eq
  | [], _ :: _ => .lt
  | _ :: _, [] => .gt
  | (n, v) :: as, (m, w) :: bs => (compare n m).then ((cmp v w).then (cmpAttrs as bs))
def cmpList : List V → List V → Ordering
  | [], [] => .eq
  | [], _ :: _ => .lt
  | _ :: _, [] => .gt
  | a :: as, b :: bs => (cmp a b).then (cmpList as bs)
end

/-! ## Constructors for the sugared forms -/

def bool (b : Bool) : V := if b then .set [.tup []] else .set []
/- `none` and `tt` are `bool false` and `bool true` (by `rfl`).  Trap: inside `namespace V` a bare `none` is this
constant, not `Option.none` (which is why `V.seqMembers` writes `Option.none`). -/
def none : V := .set []
def tt : V := .set [.tup []]

/- Meant for `name ≠ "@"`: `pair "@" i v` is `.tup [("@", v), ("@", i)]`, with a repeated name (`V.mkTup` on the same
two bindings keeps the first only). -/
/-- `(@: i, name: v)` -/
def pair (name : String) (i : V) (v : V) : V :=
  if "@" < name then .tup [("@", i), (name, v)] else .tup [(name, v), ("@", i)]

end V
end Arrai
