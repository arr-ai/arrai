/-
  Finite sets of values as strictly `V.cmp`-sorted lists.  This is the mathematical
  reference ("Spec") for every set-algebra property: extensionality (`sorted_ext`) says that
  a sorted list is determined by its members, so `=` on canonical lists *is* set equality.
  Core-only.
-/
import Arrai.Core.Order
import Arrai.Core.ListLemmas

namespace Arrai
namespace FinSet

open V

/-- strictly increasing w.r.t. `V.cmp` -/
def Sorted (l : List V) : Prop := l.Pairwise (fun a b => cmp a b = .lt)

def ins (x : V) : List V → List V
  | [] => [x]
  | y :: ys =>
    match cmp x y with
    | .lt => x :: y :: ys
    | .eq => y :: ys
    | .gt => y :: ins x ys

/-- canonical form of an arbitrary list of members -/
def mk (xs : List V) : List V := xs.foldr ins []

/- The operations take any lists.  `union a b` inserts the members of `a` into `b`, so `sorted_union` asks only `b` to be
sorted; `inter`, `diff` and `erase` filter `a`, and their `sorted_*` lemmas ask only `a`. -/
def union (a b : List V) : List V := a.foldr ins b
def inter (a b : List V) : List V := a.filter (fun x => decide (x ∈ b))
def diff (a b : List V) : List V := a.filter (fun x => !decide (x ∈ b))
def symdiff (a b : List V) : List V := union (diff a b) (diff b a)
def erase (a : List V) (x : V) : List V := a.filter (fun y => !decide (y = x))
def subset (a b : List V) : Bool := a.all (fun x => decide (x ∈ b))
def card (a : List V) : Nat := a.length

theorem sorted_nil : Sorted [] := List.Pairwise.nil

theorem mem_ins (x y : V) (l : List V) : y ∈ ins x l ↔ y = x ∨ y ∈ l := by
  induction l with
  | nil => simp [ins]
  | cons z zs ih =>
    unfold ins
    cases h : cmp x z with
    | lt => simp
    | eq =>
      have : x = z := (cmp_eq_iff x z).1 h
      subst this; simp
    | gt =>
      simp [ih]
      constructor
      · rintro (h | h | h) <;> simp [h]
      · rintro (h | h | h) <;> simp [h]

theorem sorted_ins (x : V) (l : List V) (hl : Sorted l) : Sorted (ins x l) := by
  induction l with
  | nil => simp [ins, Sorted]
  | cons z zs ih =>
    unfold ins
    cases h : cmp x z with
    | lt =>
      simp only
      unfold Sorted at *
      rw [List.pairwise_cons]
      refine ⟨?_, hl⟩
      intro a ha
      rcases List.mem_cons.1 ha with rfl | ha
      · exact h
      · exact cmp_lt_trans _ _ _ h ((List.pairwise_cons.1 hl).1 a ha)
    | eq => exact hl
    | gt =>
      simp only
      unfold Sorted at *
      rw [List.pairwise_cons] at hl ⊢
      refine ⟨?_, ih hl.2⟩
      intro a ha
      rcases (mem_ins x a zs).1 ha with rfl | ha
      · exact (cmp_gt_iff _ _).1 h
      · exact hl.1 a ha

theorem sorted_mk (xs : List V) : Sorted (mk xs) := by
  induction xs with
  | nil => exact sorted_nil
  | cons x xs ih => exact sorted_ins x _ ih

theorem mem_mk (xs : List V) (y : V) : y ∈ mk xs ↔ y ∈ xs := by
  induction xs with
  | nil => simp [mk]
  | cons x xs ih =>
    show y ∈ ins x (mk xs) ↔ _
    rw [mem_ins, ih]; simp

theorem sorted_nodup (a : List V) (h : Sorted a) : a.Nodup := nodup_of_pairwise cmp_lt_irrefl h

/-- A strictly sorted list is determined by its members. -/
theorem sorted_ext : ∀ (a b : List V), Sorted a → Sorted b → (∀ x, x ∈ a ↔ x ∈ b) → a = b :=
  fun _ _ => eq_of_pairwise_of_mem_iff cmp_lt_asymm

/-! ### the set operations are exact -/

theorem mem_union (a b : List V) (x : V) : x ∈ union a b ↔ x ∈ a ∨ x ∈ b := by
  induction a with
  | nil => simp [union]
  | cons y ys ih =>
    show x ∈ ins y (union ys b) ↔ _
    rw [mem_ins, ih]; simp [or_assoc]

theorem sorted_union (a b : List V) (hb : Sorted b) : Sorted (union a b) := by
  induction a with
  | nil => exact hb
  | cons y ys ih => exact sorted_ins y _ ih

theorem sorted_filter (p : V → Bool) (a : List V) (h : Sorted a) : Sorted (a.filter p) :=
  List.Pairwise.filter p h

theorem mem_inter (a b : List V) (x : V) : x ∈ inter a b ↔ x ∈ a ∧ x ∈ b := by simp [inter]
theorem mem_diff (a b : List V) (x : V) : x ∈ diff a b ↔ x ∈ a ∧ x ∉ b := by simp [diff]
theorem mem_erase (a : List V) (v x : V) : x ∈ erase a v ↔ x ∈ a ∧ x ≠ v := by simp [erase]
theorem mem_symdiff (a b : List V) (x : V) :
    x ∈ symdiff a b ↔ (x ∈ a ∧ x ∉ b) ∨ (x ∈ b ∧ x ∉ a) := by
  simp [symdiff, mem_union, mem_diff]
theorem sorted_inter (a b : List V) (h : Sorted a) : Sorted (inter a b) := sorted_filter _ a h
theorem sorted_diff (a b : List V) (h : Sorted a) : Sorted (diff a b) := sorted_filter _ a h
theorem sorted_erase (a : List V) (v : V) (h : Sorted a) : Sorted (erase a v) := sorted_filter _ a h
theorem sorted_symdiff (a b : List V) (hb : Sorted b) : Sorted (symdiff a b) :=
  sorted_union _ _ (sorted_diff b a hb)
theorem subset_iff (a b : List V) : subset a b = true ↔ ∀ x, x ∈ a → x ∈ b := by
  simp [subset]

/-- inserting into a canonical set: the count grows by one exactly for a new member -/
theorem card_ins (x : V) (l : List V) (hl : Sorted l) :
    card (ins x l) = if x ∈ l then card l else card l + 1 := by
  induction l with
  | nil => simp [ins, card]
  | cons z zs ih =>
    unfold Sorted at hl
    rw [List.pairwise_cons] at hl
    unfold ins
    cases h : cmp x z with
    | lt =>
      have hne : x ∉ z :: zs := by
        intro hx
        rcases List.mem_cons.1 hx with e | hx
        · subst e; exact cmp_lt_irrefl _ h
        · exact cmp_lt_asymm _ _ h (hl.1 x hx)
      simp [card, hne]
    | eq =>
      have : x = z := (cmp_eq_iff x z).1 h
      subst this; simp [card]
    | gt =>
      have hxz : x ≠ z := by
        intro e; subst e; simp [cmp_self] at h
      have ih' := ih hl.2
      simp only [card] at ih' ⊢
      simp [List.mem_cons, hxz, ih']
      split <;> simp

theorem ins_ne_nil (v : V) (xs : List V) : ins v xs ≠ [] :=
  List.ne_nil_of_mem ((mem_ins v v xs).2 (Or.inl rfl))

theorem forall_mem_ins {P : V → Prop} {v : V} {xs : List V} (hv : P v) (hxs : ∀ x, x ∈ xs → P x) :
    ∀ x, x ∈ ins v xs → P x :=
  fun x hx => ((mem_ins v x xs).1 hx).elim (fun e => e ▸ hv) (hxs x)

/-- inserting into a set that is neither empty nor `{a}` does not give `{a}` -/
theorem ins_ne_singleton {v a : V} {xs : List V} (hs : Sorted xs) (h0 : xs ≠ []) (h1 : xs ≠ [a]) : ins v xs ≠ [a] :=
  fun hc => h1 (eq_singleton_of_all_eq h0 (sorted_nodup xs hs) fun x hx =>
    List.mem_singleton.1 (hc ▸ (mem_ins v x xs).2 (Or.inr hx)))

theorem ins_erase_of_mem (l : List V) (hl : Sorted l) (c : V) (hc : c ∈ l) : ins c (erase l c) = l := by
  apply sorted_ext _ _ (sorted_ins _ _ (sorted_erase l c hl)) hl
  intro x
  rw [mem_ins, mem_erase]
  constructor
  · rintro (rfl | ⟨h1, _⟩)
    · exact hc
    · exact h1
  · intro hx
    by_cases he : x = c
    · exact Or.inl he
    · exact Or.inr ⟨hx, he⟩

/-! ### `mk` depends only on the members -/

theorem mk_eq_iff (a b : List V) : mk a = mk b ↔ ∀ x, x ∈ a ↔ x ∈ b :=
  ⟨fun h x => by rw [← mem_mk a, ← mem_mk b, h],
   fun h => sorted_ext _ _ (sorted_mk a) (sorted_mk b) fun x => by rw [mem_mk, mem_mk, h]⟩

theorem mk_congr {a b : List V} (h : ∀ x, x ∈ a ↔ x ∈ b) : mk a = mk b := (mk_eq_iff a b).2 h

theorem mk_of_sorted (l : List V) (h : Sorted l) : mk l = l := sorted_ext _ _ (sorted_mk l) h (mem_mk l)

theorem nodup_mk (l : List V) : (mk l).Nodup := sorted_nodup _ (sorted_mk l)

theorem perm_mk {l : List V} (h : l.Nodup) : (mk l).Perm l :=
  (List.perm_ext_iff_of_nodup (nodup_mk l) h).2 (mem_mk l)

theorem length_mk_of_nodup (l : List V) (h : l.Nodup) : (mk l).length = l.length := (perm_mk h).length_eq

theorem mk_eq_nil (a : List V) : mk a = [] ↔ a = [] :=
  ⟨fun h => List.eq_nil_iff_forall_not_mem.2 fun x hx => List.not_mem_nil (h ▸ (mem_mk a x).2 hx),
   fun h => by rw [h]; rfl⟩

theorem mk_isEmpty (l : List V) : (mk l).isEmpty = l.isEmpty := by
  rw [Bool.eq_iff_iff, List.isEmpty_iff, List.isEmpty_iff, mk_eq_nil]

theorem mk_all (l : List V) (p : V → Bool) : (mk l).all p = l.all p := by
  rw [Bool.eq_iff_iff]
  simp only [List.all_eq_true, mem_mk]

theorem mk_any (l : List V) (p : V → Bool) : (mk l).any p = l.any p := by
  rw [Bool.eq_iff_iff]
  simp only [List.any_eq_true, mem_mk]

theorem union_mk_eq (a b : List V) : union (mk a) (mk b) = mk (a ++ b) := by
  apply sorted_ext _ _ (sorted_union _ _ (sorted_mk _)) (sorted_mk _)
  intro x
  simp [mem_union, mem_mk]

end FinSet
end Arrai
