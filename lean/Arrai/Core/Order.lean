/-
  `V.cmp` is a lawful linear order: oriented, transitive, and `eq` exactly on equal values.  Plain theorems: no
  instance of `Std.OrientedCmp`, `Std.TransCmp` or `Std.LawfulEqCmp` is declared.  Core-only.
-/
import Arrai.Core.V

namespace Arrai
namespace V

open Std

/-! ### `cmp a b = .eq ↔ a = b` -/
mutual
theorem cmp_eq_iff (a b : V) : cmp a b = .eq ↔ a = b := by
  cases a with
  | num x =>
    cases b <;> simp [cmp]
  | tup x =>
    cases b with
    | tup y => simp [cmp, cmpAttrs_eq_iff x y]
    | _ => simp [cmp]
  | set x =>
    cases b with
    | set y => simp [cmp, cmpList_eq_iff x y]
    | _ => simp [cmp]
theorem cmpAttrs_eq_iff (a b : List (String × V)) : cmpAttrs a b = .eq ↔ a = b := by
  cases a with
  | nil => cases b <;> simp [cmpAttrs]
  | cons p as =>
    obtain ⟨n, v⟩ := p
    cases b with
    | nil => simp [cmpAttrs]
    | cons q bs =>
      obtain ⟨m, w⟩ := q
      simp [cmpAttrs, cmp_eq_iff v w, cmpAttrs_eq_iff as bs, and_assoc]
theorem cmpList_eq_iff (a b : List V) : cmpList a b = .eq ↔ a = b := by
  cases a with
  | nil => cases b <;> simp [cmpList]
  | cons x as =>
    cases b with
    | nil => simp [cmpList]
    | cons y bs => simp [cmpList, cmp_eq_iff x y, cmpList_eq_iff as bs]
end

/-! ### orientation -/
mutual
theorem cmp_swap (a b : V) : cmp a b = (cmp b a).swap := by
  cases a with
  | num x =>
    cases b <;> simp [cmp]
    exact OrientedOrd.eq_swap
  | tup x =>
    cases b with
    | tup y => simp [cmp]; exact cmpAttrs_swap x y
    | _ => simp [cmp]
  | set x =>
    cases b with
    | set y => simp [cmp]; exact cmpList_swap x y
    | _ => simp [cmp]
theorem cmpAttrs_swap (a b : List (String × V)) : cmpAttrs a b = (cmpAttrs b a).swap := by
  cases a with
  | nil => cases b <;> simp [cmpAttrs]
  | cons p as =>
    obtain ⟨n, v⟩ := p
    cases b with
    | nil => simp [cmpAttrs]
    | cons q bs =>
      obtain ⟨m, w⟩ := q
      simp only [cmpAttrs, Ordering.swap_then]
      rw [← cmp_swap v w, ← cmpAttrs_swap as bs, ← OrientedOrd.eq_swap (a := n) (b := m)]
theorem cmpList_swap (a b : List V) : cmpList a b = (cmpList b a).swap := by
  cases a with
  | nil => cases b <;> simp [cmpList]
  | cons x as =>
    cases b with
    | nil => simp [cmpList]
    | cons y bs =>
      simp only [cmpList, Ordering.swap_then]
      rw [← cmp_swap x y, ← cmpList_swap as bs]
end

/-! ### transitivity of `lt` -/

/-- one lexicographic step; the rests `p₁ p₂ p₃` are any orderings, so that steps nest (`cmpAttrs`: name, value, rest) -/
theorem lex_lt_trans {α : Type} {c : α → α → Ordering} (heq : ∀ a b, c a b = .eq ↔ a = b) {x y z : α}
    {p₁ p₂ p₃ : Ordering} (htr : c x y = .lt → c y z = .lt → c x z = .lt)
    (hp : p₁ = .lt → p₂ = .lt → p₃ = .lt)
    (h₁ : (c x y).then p₁ = .lt) (h₂ : (c y z).then p₂ = .lt) : (c x z).then p₃ = .lt := by
  rw [Ordering.then_eq_lt] at *
  rcases h₁ with h₁ | ⟨h₁, q₁⟩ <;> rcases h₂ with h₂ | ⟨h₂, q₂⟩
  · exact Or.inl (htr h₁ h₂)
  · rw [heq] at h₂; subst h₂; exact Or.inl h₁
  · rw [heq] at h₁; subst h₁; exact Or.inl h₂
  · rw [heq] at h₁ h₂; subst h₁ h₂; exact Or.inr ⟨(heq x x).2 rfl, hp q₁ q₂⟩

/- `termination_by structural a`: among three arguments of the same type Lean does not find the recursive one by itself;
without the annotation it falls back, silently, to well-founded recursion on `sizeOf`, much dearer to check. -/
mutual
theorem cmp_lt_trans (a b c : V) : cmp a b = .lt → cmp b c = .lt → cmp a c = .lt := by
  cases a with
  | num x =>
    cases b <;> cases c <;> simp [cmp]
    exact TransCmp.lt_trans
  | tup x =>
    cases b <;> cases c <;> simp [cmp]
    exact cmpAttrs_lt_trans x _ _
  | set x =>
    cases b <;> cases c <;> simp [cmp]
    exact cmpList_lt_trans x _ _
termination_by structural a
theorem cmpAttrs_lt_trans (a b c : List (String × V)) :
    cmpAttrs a b = .lt → cmpAttrs b c = .lt → cmpAttrs a c = .lt := by
  cases a with
  | nil => cases b <;> cases c <;> simp [cmpAttrs]
  | cons p as =>
    obtain ⟨n, v⟩ := p
    cases b with
    | nil => simp [cmpAttrs]
    | cons q bs =>
      obtain ⟨m, w⟩ := q
      cases c with
      | nil => simp [cmpAttrs]
      | cons r cs =>
        obtain ⟨k, u⟩ := r
        simp only [cmpAttrs]
        exact lex_lt_trans (c := compare) (fun _ _ => LawfulEqOrd.compare_eq_iff_eq) TransCmp.lt_trans
          (lex_lt_trans cmp_eq_iff (cmp_lt_trans v w u) (cmpAttrs_lt_trans as bs cs))
termination_by structural a
theorem cmpList_lt_trans (a b c : List V) :
    cmpList a b = .lt → cmpList b c = .lt → cmpList a c = .lt := by
  cases a with
  | nil => cases b <;> cases c <;> simp [cmpList]
  | cons x as =>
    cases b with
    | nil => simp [cmpList]
    | cons y bs =>
      cases c with
      | nil => simp [cmpList]
      | cons z cs =>
        simp only [cmpList]
        exact lex_lt_trans cmp_eq_iff (cmp_lt_trans x y z) (cmpList_lt_trans as bs cs)
termination_by structural a
end

theorem cmp_self (a : V) : cmp a a = .eq := (cmp_eq_iff a a).2 rfl

theorem cmp_gt_iff (a b : V) : cmp a b = .gt ↔ cmp b a = .lt := by
  rw [cmp_swap a b]; cases cmp b a <;> simp

/-- trichotomy of the structural order -/
theorem cmp_trichotomy (a b : V) : cmp a b = .lt ∨ a = b ∨ cmp b a = .lt := by
  cases h : cmp a b
  · exact Or.inl rfl
  · exact Or.inr (Or.inl ((cmp_eq_iff a b).1 h))
  · exact Or.inr (Or.inr ((cmp_gt_iff a b).1 h))

theorem cmp_lt_irrefl (a : V) : cmp a a ≠ .lt := by simp [cmp_self]

theorem cmp_lt_asymm (a b : V) : cmp a b = .lt → cmp b a ≠ .lt := by
  intro h h'; have := cmp_lt_trans a b a h h'; simp [cmp_self] at this

end V
end Arrai
