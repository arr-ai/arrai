/-
  C07 — `Impl.evalUnder`, operator by operator: evaluate the operands, fail if one of them fails, check that what must
  be a set is one, build the result (`Res.bind`, `Res.onSet`, `Res.only`, and one equation per operator).
-/
import Arrai.C07.MembersK
import Arrai.C07.Build

namespace Arrai.C07
open Arrai.C06 Std
open C06.Impl (build equal)

def Res.bind (r : Res) (f : Rep → Res) : Res :=
  match r with
  | .ok a => f a
  | .err => .err

def Res.only : List Rep → Res
  | [x] => .ok x
  | _ => .err

def Res.onSet (r : Res) (f : Rep → Res) : Res := r.bind fun A => if isSet A then f A else .err

/-- Stated for the `match` on both operands at once that `evalUnder` makes (two guards, but one error); applied to it by
unfolding, so that no equation lemma of the thirteen-case recursion is generated. -/
theorem Res.match_onSet (r r' : Res) (f : Rep → Rep → Res) :
    (match r, r' with
      | .ok A, .ok B => if isSet A && isSet B then f A B else .err
      | _, _ => .err) = r.onSet fun A => r'.onSet fun B => f A B := by
  cases r with
  | err => rfl
  | ok A => cases r' with
    | err => exact (ite_self _).symm
    | ok B => simp only [Res.onSet, Res.bind]; cases isSet A <;> rfl

theorem Res.match_onSet_bind (r r' : Res) (f : Rep → Rep → Res) :
    (match r, r' with
      | .ok A, .ok x => if isSet A then f A x else .err
      | _, _ => .err) = r.onSet fun A => r'.bind fun x => f A x := by
  cases r with
  | err => rfl
  | ok A => cases r' with
    | err => exact (ite_self _).symm
    | ok x => rfl

namespace Impl
variable (π : EnumOrder)

theorem evalUnder_lit (s : String) (r : Rep) : evalUnder π (.lit s r) = .ok r := rfl

theorem evalUnder_union (a b : Ex) : evalUnder π (.union a b) =
    (evalUnder π a).onSet fun A => (evalUnder π b).onSet fun B => .ok (build (π (members A) ++ π (members B))) :=
  Res.match_onSet _ _ _

theorem evalUnder_inter (a b : Ex) : evalUnder π (.inter a b) =
    (evalUnder π a).onSet fun A => (evalUnder π b).onSet fun B =>
      .ok (build ((π (members A)).filter (fun x => memberOf x B))) := Res.match_onSet _ _ _

theorem evalUnder_diff (a b : Ex) : evalUnder π (.diff a b) =
    (evalUnder π a).onSet fun A => (evalUnder π b).onSet fun B =>
      .ok (build ((π (members A)).filter (fun x => !memberOf x B))) := Res.match_onSet _ _ _

theorem evalUnder_map (a : Ex) (f : Fn) : evalUnder π (.map a f) =
    (evalUnder π a).onSet fun A => .ok (build ((π (members A)).map f.apply)) := rfl

theorem evalUnder_filter (a : Ex) (p : Pr) : evalUnder π (.filter a p) =
    (evalUnder π a).onSet fun A => .ok (build ((π (members A)).filter p.apply)) := rfl

theorem evalUnder_orderby (a : Ex) (f : Fn) : evalUnder π (.orderby a f) =
    (evalUnder π a).onSet fun A => .ok (C06.Impl.mkArray 0 ((C06.Impl.orderBy f.apply (π (members A))).map some)) := rfl

theorem evalUnder_with (a e : Ex) : evalUnder π (.with_ a e) =
    (evalUnder π a).onSet fun A => (evalUnder π e).bind fun x => .ok (build (π (members A) ++ [x])) :=
  Res.match_onSet_bind _ _ _

theorem evalUnder_without (a e : Ex) : evalUnder π (.without a e) =
    (evalUnder π a).onSet fun A => (evalUnder π e).bind fun x =>
      .ok (build ((π (members A)).filter (fun y => !equal y x))) := Res.match_onSet_bind _ _ _

theorem evalUnder_count (a : Ex) : evalUnder π (.count a) =
    (evalUnder π a).onSet fun A => .ok (.num (members A).length) := rfl

theorem evalUnder_single (a : Ex) : evalUnder π (.single a) = (evalUnder π a).bind fun x => .ok (build [x]) := rfl

theorem evalUnder_setpat (lits : List (String × Rep)) (rest : Bool) (a : Ex) : evalUnder π (.setpat lits rest a) =
    (evalUnder π a).onSet fun S =>
      if lits.all (fun l => (π (members S)).any (fun y => equal y l.2)) then
        if rest then .ok (build ((π (members S)).filter (fun y => !lits.any (fun l => equal y l.2))))
        else .only ((π (members S)).filter (fun y => !lits.any (fun l => equal y l.2)))
      else .err := by
  show (match evalUnder π a with | .ok S => _ | .err => _) = _
  cases evalUnder π a with
  | err => rfl
  | ok S =>
    dsimp only [Res.onSet, Res.bind]
    generalize (π (members S)).filter _ = l
    rcases l with _ | ⟨x, _ | ⟨y, r⟩⟩ <;> rfl

theorem evalUnder_rank (a : Ex) (attrs : List (String × String)) : evalUnder π (.rank a attrs) =
    (evalUnder π a).onSet fun S =>
      if (members S).all isGTupleB then .ok (build ((π (members S)).map (rankRow attrs (π (members S))))) else .err := by
  show (match evalUnder π a with | .ok S => _ | .err => _) = _
  cases evalUnder π a with
  | err => rfl
  | ok S => simp only [Res.onSet, Res.bind]; cases isSet S <;> rfl

end Impl

/-! ### what two runs are compared by -/
/-- an enumeration order may only rearrange -/
def PermValued (π : EnumOrder) : Prop := ∀ l, (π l).Perm l

def keyRes : Res → Option K
  | .ok r => some (key r)
  | .err => none

theorem keyRes_guard (c : Bool) {x y : Res} (h : keyRes x = keyRes y) :
    keyRes (if c then x else .err) = keyRes (if c then y else .err) := by
  cases c
  · rfl
  · exact h

theorem enumKP {π₁ π₂ : EnumOrder} (h₁ : PermValued π₁) (h₂ : PermValued π₂) {A₁ A₂ : Rep} (hk : key A₁ = key A₂) :
    KP (π₁ (members A₁)) (π₂ (members A₂)) :=
  (KP.of_perm (h₁ _)).trans ((members_KP_of_key hk).trans (KP.of_perm (h₂ _)).symm)

/-- `where` predicates look at their argument through `<` and `=` only -/
theorem Pr.apply_congr (p : Pr) {x y : Rep} (h : key x = key y) : p.apply x = p.apply y := by
  cases p <;> simp [Pr.apply, less_eq, C06.Impl.equal, h]

theorem memberOf_congr {x y B B₀ : Rep} (hx : key x = key y) (hk : key B = key B₀) :
    Impl.memberOf x B = Impl.memberOf y B₀ := by
  show ((members B).any fun z => K.beq (key z) (key x)) = _
  rw [hx]
  exact any_equal_KP (members_KP_of_key hk) y

end Arrai.C07
