/-
  C07 — programs of the generic fragment: sets whose members fall into the generic bucket of the set builder
  (numbers, sets, the empty tuple).  One operator over literal operands (`Adm1`), and programs nested to any depth
  (`GenEx`, with `{.}` among the element functions).  Neither is an instance of the theorem for `Adm` (FinalThm): `Adm1`
  asks nothing of the second operand of `&`/`&~`, and `Adm` excludes `{.}`.
-/
import Arrai.C07.Eval
import Arrai.C07.Groups

namespace Arrai.C07
open Arrai.C06 Std

def isGenSet : Rep → Bool
  | .empty | .true_ | .generic _ => true
  | _ => false

def genBucket (x : Rep) : Bool := decide (C06.Impl.bucketOf x = .generic)

theorem allGeneric_iff (xs : List Rep) : allGeneric xs ↔ xs.all genBucket = true := by
  simp [allGeneric, genBucket]

theorem isGenSet_genBucket {r : Rep} (h : isGenSet r = true) : genBucket r = true := by
  cases r with
  | empty | true_ | generic xs => rfl
  | _ => cases h

/-! ### the set builder on generic-bucket values -/
/-- a result of the generic fragment: an `EmptySet`, `TrueSet` or `GenericSet` whose members are generic-bucket values -/
structure Good (r : Rep) : Prop where
  gs : isGenSet r = true
  ag : allGeneric (members r)

theorem Good.isSet {r : Rep} (g : Good r) : isSet r = true := by
  cases r with
  | empty | true_ | generic xs => rfl
  | _ => cases g.gs

theorem allGeneric_singleton {x : Rep} (h : genBucket x = true) : allGeneric [x] :=
  fun y hy => by rw [List.mem_singleton.1 hy]; exact of_decide_eq_true h

theorem allGeneric_of_KP {xs ys : List Rep} (h : KP xs ys) (hx : allGeneric xs) : allGeneric ys := fun y hy => by
  obtain ⟨x, mx, e⟩ := h.symm.exists_key hy
  exact (bucketOf_congr e).trans (hx x mx)

theorem build_generic_congr {xs ys : List Rep} (hx : allGeneric xs) (h : KP xs ys) :
    key (C06.Impl.build xs) = key (C06.Impl.build ys) :=
  build_order_independent_generic hx (allGeneric_of_KP h hx) h

theorem build_gen (xs : List Rep) (h : allGeneric xs) : Good (C06.Impl.build xs) := by
  cases xs with
  | nil => exact ⟨rfl, fun x hx => by cases hx⟩
  | cons x xs =>
    rw [build_cons_generic h]
    rcases finish_generic_cases (x :: xs) with e | e | ⟨ds, e, hds⟩ <;> rw [e]
    · exact ⟨rfl, fun v hv => by cases hv⟩
    · exact ⟨rfl, fun v hv => by rw [List.mem_singleton.1 hv]; rfl⟩
    · exact ⟨rfl, fun v hv => h v (hds v hv)⟩

/-! ### element functions of the generic fragment -/
/-- not `Fn.ok` (Final), the menu of `Adm` -/
def Fn.gen : Fn → Bool
  | .ident | .const _ | .arr1 | .single => true
  | _ => false

theorem Fn.genBucket_apply (f : Fn) (hf : f.gen = true) {x : Rep} (hx : genBucket x = true) :
    genBucket (f.apply x) = true := by
  cases f with
  | ident => exact hx
  | const n => rfl
  | single => exact isGenSet_genBucket (build_gen [x] (allGeneric_singleton hx)).gs
  | arr1 => simp [Fn.apply, C06.Impl.mkArray, C06.Impl.dropNones, genBucket, C06.Impl.bucketOf]
  | _ => cases hf

theorem Fn.gen_congr (f : Fn) (hf : f.gen = true) {x y : Rep} (hx : genBucket x = true) (h : key x = key y) :
    key (f.apply x) = key (f.apply y) := by
  cases f with
  | ident => exact h
  | const n => rfl
  | single =>
    have hx := allGeneric_singleton hx
    exact build_generic_congr hx (.singleton h)
  | arr1 => simp [Fn.apply, C06.Impl.mkArray, C06.Impl.dropNones, h]
  | _ => cases hf

/-! ### single-operator programs -/
/-- admissible single-operator programs: the members handed to the set builder fall into the generic bucket
(numbers, sets, the empty tuple), `orderby` keys do not tie -/
def Adm1 : Ex → Prop
  | .lit _ _ => True
  | .union (.lit _ A) (.lit _ B) => allGeneric (members A ++ members B)
  | .inter (.lit _ A) (.lit _ _) => allGeneric (members A)
  | .diff (.lit _ A) (.lit _ _) => allGeneric (members A)
  | .map (.lit _ A) f => allGeneric ((members A).map f.apply)
  | .filter (.lit _ A) _ => allGeneric (members A)
  | .orderby (.lit _ A) f => NoTies f.apply (members A)
  | .with_ (.lit _ A) (.lit _ x) => allGeneric (members A ++ [x])
  | .without (.lit _ A) (.lit _ _) => allGeneric (members A)
  | .count (.lit _ _) => True
  | .single (.lit _ _) => True
  | _ => False

theorem keyRes_build_perm {xs ys : List Rep} (hg : allGeneric xs) (hp : xs.Perm ys) :
    keyRes (.ok (C06.Impl.build xs)) = keyRes (.ok (C06.Impl.build ys)) :=
  congrArg some (build_generic_congr hg (KP.of_perm hp))

/-! ### nested programs -/
/-- programs of the generic fragment -/
def GenEx : Ex → Bool
  | .lit _ r => isGenSet r && (members r).all genBucket
  | .union a b => GenEx a && GenEx b
  | .inter a b => GenEx a && GenEx b
  | .diff a b => GenEx a && GenEx b
  | .map a f => GenEx a && f.gen
  | .filter a _ => GenEx a
  | .with_ a (.lit _ x) => GenEx a && genBucket x
  | .without a (.lit _ _) => GenEx a
  | .single a => GenEx a
  | _ => false

theorem allGeneric_enum {π : EnumOrder} (h : PermValued π) {A : Rep} (g : Good A) : allGeneric (π (members A)) :=
  allGeneric_perm (h _).symm g.ag

theorem allGeneric_append {xs ys : List Rep} (hx : allGeneric xs) (hy : allGeneric ys) : allGeneric (xs ++ ys) :=
  fun x h => (List.mem_append.1 h).elim (hx x) (hy x)

theorem allGeneric_map {xs : List Rep} (f : Fn) (hf : f.gen = true) (hx : allGeneric xs) :
    allGeneric (xs.map f.apply) := by
  intro y hy
  obtain ⟨x, hxm, rfl⟩ := List.mem_map.1 hy
  exact of_decide_eq_true (Fn.genBucket_apply f hf (decide_eq_true (hx x hxm)))

/-- `Good` is asked of the first result only: the second then has generic-bucket members too (`allGeneric_of_KP`). -/
def GoodR (r₁ r₂ : Res) : Prop := ∃ A₁ A₂, r₁ = .ok A₁ ∧ r₂ = .ok A₂ ∧ Good A₁ ∧ key A₁ = key A₂

theorem GoodR.bind {r₁ r₂ : Res} {f₁ f₂ : Rep → Res} (h : GoodR r₁ r₂)
    (hf : ∀ A₁ A₂, Good A₁ → key A₁ = key A₂ → GoodR (f₁ A₁) (f₂ A₂)) : GoodR (r₁.bind f₁) (r₂.bind f₂) := by
  obtain ⟨A₁, A₂, rfl, rfl, g, hk⟩ := h
  exact hf A₁ A₂ g hk

theorem GoodR.onSet {r₁ r₂ : Res} {f₁ f₂ : Rep → Res} (h : GoodR r₁ r₂)
    (hf : ∀ A₁ A₂, Good A₁ → key A₁ = key A₂ → GoodR (f₁ A₁) (f₂ A₂)) : GoodR (r₁.onSet f₁) (r₂.onSet f₂) :=
  h.bind fun A₁ A₂ g hk => by rw [if_pos g.isSet, if_pos (isSet_of_key hk ▸ g.isSet)]; exact hf A₁ A₂ g hk

theorem GoodR.build {xs ys : List Rep} (hx : allGeneric xs) (h : KP xs ys) :
    GoodR (.ok (C06.Impl.build xs)) (.ok (C06.Impl.build ys)) :=
  ⟨_, _, rfl, rfl, build_gen _ hx, build_generic_congr hx h⟩

theorem nested_order_independent (π₁ π₂ : EnumOrder) (h₁ : PermValued π₁) (h₂ : PermValued π₂) :
    ∀ (e : Ex), GenEx e = true → GoodR (Impl.evalUnder π₁ e) (Impl.evalUnder π₂ e)
  | .lit s r, he => by
    simp only [GenEx, Bool.and_eq_true] at he
    exact ⟨r, r, rfl, rfl, ⟨he.1, (allGeneric_iff _).2 he.2⟩, rfl⟩
  | .union a b, he => by
    simp only [GenEx, Bool.and_eq_true] at he
    rw [Impl.evalUnder_union, Impl.evalUnder_union]
    exact (nested_order_independent π₁ π₂ h₁ h₂ a he.1).onSet fun A₁ A₂ ga ka =>
      (nested_order_independent π₁ π₂ h₁ h₂ b he.2).onSet fun B₁ B₂ gb kb =>
        .build (allGeneric_append (allGeneric_enum h₁ ga) (allGeneric_enum h₁ gb)) ((enumKP h₁ h₂ ka).append (enumKP h₁ h₂ kb))
  | .inter a b, he => by
    simp only [GenEx, Bool.and_eq_true] at he
    rw [Impl.evalUnder_inter, Impl.evalUnder_inter]
    exact (nested_order_independent π₁ π₂ h₁ h₂ a he.1).onSet fun A₁ A₂ ga ka =>
      (nested_order_independent π₁ π₂ h₁ h₂ b he.2).onSet fun B₁ B₂ _ kb =>
        .build (allGeneric_filter _ (allGeneric_enum h₁ ga))
          (KP.filter_congr (fun e => memberOf_congr e kb) (enumKP h₁ h₂ ka))
  | .diff a b, he => by
    simp only [GenEx, Bool.and_eq_true] at he
    rw [Impl.evalUnder_diff, Impl.evalUnder_diff]
    exact (nested_order_independent π₁ π₂ h₁ h₂ a he.1).onSet fun A₁ A₂ ga ka =>
      (nested_order_independent π₁ π₂ h₁ h₂ b he.2).onSet fun B₁ B₂ _ kb =>
        .build (allGeneric_filter _ (allGeneric_enum h₁ ga))
          (KP.filter_congr (fun e => congrArg not (memberOf_congr e kb)) (enumKP h₁ h₂ ka))
  | .map a f, he => by
    simp only [GenEx, Bool.and_eq_true] at he
    rw [Impl.evalUnder_map, Impl.evalUnder_map]
    exact (nested_order_independent π₁ π₂ h₁ h₂ a he.1).onSet fun A₁ A₂ ga ka =>
      .build (allGeneric_map f he.2 (allGeneric_enum h₁ ga))
        ((enumKP h₁ h₂ ka).map_congr_on fun x mx _ e => Fn.gen_congr f he.2 (decide_eq_true (allGeneric_enum h₁ ga x mx)) e)
  | .filter a p, he => by
    simp only [GenEx] at he
    rw [Impl.evalUnder_filter, Impl.evalUnder_filter]
    exact (nested_order_independent π₁ π₂ h₁ h₂ a he).onSet fun A₁ A₂ ga ka =>
      .build (allGeneric_filter _ (allGeneric_enum h₁ ga)) (KP.filter_congr p.apply_congr (enumKP h₁ h₂ ka))
  | .with_ a e, he => by
    cases e with
    | lit s x =>
      simp only [GenEx, Bool.and_eq_true] at he
      rw [Impl.evalUnder_with, Impl.evalUnder_with]
      exact (nested_order_independent π₁ π₂ h₁ h₂ a he.1).onSet fun A₁ A₂ ga ka =>
        .build (allGeneric_append (allGeneric_enum h₁ ga) (allGeneric_singleton he.2)) ((enumKP h₁ h₂ ka).append (KP.refl _))
    | _ => simp [GenEx] at he
  | .without a e, he => by
    cases e with
    | lit s x =>
      simp only [GenEx] at he
      rw [Impl.evalUnder_without, Impl.evalUnder_without]
      exact (nested_order_independent π₁ π₂ h₁ h₂ a he).onSet fun A₁ A₂ ga ka =>
        .build (allGeneric_filter _ (allGeneric_enum h₁ ga))
          (KP.filter_congr (congrArg fun k => !K.beq k (key x)) (enumKP h₁ h₂ ka))
    | _ => simp [GenEx] at he
  | .single a, he => by
    simp only [GenEx] at he
    rw [Impl.evalUnder_single, Impl.evalUnder_single]
    exact (nested_order_independent π₁ π₂ h₁ h₂ a he).bind fun A₁ A₂ ga ka =>
      .build (allGeneric_singleton (isGenSet_genBucket ga.gs)) (.singleton ka)
  | .orderby _ _, he | .setpat _ _ _, he | .rank _ _, he | .count _, he => by simp [GenEx] at he

end Arrai.C07
