/-
  C07 — the generic bucket of the set builder (numbers, sets of every representation, the empty tuple): `Finish`
  drops members equal to an earlier one (`dedupK`) and yields `{}`, `true` or a generic set (`genericKeyOf`);
  `allGeneric` lists build into this bucket alone, order-independently.
-/
import Arrai.C07.Lemmas

namespace Arrai.C07
open Arrai.C06 Std

/-- first-occurrence de-duplication on canonical keys (the key-level image of `dedupR`) -/
def dedupK : List K → List K → List K
  | acc, [] => acc.reverse
  | acc, k :: ks => if acc.any (fun y => K.beq y k) then dedupK acc ks else dedupK (k :: acc) ks

theorem any_beq_iff (acc : List K) (k : K) : acc.any (fun y => K.beq y k) = true ↔ k ∈ acc := by
  simp only [List.any_eq_true, K.beq_iff]
  constructor
  · rintro ⟨y, hy, rfl⟩; exact hy
  · intro h; exact ⟨k, h, rfl⟩

theorem mem_dedupK : ∀ (ks acc : List K) (k : K), k ∈ dedupK acc ks ↔ k ∈ acc ∨ k ∈ ks
  | [], acc, k => by simp [dedupK]
  | a :: ks, acc, k => by
    simp only [dedupK]
    split
    · rename_i h
      rw [mem_dedupK ks acc k]
      have ha : a ∈ acc := (any_beq_iff acc a).1 h
      constructor
      · rintro (h | h); exact Or.inl h; exact Or.inr (List.mem_cons_of_mem _ h)
      · rintro (h | h)
        · exact Or.inl h
        · rcases List.mem_cons.1 h with rfl | h
          · exact Or.inl ha
          · exact Or.inr h
    · rw [mem_dedupK ks (a :: acc) k]
      simp only [List.mem_cons]
      constructor
      · rintro ((h | h) | h)
        · exact Or.inr (Or.inl h)
        · exact Or.inl h
        · exact Or.inr (Or.inr h)
      · rintro (h | h | h)
        · exact Or.inl (Or.inr h)
        · exact Or.inl (Or.inl h)
        · exact Or.inr h

theorem nodup_dedupK : ∀ (ks acc : List K), acc.Nodup → (dedupK acc ks).Nodup
  | [], acc, h => by simp only [dedupK]; exact (List.reverse_perm acc).nodup_iff.2 h
  | a :: ks, acc, h => by
    simp only [dedupK]
    split
    · exact nodup_dedupK ks acc h
    · rename_i hn
      refine nodup_dedupK ks (a :: acc) (List.nodup_cons.2 ⟨?_, h⟩)
      intro ha; exact hn ((any_beq_iff acc a).2 ha)

theorem dedupK_perm {ks ks' : List K} (h : ks.Perm ks') : (dedupK [] ks).Perm (dedupK [] ks') := by
  rw [List.perm_ext_iff_of_nodup (nodup_dedupK ks [] List.nodup_nil) (nodup_dedupK ks' [] List.nodup_nil)]
  intro k
  rw [mem_dedupK, mem_dedupK]
  simp [h.mem_iff]

/-! ### the de-duplicating loops of the builder
`dedupR` and `dedupRows` are one recursion with two equality tests; `f` stands for either. -/
section Loop
variable {α : Type} {eq : α → α → Bool} {f : List α → List α → List α} (h0 : ∀ acc, f acc [] = acc.reverse)
  (h1 : ∀ acc x xs, f acc (x :: xs) = if acc.any (fun y => eq y x) then f acc xs else f (x :: acc) xs)
include h0 h1

/-- One direction only: with an arbitrary test the loop may drop any element. -/
theorem mem_dedupLoop : ∀ (xs acc : List α) (x : α), x ∈ f acc xs → x ∈ acc ∨ x ∈ xs
  | [], acc, x, h => by rw [h0] at h; exact Or.inl (List.mem_reverse.1 h)
  | a :: xs, acc, x, h => by
    rw [h1] at h
    split at h
    · exact (mem_dedupLoop xs acc x h).imp_right (List.mem_cons_of_mem _)
    · rcases mem_dedupLoop xs (a :: acc) x h with h | h
      · exact (List.mem_cons.1 h).elim (fun e => Or.inr (e ▸ List.mem_cons_self)) Or.inl
      · exact Or.inr (List.mem_cons_of_mem _ h)

theorem dedupLoop_key {κ : α → K} (hκ : ∀ y x, eq y x = K.beq (κ y) (κ x)) : ∀ (xs acc : List α),
    (f acc xs).map κ = dedupK (acc.map κ) (xs.map κ)
  | [], acc => by rw [h0, List.map_reverse]; rfl
  | x :: xs, acc => by
    have hany : (acc.any fun y => eq y x) = ((acc.map κ).any fun y => K.beq y (κ x)) := by
      simp [List.any_map, Function.comp_def, hκ]
    rw [h1, List.map_cons, dedupK, ← hany]
    split
    · exact dedupLoop_key hκ xs acc
    · exact dedupLoop_key hκ xs (x :: acc)

end Loop

theorem dedupR_key (xs : List Rep) : (C06.Impl.dedupR [] xs).map key = dedupK [] (xs.map key) :=
  dedupLoop_key (f := C06.Impl.dedupR) (fun _ => rfl) (fun _ _ _ => rfl) (fun _ _ => rfl) xs []

theorem mem_dedupR {xs : List Rep} : ∀ x ∈ C06.Impl.dedupR [] xs, x ∈ xs := fun x hx =>
  (mem_dedupLoop (f := C06.Impl.dedupR) (fun _ => rfl) (fun _ _ _ => rfl) xs [] x hx).resolve_left (by simp)

/-- the canonical key of the generic bucket's `Finish`, from the distinct member keys -/
def genericKeyOf : List K → K
  | [] => key .empty
  | [k] => if K.beq k (key (.gtuple [])) then key .true_ else .node (.int kGenericSet :: isort K.lt [k])
  | ks => .node (.int kGenericSet :: isort K.lt ks)

theorem genericKeyOf_perm {ks ks' : List K} (h : ks.Perm ks') : genericKeyOf ks = genericKeyOf ks' := by
  rcases perm_short_cases h with ⟨rfl, rfl⟩ | ⟨a, rfl, rfl⟩ | ⟨a, b, r, c, d, r', rfl, rfl⟩
  · rfl
  · rfl
  · exact congrArg (fun l => K.node (K.int kGenericSet :: l)) (isort_perm_invariant K.cmp h)

theorem key_finish_generic (vs : List Rep) :
    key (C06.Impl.finishBucket (.generic, vs)) = genericKeyOf (dedupK [] (vs.map key)) := by
  rw [← dedupR_key]
  simp only [C06.Impl.finishBucket]
  rcases hD : C06.Impl.dedupR [] vs with _ | ⟨x, _ | ⟨y, r⟩⟩
  · rfl
  · simp only [List.map_cons, List.map_nil, genericKeyOf]
    have he : C06.Impl.equal x (.gtuple []) = K.beq (key x) (key (.gtuple [])) := rfl
    rw [← he]
    by_cases hc : C06.Impl.equal x (.gtuple []) = true
    · rw [if_pos hc, if_pos hc]
    · rw [if_neg hc, if_neg hc, key_generic]; rfl
  · simp only [List.map_cons, genericKeyOf]
    rw [key_generic]; rfl

theorem finish_generic_cases (vs : List Rep) :
    C06.Impl.finishBucket (.generic, vs) = .empty ∨ C06.Impl.finishBucket (.generic, vs) = .true_ ∨
      ∃ ds, C06.Impl.finishBucket (.generic, vs) = .generic ds ∧ ∀ x ∈ ds, x ∈ vs := by
  have hsub := mem_dedupR (xs := vs)
  simp only [C06.Impl.finishBucket]
  rcases hD : C06.Impl.dedupR [] vs with _ | ⟨y, _ | ⟨z, r⟩⟩
  · exact Or.inl rfl
  · dsimp only
    split
    · exact Or.inr (Or.inl rfl)
    · exact Or.inr (Or.inr ⟨_, rfl, hD ▸ hsub⟩)
  · exact Or.inr (Or.inr ⟨_, rfl, hD ▸ hsub⟩)

def allGeneric (xs : List Rep) : Prop := ∀ x ∈ xs, C06.Impl.bucketOf x = .generic

theorem groups_allGeneric : ∀ xs : List Rep, allGeneric xs → ∀ pre : List Rep,
    xs.foldl (fun acc v => C06.Impl.addToBucket v acc) [(.generic, pre)] = [(.generic, pre ++ xs)] := by
  refine forall_mem_rec (fun pre => by simp) ?_
  intro x xs hx ih pre
  simp only [List.foldl_cons, C06.Impl.addToBucket, hx, ite_true]
  rw [ih]
  simp

theorem build_cons_generic {x : Rep} {xs : List Rep} (h : allGeneric (x :: xs)) :
    C06.Impl.build (x :: xs) = C06.Impl.finishBucket (.generic, x :: xs) := by
  obtain ⟨hx, hr⟩ := List.forall_mem_cons.1 h
  simp only [C06.Impl.build, List.foldl_cons, C06.Impl.addToBucket, hx]
  rw [groups_allGeneric xs hr [x]]
  rfl

theorem build_allGeneric (xs : List Rep) (h : allGeneric xs) :
    key (C06.Impl.build xs) = genericKeyOf (dedupK [] (xs.map key)) := by
  cases xs with
  | nil => rfl
  | cons x xs => rw [build_cons_generic h]; exact key_finish_generic _

/-- the set builder is order-independent on the generic bucket: the result's canonical form depends only on the
multiset of canonical forms of the values added, not on the order of the `Add` calls -/
theorem build_order_independent_generic {xs ys : List Rep} (hx : allGeneric xs) (hy : allGeneric ys) (h : KP xs ys) :
    key (C06.Impl.build xs) = key (C06.Impl.build ys) := by
  rw [build_allGeneric xs hx, build_allGeneric ys hy]
  exact genericKeyOf_perm (dedupK_perm h)

theorem allGeneric_perm {xs ys : List Rep} (h : xs.Perm ys) (hx : allGeneric xs) : allGeneric ys :=
  fun y hy => hx y (h.mem_iff.2 hy)

theorem allGeneric_filter {xs : List Rep} (p : Rep → Bool) (h : allGeneric xs) : allGeneric (xs.filter p) :=
  fun x hx => h x (List.mem_filter.1 hx).1

end Arrai.C07
