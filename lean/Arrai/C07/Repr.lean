/-
  C07 — the printed text is a function of the canonical form: `key a = key b → repr a = repr b`, and likewise for what
  `OutputValue` writes.  It holds within any class of values that is closed under taking components and in which no
  relation heading repeats a name (`Hered`); `nodupNames` (C06/Den) and `simple` are such classes.
  Sets, dictionaries and relations print their members / entries / rows sorted by the C06 order: equal keys mean the
  same members up to `KP`, the sorted arrangement of the keys is unique, and key-equal members print alike by induction.
-/
import Arrai.C07.Rows
import Arrai.C07.MembersK
import Arrai.C06.Den

namespace Arrai.C07
open Arrai.C06 Std

/-- no `Dict`, `Relation` or `UnionSet` anywhere inside -/
def simpleAlg : RepF Bool → Bool
  | .num _ | .charT _ _ | .byteT _ _ | .empty | .true_ | .str _ _ | .bytes _ _ => true
  | .gtuple as => as.all (·.2)
  | .itemT _ x => x
  | .entryT k v => k && v
  | .generic xs => xs.all id
  | .array vs _ => vs.all (fun o => o.getD true)
  | .dict _ | .relation _ _ | .union _ => false

def simple : Rep → Bool := cata simpleAlg

theorem simple_gtuple (as : List (String × Rep)) : simple (.gtuple as) = as.all (fun p => simple p.2) := by
  simp [simple, cata, simpleAlg, cataA_eq, List.all_map, Function.comp_def]
theorem simple_itemT (i : Int) (x : Rep) : simple (.itemT i x) = simple x := rfl
theorem simple_entryT (k v : Rep) : simple (.entryT k v) = (simple k && simple v) := rfl
theorem simple_generic (xs : List Rep) : simple (.generic xs) = xs.all simple := by
  simp [simple, cata, simpleAlg, cataL_eq, List.all_map, Function.comp_def]
theorem simple_array (vs : List (Option Rep)) (off : Int) :
    simple (.array vs off) = vs.all (fun o => (o.map simple).getD true) := by
  simp [simple, cata, simpleAlg, cataO_eq, List.all_map, Function.comp_def]

structure Hered (P : Rep → Prop) : Prop where
  unit : P (.gtuple [])
  empty : P .empty
  charT : ∀ i c, P (.charT i c)
  byteT : ∀ i c, P (.byteT i c)
  gtuple : ∀ {as}, P (.gtuple as) → ∀ p ∈ as, P p.2
  itemT : ∀ {i x}, P (.itemT i x) ↔ P x
  entryT : ∀ {k v}, P (.entryT k v) ↔ P k ∧ P v
  generic : ∀ {xs}, P (.generic xs) → ∀ x ∈ xs, P x
  array : ∀ {vs off}, P (.array vs off) → ∀ x, some x ∈ vs → P x
  dict : ∀ {m}, P (.dict m) → ∀ e ∈ m, ∀ x ∈ e, P x
  relation : ∀ {ns rows}, P (.relation ns rows) →
    ns.Nodup ∧ ∀ row ∈ rows, P (C06.Impl.rowTuple ns row) ∧ ∀ x ∈ row, P x
  union : ∀ {bs}, P (.union bs) → ∀ b ∈ bs, P b

theorem hered_nodupNames : Hered (fun a => nodupNames a = true) where
  unit := nn_gtuple.2 ⟨List.nodup_nil, nofun⟩
  empty := rfl
  charT _ _ := rfl
  byteT _ _ := rfl
  gtuple h := (nn_gtuple.1 h).2
  itemT := Iff.rfl
  entryT := nn_entryT
  generic := nn_generic.1
  array := nn_array.1
  dict := nn_dict.1
  relation h :=
    have ⟨hns, hr⟩ := nn_relation.1 h
    ⟨hns, fun row hrow => ⟨nn_rowTuple hns (hr row hrow), hr row hrow⟩⟩
  union := nn_union.1

theorem hered_simple : Hered (fun a => simple a = true) where
  unit := rfl
  empty := rfl
  charT _ _ := rfl
  byteT _ _ := rfl
  gtuple h := by rw [simple_gtuple] at h; exact List.all_eq_true.1 h
  itemT := Iff.rfl
  entryT := by intro k v; rw [simple_entryT, Bool.and_eq_true]
  generic h := by rw [simple_generic] at h; exact List.all_eq_true.1 h
  array h x hx := by rw [simple_array] at h; simpa using List.all_eq_true.1 h (some x) hx
  dict h := Bool.noConfusion h
  relation h := Bool.noConfusion h
  union h := Bool.noConfusion h

/-! ### the empty tuple (the only member whose depth is not below that of its set: `true = {()}`) -/
theorem eq_unit_of_key {y : Rep} (h : key y = key (.gtuple [])) : y = .gtuple [] := by
  generalize hu : Rep.gtuple [] = u at h
  cases y, u, h using key_cases with
  | gtuple as bs h =>
    cases hu
    have := (attrs_perm_of_key h).length_eq
    cases as <;> simp at this ⊢
  | _ => cases hu

/-- what `reprStep rec a` applies `rec` to, for `depth a ≤ d`: strictly shallower values of the class, and the empty
tuple -/
def Below (P : Rep → Prop) (d : Nat) (x : Rep) : Prop := (x = .gtuple [] ∧ 0 < d) ∨ (P x ∧ depth x < d)

section Below
variable {P : Rep → Prop} (H : Hered P)
include H

theorem members1_sub (b : Rep) (hb : P b) (v : Rep) (hv : v ∈ members1 b) :
    P v ∧ (v = .gtuple [] ∨ depth v ≤ depth b) := by
  have h := mem_members1 hv
  cases b with
  | true_ => exact h.symm ▸ ⟨H.unit, Or.inl rfl⟩
  | generic xs => exact ⟨H.generic hb v h, Or.inr (Nat.le_of_lt (depth_mem_generic h))⟩
  | str s off => obtain ⟨i, c, rfl⟩ := h; exact ⟨H.charT i c, Or.inr (Nat.zero_le _)⟩
  | bytes s off => obtain ⟨i, c, rfl⟩ := h; exact ⟨H.byteT i c, Or.inr (Nat.zero_le _)⟩
  | array vs off =>
    obtain ⟨i, x, hx, rfl⟩ := h
    have hd := depth_mem_array (off := off) hx
    exact ⟨H.itemT.2 (H.array hb x hx), Or.inr (by rw [depth_itemT]; omega)⟩
  | dict m =>
    obtain ⟨e, he, k, hk, x, hx, rfl⟩ := h
    have d1 := depth_mem_dict he hk
    have d2 := depth_mem_dict he hx
    exact ⟨H.entryT.2 ⟨H.dict hb e he k hk, H.dict hb e he x hx⟩, Or.inr (by rw [depth_entryT]; omega)⟩
  | relation ns rows =>
    obtain ⟨row, hrow, rfl⟩ := h
    exact ⟨((H.relation hb).2 row hrow).1, Or.inr (Nat.le_of_lt (depth_rowTuple_lt hrow))⟩
  | _ => exact h.elim

omit H in
theorem Hered.members (H : Hered P) {a : Rep} (ha : P a) : ∀ v ∈ members a, P v := fun v hv => by
  cases a with
  | union bs =>
    obtain ⟨b, hb, hvb⟩ := List.mem_flatMap.1 hv
    exact (members1_sub H b (H.union ha b hb) v hvb).1
  | _ => exact (members1_sub H _ ha v hv).1

variable {n : Nat}

theorem below_attr {as : List (String × Rep)} (h : P (.gtuple as)) (hd : depth (.gtuple as) ≤ n) :
    ∀ p ∈ as, Below P n p.2 := fun p hp => Or.inr ⟨H.gtuple h p hp, Nat.lt_of_lt_of_le (depth_attr_lt hp) hd⟩

theorem below_item {i : Int} {x : Rep} (h : P (.itemT i x)) (hd : depth (.itemT i x) ≤ n) : Below P n x :=
  Or.inr ⟨H.itemT.1 h, Nat.lt_of_lt_of_le (depth_item_lt i x) hd⟩

theorem below_entry {k v : Rep} (h : P (.entryT k v)) (hd : depth (.entryT k v) ≤ n) : Below P n k ∧ Below P n v :=
  ⟨Or.inr ⟨(H.entryT.1 h).1, Nat.lt_of_lt_of_le (depth_entry_fst_lt k v) hd⟩,
    Or.inr ⟨(H.entryT.1 h).2, Nat.lt_of_lt_of_le (depth_entry_snd_lt k v) hd⟩⟩

theorem below_generic {xs : List Rep} (h : P (.generic xs)) (hd : depth (.generic xs) ≤ n) : ∀ x ∈ xs, Below P n x :=
  fun x hx => Or.inr ⟨H.generic h x hx, Nat.lt_of_lt_of_le (depth_mem_generic hx) hd⟩

theorem below_array {vs : List (Option Rep)} {off : Int} (h : P (.array vs off)) (hd : depth (.array vs off) ≤ n) :
    ∀ x, some x ∈ vs → Below P n x := fun x hx => Or.inr ⟨H.array h x hx, Nat.lt_of_lt_of_le (depth_mem_array hx) hd⟩

theorem below_dict {m : List (List Rep)} (h : P (.dict m)) (hd : depth (.dict m) ≤ n) :
    ∀ t ∈ members1 (.dict m), ∃ k v, t = Rep.entryT k v ∧ Below P n k ∧ Below P n v := fun t ht => by
  obtain ⟨e, he, k, hk, x, hx, rfl⟩ := mem_members1 (b := .dict m) ht
  exact ⟨k, x, rfl, Or.inr ⟨H.dict h e he k hk, Nat.lt_of_lt_of_le (depth_mem_dict he hk) hd⟩,
    Or.inr ⟨H.dict h e he x hx, Nat.lt_of_lt_of_le (depth_mem_dict he hx) hd⟩⟩

theorem below_cells {ns : List String} {rows : List (List Rep)} (h : P (.relation ns rows))
    (hd : depth (.relation ns rows) ≤ n) (S : List String) :
    ∀ cs ∈ isort Impl.cellsLt (rows.map fun row => S.map fun nm => C06.Impl.lookupAttr nm (zipNames ns row)),
      ∀ x ∈ cs, Below P n x := by
  intro cs hcs x hx
  obtain ⟨row, hrow, rfl⟩ := List.mem_map.1 (mem_isort.1 hcs)
  obtain ⟨nm, _, rfl⟩ := List.mem_map.1 hx
  rw [depth_relation] at hd
  rcases lookupAttr_mem nm (zipNames ns row) with h0 | ⟨p, hp, h0⟩
  · rw [h0]; exact Or.inr ⟨H.empty, by show 0 < _; omega⟩
  · rw [h0]
    have hx := mem_zipNames_snd hp
    have h2 : maxL (row.map depth) ≤ maxL (rows.map (fun e => maxL (e.map depth))) :=
      le_maxL (List.mem_map.2 ⟨row, hrow, rfl⟩)
    have h3 := depth_le_maxL_of_mem hx
    exact Or.inr ⟨((H.relation h).2 row hrow).2 p.2 hx, by omega⟩

theorem below_rows {ns : List String} {rows : List (List Rep)} (h : P (.relation ns rows))
    (hd : depth (.relation ns rows) ≤ n) : ∀ t ∈ rows.map (C06.Impl.rowTuple ns), Below P n t := fun t ht => by
  obtain ⟨row, hrow, rfl⟩ := List.mem_map.1 ht
  exact Or.inr ⟨((H.relation h).2 row hrow).1, Nat.lt_of_lt_of_le (depth_rowTuple_lt hrow) hd⟩

theorem below_union {bs : List Rep} (h : P (.union bs)) (hd : depth (.union bs) ≤ n) :
    ∀ v ∈ bs.flatMap members1, Below P n v := fun v hv => by
  obtain ⟨b, hb, hvb⟩ := List.mem_flatMap.1 hv
  obtain ⟨h1, h2⟩ := members1_sub H b (H.union h b hb) v hvb
  have := depth_mem_union hb
  rcases h2 with h2 | h2
  · exact Or.inl ⟨h2, by omega⟩
  · exact Or.inr ⟨h1, by omega⟩

end Below

section Lists
variable {f f' : Rep → String} {Q Q' : Rep → Prop} (hf : ∀ x y, Q x → Q' y → key x = key y → f x = f' y)
include hf

theorem map_congr_of_keys (l l' : List Rep) (hl : ∀ x ∈ l, Q x) (hl' : ∀ y ∈ l', Q' y) (h : l.map key = l'.map key) :
    l.map f = l'.map f' :=
  map_eq_map_of l l' h fun x hx y hy => hf x y (hl x hx) (hl' y hy)

theorem sorted_congr {l l' : List Rep} (hl : ∀ x ∈ l, Q x) (hl' : ∀ y ∈ l', Q' y) (h : KP l l') :
    "{" ++ Impl.joinSep ((C06.Impl.orderedValues l).map f) ++ "}" =
      "{" ++ Impl.joinSep ((C06.Impl.orderedValues l').map f') ++ "}" :=
  congrArg (fun l => "{" ++ Impl.joinSep l ++ "}") (map_congr_of_keys hf _ _ (fun x hx => hl x (mem_isort.1 hx))
    (fun y hy => hl' y (mem_isort.1 hy)) (orderedValues_keys_congr h))

theorem array_items_congr (vs ws : List (Option Rep)) (hv : ∀ x, some x ∈ vs → Q x) (hw : ∀ y, some y ∈ ws → Q' y)
    (h : vs.map (fun o => optKey (o.map key)) = ws.map (fun o => optKey (o.map key))) :
    vs.map (Impl.optText f) = ws.map (Impl.optText f') := by
  refine map_eq_map_of vs ws h fun v hv' w hw' e => ?_
  have hk := optKey_inj e
  cases v <;> cases w <;> simp only [Option.map_some, Option.map_none, Option.some.injEq, reduceCtorEq] at hk
  · rfl
  · exact hf _ _ (hv _ hv') (hw _ hw') hk

theorem cells_congr (A A' : List (List Rep)) (hA : ∀ cs ∈ A, ∀ x ∈ cs, Q x) (hA' : ∀ cs ∈ A', ∀ x ∈ cs, Q' x)
    (h : A.map (List.map key) = A'.map (List.map key)) :
    A.map (fun cs => "(" ++ Impl.joinSep (cs.map f) ++ ")") = A'.map (fun cs => "(" ++ Impl.joinSep (cs.map f') ++ ")") :=
  map_eq_map_of A A' h fun a ha b hb e => by rw [map_congr_of_keys hf a b (hA a ha) (hA' b hb) e]

end Lists

/-! ### rows of a relation, cell by cell -/
/-- `Impl.cellsLt` is written with `C06.Old.cellsLoop`; that loop is the plain lexicographic one, and nothing of the `Less`
rules before the repairs, which the namespace `C06.Old` otherwise holds, enters the printing order -/
theorem cellsLoop_lex (rec : Rep → Rep → Bool) : ∀ (l l' : List Rep), Old.cellsLoop rec l l' = C06.Impl.lexLoop rec l l'
  | [], _ => rfl
  | _ :: _, [] => rfl
  | a :: as, b :: bs => by simp only [Old.cellsLoop, C06.Impl.lexLoop]; rw [cellsLoop_lex rec as bs]

theorem cellsLt_eq (l l' : List Rep) : Impl.cellsLt l l' = K.lt (K.node (l.map key)) (K.node (l'.map key)) := by
  rw [Impl.cellsLt, cellsLoop_lex, K.lt_node, lexLoop_less]

theorem rel_rows_sorted (S ns ns' : List String) (rows rows' : List (List Rep)) (hns : ns.Nodup)
    (hkp : KP (rows.map (C06.Impl.rowTuple ns)) (rows'.map (C06.Impl.rowTuple ns'))) :
    (isort Impl.cellsLt (rows.map (fun row => S.map (fun n => C06.Impl.lookupAttr n (zipNames ns row))))).map (List.map key) =
    (isort Impl.cellsLt (rows'.map (fun row => S.map (fun n => C06.Impl.lookupAttr n (zipNames ns' row))))).map (List.map key) := by
  -- the cells of a row are the row `rowOf S` reads off its row tuple, whose node is a function of the key of the tuple
  obtain ⟨G, e, e'⟩ := exists_rowNodeK S (fun v hv => by
    obtain ⟨row, _, rfl⟩ := List.mem_map.1 hv
    exact ⟨trivial, (zipNames_names_sublist ns row).nodup hns⟩) hkp
  have one : ∀ (ns : List String) (rows : List (List Rep)),
      ((isort Impl.cellsLt (rows.map (fun row => S.map (fun n => C06.Impl.lookupAttr n (zipNames ns row))))).map
        (List.map key)).map K.node =
      isort K.lt ((rows.map (C06.Impl.rowTuple ns)).map fun t => K.node ((C06.Impl.rowOf S t).map key)) := by
    intro ns rows
    rw [List.map_map, map_isort (K.node ∘ List.map key) (lt' := K.lt) (fun a _ b _ => cellsLt_eq a b)]
    congr 1
    rw [List.map_map, List.map_map]
    rfl
  apply (List.map_inj_right fun _ _ => K.node.inj).1
  rw [one ns rows, one ns' rows', e, e']
  exact isort_perm_invariant K.cmp (List.Perm.map _ hkp)

section Step
variable {P : Rep → Prop} (H : Hered P) (n n' : Nat) (rec rec' : Rep → String)
variable (IH : ∀ x y, Below P n x → Below P n' y → key x = key y → rec x = rec' y)
include H IH

theorem reprStep_congr (a b : Rep) (ha : depth a ≤ n) (hb : depth b ≤ n') (pa : P a) (pb : P b) (hk : key a = key b) :
    Impl.reprStep rec a = Impl.reprStep rec' b := by
  cases a, b, hk using key_cases with
  | num | charT | byteT | empty | true_ | str | bytes => rfl
  | gtuple as bs hk =>
    -- `TupleOrderedNames` order, in which key-equal tuples agree name by name (`attrs_of_key`)
    simp only [Impl.reprStep]
    refine congrArg (fun l => "(" ++ Impl.joinSep l ++ ")") (map_eq_map_of _ _ (attrs_of_key hk) fun p hp q hq e => ?_)
    simp only [Prod.mk.injEq] at e
    rw [e.1, IH p.2 q.2 (below_attr H pa ha p (mem_isort.1 hp)) (below_attr H pb hb q (mem_isort.1 hq)) e.2]
  | itemT i x y _ hxy =>
    simp only [Impl.reprStep]
    rw [IH x y (below_item H pa ha) (below_item H pb hb) hxy]
  | entryT k v k' v' _ hk hv =>
    simp only [Impl.reprStep]
    rw [IH k k' (below_entry H pa ha).1 (below_entry H pb hb).1 hk, IH v v' (below_entry H pa ha).2 (below_entry H pb hb).2 hv]
  | generic xs ys hk =>
    simp only [Impl.reprStep]
    exact sorted_congr IH (below_generic H pa ha) (below_generic H pb hb) (members_KP_of_key hk)
  | array vs ws off _ hvw =>
    simp only [Impl.reprStep]
    rw [array_items_congr IH vs ws (below_array H pa ha) (below_array H pb hb) hvw]
  | dict m m' hk =>
    have hkp : KP (members1 (.dict m)) (members1 (.dict m')) := members_KP_of_key hk
    simp only [Impl.reprStep]
    refine sorted_congr ?_ (below_dict H pa ha) (below_dict H pb hb) hkp
    rintro _ _ ⟨k, v, rfl, hk1, hv1⟩ ⟨k', v', rfl, hk2, hv2⟩ h
    simp only [key_entryT, K.node.injEq, List.cons.injEq] at h
    show rec k ++ ": " ++ rec v = rec' k' ++ ": " ++ rec' v'
    rw [IH k k' hk1 hk2 h.2.1, IH v v' hv1 hv2 h.2.2.1]
  | relation ns rows ns' rows' hk =>
    have hkp : KP (rows.map (C06.Impl.rowTuple ns)) (rows'.map (C06.Impl.rowTuple ns')) := members_KP_of_key hk
    simp only [key_relation, K.node.injEq, List.cons.injEq] at hk
    obtain ⟨_, _, hnames, _⟩ := hk
    have hS : isort strLt ns = isort strLt ns' := (List.map_inj_right fun _ _ => K.name.inj).1 hnames
    simp only [Impl.reprStep]
    rw [hS]
    split
    · -- by columns
      rw [cells_congr IH _ _ (below_cells H pa ha _) (below_cells H pb hb _)
        (rel_rows_sorted (isort strLt ns') ns ns' rows rows' (H.relation pa).1 hkp)]
    · -- as a set of tuples
      exact sorted_congr IH (below_rows H pa ha) (below_rows H pb hb) hkp
  | union bs bs' hk =>
    simp only [Impl.reprStep]
    exact sorted_congr IH (below_union H pa ha) (below_union H pb hb) (members_KP_of_key hk)

end Step

section Congr
variable {P : Rep → Prop} (H : Hered P)
include H

theorem reprN_congr : ∀ (n m : Nat) (a b : Rep), depth a < n → depth b < m → P a → P b → key a = key b →
    Impl.reprN n a = Impl.reprN m b
  | 0, _, _, _, h, _, _, _, _ => by omega
  | _ + 1, 0, _, _, _, h, _, _, _ => by omega
  | n + 1, m + 1, a, b, ha, hb, pa, pb, hk => by
    simp only [Impl.reprN]
    -- key-equal values below: both `()` (printed alike with any fuel but none), or both within reach of the induction
    have unit : ∀ {n m : Nat}, 0 < n → 0 < m → Impl.reprN n (.gtuple []) = Impl.reprN m (.gtuple []) := by
      intro n m hn hm
      obtain ⟨n, rfl⟩ : ∃ k, n = k + 1 := ⟨n - 1, by omega⟩
      obtain ⟨m, rfl⟩ : ∃ k, m = k + 1 := ⟨m - 1, by omega⟩
      rfl
    have IH : ∀ x y, Below P n x → Below P m y → key x = key y → Impl.reprN n x = Impl.reprN m y := by
      intro x y hx hy h
      have hm : 0 < m := by rcases hy with hy | hy <;> omega
      have hn : 0 < n := by rcases hx with hx | hx <;> omega
      rcases hx with ⟨rfl, _⟩ | hx
      · rw [eq_unit_of_key h.symm]; exact unit hn hm
      · rcases hy with ⟨rfl, _⟩ | hy
        · rw [eq_unit_of_key h]; exact unit hn hm
        · exact reprN_congr n m x y hx.2 hy.2 hx.1 hy.1 h
    exact reprStep_congr H n m _ _ IH a b (by omega) (by omega) pa pb hk

/-- the printed text (`fu.Repr`) is a function of the canonical form -/
theorem repr_congr {a b : Rep} (pa : P a) (pb : P b) (hk : key a = key b) : Impl.repr a = Impl.repr b :=
  reprN_congr H _ _ a b (by omega) (by omega) pa pb hk

/-- what `OutputValue` writes is a function of the canonical form as well -/
theorem outText_congr {a b : Rep} (pa : P a) (pb : P b) (hk : key a = key b) : Impl.outText a = Impl.outText b := by
  have hr := repr_congr H pa pb hk
  cases a, b, hk using key_cases
  case num | charT | byteT | empty | true_ | str | bytes => rfl
  all_goals simp only [Impl.outText]; rw [hr]

end Congr

end Arrai.C07
