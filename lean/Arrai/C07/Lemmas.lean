/-
  C07 — `KP xs ys`: two member lists agree up to order and canonical form.  A function that gives key-equal values the same
  result is a function of the key (`KP.exists_onKey`): with it the lemmas on `List.Perm` apply to the lists of keys.
-/
import Arrai.C07.Model
import Arrai.C06.Clients
import Arrai.C06.Den

namespace Arrai.C07
open Arrai.C06 Std

def KP (xs ys : List Rep) : Prop := (xs.map key).Perm (ys.map key)

theorem KP.refl (xs : List Rep) : KP xs xs := List.Perm.refl _
theorem KP.symm {xs ys : List Rep} (h : KP xs ys) : KP ys xs := List.Perm.symm h
theorem KP.trans {xs ys zs : List Rep} (h₁ : KP xs ys) (h₂ : KP ys zs) : KP xs zs := List.Perm.trans h₁ h₂
theorem KP.of_perm {xs ys : List Rep} (h : xs.Perm ys) : KP xs ys := h.map key

theorem KP.singleton {a b : Rep} (h : key a = key b) : KP [a] [b] := List.Perm.of_eq (congrArg (· :: []) h)

theorem KP.exists_key {xs ys : List Rep} (h : KP xs ys) {v : Rep} (hv : v ∈ xs) : ∃ w ∈ ys, key v = key w := by
  obtain ⟨w, hw, e⟩ := List.mem_map.1 (h.mem_iff.1 (List.mem_map_of_mem hv))
  exact ⟨w, hw, e.symm⟩

theorem KP.append {a b c d : List Rep} (h₁ : KP a b) (h₂ : KP c d) : KP (a ++ c) (b ++ d) := by
  unfold KP; rw [List.map_append, List.map_append]; exact List.Perm.append h₁ h₂

theorem KP.filter {a b : List Rep} (p : Rep → Bool) (q : K → Bool) (hp : ∀ x, p x = q (key x)) (h : KP a b) :
    KP (a.filter p) (b.filter p) := by
  have hf : ∀ l : List Rep, (l.filter p).map key = (l.map key).filter q := by
    intro l
    induction l with
    | nil => rfl
    | cons x xs ih =>
      simp only [List.filter_cons, List.map_cons, hp x]
      split <;> simp [ih]
  unfold KP; rw [hf, hf]; exact List.Perm.filter q h

/-- Stated for two functions, so that the two sides of a `KP` may be treated by different functions, and with the hypothesis
on the members of one side only. -/
theorem KP.exists_onKey {β : Type} [Inhabited β] {g g' : Rep → β} {a b : List Rep} (h : KP a b)
    (hg : ∀ x ∈ a, ∀ {y}, key x = key y → g x = g' y) :
    ∃ G : K → β, (∀ x ∈ a, g x = G (key x)) ∧ ∀ y ∈ b, g' y = G (key y) := by
  classical
  refine ⟨fun k => if h : ∃ x, x ∈ a ∧ key x = k then g' (Classical.choose h) else default, fun x hx => ?_, fun y hy => ?_⟩
  · have h : ∃ z, z ∈ a ∧ key z = key x := ⟨x, hx, rfl⟩
    show g x = dite _ _ _
    rw [dif_pos h]
    exact hg x hx (Classical.choose_spec h).2.symm
  · obtain ⟨x, hx, e⟩ := h.symm.exists_key hy
    have h : ∃ z, z ∈ a ∧ key z = key y := ⟨x, hx, e.symm⟩
    have hc := Classical.choose_spec h
    show g' y = dite _ _ _
    rw [dif_pos h]
    exact (hg x hx e.symm).symm.trans (hg x hx (e.symm.trans hc.2.symm))

theorem KP.filter_congr_on {p p' : Rep → Bool} {a b : List Rep} (hp : ∀ x ∈ a, ∀ {y}, key x = key y → p x = p' y)
    (h : KP a b) : KP (a.filter p) (b.filter p') := by
  obtain ⟨G, ha, hb⟩ := h.exists_onKey hp
  rw [List.filter_congr ha, List.filter_congr hb]
  exact KP.filter _ G (fun _ => rfl) h

theorem KP.filter_congr {p p' : Rep → Bool} (hp : ∀ {x y}, key x = key y → p x = p' y) {a b : List Rep} (h : KP a b) :
    KP (a.filter p) (b.filter p') := h.filter_congr_on fun _ _ => hp

theorem KP.map_congr_on {f f' : Rep → Rep} {a b : List Rep} (hf : ∀ x ∈ a, ∀ {y}, key x = key y → key (f x) = key (f' y))
    (h : KP a b) : KP (a.map f) (b.map f') := by
  obtain ⟨G, ha, hb⟩ := h.exists_onKey (g := fun x => key (f x)) (g' := fun x => key (f' x)) hf
  have ea : (a.map f).map key = (a.map key).map G := by rw [List.map_map, List.map_map]; exact List.map_congr_left ha
  have eb : (b.map f').map key = (b.map key).map G := by rw [List.map_map, List.map_map]; exact List.map_congr_left hb
  show ((a.map f).map key).Perm ((b.map f').map key)
  rw [ea, eb]; exact List.Perm.map G h

theorem KP.map_congr {f f' : Rep → Rep} (hf : ∀ {x y}, key x = key y → key (f x) = key (f' y)) {a b : List Rep} (h : KP a b) :
    KP (a.map f) (b.map f') := h.map_congr_on fun _ _ => hf

theorem KP.filterMap_congr {β : Type} {g : Rep → Option β} (hg : ∀ {x y}, key x = key y → g x = g y) {a b : List Rep}
    (h : KP a b) : (a.filterMap g).Perm (b.filterMap g) := by
  obtain ⟨G, ha, hb⟩ := h.exists_onKey (g := g) (g' := g) fun _ _ => hg
  have := h.filterMap G
  rw [List.filterMap_map, List.filterMap_map] at this
  rw [filterMap_congr_mem ha, filterMap_congr_mem hb]
  exact this

theorem any_equal_key (l : List Rep) (x : Rep) :
    (l.any fun y => C06.Impl.equal y x) = ((l.map key).any fun k => K.beq k (key x)) := by
  simp [List.any_map, Function.comp_def, C06.Impl.equal]

theorem any_equal_KP {l l' : List Rep} (h : KP l l') (x : Rep) :
    (l.any fun y => C06.Impl.equal y x) = (l'.any fun y => C06.Impl.equal y x) := by
  rw [any_equal_key, any_equal_key]; exact h.any_eq

theorem KP.all_eq (p : Rep → Bool) (hp : ∀ {a b}, key a = key b → p a = p b) {l l' : List Rep} (h : KP l l') :
    l.all p = l'.all p := by
  have one : ∀ {l l' : List Rep}, KP l l' → l.all p = true → l'.all p = true := by
    intro l l' h ha
    rw [List.all_eq_true] at ha ⊢
    intro x' hx'
    obtain ⟨x, hx, hk⟩ := h.symm.exists_key hx'
    rw [hp hk]; exact ha x hx
  cases h1 : l.all p <;> cases h2 : l'.all p <;> try rfl
  · rw [one h.symm h2] at h1; cases h1
  · rw [one h h1] at h2; cases h2

/-- sorting members for printing: the sequence of keys does not depend on the enumeration order -/
theorem orderedValues_keys_congr {xs ys : List Rep} (h : KP xs ys) :
    (C06.Impl.orderedValues xs).map key = (C06.Impl.orderedValues ys).map key :=
  -- `orderedValues` is `orderBy id`
  (orderBy_keys id xs).trans ((isort_perm_invariant K.cmp h).trans (orderBy_keys id ys).symm)

theorem isSet_of_key {a b : Rep} (h : key a = key b) : isSet a = isSet b := by
  cases a, b, h using key_cases <;> rfl

theorem isGTupleB_of_key {a b : Rep} (h : key a = key b) : Impl.isGTupleB a = Impl.isGTupleB b := by
  cases a, b, h using key_cases <;> rfl

end Arrai.C07
