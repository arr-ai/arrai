/-
  C07 — the set builder is order-independent: each bucket's `Finish` is order-independent (Build, Slots, Entries, Rows),
  the bucket map is the same up to order (Groups: `Grouped.map_perm`), the assembly sorts (`build_congr`).
-/
import Arrai.C07.Groups
import Arrai.C07.Slots
import Arrai.C07.Entries
import Arrai.C07.Rows

namespace Arrai.C07
open Arrai.C06 Std
open C06.Impl (Bucket bucketOf addToBucket finishBucket build)

/-- the key of the assembled result from the keys of the finished buckets (the bucket map is enumerated in any order) -/
def assembleK : List K → K
  | [] => key .empty
  | [k] => k
  | ks => .node (.int kUnion :: isort K.lt ks)

theorem assembleK_perm {ks ks' : List K} (h : ks.Perm ks') : assembleK ks = assembleK ks' := by
  rcases perm_short_cases h with ⟨rfl, rfl⟩ | ⟨a, rfl, rfl⟩ | ⟨a, b, r, c, d, r', rfl, rfl⟩
  · rfl
  · rfl
  · exact congrArg (fun l => K.node (K.int kUnion :: l)) (isort_perm_invariant K.cmp h)

theorem key_build (xs : List Rep) : key (build xs) = assembleK ((groups xs).map (fun g => key (finishBucket g))) := by
  unfold build
  show key (match groups xs with
    | [] => Rep.empty
    | [g] => finishBucket g
    | gs => Rep.union (gs.map finishBucket)) = _
  rcases hg : groups xs with _ | ⟨a, _ | ⟨b, r⟩⟩
  · rfl
  · rfl
  · simp only [assembleK, key_union, List.map_cons, List.map_map, Function.comp_def]

theorem ctor_of_bucket {v : Rep} {b : Bucket} (h : bucketOf v = b) :
    match b with
    | .chars => isCharT v | .bytes => isByteT v | .heading _ => isGTuple v | _ => True := by
  cases v with
  | gtuple as => cases as <;> (subst h; trivial)
  | _ => subst h; trivial

theorem finish_order_independent (b : Bucket) {vs ws : List Rep}
    (hv : ∀ v ∈ vs, bucketOf v = b) (tv : ∀ v ∈ vs, tupleNodup v) (hn : NoSuper vs) (h : KP vs ws) :
    key (finishBucket (b, vs)) = key (finishBucket (b, ws)) := by
  cases b with
  | generic => rw [key_finish_generic, key_finish_generic]; exact genericKeyOf_perm (dedupK_perm h)
  | chars => exact chars_bucket_order_independent (fun v m => ctor_of_bucket (hv v m)) hn h
  | bytes => exact bytes_bucket_order_independent (fun v m => ctor_of_bucket (hv v m)) hn h
  | items => exact items_bucket_order_independent hn h
  | entries => exact entries_bucket_order_independent h
  | heading ns => exact heading_bucket_order_independent ns (fun v m => ⟨ctor_of_bucket (hv v m), tv v m⟩) h

/-- Admissibility is asked of one side only: `NoSuper` and the absence of repeated attribute names are properties of the
multiset of keys. -/
theorem build_congr {xs ys : List Rep} (hn : NoSuper xs) (tx : ∀ v ∈ xs, tupleNodup v) (h : KP xs ys) :
    key (build xs) = key (build ys) := by
  rw [key_build, key_build]
  refine assembleK_perm ((groups_grouped xs).map_perm (fun b vs => key (finishBucket (b, vs))) (groups_grouped ys)
    (fun b => ?_) fun b vs ws hv hw => ?_)
  · -- the same buckets occur
    exact ⟨fun ⟨v, hv, e⟩ => let ⟨w, hw, k⟩ := h.exists_key hv; ⟨w, hw, (bucketOf_congr k).symm.trans e⟩,
      fun ⟨w, hw, e⟩ => let ⟨v, hv, k⟩ := h.symm.exists_key hw; ⟨v, hv, (bucketOf_congr k).symm.trans e⟩⟩
  · -- each bucket holds key-permuted admissible values
    rw [grouped_bucket hv, grouped_bucket hw]
    exact finish_order_independent b (fun v m => by simpa [inB] using (List.mem_filter.1 m).2)
      (fun v m => tx v (List.mem_filter.1 m).1) (hn.filter _)
      (KP.filter_congr (fun e => by rw [inB, inB, bucketOf_congr e]) h)

-- the hypothesis `ty` is part of the statement the documents quote; `build_congr` shows that it is not needed
set_option linter.unusedVariables false in
theorem build_order_independent {xs ys : List Rep} (hn : NoSuper xs)
    (tx : ∀ v ∈ xs, tupleNodup v) (ty : ∀ w ∈ ys, tupleNodup w) (h : KP xs ys) :
    key (build xs) = key (build ys) := build_congr hn tx h

end Arrai.C07
