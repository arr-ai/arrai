/-
  C07 — the members of a set, read off its canonical key: `(members a).map key` is a permutation of `membersK (key a)`.
  Hence two representations with the same canonical key have the same members up to order and canonical form.
  Before that, what a member of each representation looks like (`mem_members1`).
-/
import Arrai.C07.Lemmas

namespace Arrai.C07
open Arrai.C06 Std

def charMemK (p : Int × K) : Option K :=
  match p.2 with
  | .int c => if c < 0 then none else some (.node [.int kCharT, .int p.1, .int c])
  | _ => none
def byteMemK (p : Int × K) : Option K :=
  match p.2 with
  | .int c => some (.node [.int kByteT, .int p.1, .int c])
  | _ => none
def itemMemK (p : Int × K) : Option K :=
  match p.2 with
  | .node [.int 0, x] => some (.node [.int kItemT, .int p.1, x])
  | _ => none
def entryMemK : K → List K
  | .node [h, .node vals] => vals.map (fun v => .node [.int kEntryT, h, v])
  | _ => []

/-- members of a non-union set, as keys -/
def membersK1 : K → List K
  | .node (.int k :: rest) =>
    if k = kTrue then [key (.gtuple [])]
    else if k = kGenericSet then rest
    else if k = kString then (match rest with | .int off :: rs => (idxFrom off rs).filterMap charMemK | _ => [])
    else if k = kBytes then (match rest with | .int off :: rs => (idxFrom off rs).filterMap byteMemK | _ => [])
    else if k = kArray then (match rest with | .int off :: os => (idxFrom off os).filterMap itemMemK | _ => [])
    else if k = kDict then rest.flatMap entryMemK
    else if k = kRelation then (match rest with | [_, _, _, .node rks] => rks | _ => [])
    else []
  | _ => []

def membersK : K → List K
  | .node (.int k :: rest) => if k = kUnion then rest.flatMap membersK1 else membersK1 (.node (.int k :: rest))
  | _ => []

theorem idxFrom_map {α β : Type} (g : α → β) : ∀ (l : List α) (off : Int),
    idxFrom off (l.map g) = (idxFrom off l).map fun p => (p.1, g p.2)
  | [], _ => rfl
  | _ :: l, off => congrArg (_ :: ·) (idxFrom_map g l (off + 1))

theorem mem_idxFrom_snd {α : Type} : ∀ (l : List α) (off : Int) (p : Int × α), p ∈ idxFrom off l → p.2 ∈ l
  | [], _, _, h => by simp [idxFrom] at h
  | x :: xs, off, p, h => by
    simp only [idxFrom, List.mem_cons] at h
    rcases h with rfl | h
    · simp
    · exact List.mem_cons_of_mem _ (mem_idxFrom_snd xs _ p h)

/-- the members of each representation, by shape -/
theorem mem_members1 {b v : Rep} (h : v ∈ members1 b) :
    match b with
    | .true_ => v = .gtuple []
    | .generic xs => v ∈ xs
    | .str _ _ => ∃ i c, v = .charT i c
    | .bytes _ _ => ∃ i c, v = .byteT i c
    | .array vs _ => ∃ i x, some x ∈ vs ∧ v = .itemT i x
    | .dict m => ∃ e ∈ m, ∃ k ∈ e, ∃ x ∈ e, v = .entryT k x
    | .relation ns rows => ∃ row ∈ rows, C06.Impl.rowTuple ns row = v
    | _ => False := by
  cases b with
  | true_ => exact List.mem_singleton.1 h
  | generic xs => exact h
  | str s off =>
    obtain ⟨p, _, hp⟩ := List.mem_filterMap.1 h
    split at hp <;> cases hp
    exact ⟨_, _, rfl⟩
  | bytes s off =>
    obtain ⟨p, _, rfl⟩ := List.mem_map.1 h
    exact ⟨_, _, rfl⟩
  | array vs off =>
    obtain ⟨⟨i, _ | x⟩, hp, hv⟩ := List.mem_filterMap.1 h <;> cases hv
    exact ⟨i, x, mem_idxFrom_snd vs off _ hp, rfl⟩
  | dict m =>
    obtain ⟨_ | ⟨k, tl⟩, he, ht⟩ := List.mem_flatMap.1 h
    · cases ht
    · obtain ⟨x, hx, rfl⟩ := List.mem_map.1 ht
      exact ⟨_, he, k, List.mem_cons_self, x, List.mem_cons_of_mem _ hx, rfl⟩
  | relation ns rows => exact List.mem_map.1 h
  | _ => exact List.not_mem_nil h

theorem str_members_key (s : List Int) (off : Int) :
    ((idxFrom off s).filterMap (fun p => if p.2 < 0 then none else some (Rep.charT p.1 p.2))).map key =
      (idxFrom off (s.map K.int)).filterMap charMemK := by
  rw [idxFrom_map, List.map_filterMap, List.filterMap_map]
  exact filterMap_congr_mem fun p _ => by simp only [Function.comp, charMemK]; split <;> rfl

theorem bytes_members_key (s : List Int) (off : Int) :
    ((idxFrom off s).map (fun p => Rep.byteT p.1 p.2)).map key = (idxFrom off (s.map K.int)).filterMap byteMemK := by
  rw [idxFrom_map, List.map_map, List.filterMap_map, ← List.filterMap_eq_map]
  rfl

theorem array_members_key (vs : List (Option Rep)) (off : Int) :
    ((idxFrom off vs).filterMap (fun p => p.2.map (Rep.itemT p.1))).map key =
      (idxFrom off (vs.map (fun o => optKey (o.map key)))).filterMap itemMemK := by
  rw [idxFrom_map, List.map_filterMap, List.filterMap_map]
  exact filterMap_congr_mem fun p _ => by obtain ⟨i, _ | x⟩ := p <;> rfl

theorem kind_gtuple_ne_pos {as : List (String × Rep)} {k : Int} (hk : 0 < k) (hne : k ≠ kGenericTuple) :
    kind (.gtuple as) ≠ k := by
  rw [kind_gtuple]
  rcases negKind_cases ((negInner as).map kind) with h | h
  · rw [h]; exact fun e => hne e.symm
  · omega

theorem members1_key (b : Rep) : ((members1 b).map key).Perm (membersK1 (key b)) := by
  cases b with
  | true_ => exact List.Perm.refl _
  | generic xs => rw [key_generic]; exact (isort_perm K.lt _).symm
  | str s off => rw [key_str]; exact List.Perm.of_eq (str_members_key s off)
  | bytes s off => rw [key_bytes]; exact List.Perm.of_eq (bytes_members_key s off)
  | array vs off => rw [key_array]; exact List.Perm.of_eq (array_members_key vs off)
  | dict m =>
    rw [key_dict]
    show List.Perm _ (((isort (fun e f => K.lt (entryHead e) (entryHead f)) (m.map (List.map key))).map entryKey).flatMap entryMemK)
    -- unsorted entries first
    refine List.Perm.trans ?_ (List.Perm.flatMap_right _ ((isort_perm _ _).map _)).symm
    simp only [members1]
    rw [List.map_flatMap, List.map_map, List.flatMap_map]
    apply flatMap_perm_left
    intro e _
    simp only [Function.comp, entryKey, entryMemK, entryHead_map, ← List.map_tail]
    have : (e.tail.map (Rep.entryT (Impl.entryHeadR e))).map key =
        (e.tail.map key).map (fun v => K.node [K.int kEntryT, key (Impl.entryHeadR e), v]) := by
      rw [List.map_map, List.map_map]; rfl
    rw [this]
    exact ((isort_perm K.lt _).symm.map _)
  | relation ns rows =>
    rw [key_relation]
    show ((rows.map (Impl.rowTuple ns)).map key).Perm (isort K.lt _)
    have : (rows.map (Impl.rowTuple ns)).map key = rows.map (fun row => tupleKeyAlg (zipNames ns (row.map key))) := by
      simp [key_rowTuple, Function.comp_def]
    rw [this]
    exact (isort_perm K.lt _).symm
  | gtuple as =>
    rw [key_eq_node (.gtuple as)]
    have e : ∀ {k : Int}, 0 < k → k ≠ kGenericTuple → ¬ kind (.gtuple as) = k := kind_gtuple_ne_pos
    simp only [members1, membersK1, List.map_nil, if_neg (e (k := kTrue) (by decide) (by decide)),
      if_neg (e (k := kGenericSet) (by decide) (by decide)), if_neg (e (k := kString) (by decide) (by decide)),
      if_neg (e (k := kBytes) (by decide) (by decide)), if_neg (e (k := kArray) (by decide) (by decide)),
      if_neg (e (k := kDict) (by decide) (by decide)), if_neg (e (k := kRelation) (by decide) (by decide))]
    exact List.Perm.refl _
  | union bs => rw [key_union]; exact List.Perm.refl _
  | _ => exact List.Perm.refl _

theorem membersK_of_not_union {a : Rep} (h : kind a ≠ kUnion) : membersK (key a) = membersK1 (key a) := by
  rw [key_eq_node a]
  simp only [membersK, if_neg h]

theorem members_key (a : Rep) : ((members a).map key).Perm (membersK (key a)) := by
  -- off union sets `members` is `members1` and `membersK` is `membersK1`
  have one : ∀ {a : Rep}, members a = members1 a → kind a ≠ kUnion → ((members a).map key).Perm (membersK (key a)) :=
    fun {a} hm hk => by rw [hm, membersK_of_not_union hk]; exact members1_key a
  cases a with
  | union bs =>
    rw [key_union]
    simp only [members, membersK, kUnion, if_true]
    rw [List.map_flatMap]
    have h1 : (bs.flatMap (fun b => (members1 b).map key)).Perm (bs.flatMap (fun b => membersK1 (key b))) :=
      flatMap_perm_left bs (fun b _ => members1_key b)
    refine h1.trans ?_
    have : bs.flatMap (fun b => membersK1 (key b)) = (bs.map key).flatMap membersK1 := by
      rw [List.flatMap_map]
    rw [this]
    exact List.Perm.flatMap_right _ (isort_perm K.lt _).symm
  | gtuple as => exact one rfl (kind_gtuple_ne_pos (by decide) (by decide))
  | _ => exact one rfl (ne_of_beq_false rfl)

/-- two representations with the same canonical key have the same members, up to order and canonical form -/
theorem members_KP_of_key {a b : Rep} (h : key a = key b) : KP (members a) (members b) :=
  (members_key a).trans (h ▸ (members_key b).symm)

end Arrai.C07
