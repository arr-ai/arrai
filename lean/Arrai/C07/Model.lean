/-
  C07 — "Evaluation is deterministic across processes and hash seeds".

  The model is the representation layer of C06 (`Arrai.C06.Rep`): every frozen set / frozen map / Go map
  is a list whose order is the order in which that collection happens to be enumerated in this
  process (a function of the per-process hash seeds).  Here:

  * `members`        : the enumerator of each set representation (what `Enumerator()` walks);
  * `Impl.reprN`     : transliteration of the `Format` methods (pkg/fu `%v`): every container is printed
                       through an ordered walk — `OrderedValues()` (sort by `Less`), `OrderedEntries()`,
                       `TupleOrderedNames`, `rows.OrderedRange(projection)`;
  * `Impl.outText`   : the CLI's output formatting (`pkg/arrai/out.go`, `OutputValue` without `--out`);
  * `Ex`, `Impl.evalUnder π` : a fragment of programs over data values (set algebra, `=>`, `where`, `orderby`,
                       `with`/`without`, `count`, `{x}`, set patterns, `rank`) evaluated under an arbitrary
                       enumeration order `π` — each operator enumerates its operands through `π` and hands the
                       selected members to the set builder (`C06.Impl.build`, i.e. `SetBuilder`).

  Core-only.
-/
import Arrai.C06.Model

namespace Arrai.C07
open Arrai.C06

/-! ## Enumeration -/

def idxFrom (off : Int) : List α → List (Int × α)
  | [] => []
  | x :: xs => (off, x) :: idxFrom (off + 1) xs

/-- members of a set representation that is not a `UnionSet` -/
def members1 : Rep → List Rep
  | .true_ => [.gtuple []]
  | .generic xs => xs
  | .str s off => (idxFrom off s).filterMap (fun p => if p.2 < 0 then none else some (.charT p.1 p.2))
  | .bytes b off => (idxFrom off b).map (fun p => .byteT p.1 p.2)
  | .array vs off => (idxFrom off vs).filterMap (fun p => p.2.map (.itemT p.1))
  | .dict m => m.flatMap (fun e => e.tail.map (.entryT (Impl.entryHeadR e)))
  | .relation ns rows => rows.map (Impl.rowTuple ns)
  | _ => []

/-- `Enumerator()`: a `UnionSet` walks its buckets one after the other -/
def members : Rep → List Rep
  | .union bs => bs.flatMap members1
  | r => members1 r

def isSet : Rep → Bool
  | .empty | .true_ | .generic _ | .str _ _ | .bytes _ _ | .array _ _ | .dict _ | .relation _ _ | .union _ => true
  | _ => false

/-! ## Printing -/
namespace Impl
open C06.Impl

def identStart (c : Char) : Bool := c.isAlpha || c == '_' || c == '$' || c == '@'
def identRest (c : Char) : Bool := identStart c || c.isDigit

/-- `reprEscape` -/
def escapeRune (delim : Nat) (c : Int) : String :=
  if c < 0 then "�"                                     -- a hole: `string([]rune{-1})`
  else
    let n := c.toNat
    if n == 92 || n == delim then "\\" ++ String.singleton (Char.ofNat n)
    else if n ≥ 32 then String.singleton (Char.ofNat n)
    else if n == 7 then "\\a" else if n == 8 then "\\b" else if n == 27 then "\\e" else if n == 12 then "\\f"
    else if n == 10 then "\\n" else if n == 13 then "\\r" else if n == 9 then "\\t" else if n == 11 then "\\v"
    else "\\x" ++ String.singleton (Nat.digitChar (n / 16)) ++ String.singleton (Nat.digitChar (n % 16))

/-- `reprStr`: single quotes unless the text contains one -/
def reprStr (s : List Int) : String :=
  let delim : Nat := if s.any (· == 39) then 34 else 39
  String.singleton (Char.ofNat delim) ++ String.join (s.map (escapeRune delim)) ++ String.singleton (Char.ofNat delim)

/-- `identRE` -/
def isIdent (n : String) : Bool :=
  match n.toList with
  | c :: r => identStart c && r.all identRest
  | [] => false

/-- `TupleNameRepr` -/
def nameRepr (n : String) : String :=
  if isIdent n then n else reprStr (n.toList.map (fun c => (c.toNat : Int)))

/-- `reprOffset` -/
def offRepr (off : Int) : String := if off = 0 then "" else toString off ++ "\\"

def renderableByte (b : Int) : Bool :=
  b == 7 || b == 8 || b == 27 || b == 12 || b == 10 || b == 13 || b == 9 || b == 11 || (32 ≤ b && b ≤ 126)

def joinSep (l : List String) : String := ", ".intercalate l

/-- rows of a relation in `OrderedRange(projection)` order: cell by cell -/
def cellsLt (a b : List Rep) : Bool := C06.Old.cellsLoop less a b

/-- an array slot: a hole prints as nothing -/
def optText (rec : Rep → String) : Option Rep → String
  | some x => rec x
  | none => ""

/-- one `Format` method (`%v`), nested `%v` replaced by `rec` -/
def reprStep (rec : Rep → String) : Rep → String
  | .num n => toString n
  | .gtuple as =>
    -- `for i, name := range TupleOrderedNames(t)`
    "(" ++ joinSep ((isort (fun p q => strLt p.1 q.1) as).map (fun p => nameRepr p.1 ++ ": " ++ rec p.2)) ++ ")"
  | .charT i c => "(@: " ++ toString i ++ ", @char: " ++ toString c ++ ")"
  | .byteT i b => "(@: " ++ toString i ++ ", @byte: " ++ toString b ++ ")"
  | .itemT i x => "(@: " ++ toString i ++ ", @item: " ++ rec x ++ ")"
  | .entryT k v => "(@: " ++ rec k ++ ", @value: " ++ rec v ++ ")"
  | .empty => "{}"
  | .true_ => "true"
  | .generic xs => "{" ++ joinSep ((orderedValues xs).map rec) ++ "}"       -- reprOrderableSet
  | .str s off => offRepr off ++ reprStr s                                   -- reprString
  | .bytes b off =>                                                          -- Bytes.Format (offset printed since 7a4b0ca)
    offRepr off ++ "<<" ++ (if b.all renderableByte then reprStr b else joinSep (b.map toString)) ++ ">>"
  | .array vs off =>
    offRepr off ++ "[" ++ joinSep (vs.map (optText rec)) ++ "]"
  | .dict m =>
    -- `d.OrderedEntries()`: all entry tuples sorted by DictEntryTuple order
    "{" ++ joinSep ((orderedValues (members1 (.dict m))).map (fun t =>
      match t with
      | .entryT k v => rec k ++ ": " ++ rec v
      | _ => "")) ++ "}"
  | .relation ns rows =>
    let sns := isort strLt ns
    if sns.all isIdent then
      let proj (row : List Rep) : List Rep := sns.map (fun n => lookupAttr n (zipNames ns row))
      "{|" ++ joinSep sns ++ "| " ++
        joinSep ((isort cellsLt (rows.map proj)).map (fun cells => "(" ++ joinSep (cells.map rec) ++ ")")) ++ "}"
    else
      -- `{|...| ...}` only takes identifiers as names: `reprOrderableSet`, a plain set of tuples (72794de)
      "{" ++ joinSep ((orderedValues (rows.map (rowTuple ns))).map rec) ++ "}"
  | .union bs => "{" ++ joinSep ((orderedValues (bs.flatMap members1)).map rec) ++ "}"   -- UnionSet.Format

def reprN : Nat → Rep → String
  | 0, _ => ""
  | n + 1, r => reprStep (reprN n) r

/-- `fu.Repr(v)` -/
def repr (r : Rep) : String := reprN (depth r + 1) r

/-- a string or byte array written raw: its runes, a hole as U+FFFD -/
def rawText (s : List Int) : String := String.join (s.map (fun c => if c < 0 then "�" else String.singleton (Char.ofNat c.toNat)))

/-- `OutputValue(ctx, value, w, "")`: a string or byte array is written raw, the empty set as nothing,
everything else as `fu.Repr`, followed by a newline unless empty or already ending in one -/
def outText (r : Rep) : String :=
  let s := match r with
    | .str s _ => rawText s
    | .bytes b _ => rawText b
    | .empty => ""
    | r => repr r
  if s != "" && !s.endsWith "\n" then s ++ "\n" else s

end Impl

/-! ## Programs -/

/-- element functions of `=>` / keys of `orderby` (closed menu) -/
inductive Fn where
  | ident                 -- .
  | wrapA                 -- (a: .)
  | single                -- {.}
  | arr1                  -- [.]
  | pairWith (n : Int)    -- (a: ., b: n)
  | neg                   -- -.
  | const (n : Int)       -- n
  deriving Inhabited

def Fn.apply : Fn → Rep → Rep
  | .ident, x => x
  | .wrapA, x => C06.Impl.newTuple [("a", x)]
  | .single, x => C06.Impl.build [x]
  | .arr1, x => C06.Impl.mkArray 0 [some x]
  | .pairWith n, x => C06.Impl.newTuple [("a", x), ("b", .num n)]
  | .neg, x => C06.Impl.negate x
  | .const n, _ => .num n

def Fn.src : Fn → String
  | .ident => "."
  | .wrapA => "(a: .)"
  | .single => "{.}"
  | .arr1 => "[.]"
  | .pairWith n => "(a: ., b: " ++ Lit.numSrc n ++ ")"
  | .neg => "-."
  | .const n => Lit.numSrc n

/-- predicates of `where` (closed menu; all total on data values) -/
inductive Pr where
  | ltNum (n : Int)       -- . < n
  | neNum (n : Int)       -- . != n
  | geSet                 -- . >= {}
  | all                   -- true
  deriving Inhabited

def Pr.apply : Pr → Rep → Bool
  | .ltNum n, x => C06.Impl.less x (.num n)
  | .neNum n, x => !C06.Impl.equal x (.num n)
  | .geSet, x => !C06.Impl.less x .empty
  | .all, _ => true

def Pr.src : Pr → String
  | .ltNum n => ". < " ++ Lit.numSrc n
  | .neNum n => ". != " ++ Lit.numSrc n
  | .geSet => ". >= {}"
  | .all => "true"

inductive Ex where
  | lit (src : String) (r : Rep)
  | union (a b : Ex)          -- a | b
  | inter (a b : Ex)          -- a & b
  | diff (a b : Ex)           -- a &~ b
  | map (a : Ex) (f : Fn)     -- a => f
  | filter (a : Ex) (p : Pr)  -- a where p
  | orderby (a : Ex) (f : Fn) -- a orderby f
  | with_ (a e : Ex)          -- a with e
  | without (a e : Ex)        -- a without e
  | count (a : Ex)            -- a count
  | single (a : Ex)           -- {a}
  /-- `let {l₁, …, a} = s; a` (rest = false)  /  `let {l₁, …, ...t} = s; t` (rest = true); the items are literals -/
  | setpat (lits : List (String × Rep)) (rest : Bool) (s : Ex)
  /-- `s rank (r₁: .a₁, r₂: .a₂, …)` over a set of tuples: ranking attributes (name, attribute ranked by) -/
  | rank (s : Ex) (attrs : List (String × String))
  deriving Inhabited

def Ex.src : Ex → String
  | .lit s _ => s
  | .union a b => "(" ++ a.src ++ " | " ++ b.src ++ ")"
  | .inter a b => "(" ++ a.src ++ " & " ++ b.src ++ ")"
  | .diff a b => "(" ++ a.src ++ " &~ " ++ b.src ++ ")"
  | .map a f => "(" ++ a.src ++ " => " ++ f.src ++ ")"
  | .filter a p => "(" ++ a.src ++ " where " ++ p.src ++ ")"
  | .orderby a f => "(" ++ a.src ++ " orderby " ++ f.src ++ ")"
  | .with_ a e => "(" ++ a.src ++ " with " ++ e.src ++ ")"
  | .without a e => "(" ++ a.src ++ " without " ++ e.src ++ ")"
  | .count a => "(" ++ a.src ++ " count)"
  | .single a => "{" ++ a.src ++ "}"
  | .setpat lits rest s =>
    "(let {" ++ ", ".intercalate (lits.map (·.1) ++ [if rest then "...t" else "a"]) ++ "} = " ++ s.src ++ "; " ++
      (if rest then "t" else "a") ++ ")"
  | .rank s attrs =>
    "(" ++ s.src ++ " rank (" ++ ", ".intercalate (attrs.map (fun p => p.1 ++ ": ." ++ p.2)) ++ "))"

inductive Res where
  | ok (r : Rep)
  | err
  deriving Inhabited

/-- an enumeration order: what this process' hash seeds make of every collection it walks -/
abbrev EnumOrder := List Rep → List Rep

namespace Impl

def memberOf (x : Rep) (s : Rep) : Bool := (members s).any (fun y => C06.Impl.equal y x)

def isGTupleB : Rep → Bool
  | .gtuple _ => true
  | _ => false

def attrOfR (n : String) : Rep → Rep
  | .gtuple as => C06.Impl.lookupAttr n as
  | r => r

/-- `Tuple.With`: set (replace) attributes -/
def withAttrs (extra : List (String × Rep)) : Rep → Rep
  | .gtuple as => .gtuple (as.filter (fun p => !extra.any (fun q => q.1 == p.1)) ++ extra)
  | r => r

/-- `Rank`, by its specification (C06 `rank_by_less`): the rank of a row for a ranking attribute is the number of rows
whose value of that attribute is strictly smaller -/
def rankRow (attrs : List (String × String)) (rows : List Rep) (row : Rep) : Rep :=
  withAttrs (attrs.map (fun p =>
    (p.1, .num ((rows.filter (fun y => C06.Impl.less (attrOfR p.2 y) (attrOfR p.2 row))).length : Int)))) row

/-- evaluation in which every walk over a set goes through `π` -/
def evalUnder (π : EnumOrder) : Ex → Res
  | .lit _ r => .ok r
  | .union a b =>
    match evalUnder π a, evalUnder π b with
    | .ok A, .ok B => if isSet A && isSet B then .ok (C06.Impl.build (π (members A) ++ π (members B))) else .err
    | _, _ => .err
  | .inter a b =>
    match evalUnder π a, evalUnder π b with
    | .ok A, .ok B =>
      if isSet A && isSet B then .ok (C06.Impl.build ((π (members A)).filter (fun x => memberOf x B))) else .err
    | _, _ => .err
  | .diff a b =>
    match evalUnder π a, evalUnder π b with
    | .ok A, .ok B =>
      if isSet A && isSet B then .ok (C06.Impl.build ((π (members A)).filter (fun x => !memberOf x B))) else .err
    | _, _ => .err
  | .map a f =>
    match evalUnder π a with
    | .ok A => if isSet A then .ok (C06.Impl.build ((π (members A)).map f.apply)) else .err
    | .err => .err
  | .filter a p =>
    match evalUnder π a with
    | .ok A => if isSet A then .ok (C06.Impl.build ((π (members A)).filter p.apply)) else .err
    | .err => .err
  | .orderby a f =>
    match evalUnder π a with
    | .ok A => if isSet A then .ok (C06.Impl.mkArray 0 ((C06.Impl.orderBy f.apply (π (members A))).map some)) else .err
    | .err => .err
  | .with_ a e =>
    match evalUnder π a, evalUnder π e with
    | .ok A, .ok x => if isSet A then .ok (C06.Impl.build (π (members A) ++ [x])) else .err
    | _, _ => .err
  | .without a e =>
    match evalUnder π a, evalUnder π e with
    | .ok A, .ok x =>
      if isSet A then .ok (C06.Impl.build ((π (members A)).filter (fun y => !C06.Impl.equal y x))) else .err
    | _, _ => .err
  | .count a =>
    match evalUnder π a with
    | .ok A => if isSet A then .ok (.num (members A).length) else .err
    | .err => .err
  | .single a =>
    match evalUnder π a with
    | .ok x => .ok (C06.Impl.build [x])
    | .err => .err
  | .setpat lits rest a =>
    match evalUnder π a with
    | .ok S =>
      if isSet S then
        -- every literal item must be a member; what is left binds the identifier (exactly one member) or `...t`
        if lits.all (fun l => (π (members S)).any (fun y => C06.Impl.equal y l.2)) then
          if rest then .ok (C06.Impl.build ((π (members S)).filter (fun y => !lits.any (fun l => C06.Impl.equal y l.2))))
          else match (π (members S)).filter (fun y => !lits.any (fun l => C06.Impl.equal y l.2)) with
            | [x] => .ok x
            | _ => .err
        else .err
      else .err
    | .err => .err
  | .rank a attrs =>
    match evalUnder π a with
    | .ok S =>
      if isSet S && (members S).all isGTupleB then
        .ok (C06.Impl.build ((π (members S)).map (rankRow attrs (π (members S)))))
      else .err
    | .err => .err

end Impl

/-! ### constructs that pick "an element" or depend on "the first element" of an enumeration

The programs of `Pg.setpat` with modes 0 and 1 and of `Pg.rank` over `.k`, `.v` alone (`three = false`, `post = 0`) can
also be written as `Ex.setpat` / `Ex.rank` terms, and of those the theorems speak (`Theorems.C07`, `C07_setpat`). Shapes
without an `Ex` counterpart (conditional set patterns, `rank` over `.i % 3` or followed by `where` / `=>`, `nest`, the
reducers other than `count`, `orderby` mapped to its keys or with a tuple key, `=`, `<:`, dictionary call) are outside
the fragment of the theorems; all are predicted under the identity order and tied to the implementation by the
N-process run (an outcome — value or error — must be the same in every process). -/

/-- a relation literal over k, v, i: row `j` is `(k, v, i: j)` -/
def kvRows (rows : List (Int × Int)) : List Rep :=
  rows.zipIdx.map (fun (r, j) => .gtuple [("k", .num r.1), ("v", .num r.2), ("i", .num j)])

def kvSrc (rows : List (Int × Int)) : String :=
  "{|k, v, i| " ++ ", ".intercalate (rows.zipIdx.map (fun (r, j) =>
    "(" ++ Lit.numSrc r.1 ++ ", " ++ Lit.numSrc r.2 ++ ", " ++ toString j ++ ")")) ++ "}"

inductive Pg where
  /-- mode 0: `let {L…, a} = S; a`   1: `let {L…, ...t} = S; t`   2: `cond S {{L…, a}: a, _: 'none'}` -/
  | setpat (lits : List (String × Rep)) (mode : Nat) (s : Ex)
  /-- `R rank (rk: .k, rv: .v[, rm: .i % 3])`; post 0: the relation, 1: `(… where .v = c) => .rk`, 2: `… => (a: .rk, b: .rv)` -/
  | rank (rows : List (Int × Int)) (three : Bool) (post : Nat) (c : Int)
  /-- `(S orderby f) >> f`: with tied keys only tied members may swap, so the sequence of keys is determined -/
  | orderbyKeys (s : Ex) (f : Fn)
  /-- op 0: `S max f`, 1: `S min f` -/
  | reduce (s : Ex) (op : Nat) (f : Fn)
  /-- mode 0: `R nest |v, i|g`, 1: `R nest |i|g` -/
  | nest (rows : List (Int × Int)) (mode : Nat)
  /-- `(R orderby .k) >> .v`?  no: `(R orderby .k) >> .k` (tied keys: the key sequence is determined), or with the
  tie-free key `(k: .k, i: .i)` the rows themselves: mode 0 / 1 -/
  | orderbyAttr (rows : List (Int × Int)) (mode : Nat)
  /-- numeric reducers over a set of 12–20 numbers `u / scale` (scale 1, 2, 4: exactly representable):
  op 0 `S sum .`, 1 `S mean .`, 2 `S median .`, 3 `S max .`, 4 `S min .`, 5 `S count` -/
  | numred (units : List Int) (scale : Nat) (op : Nat)
  /-- the same reducers over an attribute of a relation (values repeat): `R sum .v`, … -/
  | numrel (rows : List (Int × Int)) (op : Nat)
  /-- an OUTER set (or dictionary, modes ≥ 5) of ≥ 12 members that holds the same inner value in several spellings.
  mode 0 `{o1} count`, 1 `{o1} = {o2}`, 2 `{o1} & {o2}`, 3 `probe <: {o1}`, 4 `{o1}`;
  dictionaries `D1 = {k: v, …}` over `o1`, `D2` over `o2`: 5 `D1 = D2`, 6 `D1(probe)`, 7 `(D1 | D2) count`, 8 `D1` -/
  | dup (o1 o2 : List ((String × Rep) × Int)) (probe : String × Rep) (mode : Nat)
  deriving Inhabited

/-- the decimal text of `p / q` when it terminates (`q ∣ 10^9` after reduction); what Go's shortest float formatting
prints for such a value of moderate size -/
def decStr (p : Int) (q : Nat) : String :=
  let g := Nat.gcd p.natAbs q
  let q' := if g == 0 then 1 else q / g
  let p' : Int := if g == 0 then 0 else p / (g : Int)
  let sc := 1000000000 / q'
  let v : Int := p' * (sc : Int)
  let a := v.natAbs
  let ip := a / 1000000000
  let fp := a % 1000000000
  let digits := (toString (1000000000 + fp)).toList.drop 1
  let frac := String.ofList (digits.reverse.dropWhile (· == '0')).reverse
  (if v < 0 then "-" else "") ++ toString ip ++ (if fp == 0 then "" else "." ++ frac)

def terminates (p : Int) (q : Nat) : Bool :=
  let g := Nat.gcd p.natAbs q
  let q' := if g == 0 then 1 else q / g
  q' != 0 && 1000000000 % q' == 0

def decSrc (p : Int) (q : Nat) : String := if p < 0 then "(" ++ decStr p q ++ ")" else decStr p q

def redName (op : Nat) : String :=
  match op with
  | 0 => "sum" | 1 => "mean" | 2 => "median" | 3 => "max" | _ => "min"

def dupSetSrc (o : List ((String × Rep) × Int)) : String := "{" ++ ", ".intercalate (o.map (·.1.1)) ++ "}"
def dupDictSrc (o : List ((String × Rep) × Int)) : String :=
  "{" ++ ", ".intercalate (o.map (fun e => e.1.1 ++ ": " ++ Lit.numSrc e.2)) ++ "}"

def Pg.src : Pg → String
  | .setpat lits mode s =>
    let ls := lits.map (·.1)
    match mode with
    | 0 => "let {" ++ ", ".intercalate (ls ++ ["a"]) ++ "} = " ++ s.src ++ "; a"
    | 1 => "let {" ++ ", ".intercalate (ls ++ ["...t"]) ++ "} = " ++ s.src ++ "; t"
    | _ => "cond " ++ s.src ++ " {{" ++ ", ".intercalate (ls ++ ["a"]) ++ "}: a, _: 'none'}"
  | .rank rows three post c =>
    let rk := "(" ++ kvSrc rows ++ " rank (rk: .k, rv: .v" ++ (if three then ", rm: .i % 3" else "") ++ "))"
    match post with
    | 0 => rk
    | 1 => "((" ++ rk ++ " where .v = " ++ Lit.numSrc c ++ ") => .rk)"
    | _ => "(" ++ rk ++ " => (a: .rk, b: .rv))"
  | .orderbyKeys s f => "((" ++ s.src ++ " orderby " ++ f.src ++ ") >> " ++ f.src ++ ")"
  | .reduce s op f => "(" ++ s.src ++ (if op == 0 then " max " else " min ") ++ f.src ++ ")"
  | .nest rows mode => "(" ++ kvSrc rows ++ (if mode == 0 then " nest |v, i|g)" else " nest |i|g)")
  | .orderbyAttr rows mode =>
    if mode == 0 then "((" ++ kvSrc rows ++ " orderby .k) >> .k)" else "(" ++ kvSrc rows ++ " orderby (k: .k, i: .i))"
  | .numred units scale op =>
    let S := "{" ++ ", ".intercalate (units.map (fun u => decSrc u scale)) ++ "}"
    if op == 5 then "(" ++ S ++ " count)" else "(" ++ S ++ " " ++ redName op ++ " .)"
  | .numrel rows op =>
    if op == 5 then "(" ++ kvSrc rows ++ " count)" else "(" ++ kvSrc rows ++ " " ++ redName op ++ " .v)"
  | .dup o1 o2 probe mode =>
    match mode with
    | 0 => "(" ++ dupSetSrc o1 ++ " count)"
    | 1 => "(" ++ dupSetSrc o1 ++ " = " ++ dupSetSrc o2 ++ ")"
    | 2 => "(" ++ dupSetSrc o1 ++ " & " ++ dupSetSrc o2 ++ ")"
    | 3 => "(" ++ probe.1 ++ " <: " ++ dupSetSrc o1 ++ ")"
    | 4 => dupSetSrc o1
    | 5 => "(" ++ dupDictSrc o1 ++ " = " ++ dupDictSrc o2 ++ ")"
    | 6 => "(" ++ dupDictSrc o1 ++ "(" ++ probe.1 ++ "))"
    | 7 => "((" ++ dupDictSrc o1 ++ " | " ++ dupDictSrc o2 ++ ") count)"
    | _ => dupDictSrc o1

namespace Impl

def attrOf (n : String) : Rep → Rep
  | .gtuple as => C06.Impl.lookupAttr n as
  | r => r

def withAttr (n : String) (v : Rep) : Rep → Rep
  | .gtuple as => .gtuple (as ++ [(n, v)])
  | r => r

/-- `Rank` with several ranking attributes: for each attribute, a row's rank is the number of rows whose value of that
attribute is strictly smaller -/
def rankMany (keyfs : List (String × (Rep → Rep))) (rows : List Rep) : List Rep :=
  keyfs.foldl (fun rs (nf : String × (Rep → Rep)) =>
    let ranked := C06.Impl.rank nf.2 rs
    rs.map (fun row =>
      let r := ((ranked.find? (fun q => C06.Impl.equal q.1 row)).map (·.2)).getD 0
      withAttr nf.1 (.num r) row)) rows

def evalPg : Pg → Res
  | .setpat lits mode s =>
    let fail : Res := if mode == 2 then .ok (.str [110, 111, 110, 101] 0) else .err
    match evalUnder (fun l => l) s with
    | .err => .err
    | .ok S =>
      if !isSet S then fail
      else
        let ms := members S
        if lits.length + 1 > ms.length + 1 then fail
        else if !lits.all (fun l => ms.any (fun y => C06.Impl.equal y l.2)) then fail
        else
          let rest := ms.filter (fun y => !lits.any (fun l => C06.Impl.equal y l.2))
          if mode == 1 then .ok (C06.Impl.build rest)
          else match rest with
            | [x] => .ok x
            | _ => fail
  | .rank rows three post c =>
    let fs : List (String × (Rep → Rep)) :=
      [("rk", attrOf "k"), ("rv", attrOf "v")] ++
      (if three then [("rm", fun r => match attrOf "i" r with | .num i => .num (i % 3) | x => x)] else [])
    let ranked := rankMany fs (kvRows rows)
    if rows.isEmpty then .ok .empty
    else match post with
    | 0 => .ok (C06.Impl.build ranked)
    | 1 => .ok (C06.Impl.build ((ranked.filter (fun r => C06.Impl.equal (attrOf "v" r) (.num c))).map (attrOf "rk")))
    | _ => .ok (C06.Impl.build (ranked.map (fun r => C06.Impl.newTuple [("a", attrOf "rk" r), ("b", attrOf "rv" r)])))
  | .orderbyKeys s f =>
    match evalUnder (fun l => l) s with
    | .ok S => if isSet S then .ok (C06.Impl.mkArray 0 (((C06.Impl.orderBy f.apply (members S)).map f.apply).map some)) else .err
    | .err => .err
  | .reduce s op f =>
    match evalUnder (fun l => l) s with
    | .ok S =>
      if isSet S then
        match (if op == 0 then C06.Impl.maxOf else C06.Impl.minOf) ((members S).map f.apply) with
        | some x => .ok x
        | none => .err
      else .err
    | .err => .err
  | .orderbyAttr rows mode =>
    let rs := kvRows rows
    if mode == 0 then .ok (C06.Impl.mkArray 0 (((C06.Impl.orderBy (attrOf "k") rs).map (attrOf "k")).map some))
    else .ok (C06.Impl.mkArray 0 ((C06.Impl.orderBy (fun r => .gtuple [("k", attrOf "k" r), ("i", attrOf "i" r)]) rs).map some))
  | .numred _ _ _ => .err          -- rational results: see `obsPg`
  | .numrel _ _ => .err
  | .dup o1 o2 probe mode =>
    let boolRep (b : Bool) : Rep := if b then .true_ else .empty
    let s1 := C06.Impl.build (o1.map (·.1.2))
    let s2 := C06.Impl.build (o2.map (·.1.2))
    let ents (o : List ((String × Rep) × Int)) : List Rep := o.map (fun e => .entryT e.1.2 (.num e.2))
    let d1 := C06.Impl.build (ents o1)
    let d2 := C06.Impl.build (ents o2)
    match mode with
    | 0 => .ok (.num (members s1).length)
    | 1 => .ok (boolRep (C06.Impl.equal s1 s2))
    | 2 => .ok (C06.Impl.build ((members s1).filter (fun x => memberOf x s2)))
    | 3 => .ok (boolRep (memberOf probe.2 s1))
    | 4 => .ok s1
    | 5 => .ok (boolRep (C06.Impl.equal d1 d2))
    | 6 => match o1.find? (fun e => C06.Impl.equal e.1.2 probe.2) with
      | some e => .ok (.num e.2)
      | none => .err
    | 7 => .ok (.num (members (C06.Impl.build (ents o1 ++ ents o2))).length)
    | _ => .ok d1
  | .nest rows mode =>
    let rs := kvRows rows
    if rs.isEmpty then .ok .empty
    else
      let outer (r : Rep) : List (String × Rep) :=
        if mode == 0 then [("k", attrOf "k" r)] else [("k", attrOf "k" r), ("v", attrOf "v" r)]
      let inner (r : Rep) : Rep :=
        if mode == 0 then .gtuple [("v", attrOf "v" r), ("i", attrOf "i" r)] else .gtuple [("i", attrOf "i" r)]
      .ok (C06.Impl.build (rs.map (fun r =>
        let grp := rs.filter (fun q => C06.Impl.equal (.gtuple (outer q)) (.gtuple (outer r)))
        .gtuple (outer r ++ [("g", C06.Impl.build (grp.map inner))]))))

end Impl

namespace Impl

/-- `KF-superimposed`: two sugar tuples of one kind at the same index among the values handed to the set builder -/
def superimposedL (ms : List Rep) : Bool :=
  let dup (l : List Int) := l.length != l.eraseDups.length
  dup (ms.filterMap (fun r => match r with | .charT i _ => some i | _ => none)) ||
  dup (ms.filterMap (fun r => match r with | .byteT i _ => some i | _ => none)) ||
  dup (ms.filterMap (fun r => match r with | .itemT i _ => some i | _ => none))

/-- the observables of a run: value up to meaning, printed text, CLI output, or the error class -/
def obs : Res → String
  | .ok r => (den r).canon ++ "\n" ++ repr r ++ "\n" ++ outText r
  | .err => "error"

/-- the exact value `p / q` of a numeric reducer over the multiset `us` of units (`u / scale` each) -/
def reduceExact (us : List Int) (scale : Nat) (op : Nat) : Option (Int × Nat) :=
  let n := us.length
  let sorted := isort (fun (a b : Int) => decide (a < b)) us
  match op with
  | 0 => some (us.foldl (· + ·) 0, scale)
  | 1 => if n == 0 then none else some (us.foldl (· + ·) 0, scale * n)
  | 2 =>
    if n == 0 then none
    else if n % 2 == 1 then some (sorted.getD (n / 2) 0, scale)
    else some (sorted.getD (n / 2 - 1) 0 + sorted.getD (n / 2) 0, scale * 2)
  | 3 => (sorted.getLast?).map (fun u => (u, scale))
  | 4 => (sorted.head?).map (fun u => (u, scale))
  | _ => some ((n : Int), 1)

def numObs : Option (Int × Nat) → String
  | some (p, q) => let t := decStr p q; t ++ "\n" ++ t ++ "\n" ++ t ++ "\n"
  | none => "error"

/-- observables of a `Pg` program; numeric reducers are computed exactly (rationals) and printed as decimals -/
def obsPg : Pg → String
  | .numred units scale op => numObs (reduceExact units scale op)
  | .numrel rows op => numObs (reduceExact (if op == 5 then rows.map (fun _ => (0 : Int)) else rows.map (·.2)) 1 op)
  | p => obs (evalPg p)

end Impl

end Arrai.C07
