/-
  C07 — from canonical forms to printed text, for programs: every value an admissible program computes is well named
  (`nodupNames`; `closed_nn`, an instance of the class `Closed` over which `agree` is proved), hence (`repr_congr`) the
  text printed for it is the same under every enumeration order (`printed_agree`).
-/
import Arrai.C07.Repr
import Arrai.C07.FinalThm

namespace Arrai.C07
open Arrai.C06 Std
open C06.Impl (Bucket bucketOf finishBucket build)

theorem tupleNodup_of_nn {x : Rep} (h : nodupNames x = true) : tupleNodup x := by
  cases x with
  | gtuple as =>
    simpa [tupleNodup] using (nn_gtuple.1 h).1
  | _ => trivial

theorem nn_lookupAttr (n : String) (as : List (String × Rep)) (h : ∀ p ∈ as, nodupNames p.2 = true) :
    nodupNames (C06.Impl.lookupAttr n as) = true := by
  rcases lookupAttr_mem n as with h0 | ⟨p, hp, h0⟩
  · rw [h0]; rfl
  · rw [h0]; exact h p hp

/-! ### the set builder -/
theorem mem_itemsOf {vs : List Rep} {t : Int × Option Rep} (h : t ∈ C06.Impl.itemsOf vs) :
    ∃ i x, t = (i, some x) ∧ Rep.itemT i x ∈ vs := by
  rw [itemsOf_eq] at h
  obtain ⟨v, hv, e⟩ := List.mem_filterMap.1 h
  cases v <;> cases e
  exact ⟨_, _, rfl, hv⟩

def NNd (m : List (List Rep)) : Prop := ∀ e ∈ m, ∀ x ∈ e, nodupNames x = true

theorem nn_dictPut (k v : Rep) (hk : nodupNames k = true) (hv : nodupNames v = true) :
    ∀ (m : List (List Rep)), NNd m → NNd (C06.Impl.dictPut k v m) :=
  dictPut_forall (A := fun e => ∀ x ∈ e, nodupNames x = true) (by simp [hk, hv]) fun e he x hx =>
    (List.mem_append.1 hx).elim (he x) fun hx => by rw [List.mem_singleton.1 hx]; exact hv

theorem nn_entriesOf : ∀ (vs : List Rep), (∀ v ∈ vs, nodupNames v = true) → ∀ (acc : List (List Rep)), NNd acc →
    NNd (C06.Impl.entriesOf vs acc) := by
  refine forall_mem_rec (fun _ h => h) ?_
  intro v vs hv ih acc h
  cases v with
  | entryT k x => exact ih _ (nn_dictPut k x (nn_entryT.1 hv).1 (nn_entryT.1 hv).2 acc h)
  | _ => exact ih acc h

theorem nn_finish (b : Bucket) (vs : List Rep) (hvs : ∀ x ∈ vs, nodupNames x = true)
    (hb : ∀ ns, b = .heading ns → ns.Nodup) : nodupNames (finishBucket (b, vs)) = true := by
  cases b with
  | generic =>
    rcases finish_generic_cases vs with e | e | ⟨ds, e, hds⟩ <;> rw [e]
    · rfl
    · rfl
    · exact nn_generic.2 fun v hv => hvs v (hds v hv)
  | chars => rfl
  | bytes => rfl
  | items =>
    simp only [finishBucket]
    refine nn_array.2 fun y hy => ?_
    simp only [C06.Impl.fillSlots, List.mem_map] at hy
    obtain ⟨k, _, hk⟩ := hy
    split at hk
    · rename_i t ht
      have hmem := List.mem_of_find?_eq_some ht
      rw [List.mem_reverse] at hmem
      obtain ⟨i, x, rfl, hx⟩ := mem_itemsOf hmem
      cases hk
      exact nn_itemT i y ▸ hvs _ hx
    · cases hk
  | entries =>
    simp only [finishBucket]
    exact nn_dict.2 (nn_entriesOf vs hvs [] (fun e he => by cases he))
  | heading ns =>
    simp only [finishBucket]
    refine nn_relation.2 ⟨hb ns rfl, fun row hrow x hx => ?_⟩
    obtain ⟨v, hv, rfl⟩ := List.mem_map.1 (mem_dedupRows row hrow)
    have hnv := hvs v hv
    cases v with
    | gtuple as =>
      simp only [C06.Impl.rowOf, List.mem_map] at hx
      obtain ⟨n, _, rfl⟩ := hx
      exact nn_lookupAttr n as (nn_gtuple.1 hnv).2
    | _ => simp [C06.Impl.rowOf] at hx

theorem nn_build (xs : List Rep) (hxs : ∀ x ∈ xs, nodupNames x = true) : nodupNames (build xs) = true := by
  refine build_cases (P := fun r => nodupNames r = true) xs rfl (fun b hb => ?_) (fun gs h => ?_)
  · exact nn_finish b _ (fun x hx => hxs x (List.mem_filter.1 hx).1)
      (heading_nodup_of_mem (fun x hx => tupleNodup_of_nn (hxs x hx)) hb)
  · refine nn_union.2 fun v hv => ?_
    obtain ⟨g, hg, rfl⟩ := List.mem_map.1 hv
    exact h g hg

/-! ### element functions, `orderby`, `rank` -/
theorem Fn.nn_apply (f : Fn) (hf : f.ok = true) (x : Rep) (hx : nodupNames x = true) : nodupNames (f.apply x) = true := by
  cases f with
  | ident => exact hx
  | const n => rfl
  | wrapA => simp [Fn.apply, C06.Impl.newTuple, nn_gtuple, hx]
  | pairWith n => simp [Fn.apply, C06.Impl.newTuple, nn_gtuple, hx]; rfl
  | arr1 => simp [Fn.apply, C06.Impl.mkArray, C06.Impl.dropNones, nn_array, hx]
  | single | neg => cases hf

theorem nn_mkArray_somes (l : List Rep) (h : ∀ x ∈ l, nodupNames x = true) :
    nodupNames (C06.Impl.mkArray 0 (l.map some)) = true := by
  rw [mkArray_somes]
  split
  · rfl
  · refine nn_array.2 fun y hy => ?_
    obtain ⟨x, hx, e⟩ := List.mem_map.1 hy
    exact Option.some.inj e ▸ h x hx

theorem nn_rankRow (attrs : List (String × String)) (hattrs : (attrs.map (·.1)).Nodup) (rows : List Rep) (row : Rep)
    (h : nodupNames row = true) : nodupNames (Impl.rankRow attrs rows row) = true := by
  cases row with
  | gtuple as =>
    have h := nn_gtuple.1 h
    simp only [Impl.rankRow, Impl.withAttrs]
    refine nn_gtuple.2 ⟨?_, ?_⟩
    · have := filter_names_nodup as (attrs.map (fun p => (p.1, Rep.num ((rows.filter (fun y =>
        C06.Impl.less (Impl.attrOfR p.2 y) (Impl.attrOfR p.2 (.gtuple as)))).length : Int))))
        (by simpa using h.1) (by rw [List.map_map]; exact hattrs)
      simpa using this
    · intro p hp
      rcases List.mem_append.1 hp with hp | hp
      · exact h.2 p (List.mem_filter.1 hp).1
      · obtain ⟨q, _, rfl⟩ := List.mem_map.1 hp
        rfl
  | _ => exact h

/-! ### every value of an admissible program over well-named literals is well named -/
def litsNN : Ex → Prop
  | .lit _ r => nodupNames r = true
  | .union a b | .inter a b | .diff a b | .with_ a b | .without a b => litsNN a ∧ litsNN b
  | .map a _ | .filter a _ | .orderby a _ | .count a | .single a | .setpat _ _ a | .rank a _ => litsNN a

theorem closed_nn : Closed (fun r => nodupNames r = true) where
  tn := tupleNodup_of_nn
  num _ := rfl
  build h := ⟨nn_build _ h, hered_nodupNames.members (nn_build _ h)⟩
  arr l h := ⟨nn_mkArray_somes l h, hered_nodupNames.members (nn_mkArray_somes l h)⟩
  fn := Fn.nn_apply
  rank := nn_rankRow

theorem litsIn_of_nn : ∀ (e : Ex), litsNN e → litsIn (Inv fun r => nodupNames r = true) e
  | .lit _ _, h => ⟨h, hered_nodupNames.members h⟩
  | .union a b, h | .inter a b, h | .diff a b, h | .with_ a b, h | .without a b, h =>
    ⟨litsIn_of_nn a h.1, litsIn_of_nn b h.2⟩
  | .map a _, h | .filter a _, h | .orderby a _, h | .count a, h | .single a, h | .setpat _ _ a, h | .rank a _, h =>
    litsIn_of_nn a h

theorem nn_eval {π : EnumOrder} (hπ : PermValued π) {e : Ex} (h : Adm e) (hl : litsNN e) {r : Rep}
    (hr : Impl.evalUnder π e = .ok r) : nodupNames r = true := by
  rcases agree closed_nn π hπ e h (litsIn_of_nn e hl) with ⟨A, _, e₁, _, _, i⟩ | ⟨e₁, _⟩ <;> rw [hr] at e₁ <;> cases e₁
  exact i.1

/-- what a run shows of a result: `fu.Repr` and what `OutputValue` writes -/
def printedRes : Res → Option (String × String)
  | .ok r => some (Impl.repr r, Impl.outText r)
  | .err => none

theorem printed_agree {π : EnumOrder} (hπ : PermValued π) {e : Ex} (h : Adm e) (hl : litsNN e) :
    printedRes (Impl.evalUnder π e) = printedRes (Impl.evalUnder idπ e) := by
  rcases agree closed_nn π hπ e h (litsIn_of_nn e hl) with ⟨A, A₀, e₁, e₀, k, i⟩ | ⟨e₁, e₀⟩ <;> rw [e₁, e₀]
  have n₀ := nn_eval idπ_perm h hl e₀
  exact congrArg some (Prod.ext (repr_congr hered_nodupNames i.1 n₀ k) (outText_congr hered_nodupNames i.1 n₀ k))

end Arrai.C07
