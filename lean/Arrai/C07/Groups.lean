/-
  C07 — grouping in order of first occurrence, the way `SetBuilder.Add` keeps its bucket map and `NewDict` its entries
  (`upsert`, `Grouped`; `Grouped.map_perm`: group, finish each group, collect — the same up to order when the same
  indices occur and each group finishes alike).
-/
import Arrai.C07.Lemmas

namespace Arrai.C07
open Arrai.C06 Std
open C06.Impl (Bucket bucketOf addToBucket finishBucket build)

section Group
variable {ι α β : Type} [DecidableEq ι]

def upsert (i : ι) (upd : Option β → β) : List (ι × β) → List (ι × β)
  | [] => [(i, upd none)]
  | (j, b) :: r => if j = i then (j, upd (some b)) :: r else (j, b) :: upsert i upd r

def grouped (κ : α → ι) (u : α → Option β → β) (i : ι) (pre : List α) : Option β :=
  (pre.filter (fun x => κ x = i)).foldl (fun o x => some (u x o)) none

structure Grouped (κ : α → ι) (u : α → Option β → β) (acc : List (ι × β)) (pre : List α) : Prop where
  nodup : (acc.map (·.1)).Nodup
  content : ∀ g ∈ acc, grouped κ u g.1 pre = some g.2
  keys : ∀ i, i ∈ acc.map (·.1) ↔ ∃ x ∈ pre, κ x = i

variable {κ : α → ι} {u : α → Option β → β}

theorem grouped_append (i : ι) (pre : List α) (x : α) :
    grouped κ u i (pre ++ [x]) = if κ x = i then some (u x (grouped κ u i pre)) else grouped κ u i pre := by
  unfold grouped
  rw [List.filter_append]
  by_cases h : κ x = i <;> simp [h, List.foldl_append]

theorem upsert_keys (i : ι) (upd : Option β → β) : ∀ (acc : List (ι × β)),
    (upsert i upd acc).map (·.1) = if i ∈ acc.map (·.1) then acc.map (·.1) else acc.map (·.1) ++ [i]
  | [] => rfl
  | (j, b) :: r => by
    simp only [upsert, List.map_cons, List.mem_cons]
    by_cases hj : j = i
    · rw [if_pos hj, if_pos (Or.inl hj.symm)]; rfl
    · rw [if_neg hj, List.map_cons, upsert_keys i upd r]
      have : (i = j ∨ i ∈ r.map (·.1)) ↔ i ∈ r.map (·.1) := or_iff_right fun e => hj e.symm
      simp only [this]
      split <;> rfl

theorem mem_upsert (i : ι) (upd : Option β → β) : ∀ (acc : List (ι × β)), (acc.map (·.1)).Nodup → ∀ g ∈ upsert i upd acc,
    (g.1 ≠ i ∧ g ∈ acc) ∨ (∃ b, (i, b) ∈ acc ∧ g = (i, upd (some b))) ∨ (i ∉ acc.map (·.1) ∧ g = (i, upd none))
  | [], _, g, h => by simp only [upsert, List.mem_singleton] at h; exact Or.inr (Or.inr ⟨by simp, h⟩)
  | (j, b) :: r, hn, g, h => by
    have hn' := List.nodup_cons.1 hn
    simp only [upsert] at h
    by_cases hj : j = i
    · rw [if_pos hj] at h
      subst hj
      rcases List.mem_cons.1 h with rfl | h
      · exact Or.inr (Or.inl ⟨b, List.mem_cons_self, rfl⟩)
      · exact Or.inl ⟨fun e => hn'.1 (List.mem_map.2 ⟨g, h, e⟩), List.mem_cons_of_mem _ h⟩
    · rw [if_neg hj] at h
      rcases List.mem_cons.1 h with rfl | h
      · exact Or.inl ⟨hj, List.mem_cons_self⟩
      · rcases mem_upsert i upd r hn'.2 g h with ⟨h1, h2⟩ | ⟨b', h1, h2⟩ | ⟨h1, h2⟩
        · exact Or.inl ⟨h1, List.mem_cons_of_mem _ h2⟩
        · exact Or.inr (Or.inl ⟨b', List.mem_cons_of_mem _ h1, h2⟩)
        · exact Or.inr (Or.inr ⟨fun hm => (List.mem_cons.1 hm).elim (fun e => hj e.symm) h1, h2⟩)

theorem Grouped.put {acc : List (ι × β)} {pre : List α} (h : Grouped κ u acc pre) (x : α) :
    Grouped κ u (upsert (κ x) (u x) acc) (pre ++ [x]) := by
  have hkeys : ∀ i, i ∈ (upsert (κ x) (u x) acc).map (·.1) ↔ ∃ y ∈ pre ++ [x], κ y = i := fun i => by
    rw [upsert_keys]
    have : (∃ y ∈ pre ++ [x], κ y = i) ↔ (∃ y ∈ pre, κ y = i) ∨ κ x = i := by simp [or_and_right, exists_or]
    rw [this, ← h.keys]
    split
    · rename_i hm; exact ⟨Or.inl, fun e => e.elim id fun e => e ▸ hm⟩
    · simp [eq_comm]
  refine ⟨?_, fun g hg => ?_, hkeys⟩
  · rw [upsert_keys]; exact nodup_ite_concat _ h.nodup
  · rw [grouped_append]
    rcases mem_upsert _ _ acc h.nodup g hg with ⟨h1, h2⟩ | ⟨b, h1, rfl⟩ | ⟨h1, rfl⟩
    · rw [if_neg fun e => h1 e.symm]; exact h.content g h2
    · rw [if_pos rfl, h.content _ h1]
    · have : grouped κ u (κ x) pre = none := by
        unfold grouped
        rw [List.filter_eq_nil_iff.2 fun y hy e => h1 ((h.keys _).2 ⟨y, hy, by simpa using e⟩)]
        rfl
      rw [if_pos rfl, this]

theorem Grouped.nil : Grouped κ u ([] : List (ι × β)) [] :=
  ⟨List.nodup_nil, fun _ hg => (nomatch hg), fun _ => ⟨fun hm => (nomatch hm), fun ⟨_, hx, _⟩ => (nomatch hx)⟩⟩

theorem Grouped.foldl : ∀ (xs : List α) {acc : List (ι × β)} {pre : List α}, Grouped κ u acc pre →
    Grouped κ u (xs.foldl (fun acc x => upsert (κ x) (u x) acc) acc) (pre ++ xs)
  | [], _, _, h => by simpa using h
  | x :: xs, _, _, h => by simpa [List.append_assoc] using Grouped.foldl xs (h.put x)

theorem Grouped.of_foldl (κ : α → ι) (u : α → Option β → β) (xs : List α) :
    Grouped κ u (xs.foldl (fun acc x => upsert (κ x) (u x) acc) []) xs := by
  simpa using Grouped.foldl xs (Grouped.nil (κ := κ) (u := u))

theorem Grouped.map_perm {γ : Type} (F : ι → β → γ) {acc acc' : List (ι × β)} {pre pre' : List α}
    (h : Grouped κ u acc pre) (h' : Grouped κ u acc' pre') (hk : ∀ i, (∃ x ∈ pre, κ x = i) ↔ ∃ x ∈ pre', κ x = i)
    (hF : ∀ i b b', grouped κ u i pre = some b → grouped κ u i pre' = some b' → F i b = F i b') :
    (acc.map fun g => F g.1 g.2).Perm (acc'.map fun g => F g.1 g.2) := by
  have hkeys : (acc.map (·.1)).Perm (acc'.map (·.1)) :=
    (List.perm_ext_iff_of_nodup h.nodup h'.nodup).2 fun i => by rw [h.keys, h'.keys, hk]
  -- both sides as `filterMap`s over their index lists
  have e : ∀ {acc : List (ι × β)} {pre : List α}, Grouped κ u acc pre →
      acc.map (fun g => F g.1 g.2) = (acc.map (·.1)).filterMap (fun i => (grouped κ u i pre).map (F i)) := by
    intro acc pre h
    rw [List.filterMap_map, ← List.filterMap_eq_map]
    exact filterMap_congr_mem fun g hg => by simp [Function.comp, h.content g hg]
  rw [e h, e h']
  refine (hkeys.filterMap _).trans (List.Perm.of_eq (filterMap_congr_mem fun i hi => ?_))
  obtain ⟨g', hg', rfl⟩ := List.mem_map.1 hi
  obtain ⟨g, hg, hgi⟩ := List.mem_map.1 (hkeys.mem_iff.2 hi)
  have c := h.content g hg
  rw [hgi] at c
  rw [c, h'.content g' hg']
  exact congrArg some (hF _ _ _ c (h'.content g' hg'))

end Group

abbrev Groups := List (Bucket × List Rep)

def inB (b : Bucket) (v : Rep) : Bool := decide (bucketOf v = b)

/-- the state of the builder after the values `pre`: one entry per bucket that occurs, holding the values of that
bucket in the order they were added -/
structure GInv (acc : Groups) (pre : List Rep) : Prop where
  nodup : (acc.map (·.1)).Nodup
  content : ∀ g ∈ acc, g.2 = pre.filter (inB g.1)
  covers : ∀ v ∈ pre, bucketOf v ∈ acc.map (·.1)

def groups (xs : List Rep) : Groups := xs.foldl (fun acc v => addToBucket v acc) []

theorem addToBucket_eq_upsert (v : Rep) : ∀ (acc : Groups),
    addToBucket v acc = upsert (bucketOf v) (fun o => o.getD [] ++ [v]) acc
  | [] => rfl
  | (b, vs) :: r => by
    simp only [addToBucket, upsert]
    split
    · rfl
    · rw [addToBucket_eq_upsert v r]

theorem foldl_collect : ∀ (l : List Rep) (o : Option (List Rep)),
    l.foldl (fun o v => some (o.getD [] ++ [v])) o = if l = [] then o else some (o.getD [] ++ l)
  | [], _ => rfl
  | v :: l, o => by
    rw [List.foldl_cons, foldl_collect l]
    cases l <;> simp

theorem groups_grouped (xs : List Rep) : Grouped bucketOf (fun v o => o.getD [] ++ [v]) (groups xs) xs := by
  have := Grouped.of_foldl bucketOf (fun v o => o.getD [] ++ [v]) xs
  rwa [← funext fun acc => funext fun v => addToBucket_eq_upsert v acc] at this

theorem mem_groups_keys (xs : List Rep) (b : Bucket) : b ∈ (groups xs).map (·.1) ↔ ∃ v ∈ xs, bucketOf v = b :=
  (groups_grouped xs).keys b

theorem grouped_bucket {b : Bucket} {xs vs : List Rep}
    (h : grouped bucketOf (fun v o => o.getD [] ++ [v]) b xs = some vs) : vs = xs.filter (inB b) := by
  rw [grouped, foldl_collect] at h
  split at h
  · cases h
  · exact (Option.some.inj h).symm

theorem groups_inv (xs : List Rep) : GInv (groups xs) xs :=
  ⟨(groups_grouped xs).nodup, fun g hg => grouped_bucket ((groups_grouped xs).content g hg),
    fun v hv => (mem_groups_keys xs _).2 ⟨v, hv, rfl⟩⟩

theorem build_cases {P : Rep → Prop} (xs : List Rep) (h0 : P .empty)
    (h1 : ∀ b, (∃ v ∈ xs, bucketOf v = b) → P (finishBucket (b, xs.filter (inB b))))
    (hU : ∀ gs : Groups, (∀ g ∈ gs, P (finishBucket g)) → P (.union (gs.map finishBucket))) : P (build xs) := by
  have hg : ∀ g ∈ groups xs, P (finishBucket g) := fun g hg => by
    have e : g = (g.1, xs.filter (inB g.1)) := by rw [← (groups_inv xs).content g hg]
    rw [e]
    exact h1 g.1 ((mem_groups_keys xs _).1 (List.mem_map.2 ⟨g, hg, rfl⟩))
  show P (match groups xs with
    | [] => Rep.empty
    | [g] => finishBucket g
    | gs => Rep.union (gs.map finishBucket))
  rcases hgs : groups xs with _ | ⟨a, _ | ⟨b, r⟩⟩
  · exact h0
  · exact hg a (by rw [hgs]; simp)
  · exact hU _ (hgs ▸ hg)

/-- `getBucket()` looks at the Go type and, for a tuple, at its names: both are read off the canonical key -/
theorem bucketOf_congr {a b : Rep} (h : key a = key b) : bucketOf a = bucketOf b := by
  cases a, b, h using key_cases with
  | gtuple as bs h =>
    have hp := names_perm_of_key h
    have hs : isort strLt (as.map (·.1)) = isort strLt (bs.map (·.1)) :=
      isort_perm_invariant (compare : String → String → Ordering) hp
    have he : as.isEmpty = bs.isEmpty := by
      have := hp.length_eq
      cases as <;> cases bs <;> simp at this ⊢
    simp only [bucketOf, hs, he]
  | _ => rfl

end Arrai.C07
