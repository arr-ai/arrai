/-
  C07 — nested programs over all representations: every enumeration order gives a result with the same canonical key
  (or the same error) as the run under the identity order (`idπ`).  The induction (`agree`) is made for any class of
  values that the operators do not lead out of (`Closed`): with `tupleNodup`, the largest such class, it gives the
  theorem; with `nodupNames` (Printed) it also says that every value computed is well named.
-/
import Arrai.C07.RankLemmas

namespace Arrai.C07
open Arrai.C06 Std
open C06.Impl (Bucket bucketOf finishBucket build)

def idπ : EnumOrder := fun l => l

theorem idπ_perm : PermValued idπ := fun l => List.Perm.refl l

/-- members of the value of `e` under the identity order -/
def mem0 (e : Ex) : List Rep :=
  match Impl.evalUnder idπ e with
  | .ok r => members r
  | .err => []

def val0 (e : Ex) : Option Rep :=
  match Impl.evalUnder idπ e with
  | .ok r => some r
  | .err => none

def Inv2 (r : Rep) : Prop := tupleNodup r ∧ ∀ v ∈ members r, tupleNodup v

/-- `Inv2` is `Inv tupleNodup` (by `rfl`) -/
def Inv (M : Rep → Prop) (r : Rep) : Prop := M r ∧ ∀ v ∈ members r, M v

def litsPred (lits : List (String × Rep)) (y : Rep) : Bool := !lits.any (fun l => C06.Impl.equal y l.2)

/-- The side conditions speak of the run under the identity order only (`mem0`, `val0`): `NoSuper` and `NoTies` carry over
to every other run because its member lists have the same keys up to order. A set pattern that binds an identifier
(`rest = false`) yields a member, of whose own members `Inv2` knows nothing, so it is not nested further
(`Theorems.C07_setpat` treats it at top level). -/
def Adm : Ex → Prop
  | .lit _ r => Inv2 r
  | .union a b => Adm a ∧ Adm b ∧ NoSuper (mem0 a ++ mem0 b)
  | .inter a b => Adm a ∧ Adm b ∧
      NoSuper ((mem0 a).filter (fun x => (mem0 b).any (fun y => C06.Impl.equal y x)))
  | .diff a b => Adm a ∧ Adm b ∧
      NoSuper ((mem0 a).filter (fun x => !(mem0 b).any (fun y => C06.Impl.equal y x)))
  | .map a f => Adm a ∧ f.ok = true ∧ NoSuper ((mem0 a).map f.apply)
  | .filter a p => Adm a ∧ NoSuper ((mem0 a).filter p.apply)
  | .orderby a f => Adm a ∧ f.ok = true ∧ NoTies f.apply (mem0 a)
  | .with_ a e => Adm a ∧ Adm e ∧ (∀ x, val0 e = some x → NoSuper (mem0 a ++ [x]))
  | .without a e => Adm a ∧ Adm e ∧
      (∀ x, val0 e = some x → NoSuper ((mem0 a).filter (fun y => !C06.Impl.equal y x)))
  | .count a => Adm a
  | .single a => Adm a
  | .setpat lits rest a => rest = true ∧ Adm a ∧ NoSuper ((mem0 a).filter (litsPred lits))
  | .rank a attrs => Adm a ∧ (attrs.map (·.1)).Nodup

def litsIn (Q : Rep → Prop) : Ex → Prop
  | .lit _ r => Q r
  | .union a b | .inter a b | .diff a b | .with_ a b | .without a b => litsIn Q a ∧ litsIn Q b
  | .map a _ | .filter a _ | .orderby a _ | .count a | .single a | .setpat _ _ a | .rank a _ => litsIn Q a

theorem litsIn_of_adm : ∀ (e : Ex), Adm e → litsIn (Inv tupleNodup) e
  | .lit _ _, h => h
  | .union a b, h | .inter a b, h | .diff a b, h | .with_ a b, h | .without a b, h =>
    ⟨litsIn_of_adm a h.1, litsIn_of_adm b h.2.1⟩
  | .map a _, h | .filter a _, h | .orderby a _, h | .rank a _, h => litsIn_of_adm a h.1
  | .count a, h | .single a, h => litsIn_of_adm a h
  | .setpat _ _ a, h => litsIn_of_adm a h.2.1

/-! ### what the set builder and `orderby` return -/
theorem isSet_finish (b : Bucket) (vs : List Rep) : isSet (finishBucket (b, vs)) = true := by
  cases b with
  | generic => rcases finish_generic_cases vs with e | e | ⟨ds, e, _⟩ <;> rw [e] <;> rfl
  | _ => rfl

theorem isSet_build (xs : List Rep) : isSet (build xs) = true :=
  build_cases (P := fun r => isSet r = true) xs rfl (fun b _ => isSet_finish b _) (fun _ _ => rfl)

theorem tupleNodup_of_isSet {r : Rep} (h : isSet r = true) : tupleNodup r := by
  cases r <;> simp [isSet] at h <;> trivial

theorem inv_mkArray_somes (l : List Rep) : Inv tupleNodup (C06.Impl.mkArray 0 (l.map some)) := by
  rw [mkArray_somes]
  split
  · exact ⟨trivial, fun v hv => by cases hv⟩
  · refine ⟨trivial, fun v hv => ?_⟩
    obtain ⟨_, _, _, rfl⟩ := mem_members1 (b := .array _ _) hv
    trivial

/-! ### classes of values that programs stay in -/
structure Closed (M : Rep → Prop) : Prop where
  tn : ∀ {x}, M x → tupleNodup x
  num : ∀ n : Int, M (.num n)
  build : ∀ {xs}, (∀ x ∈ xs, M x) → Inv M (build xs)
  arr : ∀ (l : List Rep), (∀ x ∈ l, M x) → Inv M (C06.Impl.mkArray 0 (l.map some))
  fn : ∀ (f : Fn), f.ok = true → ∀ x, M x → M (f.apply x)
  rank : ∀ (attrs : List (String × String)), (attrs.map (·.1)).Nodup → ∀ (rows : List Rep) (row : Rep), M row →
    M (Impl.rankRow attrs rows row)

theorem closed_tupleNodup : Closed tupleNodup where
  tn h := h
  num _ := trivial
  build h := ⟨tupleNodup_of_isSet (isSet_build _), members_build_nodup _ h⟩
  arr l _ := inv_mkArray_somes l
  fn := Fn.tupleNodup_apply
  rank := tupleNodup_rankRow

theorem Inv.enum {M : Rep → Prop} {π : EnumOrder} (hπ : PermValued π) {A : Rep} (i : Inv M A) : ∀ v ∈ π (members A), M v :=
  fun v hv => i.2 v ((hπ _).mem_iff.1 hv)

theorem Inv.enum_filter {M : Rep → Prop} {π : EnumOrder} (hπ : PermValued π) {A : Rep} (i : Inv M A) (p : Rep → Bool) :
    ∀ v ∈ (π (members A)).filter p, M v :=
  fun v hv => i.enum hπ v (List.mem_filter.1 hv).1

/-! ### two runs -/
/-- The class is recorded for the first run only: of the run under the identity order `Adm` speaks, and what it says
(`NoSuper`) carries over (`NoSuper.of_KP`). -/
def AgreeR (M : Rep → Prop) (r r₀ : Res) : Prop :=
  (∃ A A₀, r = .ok A ∧ r₀ = .ok A₀ ∧ key A = key A₀ ∧ Inv M A) ∨ (r = .err ∧ r₀ = .err)

section Agree
variable {M : Rep → Prop}

theorem AgreeR.keyRes {r r₀ : Res} (h : AgreeR M r r₀) : keyRes r = keyRes r₀ := by
  rcases h with ⟨A, A₀, rfl, rfl, k, _⟩ | ⟨rfl, rfl⟩
  · exact congrArg some k
  · rfl

/-- the continuation is told that the second run gave `A₀`: `Adm` is stated through `mem0`/`val0`, which unfold with it -/
theorem AgreeR.bind {r r₀ : Res} {f f₀ : Rep → Res} (h : AgreeR M r r₀)
    (hf : ∀ A A₀, r₀ = .ok A₀ → key A = key A₀ → Inv M A → AgreeR M (f A) (f₀ A₀)) :
    AgreeR M (r.bind f) (r₀.bind f₀) := by
  rcases h with ⟨A, A₀, rfl, rfl, k, i⟩ | ⟨rfl, rfl⟩
  · exact hf A A₀ rfl k i
  · exact Or.inr ⟨rfl, rfl⟩

theorem AgreeR.ite {c c₀ : Bool} {x x₀ : Res} (hc : c = c₀) (h : c₀ = true → AgreeR M x x₀) :
    AgreeR M (if c then x else .err) (if c₀ then x₀ else .err) := by
  subst hc
  cases c
  · exact Or.inr ⟨rfl, rfl⟩
  · exact h rfl

theorem AgreeR.onSet {r r₀ : Res} {f f₀ : Rep → Res} (h : AgreeR M r r₀)
    (hf : ∀ A A₀, r₀ = .ok A₀ → key A = key A₀ → Inv M A → AgreeR M (f A) (f₀ A₀)) :
    AgreeR M (r.onSet f) (r₀.onSet f₀) :=
  h.bind fun A A₀ e k i => .ite (isSet_of_key k) fun _ => hf A A₀ e k i

theorem keyRes_onSet {r r₀ : Res} {f f₀ : Rep → Res} (h : AgreeR M r r₀)
    (hf : ∀ A A₀, key A = key A₀ → keyRes (f A) = keyRes (f₀ A₀)) : keyRes (r.onSet f) = keyRes (r₀.onSet f₀) := by
  rcases h with ⟨A, A₀, rfl, rfl, k, _⟩ | ⟨rfl, rfl⟩
  · show keyRes (if isSet A then _ else _) = keyRes (if isSet A₀ then _ else _)
    rw [isSet_of_key k]
    exact keyRes_guard _ (hf A A₀ k)
  · rfl

theorem AgreeR.ok {A A₀ : Rep} (k : key A = key A₀) (i : Inv M A) : AgreeR M (.ok A) (.ok A₀) :=
  Or.inl ⟨A, A₀, rfl, rfl, k, i⟩

theorem mem0_eq {e : Ex} {r₀ : Rep} (h : Impl.evalUnder idπ e = .ok r₀) : mem0 e = members r₀ := by
  simp [mem0, h]

theorem val0_eq {e : Ex} {r₀ : Rep} (h : Impl.evalUnder idπ e = .ok r₀) : val0 e = some r₀ := by
  simp [val0, h]

theorem KP.litsPred (lits : List (String × Rep)) {l l₀ : List Rep} (h : KP l l₀) :
    KP (l.filter (litsPred lits)) (l₀.filter (litsPred lits)) :=
  KP.filter_congr (congrArg fun k => !lits.any (fun l => K.beq k (key l.2))) h

theorem KP.litsFound (lits : List (String × Rep)) {l l₀ : List Rep} (h : KP l l₀) :
    (lits.all fun t => l.any fun y => C06.Impl.equal y t.2) = (lits.all fun t => l₀.any fun y => C06.Impl.equal y t.2) :=
  congrArg _ (funext fun t => any_equal_KP h t.2)

theorem keyRes_only {l l₀ : List Rep} (h : KP l l₀) : keyRes (.only l) = keyRes (.only l₀) := by
  have hlen : l.length = l₀.length := by simpa using h.length_eq
  rcases l with _ | ⟨x, _ | ⟨y, r⟩⟩ <;> rcases l₀ with _ | ⟨x₀, _ | ⟨y₀, r₀⟩⟩ <;> simp at hlen <;> try rfl
  have hk : key x = key x₀ := by simpa [KP] using h
  simp [Res.only, keyRes, hk]

variable (C : Closed M)
include C

theorem AgreeR.build {xs xs₀ : List Rep} (hn : NoSuper xs₀) (h : KP xs xs₀) (t : ∀ v ∈ xs, M v) :
    AgreeR M (.ok (build xs)) (.ok (build xs₀)) :=
  .ok (build_congr (hn.of_KP h.symm) (fun v hv => C.tn (t v hv)) h) (C.build t)

/-- Every case has the same shape. `Adm` speaks of the identity run, so its side condition is first rewritten to the
members of that run's operand values (`mem0_eq ea₀`); the member lists the two runs hand to the builder are related by
`KP`, and `AgreeR.build` carries `NoSuper` back over that `KP`. -/
theorem agree (π : EnumOrder) (hπ : PermValued π) : ∀ (e : Ex), Adm e → litsIn (Inv M) e →
    AgreeR M (Impl.evalUnder π e) (Impl.evalUnder idπ e)
  | .lit s r, _, hl => .ok rfl hl
  | .union a b, ⟨ha, hb, hn⟩, ⟨la, lb⟩ => by
    rw [Impl.evalUnder_union, Impl.evalUnder_union]
    refine (agree π hπ a ha la).onSet fun A A₀ ea₀ ka ia => (agree π hπ b hb lb).onSet fun B B₀ eb₀ kb ib => ?_
    rw [mem0_eq ea₀, mem0_eq eb₀] at hn
    exact .build C hn ((enumKP hπ idπ_perm ka).append (enumKP hπ idπ_perm kb))
      (List.forall_mem_append.2 ⟨ia.enum hπ, ib.enum hπ⟩)
  | .inter a b, ⟨ha, hb, hn⟩, ⟨la, lb⟩ => by
    rw [Impl.evalUnder_inter, Impl.evalUnder_inter]
    refine (agree π hπ a ha la).onSet fun A A₀ ea₀ ka ia => (agree π hπ b hb lb).onSet fun B B₀ eb₀ kb _ => ?_
    rw [mem0_eq ea₀, mem0_eq eb₀] at hn
    -- `hn` is stated with the `any` that `memberOf x B₀` unfolds to
    exact .build C hn (KP.filter_congr (p' := fun x => Impl.memberOf x B₀) (fun e => memberOf_congr e kb)
      (enumKP hπ idπ_perm ka)) (ia.enum_filter hπ _)
  | .diff a b, ⟨ha, hb, hn⟩, ⟨la, lb⟩ => by
    rw [Impl.evalUnder_diff, Impl.evalUnder_diff]
    refine (agree π hπ a ha la).onSet fun A A₀ ea₀ ka ia => (agree π hπ b hb lb).onSet fun B B₀ eb₀ kb _ => ?_
    rw [mem0_eq ea₀, mem0_eq eb₀] at hn
    exact .build C hn (KP.filter_congr (p' := fun x => !Impl.memberOf x B₀) (fun e => congrArg not (memberOf_congr e kb))
      (enumKP hπ idπ_perm ka)) (ia.enum_filter hπ _)
  | .map a f, ⟨ha, hf, hn⟩, la => by
    rw [Impl.evalUnder_map, Impl.evalUnder_map]
    refine (agree π hπ a ha la).onSet fun A A₀ ea₀ ka ia => ?_
    rw [mem0_eq ea₀] at hn
    refine .build C hn (KP.map_congr (Fn.key_congr f hf) (enumKP hπ idπ_perm ka)) fun v hv => ?_
    obtain ⟨x, hx, rfl⟩ := List.mem_map.1 hv
    exact C.fn f hf x (ia.enum hπ x hx)
  | .filter a p, ⟨ha, hn⟩, la => by
    rw [Impl.evalUnder_filter, Impl.evalUnder_filter]
    refine (agree π hπ a ha la).onSet fun A A₀ ea₀ ka ia => ?_
    rw [mem0_eq ea₀] at hn
    exact .build C hn (KP.filter_congr p.apply_congr (enumKP hπ idπ_perm ka)) (ia.enum_filter hπ _)
  | .orderby a f, ⟨ha, hf, hn⟩, la => by
    rw [Impl.evalUnder_orderby, Impl.evalUnder_orderby]
    refine (agree π hπ a ha la).onSet fun A A₀ ea₀ ka ia => ?_
    rw [mem0_eq ea₀] at hn
    exact .ok (key_mkArray_somes (orderBy_KP (Fn.key_congr f hf) hn (enumKP hπ idπ_perm ka).symm).symm)
      (C.arr _ fun x hx => ia.enum hπ x ((orderBy_perm _ _).mem_iff.1 hx))
  | .with_ a e, ⟨ha, he, hn⟩, ⟨la, le⟩ => by
    rw [Impl.evalUnder_with, Impl.evalUnder_with]
    refine (agree π hπ a ha la).onSet fun A A₀ ea₀ ka ia => (agree π hπ e he le).bind fun X X₀ ex₀ kx ix => ?_
    have hn' := hn X₀ (val0_eq ex₀)
    rw [mem0_eq ea₀] at hn'
    exact .build C hn' ((enumKP hπ idπ_perm ka).append (.singleton kx))
      (List.forall_mem_append.2 ⟨ia.enum hπ, List.forall_mem_singleton.2 ix.1⟩)
  | .without a e, ⟨ha, he, hn⟩, ⟨la, le⟩ => by
    rw [Impl.evalUnder_without, Impl.evalUnder_without]
    refine (agree π hπ a ha la).onSet fun A A₀ ea₀ ka ia => (agree π hπ e he le).bind fun X X₀ ex₀ kx _ => ?_
    have hn' := hn X₀ (val0_eq ex₀)
    rw [mem0_eq ea₀] at hn'
    exact .build C hn' (KP.filter_congr (fun e => by simp only [C06.Impl.equal, e, kx]) (enumKP hπ idπ_perm ka))
      (ia.enum_filter hπ _)
  | .count a, h, la => by
    rw [Impl.evalUnder_count, Impl.evalUnder_count]
    refine (agree π hπ a h la).onSet fun A A₀ ea₀ ka ia => ?_
    have hl : (members A).length = (members A₀).length := by simpa using (members_KP_of_key ka).length_eq
    rw [hl]
    exact .ok rfl ⟨C.num _, fun v hv => by cases hv⟩
  | .single a, h, la => by
    rw [Impl.evalUnder_single, Impl.evalUnder_single]
    refine (agree π hπ a h la).bind fun A A₀ ea₀ ka ia => ?_
    exact .build C (NoSuper.singleton A₀) (.singleton ka) (List.forall_mem_singleton.2 ia.1)
  | .setpat lits rest a, ⟨hr, ha, hn⟩, la => by
    subst hr
    rw [Impl.evalUnder_setpat, Impl.evalUnder_setpat]
    refine (agree π hπ a ha la).onSet fun A A₀ ea₀ ka ia => ?_
    rw [mem0_eq ea₀] at hn
    refine .ite ((enumKP hπ idπ_perm ka).litsFound lits) fun _ => ?_
    exact .build C hn ((enumKP hπ idπ_perm ka).litsPred lits) (ia.enum_filter hπ _)
  | .rank a attrs, ⟨ha, hattrs⟩, la => by
    rw [Impl.evalUnder_rank, Impl.evalUnder_rank]
    refine (agree π hπ a ha la).onSet fun A A₀ ea₀ ka ia => ?_
    have hkp := enumKP hπ idπ_perm ka
    have hall := KP.all_eq Impl.isGTupleB isGTupleB_of_key (members_KP_of_key ka)
    refine .ite hall fun hs => ?_
    have hR : ∀ y ∈ π (members A), gtNodup y := fun y hy =>
      ⟨isGTuple_of_isGTupleB (List.all_eq_true.1 (hall ▸ hs) y ((hπ _).mem_iff.1 hy)), C.tn (ia.enum hπ y hy)⟩
    refine .build C (NoSuper.of_gtuples _ fun v hv => ?_) (rank_KP attrs hattrs hR hkp) fun v hv => ?_
    · obtain ⟨x, hx, rfl⟩ := List.mem_map.1 hv
      exact isGTuple_rankRow attrs _ (isGTuple_of_isGTupleB (List.all_eq_true.1 hs x hx))
    · obtain ⟨x, hx, rfl⟩ := List.mem_map.1 hv
      exact C.rank attrs hattrs _ x (ia.enum hπ x hx)

end Agree

theorem agree_adm {π : EnumOrder} (hπ : PermValued π) {e : Ex} (h : Adm e) :
    AgreeR tupleNodup (Impl.evalUnder π e) (Impl.evalUnder idπ e) :=
  agree closed_tupleNodup π hπ e h (litsIn_of_adm e h)

end Arrai.C07
