/-
  C07 — `rank` and canonical keys: the key of the ranked row depends only on the key of the row and on the multiset of
  keys of all rows (rank = number of rows with a strictly smaller value of the ranking attribute: order-free).
-/
import Arrai.C07.Final

namespace Arrai.C07
open Arrai.C06 Std

/-! ### the ranked row -/
theorem attrOfR_congr (an : String) {y y' : Rep} (hy : gtNodup y) (h : key y = key y') :
    key (Impl.attrOfR an y) = key (Impl.attrOfR an y') := by
  obtain ⟨bs, rfl, _⟩ := (gtNodup_of_key h hy).exists
  obtain ⟨as, rfl, ha⟩ := hy.exists
  exact lookupAttr_congr an ha h

theorem filter_names_nodup {β : Type} (as : List (String × β)) (extra : List (String × β))
    (ha : (as.map (·.1)).Nodup) (he : (extra.map (·.1)).Nodup) :
    ((as.filter (fun p => !extra.any (fun q => q.1 == p.1)) ++ extra).map (·.1)).Nodup := by
  rw [List.map_append]
  refine List.nodup_append.2 ⟨?_, he, ?_⟩
  · exact (List.Sublist.map _ (List.filter_sublist)).nodup ha
  · intro a ha' b hb e
    subst e
    obtain ⟨p, hp, rfl⟩ := List.mem_map.1 ha'
    obtain ⟨q, hq, hqe⟩ := List.mem_map.1 hb
    have := (List.mem_filter.1 hp).2
    simp only [Bool.not_eq_true', List.any_eq_false] at this
    exact absurd (by simp [hqe]) (this q hq)

theorem isGTuple_rankRow (attrs : List (String × String)) (rows : List Rep) {row : Rep} (h : isGTuple row) :
    isGTuple (Impl.rankRow attrs rows row) := by
  cases row <;> trivial

theorem tupleNodup_rankRow (attrs : List (String × String)) (hattrs : (attrs.map (·.1)).Nodup) (rows : List Rep) (row : Rep)
    (h : tupleNodup row) : tupleNodup (Impl.rankRow attrs rows row) := by
  cases row with
  | gtuple as => exact filter_names_nodup as _ h (by rw [List.map_map]; exact hattrs)
  | _ => trivial

theorem rankRow_congr (attrs : List (String × String)) (hattrs : (attrs.map (·.1)).Nodup) {R R' : List Rep}
    (hR : ∀ y ∈ R, gtNodup y) (hkp : KP R R') {x x' : Rep} (hx : gtNodup x) (h : key x = key x') :
    key (Impl.rankRow attrs R x) = key (Impl.rankRow attrs R' x') := by
  have hcount : ∀ an : String,
      (R.filter (fun y => C06.Impl.less (Impl.attrOfR an y) (Impl.attrOfR an x))).length =
      (R'.filter (fun y => C06.Impl.less (Impl.attrOfR an y) (Impl.attrOfR an x'))).length := fun an => by
    have := List.Perm.length_eq (KP.filter_congr_on
      (p := fun y => C06.Impl.less (Impl.attrOfR an y) (Impl.attrOfR an x))
      (p' := fun y => C06.Impl.less (Impl.attrOfR an y) (Impl.attrOfR an x')) (fun y my _ e => by
        simp only [less_eq, attrOfR_congr an (hR y my) e, attrOfR_congr an hx h]) hkp)
    simpa using this
  obtain ⟨as', rfl, _⟩ := (gtNodup_of_key h hx).exists
  obtain ⟨as, rfl, ha⟩ := hx.exists
  simp only [Impl.rankRow, Impl.withAttrs, hcount]
  rw [key_gtuple, key_gtuple]
  refine tupleKeyAlg_perm _ _ ?_ ?_
  · rw [List.map_map]
    exact filter_names_nodup as _ ha (by rw [List.map_map]; exact hattrs)
  · -- the attributes kept are chosen by name, and the two tuples have the same attributes up to order and canonical form
    rw [List.map_append, List.map_append]
    refine List.Perm.append ?_ (List.Perm.refl _)
    simp only [List.any_map, Function.comp_def]
    have e : ∀ l : List (String × Rep), (l.filter (fun p => !attrs.any (fun q => q.1 == p.1))).map (fun p => (p.1, key p.2)) =
        (l.map (fun p => (p.1, key p.2))).filter (fun p => !attrs.any (fun q => q.1 == p.1)) := fun l => by
      rw [List.filter_map]; rfl
    rw [e, e]
    exact (attrs_perm_of_key h).filter _

/-! ### ranking a whole set -/
theorem NoSuper.of_gtuples : ∀ (xs : List Rep), (∀ x ∈ xs, isGTuple x) → NoSuper xs := by
  refine forall_mem_rec ⟨List.nodup_nil, List.nodup_nil, List.nodup_nil⟩ ?_
  intro x r hx hr
  cases x <;> first | exact hx.elim | exact hr

/-- the ranked relation: same rows up to order and canonical form, whatever the order of the input rows -/
theorem rank_KP (attrs : List (String × String)) (hattrs : (attrs.map (·.1)).Nodup) {R R₀ : List Rep}
    (hR : ∀ y ∈ R, gtNodup y) (h : KP R R₀) : KP (R.map (Impl.rankRow attrs R)) (R₀.map (Impl.rankRow attrs R₀)) :=
  h.map_congr_on fun x mx _ e => rankRow_congr attrs hattrs hR h (hR x mx) e

end Arrai.C07
