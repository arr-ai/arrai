/-
  C07 — what the operators of admissible programs preserve, operator by operator (the cases of the induction `agree`
  in FinalThm): key congruence of the element functions admitted by `Adm` (`Fn.ok`), tuples free of repeated names among
  the members of a built set (`members_build_nodup`), the key sequence of `orderby` without ties (`orderBy_KP`).
-/
import Arrai.C07.BuildAll
import Arrai.C07.Eval
import Arrai.C06.Den

namespace Arrai.C07
open Arrai.C06 Std
open C06.Impl (Bucket bucketOf finishBucket build)

/-! ### element functions and canonical keys -/
/-- The element functions admitted by `Adm`. Left out: `-.`, for which no congruence on keys is proved, and `{.}` — by
choice, not by necessity: for `tupleNodup x`, `build_congr (NoSuper.singleton x) _ (KP.singleton h)` is its key
congruence, and a `Closed` class (FinalThm) contains what the set builder returns. -/
def Fn.ok : Fn → Bool
  | .ident | .const _ | .wrapA | .pairWith _ | .arr1 => true
  | _ => false

theorem Fn.key_congr (f : Fn) (hf : f.ok = true) {x y : Rep} (h : key x = key y) : key (f.apply x) = key (f.apply y) := by
  cases f with
  | ident => exact h
  | const n => rfl
  | wrapA | pairWith n => simp [Fn.apply, C06.Impl.newTuple, h]
  | arr1 => simp [Fn.apply, C06.Impl.mkArray, C06.Impl.dropNones, h]
  | single | neg => cases hf

theorem Fn.tupleNodup_apply (f : Fn) (hf : f.ok = true) (x : Rep) (hx : tupleNodup x) : tupleNodup (f.apply x) := by
  cases f with
  | ident => exact hx
  | const n => trivial
  | wrapA | pairWith n => simp [Fn.apply, C06.Impl.newTuple, tupleNodup]
  | arr1 => simp [Fn.apply, C06.Impl.mkArray, C06.Impl.dropNones, tupleNodup]
  | single | neg => cases hf

/-! ### no member of a built set is a tuple with a repeated name -/
theorem members1_finish_nodup (b : Bucket) (vs : List Rep) (hvs : ∀ x ∈ vs, tupleNodup x)
    (hb : ∀ ns, b = .heading ns → ns.Nodup) : ∀ v ∈ members1 (finishBucket (b, vs)), tupleNodup v := by
  intro v hv
  cases b with
  | generic =>
    rcases finish_generic_cases vs with e | e | ⟨ds, e, hds⟩ <;> rw [e] at hv
    · cases hv
    · rw [List.mem_singleton.1 hv]; exact List.nodup_nil
    · exact hvs v (hds v hv)
  | chars => obtain ⟨_, _, rfl⟩ := mem_members1 hv; trivial
  | bytes => obtain ⟨_, _, rfl⟩ := mem_members1 hv; trivial
  | items => obtain ⟨_, _, _, rfl⟩ := mem_members1 hv; trivial
  | entries => obtain ⟨_, _, _, _, _, _, rfl⟩ := mem_members1 hv; trivial
  | heading ns =>
    obtain ⟨row, _, rfl⟩ := mem_members1 hv
    exact (zipNames_names_sublist ns row).nodup (hb ns rfl)

theorem heading_nodup_of_mem {xs : List Rep} (hxs : ∀ x ∈ xs, tupleNodup x) {b : Bucket}
    (h : ∃ v ∈ xs, bucketOf v = b) : ∀ ns, b = .heading ns → ns.Nodup := by
  rintro ns rfl
  obtain ⟨v, hv, hb⟩ := h
  have hn := hxs v hv
  cases v with
  | gtuple as =>
    simp only [bucketOf] at hb
    by_cases he : as.isEmpty = true
    · rw [if_pos he] at hb; cases hb
    · rw [if_neg he] at hb
      injection hb with hb
      rw [← hb]
      simp only [tupleNodup] at hn
      exact (isort_perm strLt _).nodup_iff.2 hn
  | _ => simp [bucketOf] at hb

theorem members_finish_eq (b : Bucket) (vs : List Rep) : members (finishBucket (b, vs)) = members1 (finishBucket (b, vs)) := by
  cases b with
  | generic => rcases finish_generic_cases vs with e | e | ⟨ds, e, _⟩ <;> rw [e] <;> rfl
  | _ => rfl

theorem members_build_nodup (xs : List Rep) (hxs : ∀ x ∈ xs, tupleNodup x) : ∀ v ∈ members (build xs), tupleNodup v := by
  refine build_cases (P := fun r => ∀ v ∈ members r, tupleNodup v) xs (fun v hv => by cases hv) (fun b hb => ?_)
    (fun gs h v hv => ?_)
  · rw [members_finish_eq]
    exact members1_finish_nodup b _ (fun x hx => hxs x (List.mem_filter.1 hx).1)
      (heading_nodup_of_mem hxs hb)
  · simp only [members, List.mem_flatMap, List.mem_map] at hv
    obtain ⟨_, ⟨g, hg, rfl⟩, hv⟩ := hv
    exact h g hg v (members_finish_eq g.1 g.2 ▸ hv)

/-! ### `orderby` and `NewArray` -/
/-- comparison of keys through a function -/
def kcmpF (F : K → K) (a b : K) : Ordering := K.cmp (F a) (F b)

instance (F : K → K) : TransCmp (kcmpF F) where
  eq_swap := K.cmp_swap _ _
  isLE_trans := fun h₁ h₂ => TransCmp.isLE_trans (cmp := K.cmp) h₁ h₂

/-- On keys the sort is by `F`, where `key (keyf x) = F (key x)`. -/
theorem orderBy_KP {keyf : Rep → Rep} (hf : ∀ {x y}, key x = key y → key (keyf x) = key (keyf y)) {l l' : List Rep}
    (hn : NoTies keyf l) (h : KP l l') : (C06.Impl.orderBy keyf l).map key = (C06.Impl.orderBy keyf l').map key := by
  obtain ⟨F, hl, hl'⟩ := h.exists_onKey (g := fun x => key (keyf x)) (g' := fun x => key (keyf x)) fun _ _ => hf
  have keys : ∀ l : List Rep, (∀ x ∈ l, key (keyf x) = F (key x)) →
      (C06.Impl.orderBy keyf l).map key = isort (fun a b => kcmpF F a b == .lt) (l.map key) :=
    fun l hl => map_isort key fun x hx y hy => by rw [less_eq, hl x hx, hl y hy]; rfl
  rw [keys l hl, keys l' hl']
  refine isort_perm_of_noTies (kcmpF F) ?_ h
  rw [List.pairwise_map]
  refine hn.imp_of_mem fun {x y} hx hy hxy e => ?_
  have : C06.Impl.equal (keyf x) (keyf y) = true := by
    simp only [C06.Impl.equal, K.beq_iff, hl x hx, hl y hy]
    exact (K.cmp_eq_iff _ _).1 e
  rw [this] at hxy; cases hxy

/-- `NewArray(values…)` of a list without holes -/
theorem mkArray_somes (l : List Rep) :
    C06.Impl.mkArray 0 (l.map some) = if l = [] then .empty else .array (l.map some) 0 := by
  have hd : ∀ (m : List Rep), C06.Impl.dropNones (m.map some) = (0, m.map some) := by
    intro m; cases m <;> rfl
  unfold C06.Impl.mkArray
  rw [hd l]
  simp only []
  rw [← List.map_reverse, hd l.reverse]
  simp only [List.map_reverse, List.reverse_reverse]
  cases l with
  | nil => rfl
  | cons x xs => simp

theorem key_mkArray_somes {l l' : List Rep} (h : l.map key = l'.map key) :
    key (C06.Impl.mkArray 0 (l.map some)) = key (C06.Impl.mkArray 0 (l'.map some)) := by
  rw [mkArray_somes, mkArray_somes]
  have hl : l.length = l'.length := by simpa using congrArg List.length h
  cases l with
  | nil => cases l' with
    | nil => rfl
    | cons y ys => simp at hl
  | cons x xs => cases l' with
    | nil => simp at hl
    | cons y ys =>
      simp only [List.cons_ne_nil, if_false]
      rw [key_array, key_array]
      have : ((x :: xs).map some).map (fun o => optKey (o.map key)) = ((x :: xs).map key).map (fun k => optKey (some k)) := by
        simp [List.map_map, Function.comp_def]
      have h2 : ((y :: ys).map some).map (fun o => optKey (o.map key)) = ((y :: ys).map key).map (fun k => optKey (some k)) := by
        simp [List.map_map, Function.comp_def]
      rw [this, h2, h]

end Arrai.C07
