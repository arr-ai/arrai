/-
  C19 — faults.  The code is put together from numbered file-system calls (`Built`); every such
  program, under any oracle, either runs exactly as it does fault-free or ends with the flag up and an
  error (`Lockstep`): so an injected failure is reported (`Sound`) and a run in which no fault fires is the
  fault-free run (`Faith`); and whatever fails, nothing that is not at or below PATH changes (`Within`).
-/
import Arrai.C19.Lemmas

namespace Arrai.C19

/-! ## Every injected failure is reported, and faults are the only source of divergence -/

/-- if a fault fires during `m` (and none had before), `m` returns an error -/
def Sound {α} (m : M α) : Prop :=
  ∀ s, (m s).2.fired = true → s.fired = true ∨ ∃ e, (m s).1 = .err e

/-- `m` (run under some fault oracle) against `m0` (the same code run fault-free): the fired flag never
resets, and as long as no fault fires `m` does exactly what `m0` does -/
def Faith {α} (m m0 : M α) : Prop :=
  (∀ s, s.fired = true → (m s).2.fired = true) ∧ (∀ s, (m s).2.fired = false → m s = m0 s)

/-- `Sound` and `Faith` at once, in the form that bind and `withClose` preserve -/
def Lockstep {α} (m m0 : M α) : Prop :=
  ∀ s, ((m s).2.fired = s.fired ∧ m s = m0 s) ∨ ((m s).2.fired = true ∧ ∃ e, (m s).1 = .err e)

theorem Lockstep.sound {α} {m m0 : M α} (h : Lockstep m m0) : Sound m := by
  intro s hf
  rcases h s with ⟨h1, _⟩ | ⟨_, h2⟩
  · exact .inl (h1 ▸ hf)
  · exact .inr h2

theorem Lockstep.faith {α} {m m0 : M α} (h : Lockstep m m0) : Faith m m0 := by
  refine ⟨fun s hs => ?_, fun s hf => ?_⟩
  · rcases h s with ⟨h1, _⟩ | ⟨h1, _⟩
    · rw [h1]; exact hs
    · exact h1
  · rcases h s with ⟨_, h2⟩ | ⟨h1, _⟩
    · exact h2
    · rw [h1] at hf; cases hf

theorem Lockstep.of_keeps {α} (m : M α) (h : ∀ s, (m s).2.fired = s.fired) : Lockstep m m :=
  fun s => .inl ⟨h s, rfl⟩

theorem Lockstep.fsop {α} (φ : List Nat) (act : FS → Res α × FS) : Lockstep (fsop φ act) (fsop [] act) := by
  intro s
  unfold C19.fsop
  by_cases c : φ.contains s.n = true
  · rw [if_pos c]; exact .inr ⟨rfl, .io, rfl⟩
  · rw [if_neg c]; exact .inl ⟨rfl, by simp⟩

theorem Lockstep.bind {α β} {m m0 : M α} {f f0 : α → M β} (hm : Lockstep m m0)
    (hf : ∀ a, Lockstep (f a) (f0 a)) : Lockstep (m >>= f) (m0 >>= f0) := by
  intro s
  match hms : m s with
  | (.err e, s1) =>
    rw [M.bind_of_err hms]
    rcases hm s with ⟨h1, h2⟩ | ⟨h1, _⟩
    · rw [M.bind_of_err (h2.symm.trans hms)]; rw [hms] at h1; exact .inl ⟨h1, rfl⟩
    · rw [hms] at h1; exact .inr ⟨h1, e, rfl⟩
  | (.ok a, s1) =>
    rw [M.bind_of_ok hms]
    rcases hm s with ⟨h1, h2⟩ | ⟨_, e, he⟩
    · rw [M.bind_of_ok (h2.symm.trans hms)]; rw [hms] at h1
      exact (hf a s1).imp_left (fun ⟨g1, g2⟩ => ⟨g1.trans h1, g2⟩)
    · rw [hms] at he; cases he

theorem Lockstep.withClose {body body0 close close0 : M Unit} (hb : Lockstep body body0)
    (hc : Lockstep close close0) : Lockstep (M.withClose body close) (M.withClose body0 close0) := by
  intro s
  show ((close (body s).2).2.fired = s.fired ∧
      (M.closeRes (body s).1 (close (body s).2).1, (close (body s).2).2) =
        (M.closeRes (body0 s).1 (close0 (body0 s).2).1, (close0 (body0 s).2).2)) ∨
    ((close (body s).2).2.fired = true ∧ ∃ e, M.closeRes (body s).1 (close (body s).2).1 = .err e)
  rcases hc (body s).2 with ⟨c1, c2⟩ | ⟨c1, e, ce⟩
  · rcases hb s with ⟨b1, b2⟩ | ⟨b1, e, be⟩
    · exact .inl ⟨c1.trans b1, by rw [c2, b2]⟩
    · exact .inr ⟨c1.trans b1, e, by rw [be]; rfl⟩
  · refine .inr ⟨c1, ?_⟩
    rw [ce]
    cases (body s).1 with
    | ok u => exact ⟨e, rfl⟩
    | err e' => exact ⟨e', rfl⟩

/-! ## Whatever fails, nothing outside PATH is touched -/

/-- `m` leaves the view of every path that is not at or below `arg` as it was -/
def Within {α} (arg : Path) (m : M α) : Prop :=
  ∀ s q, ¬ arg <+: q → view (get q (m s).2.fs) = view (get q s.fs)

theorem Within.of_keeps {α} (arg : Path) (m : M α) (h : ∀ s, (m s).2.fs = s.fs) : Within arg m :=
  fun s q _ => by rw [h s]

theorem Within.bind {α β} {arg : Path} {m : M α} {f : α → M β} (hm : Within arg m) (hf : ∀ a, Within arg (f a)) :
    Within arg (m >>= f) := by
  intro s q hq
  have h1 := hm s q hq
  match hms : m s with
  | (.err e, s1) => rw [M.bind_of_err hms]; rwa [hms] at h1
  | (.ok a, s1) => rw [M.bind_of_ok hms]; rw [hms] at h1; exact (hf a s1 q hq).trans h1

theorem Within.withClose {arg : Path} {body close : M Unit} (hb : Within arg body) (hc : Within arg close) :
    Within arg (M.withClose body close) :=
  fun s q hq => (hc (body s).2 q hq).trans (hb s q hq)

/-- a call that replaces what is at `p` (at or below `arg`), or does nothing -/
theorem Within.fsop_alter {α} {arg p : Path} (φ : List Nat) (act : FS → Res α × FS) (hp : arg <+: p)
    (h : ∀ fs, (act fs).2 = fs ∨ ∃ g, (act fs).2 = alter p g fs) : Within arg (fsop φ act) := by
  intro s q hq
  unfold C19.fsop
  split
  · rfl
  · simp only
    rcases h s.fs with e | ⟨g, e⟩
    · rw [e]
    · rw [e]
      exact (get_alter_outside p q g s.fs (fun hpq => hq (hp.trans hpq))).1

/-- `φ` reaches the file-system calls and nothing else, and each call replaces what is at some path at or below
`arg` or leaves the file system alone -/
inductive Built (arg : Path) : {α : Type} → (List Nat → M α) → Prop
  | pure {α} (a : α) : Built arg (fun _ => (Pure.pure a : M α))
  | fail {α} (e : Err) : Built arg (fun _ => (M.fail e : M α))
  | onEmptyFs (m : M Unit) : Built arg (fun _ => M.onEmptyFs m)
  | fsop {α} (act : FS → Res α × FS) (p : Path) (hp : arg <+: p)
      (h : ∀ fs, (act fs).2 = fs ∨ ∃ g, (act fs).2 = alter p g fs) : Built arg (fun φ => C19.fsop φ act)
  | bind {α β} {m : List Nat → M α} {f : α → List Nat → M β} :
      Built arg m → (∀ a, Built arg (f a)) → Built arg (fun φ => m φ >>= fun a => f a φ)
  | withClose {body close : List Nat → M Unit} :
      Built arg body → Built arg close → Built arg (fun φ => M.withClose (body φ) (close φ))

namespace Built

theorem lockstep {arg : Path} {α} {m : List Nat → M α} (h : Built arg m) (φ : List Nat) :
    Lockstep (m φ) (m []) := by
  induction h with
  | pure a => exact Lockstep.of_keeps _ (fun _ => rfl)
  | fail e => exact Lockstep.of_keeps _ (fun _ => rfl)
  | onEmptyFs m => exact Lockstep.of_keeps _ (fun _ => rfl)
  | fsop act p hp h => exact Lockstep.fsop φ act
  | bind _ _ ihm ihf => exact Lockstep.bind ihm ihf
  | withClose _ _ ihb ihc => exact Lockstep.withClose ihb ihc

theorem sound {arg : Path} {α} {m : List Nat → M α} (h : Built arg m) (φ : List Nat) : Sound (m φ) :=
  (h.lockstep φ).sound

theorem faith {arg : Path} {α} {m : List Nat → M α} (h : Built arg m) (φ : List Nat) : Faith (m φ) (m []) :=
  (h.lockstep φ).faith

theorem within {arg : Path} {α} {m : List Nat → M α} (h : Built arg m) (φ : List Nat) : Within arg (m φ) := by
  induction h with
  | pure a => exact Within.of_keeps _ _ (fun _ => rfl)
  | fail e => exact Within.of_keeps _ _ (fun _ => rfl)
  | onEmptyFs m => exact Within.of_keeps _ _ (fun _ => rfl)
  | fsop act p hp h => exact Within.fsop_alter φ act hp h
  | bind _ _ ihm ihf => exact Within.bind ihm ihf
  | withClose _ _ ihb ihc => exact Within.withClose ihb ihc

theorem lift {arg : Path} {α} (r : Res α) : Built arg (fun _ => M.lift r) := by
  cases r with
  | ok a => exact Built.pure a
  | err e => exact Built.fail e

theorem ite {arg : Path} {α} {c : Prop} [Decidable c] {a b : List Nat → M α} (ha : Built arg a) (hb : Built arg b) :
    Built arg (fun φ => if c then a φ else b φ) := by
  split <;> assumption

/-- calls that alter nothing (Stat, Sync, Close): the path given to `Built.fsop` is immaterial -/
theorem keeps (arg : Path) {α} (act : FS → Res α) : Built arg (fun φ => C19.fsop φ (fun fs => (act fs, fs))) :=
  Built.fsop _ arg (List.prefix_refl _) (fun _ => .inl rfl)
theorem guarded {arg p : Path} (hp : arg <+: p) (c : FS → Bool) (g : T → T) :
    Built arg (fun φ => C19.fsop φ (fun fs => if c fs then (.err .io, fs) else (.ok (), alter p g fs))) :=
  Built.fsop _ p hp (fun fs => by cases c fs; exact .inr ⟨g, rfl⟩; exact .inl rfl)
theorem sets {arg p : Path} (hp : arg <+: p) (g : T → T) :
    Built arg (fun φ => C19.fsop φ (fun fs => (.ok (), alter p g fs))) :=
  Built.fsop _ p hp (fun _ => .inr ⟨_, rfl⟩)

end Built

/-! ## The code of pkg/arrai/out.go is so built -/
namespace Impl

theorem built_outputFile {arg p : Path} (v : Val) (dry : Bool) (hp : arg <+: p) :
    Built arg (fun φ => outputFile φ v p dry) := by
  unfold outputFile
  cases Spec.bytesOf v with
  | none => exact Built.fail _
  | some bytes =>
    refine Built.bind (Built.keeps arg _) (fun st => ?_)
    refine Built.ite (Built.fail _) (Built.ite (Built.pure _) ?_)
    refine Built.bind (Built.guarded hp _ _) (fun _ => ?_)
    exact Built.withClose (Built.bind (Built.sets hp _) (fun _ => Built.keeps arg _)) (Built.keeps arg _)

theorem built_dirHead {arg p : Path} (dry : Bool) (hp : arg <+: p) : Built arg (fun φ => dirHead φ p dry) := by
  unfold dirHead
  refine Built.bind (Built.keeps arg _) (fun st => ?_)
  cases st
  · exact Built.ite (Built.pure _) (Built.guarded hp _ _)
  · exact Built.fail _
  · exact Built.pure _

/-- hypothesis of the non-recursive lemmas on the recursive call `TupF.dirOut`; the mutual induction discharges it -/
def DirOutBuilt (arg : Path) (t : TupF) : Prop :=
  ∀ p' dry', arg <+: p' → Built arg (fun φ => t.dirOut φ p' dry')

theorem built_applyFilesFields {arg p : Path} (t : TupF) (dry : Bool) (hp : arg <+: p)
    (hd : DirOutBuilt arg t) : Built arg (fun φ => applyFilesFields φ t p dry) := by
  unfold applyFilesFields
  refine Built.bind (Built.lift _) (fun _ => ?_)
  cases t.dirF with
  | some d => exact Built.bind (Built.lift _) (fun _ => hd p dry hp)
  | none =>
    cases t.fileF with
    | some f => exact built_outputFile f dry hp
    | none => exact Built.fail _

theorem built_applyIfExistsConfig {arg p : Path} (t : TupF) (conf : IfEx) (dry : Bool)
    (hp : arg <+: p) (hd : DirOutBuilt arg t) : Built arg (fun φ => applyIfExistsConfig φ t conf p dry) := by
  have haff := built_applyFilesFields t dry hp hd
  unfold applyIfExistsConfig
  refine Built.ite (Built.fail _) (Built.ite (Built.fail _) ?_)
  refine Built.bind (Built.keeps arg _) (fun st => ?_)
  refine Built.ite haff ?_
  cases conf with
  | remove => exact Built.bind (Built.lift _) (fun _ => Built.ite (Built.pure _) (Built.sets hp _))
  | replace =>
    exact Built.bind (Built.lift _) (fun _ =>
      Built.ite (Built.onEmptyFs _) (Built.bind (Built.sets hp _) (fun _ => haff)))
  | merge =>
    cases t.dirF with
    | some d => exact Built.bind (Built.lift _) (fun _ => hd p dry hp)
    | none => exact Built.fail _
  | ignore => exact Built.ite (Built.onEmptyFs _) (Built.pure _)
  | fail => exact Built.fail _
  | invalidStr => exact Built.fail _
  | notStr => exact Built.fail _

theorem built_configureOutput {arg p : Path} (t : TupF) (dry : Bool) (hp : arg <+: p)
    (hd : DirOutBuilt arg t) : Built arg (fun φ => configureOutput φ t p dry) := by
  unfold configureOutput
  cases t.ifx with
  | some conf => exact built_applyIfExistsConfig t conf dry hp hd
  | none => exact built_applyFilesFields t dry hp hd

mutual
theorem built_dir (arg : Path) (v : Val) (p : Path) (dry : Bool) (hp : arg <+: p) :
    Built arg (fun φ => outputTupleDir v φ p dry) := by
  cases v with
  | dict es => exact Built.bind (built_dirHead dry hp) (fun _ => built_entries arg es p dry hp)
  | data b bs =>
    cases bs with
    | nil => exact built_dirHead dry hp
    | cons c cs => exact Built.fail _
  | tup _ _ _ => exact Built.fail _
  | other _ => exact Built.fail _
theorem built_entries (arg : Path) (es : List (Key × Val)) (p : Path) (dry : Bool) (hp : arg <+: p) :
    Built arg (fun φ => outputEntries es φ p dry) := by
  cases es with
  | nil => exact Built.pure ()
  | cons e r =>
    obtain ⟨k, v⟩ := e
    cases hrel : k.rel with
    | none => simp only [outputEntries, hrel]; exact Built.fail _
    | some rel =>
      simp only [outputEntries, hrel]
      exact Built.bind (built_entry arg v _ dry (hp.trans (List.prefix_append p rel)))
        (fun _ => built_entries arg r p dry hp)
theorem built_entry (arg : Path) (v : Val) (p : Path) (dry : Bool) (hp : arg <+: p) :
    Built arg (fun φ => outputEntry v φ p dry) := by
  cases v with
  | data b bs => exact built_outputFile (.data b bs) dry hp
  | other _ => exact Built.fail _
  | dict es =>
    cases es with
    | nil => exact built_outputFile (.dict []) dry hp
    | cons e es => exact Built.bind (built_dirHead dry hp) (fun _ => built_entries arg (e :: es) p dry hp)
  | tup ifx dF fF =>
    cases dF with
    | none => exact built_configureOutput _ dry hp (fun _ _ _ => Built.fail _)
    | some d =>
      have ih := built_dir arg d
      exact built_configureOutput _ dry hp (fun p' dry' hp' => ih p' dry' hp')
end

theorem built_outputValue (v : Val) (mode : Mode) (arg : Path) :
    Built arg (fun φ => outputValue φ v mode arg) := by
  unfold outputValue
  cases mode
  · exact built_outputFile v false (List.prefix_refl _)
  · exact Built.ite (Built.bind (built_dir arg v arg true (List.prefix_refl _))
      (fun _ => built_dir arg v arg false (List.prefix_refl _))) (Built.fail _)
  · exact Built.fail _

theorem sound_entries (es : List (Key × Val)) (φ : List Nat) (p : Path) (dry : Bool) :
    Sound (outputEntries es φ p dry) :=
  (built_entries p es p dry (List.prefix_refl _)).sound φ

theorem sound_entry (v : Val) (φ : List Nat) (p : Path) (dry : Bool) : Sound (outputEntry v φ p dry) :=
  (built_entry p v p dry (List.prefix_refl _)).sound φ

theorem faith_entries (es : List (Key × Val)) (φ : List Nat) (p : Path) (dry : Bool) :
    Faith (outputEntries es φ p dry) (outputEntries es [] p dry) :=
  (built_entries p es p dry (List.prefix_refl _)).faith φ

theorem faith_entry (v : Val) (φ : List Nat) (p : Path) (dry : Bool) :
    Faith (outputEntry v φ p dry) (outputEntry v [] p dry) :=
  (built_entry p v p dry (List.prefix_refl _)).faith φ

theorem within_entries (arg : Path) (es : List (Key × Val)) (φ : List Nat) (p : Path) (dry : Bool)
    (hp : arg <+: p) : Within arg (outputEntries es φ p dry) :=
  (built_entries arg es p dry hp).within φ

theorem within_entry (arg : Path) (v : Val) (φ : List Nat) (p : Path) (dry : Bool) (hp : arg <+: p) :
    Within arg (outputEntry v φ p dry) :=
  (built_entry arg v p dry hp).within φ

end Impl
end Arrai.C19
