/-
  C19 — lemmas for keys that denote paths of several elements: the validation pass computes `Sem.dryDir`, for
  every description (`dryx_dir`); under `Sem.okDir` the writing pass, entry after entry, writes what is specified
  (`realx_dir`); outside the class `aliasOrMissingParent` (plain keys are outside) `Sem.dry*` is `Spec.valid*` and
  implies `Sem.ok*`.

  The suffix x (exact) tells `dryx_dir`, `realx_dir`, … from `Impl.dry_dir`, `Impl.real_dir`, …, their instances
  for plain keys, which are stated with `Spec.valid*`.

  `TupF.dirOut` ties the recursive knot of the model, so each lemma about `applyFilesFields`,
  `applyIfExistsConfig` and `configureOutput` takes as hypothesis what the call on the `dir` field does
  (`DirOutDry`, `DirOutReal`), and the mutual induction discharges it.
-/
import Arrai.C19.Lemmas
import Arrai.C19.Exact

namespace Arrai.C19
open Spec

theorem seen_eq_get (rel : List Name) (p : Path) (fs : FS) (h : rel ≠ []) :
    seen rel (children (get p fs)) = get (p ++ rel) fs := by
  rw [get_append]
  cases rel with
  | nil => exact absurd rfl h
  | cons k r => cases get p fs <;> first | rfl | exact get_absent r

/-! ### Relative paths of several elements -/

theorem parentsExist_cons_cons {n m : Name} {rest : List Name} {f : Name → T}
    (h : parentsExist (n :: m :: rest) f = true) :
    ∃ f', f n = .dir f' ∧ parentsExist (m :: rest) f' = true := by
  have h' : decide (statOf (get (m :: rest).dropLast (f n)) = .isDir) = true := h
  cases hf : f n with
  | dir f' => rw [hf] at h'; exact ⟨f', rfl, h'⟩
  | absent => rw [hf] at h'; cases rest <;> cases h'
  | file b => rw [hf] at h'; cases rest <;> cases h'

theorem alter_dir_eq_alterRel (rel : List Name) (g : T → T) (f : Name → T)
    (hp : parentsExist rel f = true) : alter rel g (.dir f) = .dir (alterRel rel g f) := by
  induction rel generalizing f with
  | nil => cases hp
  | cons n rest ih =>
    cases rest with
    | nil => rfl
    | cons m rest =>
      obtain ⟨f', hf, hp'⟩ := parentsExist_cons_cons hp
      refine congrArg T.dir (setKey_congr n _ _ f ?_)
      rw [hf]
      exact ih f' hp'

theorem parentIsDir_append_eq (p : Path) (rel : List Name) (fs : FS) (f : Name → T) (hg : get p fs = .dir f)
    (hne : rel ≠ []) : parentIsDir (p ++ rel) fs = parentsExist rel f := by
  obtain ⟨q, n, rfl⟩ := exists_snoc hne
  rw [← List.append_assoc, parentIsDir_snoc, get_append, hg]
  exact (parentIsDir_snoc q n (.dir f)).symm

theorem alter_append_rel {p : Path} {rel : List Name} {fs : FS} {f : Name → T} (g : T → T) (hg : get p fs = .dir f)
    (hpe : parentsExist rel f = true) :
    alter (p ++ rel) (fun _ => g (seen rel f)) fs = alter p (fun _ => .dir (alterRel rel g f)) fs := by
  rw [alter_append]
  apply alter_congr
  rw [hg]
  exact (alter_congr rel (fun _ => g (seen rel f)) g _ rfl).trans (alter_dir_eq_alterRel rel g f hpe)

/-! ## Outside the class `aliasOrMissingParent` the code's view coincides with the specification's

`Sem.dryEntries` is `Spec.validEntries` with `validRel rel (validEntry v) ch` replaced by `dryEntry v (seen rel ch)`:
the code looks at the joined path, whatever lies on the way.  `Sem.okEntry` differs from `Sem.dryEntry` in the
`ignore` arm alone (an existing target is kept, and the content is not judged). -/

theorem comparable_false_iff {a b : List Name} : comparable a b = false ↔ ¬ a <+: b ∧ ¬ b <+: a := by
  simp [comparable, ← List.isPrefixOf_iff_prefix]

theorem validRel_eq_seen (rel : List Name) (g : T → Bool) (ch : Name → T)
    (hp : parentsExist rel ch = true) : validRel rel g ch = g (seen rel ch) := by
  induction rel generalizing ch with
  | nil => cases hp
  | cons n rest ih =>
    cases rest with
    | nil => rfl
    | cons m rest =>
      obtain ⟨f', hf, hp'⟩ := parentsExist_cons_cons hp
      show (match ch n with | .file _ => false | cur => validRel (m :: rest) g (children cur)) =
        g (get (m :: rest) (ch n))
      rw [hf]
      exact ih f' hp'

theorem validRel_absent (rel : List Name) (g : T → Bool) (hne : rel ≠ []) :
    validRel rel g (fun _ => .absent) = g .absent := by
  induction rel with
  | nil => exact absurd rfl hne
  | cons n rest ih =>
    cases rest with
    | nil => rfl
    | cons m rest => exact ih (List.cons_ne_nil _ _)

mutual
theorem dryDir_eq_validDir (v : Val) (cur : T) (h : cur = .absent ∨ regularDir v cur = true) :
    Sem.dryDir v cur = validDir v cur := by
  cases v with
  | dict es =>
    exact congrArg (notFile cur && ·) (dryEntries_eq_validEntries es (children cur) (h.imp (congrArg children) id))
  | data b bs => cases bs <;> rfl
  | tup _ _ _ => rfl
  | other _ => rfl
theorem dryEntries_eq_validEntries (es : List (Key × Val)) (ch : Name → T)
    (h : ch = (fun _ => .absent) ∨ regularEntries es ch = true) : Sem.dryEntries es ch = validEntries es ch := by
  cases es with
  | nil => rfl
  | cons e r =>
    obtain ⟨k, v⟩ := e
    cases hrel : k.rel with
    | none => simp only [Sem.dryEntries, validEntries, hrel, Bool.false_and]
    | some rel =>
      have hne := rel_ne_nil hrel
      simp only [Sem.dryEntries, validEntries, hrel]
      rcases h with rfl | hr
      · have hseen : seen rel (fun _ => T.absent) = .absent := get_emptyDir rel hne
        rw [dryEntries_eq_validEntries r _ (.inl rfl), validRel_absent rel _ hne, hseen,
          dryEntry_eq_validEntry v _ (.inl rfl)]
      · simp only [regularEntries, hrel, Bool.and_eq_true] at hr
        obtain ⟨⟨⟨hpe, _⟩, hre⟩, hrr⟩ := hr
        rw [dryEntries_eq_validEntries r ch (.inr hrr), validRel_eq_seen rel _ ch hpe,
          dryEntry_eq_validEntry v _ (.inr hre)]
theorem dryContent_eq_validContent (dF fF : Option Val) (c : T)
    (h : c = .absent ∨ regularContent dF fF c = true) : Sem.dryContent dF fF c = validContent dF fF c := by
  cases dF with
  | none => cases fF <;> rfl
  | some d =>
    cases fF with
    | none => exact dryDir_eq_validDir d c h
    | some f => rfl
theorem dryEntry_eq_validEntry (v : Val) (cur : T) (h : cur = .absent ∨ regularEntry v cur = true) :
    Sem.dryEntry v cur = validEntry v cur := by
  cases v with
  | data b bs => rfl
  | other _ => rfl
  | dict es =>
    cases es with
    | nil => rfl
    | cons e es =>
      exact congrArg (notFile cur && ·)
        (dryEntries_eq_validEntries (e :: es) (children cur) (h.imp (congrArg children) id))
  | tup ifx dF fF =>
    have ihc := dryContent_eq_validContent dF fF
    cases ifx with
    | none => exact ihc cur h
    | some c =>
      cases c with
      | merge => exact congrArg (fF.isNone && ·) (ihc cur h)
      | remove => rfl
      | replace => exact ihc .absent (.inl rfl)
      | ignore => exact ihc .absent (.inl rfl)
      | fail => exact congrArg (!cur.present && ·) (ihc .absent (.inl rfl))
      | invalidStr => rfl
      | notStr => rfl
end

theorem dry_absent_dir (v : Val) : Sem.dryDir v .absent = validDir v .absent :=
  dryDir_eq_validDir v _ (.inl rfl)

theorem dry_absent_entries (es : List (Key × Val)) :
    Sem.dryEntries es (fun _ => .absent) = validEntries es (fun _ => .absent) :=
  dryEntries_eq_validEntries es _ (.inl rfl)

theorem dry_absent_entry (v : Val) : Sem.dryEntry v .absent = validEntry v .absent :=
  dryEntry_eq_validEntry v _ (.inl rfl)

theorem dry_eq_valid_dir (v : Val) (cur : T) (hr : regularDir v cur = true) :
    Sem.dryDir v cur = validDir v cur :=
  dryDir_eq_validDir v cur (.inr hr)

theorem dry_eq_valid_entries (es : List (Key × Val)) (ch : Name → T) (hr : regularEntries es ch = true) :
    Sem.dryEntries es ch = validEntries es ch :=
  dryEntries_eq_validEntries es ch (.inr hr)

theorem dry_eq_valid_content (dF fF : Option Val) (c : T) (hr : regularContent dF fF c = true) :
    Sem.dryContent dF fF c = validContent dF fF c :=
  dryContent_eq_validContent dF fF c (.inr hr)

theorem dry_eq_valid_entry (v : Val) (cur : T) (hr : regularEntry v cur = true) :
    Sem.dryEntry v cur = validEntry v cur :=
  dryEntry_eq_validEntry v cur (.inr hr)

/-! what an entry at `rel` leaves is invisible from every path `b` not comparable with `rel` -/

theorem seen_parents_after (rel b : List Name) (g : T → T) (ch : Name → T) (hb : b ≠ [])
    (hp : parentsExist rel ch = true) (hc : comparable rel b = false) :
    seen b (alterRel rel g ch) = seen b ch ∧ parentsExist b (alterRel rel g ch) = parentsExist b ch := by
  obtain ⟨h1, h2⟩ := comparable_false_iff.1 hc
  have e : T.dir (alterRel rel g ch) = alter rel g (.dir ch) := (alter_dir_eq_alterRel rel g ch hp).symm
  constructor
  · simp only [seen]; rw [e]; exact (get_alter_outside rel b g _ h1).2 h2
  · simp only [parentsExist]; rw [e]
    cases b with
    | nil => exact absurd rfl hb
    | cons a l =>
      simp only [parentIsDir]
      have : ¬ rel <+: (a :: l).dropLast := fun hpre => h1 (hpre.trans (List.dropLast_prefix _))
      rw [statOf_eq_of_view_eq (get_alter_outside rel _ g _ this).1]

theorem mem_relsOf_ne_nil {r : List (Key × Val)} {b : List Name} (h : b ∈ relsOf r) : b ≠ [] := by
  induction r with
  | nil => cases h
  | cons e r ih =>
    obtain ⟨k, v⟩ := e
    cases hrel : k.rel with
    | none => simp only [relsOf, hrel] at h; exact ih h
    | some rel =>
      simp only [relsOf, hrel, List.mem_cons] at h
      rcases h with h | h
      · subst h; exact rel_ne_nil hrel
      · exact ih h

theorem entries_stable (r : List (Key × Val)) (ch ch' : Name → T)
    (h : ∀ b ∈ relsOf r, seen b ch' = seen b ch ∧ parentsExist b ch' = parentsExist b ch) :
    regularEntries r ch' = regularEntries r ch ∧
    (regularEntries r ch = true → validEntries r ch' = validEntries r ch) := by
  induction r with
  | nil => exact ⟨rfl, fun _ => rfl⟩
  | cons e r ih =>
    obtain ⟨k, v⟩ := e
    cases hrel : k.rel with
    | none =>
      simp only [relsOf, hrel] at h
      simp only [regularEntries, validEntries, hrel, Bool.true_and, Bool.false_and]
      exact ⟨(ih h).1, fun _ => trivial⟩
    | some rel =>
      simp only [relsOf, hrel] at h
      have ih' := ih (fun b hb => h b (List.mem_cons_of_mem _ hb))
      obtain ⟨hs, hp⟩ := h rel List.mem_cons_self
      simp only [regularEntries, validEntries, hrel]
      rw [hs, hp, ih'.1]
      refine ⟨rfl, fun hr => ?_⟩
      simp only [Bool.and_eq_true] at hr
      rw [ih'.2 hr.2, validRel_eq_seen rel _ ch hr.1.1.1,
        validRel_eq_seen rel _ ch' (by rw [hp]; exact hr.1.1.1), hs]

mutual
theorem ok_of_valid_dir (v : Val) (cur : T) (hr : regularDir v cur = true) (hv : validDir v cur = true) :
    Sem.okDir v cur = true := by
  cases v with
  | dict es =>
    obtain ⟨hnf, hes⟩ := Bool.and_eq_true_iff.1 hv
    exact Bool.and_eq_true_iff.2 ⟨hnf, ok_of_valid_entries es (children cur) hr hes⟩
  | data b bs =>
    cases bs with
    | nil => exact hv
    | cons c cs => cases hv
  | tup _ _ _ => cases hv
  | other _ => cases hv
theorem ok_of_valid_entries (es : List (Key × Val)) (ch : Name → T) (hr : regularEntries es ch = true)
    (hv : validEntries es ch = true) : Sem.okEntries es ch = true := by
  cases es with
  | nil => rfl
  | cons e r =>
    obtain ⟨k, v⟩ := e
    cases hrel : k.rel with
    | none => simp only [validEntries, hrel, Bool.false_and] at hv; cases hv
    | some rel =>
      simp only [regularEntries, hrel, Bool.and_eq_true, List.all_eq_true, Bool.not_eq_true'] at hr
      obtain ⟨⟨⟨hpe, hcmp⟩, hre⟩, hrr⟩ := hr
      simp only [validEntries, hrel, validRel_eq_seen rel _ ch hpe, Bool.and_eq_true] at hv
      -- what the entry leaves is not seen from the keys after it
      have hst := entries_stable r ch (alterRel rel (applyEntry v) ch) (fun b hb =>
        seen_parents_after rel b _ ch (mem_relsOf_ne_nil hb) hpe (hcmp b hb))
      simp only [Sem.okEntries, hrel, Bool.and_eq_true]
      exact ⟨⟨hpe, ok_of_valid_entry v (seen rel ch) hre hv.1⟩,
        ok_of_valid_entries r _ (by rw [hst.1]; exact hrr) (by rw [hst.2 hrr]; exact hv.2)⟩
theorem ok_of_valid_content (dF fF : Option Val) (c : T) (hr : regularContent dF fF c = true)
    (hv : validContent dF fF c = true) : Sem.okContent dF fF c = true := by
  cases dF with
  | none => cases fF <;> exact hv
  | some d =>
    cases fF with
    | none => exact ok_of_valid_dir d c hr hv
    | some f => cases hv
theorem ok_of_valid_entry (v : Val) (cur : T) (hr : regularEntry v cur = true) (hv : validEntry v cur = true) :
    Sem.okEntry v cur = true := by
  cases v with
  | data b bs => exact hv
  | other _ => cases hv
  | dict es =>
    cases es with
    | nil => exact hv
    | cons e es =>
      obtain ⟨hnf, hes⟩ := Bool.and_eq_true_iff.1 hv
      exact Bool.and_eq_true_iff.2 ⟨hnf, ok_of_valid_entries (e :: es) (children cur) hr hes⟩
  | tup ifx dF fF =>
    have ihc := ok_of_valid_content dF fF
    cases ifx with
    | none => exact ihc cur hr hv
    | some c =>
      cases c with
      | merge =>
        obtain ⟨h1, h2⟩ := Bool.and_eq_true_iff.1 hv
        exact Bool.and_eq_true_iff.2 ⟨h1, ihc cur hr h2⟩
      | remove => exact hv
      | replace => exact ihc .absent hr hv
      | ignore =>
        cases cur with
        | absent => exact ihc .absent hr hv
        | file _ => rfl
        | dir _ => rfl
      | fail =>
        cases cur with
        | absent => exact ihc .absent hr hv
        | file _ => cases hv
        | dir _ => cases hv
      | invalidStr => cases hv
      | notStr => cases hv
end

namespace Impl
open Spec

/-! ## The validation pass, for every description -/

theorem dryx_dirField {m : M Unit} (d : Val) (c : T) (fs : FS) (h : Runs m fs (okIf (Sem.dryDir d c)) fs) :
    Runs (do let _ ← M.lift (getDirField d); m) fs (okIf (Sem.dryDir d c)) fs := by
  cases d with
  | dict es => exact Runs.bind_ok (Runs.lift _ fs) h
  | data b bs =>
    cases bs with
    | nil => exact Runs.bind_ok (Runs.lift _ fs) h
    | cons x xs => exact Runs.bind_err (Runs.lift _ fs)
  | tup _ _ _ => exact Runs.bind_err (Runs.lift _ fs)
  | other _ => exact Runs.bind_err (Runs.lift _ fs)

def DirOutDry (t : TupF) (p : Path) : Prop :=
  ∀ d, t.dirF = some d → ∀ fs', Runs (t.dirOut [] p true) fs' (okIf (Sem.dryDir d (get p fs'))) fs'

theorem dryx_applyFilesFields (t : TupF) (p : Path) (fs : FS) (hd : DirOutDry t p) :
    Runs (applyFilesFields [] t p true) fs (okIf (Sem.dryContent t.dirF t.fileF (get p fs))) fs := by
  obtain ⟨ifx, dF, fF, out⟩ := t
  unfold applyFilesFields
  cases dF with
  | none =>
    cases fF with
    | none => exact Runs.bind_err (Runs.lift _ fs)
    | some f => exact Runs.bind_ok (Runs.lift _ fs) (dry_outputFile f p fs)
  | some d =>
    cases fF with
    | some f => exact Runs.bind_err (Runs.lift _ fs)
    | none => exact Runs.bind_ok (Runs.lift _ fs) (dryx_dirField d _ fs (hd d rfl fs))

/-- the judgement on the fields contains the dir-xor-file test: with it written in front, `Runs.seq_okIf` applies to
`checkDirXorFileField` followed by the rest -/
theorem dryContent_xor (dF fF : Option Val) (c : T) :
    Sem.dryContent dF fF c = (!(dF.isSome == fF.isSome) && Sem.dryContent dF fF c) := by
  cases dF <;> cases fF <;> rfl

theorem dryx_applyIfExistsConfig (t : TupF) (conf : IfEx) (p : Path) (fs : FS) (hp : p ≠ []) (hd : DirOutDry t p) :
    Runs (applyIfExistsConfig [] t conf p true) fs
      (okIf (Sem.dryEntry (.tup (some conf) t.dirF t.fileF) (get p fs))) fs := by
  -- with nothing at `p` the fields are judged over `.absent`: in `fs`, and in the empty file system
  have habs : ∀ fs', get p fs' = .absent →
      Runs (applyFilesFields [] t p true) fs' (okIf (Sem.dryContent t.dirF t.fileF .absent)) fs' :=
    fun fs' hab => hab ▸ dryx_applyFilesFields t p fs' hd
  have hempty := Runs.onEmptyFs fs (habs _ (get_emptyDir p hp))
  cases conf with
  | notStr => exact Runs.fail _ fs
  | invalidStr => exact Runs.fail _ fs
  | merge =>
    rw [applyIfExistsConfig_merge]
    show Runs _ fs (okIf (t.fileF.isNone && Sem.dryContent t.dirF t.fileF (get p fs))) fs
    cases hfF : t.fileF with
    | some f => exact Runs.fail _ fs
    | none =>
      have h := dryx_applyFilesFields t p fs hd
      rw [hfF] at h
      exact Runs.stat_bind _ _ _ h
  | remove =>
    rw [applyIfExistsConfig_remove, checkNotDirAndNotFileField_eq]
    apply Runs.stat_bind
    show Runs _ fs (okIf (t.dirF.isNone && t.fileF.isNone)) fs
    cases t.dirF.isNone && t.fileF.isNone
    · exact Runs.bind_err (Runs.lift _ fs)
    · exact Runs.bind_ok (Runs.lift _ fs) (Runs.pure () fs)
  | replace =>
    rw [applyIfExistsConfig_replace]
    refine Runs.stat_exists (habs fs) fun _ => ?_
    show Runs _ fs (okIf (Sem.dryContent t.dirF t.fileF .absent)) fs
    rw [dryContent_xor]
    exact Runs.seq_okIf (checkDirXorFileField_eq t ▸ Runs.lift _ fs) hempty
  | ignore =>
    rw [applyIfExistsConfig_ignore]
    exact Runs.stat_exists (habs fs) fun _ => hempty
  | fail =>
    rw [applyIfExistsConfig_fail]
    show Runs _ fs (okIf (!(get p fs).present && Sem.dryContent t.dirF t.fileF .absent)) fs
    refine Runs.stat_exists (fun hab => ?_) (fun hpr => ?_)
    · rw [hab]; exact habs fs hab
    · rw [hpr]; exact Runs.fail _ fs

theorem dryx_configureOutput (t : TupF) (p : Path) (fs : FS) (hp : p ≠ []) (hd : DirOutDry t p) :
    Runs (configureOutput [] t p true) fs (okIf (Sem.dryEntry (.tup t.ifx t.dirF t.fileF) (get p fs))) fs := by
  unfold configureOutput
  cases t.ifx with
  | none => exact dryx_applyFilesFields t p fs hd
  | some conf => exact dryx_applyIfExistsConfig t conf p fs hp hd

mutual
theorem dryx_dir (v : Val) (p : Path) (fs : FS) :
    Runs (outputTupleDir v [] p true) fs (okIf (Sem.dryDir v (get p fs))) fs := by
  cases v with
  | dict es => exact Runs.seq_okIf (dry_dirHead p fs) (dryx_entries es p fs)
  | data b bs =>
    cases bs with
    | nil => exact dry_dirHead p fs
    | cons c cs => exact Runs.fail _ fs
  | tup _ _ _ => exact Runs.fail _ fs
  | other _ => exact Runs.fail _ fs
theorem dryx_entries (es : List (Key × Val)) (p : Path) (fs : FS) :
    Runs (outputEntries es [] p true) fs (okIf (Sem.dryEntries es (children (get p fs)))) fs := by
  cases es with
  | nil => exact Runs.pure () fs
  | cons e r =>
    obtain ⟨k, v⟩ := e
    cases hrel : k.rel with
    | none =>
      simp only [outputEntries, Sem.dryEntries, hrel, Bool.false_and]
      exact Runs.fail _ fs
    | some rel =>
      have hne : rel ≠ [] := rel_ne_nil hrel
      simp only [outputEntries, Sem.dryEntries, hrel, seen_eq_get rel p fs hne]
      exact Runs.seq_okIf (dryx_entry v (p ++ rel) fs (by simp [hne])) (dryx_entries r p fs)
theorem dryx_entry (v : Val) (p : Path) (fs : FS) (hp : p ≠ []) :
    Runs (outputEntry v [] p true) fs (okIf (Sem.dryEntry v (get p fs))) fs := by
  cases v with
  | data b bs => exact dry_outputFile (.data b bs) p fs
  | other _ => exact Runs.fail _ fs
  | dict es =>
    cases es with
    | nil => exact dry_outputFile (.dict []) p fs
    | cons e es => exact Runs.seq_okIf (dry_dirHead p fs) (dryx_entries (e :: es) p fs)
  | tup ifx dF fF =>
    cases dF with
    | none => exact dryx_configureOutput _ p fs hp (fun d hd => nomatch hd)
    | some d' =>
      have ih := dryx_dir d' p
      exact dryx_configureOutput _ p fs hp (fun d hd fs' => by cases hd; exact ih fs')
end

/-! ## The writing pass, entry after entry -/

theorem realx_dirField {m : M Unit} {d : Val} {c : T} {fs fs' : FS} {r : Res Unit} (hv : Sem.okDir d c = true)
    (h : Runs m fs r fs') : Runs (do let _ ← M.lift (getDirField d); m) fs r fs' := by
  cases d with
  | dict es => exact Runs.bind_ok (Runs.lift _ fs) h
  | data b bs =>
    cases bs with
    | nil => exact Runs.bind_ok (Runs.lift _ fs) h
    | cons x xs => cases hv
  | tup _ _ _ => cases hv
  | other _ => cases hv

theorem okContent_xor (dF fF : Option Val) (c : T) :
    Sem.okContent dF fF c = (!(dF.isSome == fF.isSome) && Sem.okContent dF fF c) := by
  cases dF <;> cases fF <;> rfl

def DirOutReal (t : TupF) (p : Path) : Prop :=
  ∀ d, t.dirF = some d → ∀ fs', parentIsDir p fs' = true → Sem.okDir d (get p fs') = true →
    Runs (t.dirOut [] p false) fs' (.ok ()) (alter p (fun _ => applyDir d (get p fs')) fs')

theorem realx_applyFilesFields (t : TupF) (p : Path) (fs : FS) (hd : DirOutReal t p)
    (hpar : parentIsDir p fs = true) (hv : Sem.okContent t.dirF t.fileF (get p fs) = true) :
    Runs (applyFilesFields [] t p false) fs (.ok ())
      (alter p (fun _ => applyContent t.dirF t.fileF (get p fs)) fs) := by
  obtain ⟨ifx, dF, fF, out⟩ := t
  unfold applyFilesFields
  cases dF with
  | none =>
    cases fF with
    | none => cases hv
    | some f =>
      obtain ⟨hb, hnd⟩ := Bool.and_eq_true_iff.1 hv
      obtain ⟨bs, hb⟩ := Option.isSome_iff_exists.1 hb
      show Runs _ fs _ (alter p (fun _ => .file ((bytesOf f).getD [])) fs)
      rw [hb]
      exact Runs.bind_ok (Runs.lift _ fs) (real_outputFile f bs p fs hb hnd hpar)
  | some d =>
    cases fF with
    | some f => cases hv
    | none => exact Runs.bind_ok (Runs.lift _ fs) (realx_dirField hv (hd d rfl fs hpar hv))

theorem realx_applyIfExistsConfig (t : TupF) (conf : IfEx) (p : Path) (fs : FS) (hd : DirOutReal t p)
    (hpar : parentIsDir p fs = true)
    (hv : Sem.okEntry (.tup (some conf) t.dirF t.fileF) (get p fs) = true) :
    Runs (applyIfExistsConfig [] t conf p false) fs (.ok ())
      (alter p (fun _ => applyEntry (.tup (some conf) t.dirF t.fileF) (get p fs)) fs) := by
  -- with nothing at `p` the fields are applied over `.absent`: in `fs`, and after the RemoveAll of `replace`
  have habs : ∀ fs', parentIsDir p fs' = true → Sem.okContent t.dirF t.fileF .absent = true → get p fs' = .absent →
      Runs (applyFilesFields [] t p false) fs' (.ok ())
        (alter p (fun _ => applyContent t.dirF t.fileF .absent) fs') :=
    fun fs' hpar' hv' hab => hab ▸ realx_applyFilesFields t p fs' hd hpar' (hab ▸ hv')
  cases conf with
  | notStr => cases hv
  | invalidStr => cases hv
  | merge =>
    obtain ⟨hfF, hv⟩ := Bool.and_eq_true_iff.1 hv
    rw [applyIfExistsConfig_merge, if_neg (by simpa using hfF)]
    exact Runs.stat_bind _ _ _ (realx_applyFilesFields t p fs hd hpar hv)
  | remove =>
    rw [applyIfExistsConfig_remove, checkNotDirAndNotFileField_eq,
      show (t.dirF.isNone && t.fileF.isNone) = true from hv]
    exact Runs.stat_bind _ _ _ (Runs.bind_ok (Runs.lift _ fs) (Runs.removeAll_ok p fs))
  | replace =>
    have hv : Sem.okContent t.dirF t.fileF .absent = true := hv
    rw [applyIfExistsConfig_replace]
    refine Runs.stat_exists (habs fs hpar hv) fun _ => ?_
    have hx : checkDirXorFileField t = .ok () := by
      rw [okContent_xor, Bool.and_eq_true] at hv
      rw [checkDirXorFileField_eq, hv.1]; rfl
    rw [hx]
    refine Runs.bind_ok (Runs.lift _ fs) (Runs.bind_ok (Runs.removeAll_ok p fs) ?_)
    have := habs (alter p (fun _ => .absent) fs) (parentIsDir_alter p _ fs hpar) hv
      (get_alter_self p _ fs (reach_of_parentIsDir p fs hpar))
    rwa [alter_alter] at this
  | ignore =>
    rw [applyIfExistsConfig_ignore]
    show Runs _ fs _
      (alter p (fun _ => if (get p fs).present then get p fs else applyContent t.dirF t.fileF .absent) fs)
    refine Runs.stat_exists (fun hab => ?_) (fun hpr => ?_)
    · rw [hab] at hv ⊢
      exact habs fs hpar hv hab
    · rw [hpr, if_pos rfl, alter_of_get rfl]
      exact Runs.pure () fs
  | fail =>
    obtain ⟨hab, hv⟩ := Bool.and_eq_true_iff.1 hv
    rw [applyIfExistsConfig_fail]
    refine Runs.stat_exists (habs fs hpar hv) fun hpr => ?_
    rw [hpr] at hab; cases hab

theorem realx_configureOutput (t : TupF) (p : Path) (fs : FS) (hd : DirOutReal t p)
    (hpar : parentIsDir p fs = true) (hv : Sem.okEntry (.tup t.ifx t.dirF t.fileF) (get p fs) = true) :
    Runs (configureOutput [] t p false) fs (.ok ())
      (alter p (fun _ => applyEntry (.tup t.ifx t.dirF t.fileF) (get p fs)) fs) := by
  unfold configureOutput
  cases hi : t.ifx with
  | none => rw [hi] at hv; exact realx_applyFilesFields t p fs hd hpar hv
  | some conf => rw [hi] at hv; exact realx_applyIfExistsConfig t conf p fs hd hpar hv

mutual
theorem realx_dir (v : Val) (p : Path) (fs : FS)
    (hv : Sem.okDir v (get p fs) = true) (hpar : (get p fs).present = false → parentIsDir p fs = true) :
    Runs (outputTupleDir v [] p false) fs (.ok ()) (alter p (fun _ => applyDir v (get p fs)) fs) := by
  cases v with
  | dict es =>
    obtain ⟨hnf, hes⟩ := Bool.and_eq_true_iff.1 hv
    refine Runs.bind_ok (real_dirHead p fs hnf hpar) ?_
    have := realx_prefix es [] p _ (children (get p fs))
      (get_alter_self p (fun _ => .dir (children (get p fs))) fs (reach_of_creatable hpar)) hes (Runs.pure () _)
    rwa [List.append_nil, alter_alter] at this
  | data b bs =>
    cases bs with
    | nil => exact real_dirHead p fs hv hpar
    | cons c cs => cases hv
  | tup _ _ _ => cases hv
  | other _ => cases hv
theorem realx_prefix (pre rest : List (Key × Val)) (p : Path) (fs : FS) (f : Name → T) (hg : get p fs = .dir f)
    (hv : Sem.okEntries pre f = true) {r : Res Unit} {fs2 : FS}
    (hrest : Runs (outputEntries rest [] p false) (alter p (fun _ => .dir (applyEntries pre f)) fs) r fs2) :
    Runs (outputEntries (pre ++ rest) [] p false) fs r fs2 := by
  cases pre with
  | nil =>
    rwa [show alter p (fun _ => T.dir (applyEntries [] f)) fs = fs from alter_of_get hg] at hrest
  | cons e pre =>
    obtain ⟨k, v⟩ := e
    cases hrel : k.rel with
    | none => simp only [Sem.okEntries, hrel] at hv; cases hv
    | some rel =>
      simp only [Sem.okEntries, hrel, Bool.and_eq_true] at hv
      obtain ⟨⟨hpe, hve⟩, hvr⟩ := hv
      have hgn : get (p ++ rel) fs = seen rel f := by rw [get_append, hg]; rfl
      have h1 := realx_entry v (p ++ rel) fs ((parentIsDir_append_eq p rel fs f hg (rel_ne_nil hrel)).trans hpe)
        (by rw [hgn]; exact hve)
      rw [hgn, alter_append_rel _ hg hpe] at h1
      have hg1 := get_alter_self p (fun _ => T.dir (alterRel rel (applyEntry v) f)) fs (reach_of_dir hg)
      simp only [List.cons_append, outputEntries, hrel]
      refine Runs.bind_ok h1 (realx_prefix pre rest p _ _ hg1 hvr ?_)
      simp only [applyEntries, hrel] at hrest
      rwa [alter_alter]
theorem realx_entry (v : Val) (p : Path) (fs : FS)
    (hpar : parentIsDir p fs = true) (hv : Sem.okEntry v (get p fs) = true) :
    Runs (outputEntry v [] p false) fs (.ok ()) (alter p (fun _ => applyEntry v (get p fs)) fs) := by
  cases v with
  | data b bs => exact real_outputFile (.data b bs) bs p fs rfl hv hpar
  | other _ => cases hv
  | dict es =>
    cases es with
    | nil => exact real_outputFile (.dict []) [] p fs rfl hv hpar
    | cons e es =>
      -- as the dict case of `realx_dir`, which the model inlines here (`outputEntry_dict_is_outputTupleDir`): a
      -- call of `realx_dir` on the same value is not a structurally smaller one
      obtain ⟨hnf, hes⟩ := Bool.and_eq_true_iff.1 hv
      refine Runs.bind_ok (real_dirHead p fs hnf (fun _ => hpar)) ?_
      have := realx_prefix (e :: es) [] p _ (children (get p fs))
        (get_alter_self p (fun _ => .dir (children (get p fs))) fs (reach_of_parentIsDir p fs hpar)) hes
        (Runs.pure () _)
      rwa [List.append_nil, alter_alter] at this
  | tup ifx dF fF =>
    cases dF with
    | none => exact realx_configureOutput _ p fs (fun d hd => nomatch hd) hpar hv
    | some d' =>
      have ih := realx_dir d' p
      exact realx_configureOutput _ p fs
        (fun d hd fs' hp' hv' => by cases hd; exact ih fs' hv' (fun _ => hp')) hpar hv
end

theorem realx_entries (es : List (Key × Val)) (p : Path) (fs : FS)
    (f : Name → T) (hg : get p fs = .dir f) (hv : Sem.okEntries es f = true) :
    Runs (outputEntries es [] p false) fs (.ok ()) (alter p (fun _ => .dir (applyEntries es f)) fs) := by
  have := realx_prefix es [] p fs f hg hv (Runs.pure () _)
  rwa [List.append_nil] at this

end Impl

/-! ## Plain keys are outside the class -/

theorem rel_of_keyPlain {k : Key} {rel : List Name} (h : keyPlain k = true) (hr : k.rel = some rel) :
    ∃ n, rel = [n] := by
  unfold keyPlain at h
  rw [hr] at h
  match rel, h with
  | [n], _ => exact ⟨n, rfl⟩

theorem plainEntries_cons {k : Key} {v : Val} {r : List (Key × Val)} (h : plainEntries ((k, v) :: r) = true) :
    keyPlain k = true ∧ v.plain = true ∧ plainEntries r = true ∧
      ∀ n, k.rel = some [n] → (namesOf r).contains n = false := by
  have h' : (keyPlain k && v.plain && (match k.rel with | some [n] => !(namesOf r).contains n | _ => true) &&
      plainEntries r) = true := h
  simp only [Bool.and_eq_true] at h'
  refine ⟨h'.1.1.1, h'.1.1.2, h'.2, fun n hn => ?_⟩
  have := h'.1.2
  rw [hn] at this
  simpa using this

/-- plain keys denote single elements: their paths are the one-element lists of their names -/
theorem relsOf_plain (r : List (Key × Val)) (h : plainEntries r = true) :
    relsOf r = (namesOf r).map fun n => [n] := by
  induction r with
  | nil => rfl
  | cons e r ih =>
    obtain ⟨k, v⟩ := e
    obtain ⟨hk, _, hr, _⟩ := plainEntries_cons h
    cases hrel : k.rel with
    | none => simp only [relsOf, namesOf, hrel]; exact ih hr
    | some rel =>
      obtain ⟨n, rfl⟩ := rel_of_keyPlain hk hrel
      simp only [relsOf, namesOf, hrel, List.map_cons, ih hr]

mutual
theorem regular_of_plain_dir (v : Val) (cur : T) (h : v.plain = true) : regularDir v cur = true := by
  cases v with
  | dict es => exact regular_of_plain_entries es _ h
  | data _ _ => rfl
  | tup _ _ _ => rfl
  | other _ => rfl
theorem regular_of_plain_entries (es : List (Key × Val)) (ch : Name → T) (h : plainEntries es = true) :
    regularEntries es ch = true := by
  cases es with
  | nil => rfl
  | cons e r =>
    obtain ⟨k, v⟩ := e
    obtain ⟨hk, hv, hr, hnd⟩ := plainEntries_cons h
    cases hrel : k.rel with
    | none => simp only [regularEntries, hrel, Bool.true_and]; exact regular_of_plain_entries r ch hr
    | some rel =>
      obtain ⟨n, rfl⟩ := rel_of_keyPlain hk hrel
      simp only [regularEntries, hrel, Bool.and_eq_true, List.all_eq_true, Bool.not_eq_true']
      have hpe : parentsExist [n] ch = true := rfl
      refine ⟨⟨⟨hpe, ?_⟩, regular_of_plain_entry v _ hv⟩, regular_of_plain_entries r ch hr⟩
      -- every later key names a single element, other than `n`
      intro b hb
      rw [relsOf_plain r hr] at hb
      obtain ⟨m, hm, rfl⟩ := List.mem_map.1 hb
      have hne : n ≠ m := fun e => by simpa [e, hm] using hnd n hrel
      simp [comparable, List.isPrefixOf, hne, Ne.symm hne]
theorem regular_of_plain_content {ifx : Option IfEx} (dF fF : Option Val) (c : T)
    (h : (Val.tup ifx dF fF).plain = true) : regularContent dF fF c = true := by
  cases dF with
  | none => rfl
  | some d => cases fF <;> exact regular_of_plain_dir d c (Bool.and_eq_true_iff.1 h).1
theorem regular_of_plain_entry (v : Val) (cur : T) (h : v.plain = true) : regularEntry v cur = true := by
  cases v with
  | data _ _ => rfl
  | other _ => rfl
  | dict es =>
    cases es with
    | nil => rfl
    | cons e es => exact regular_of_plain_entries (e :: es) _ h
  | tup ifx dF fF =>
    have ihc := fun c => regular_of_plain_content dF fF c h
    cases ifx with
    | none => exact ihc cur
    | some c =>
      cases c with
      | merge => exact ihc cur
      | replace => exact ihc .absent
      | ignore => exact Bool.or_eq_true_iff.2 (.inr (ihc .absent))
      | fail => exact Bool.or_eq_true_iff.2 (.inr (ihc .absent))
      | remove => rfl
      | invalidStr => rfl
      | notStr => rfl
end

theorem regularDir_of_outside {v : Val} {cur : T} (h : aliasOrMissingParent v cur = false) :
    regularDir v cur = true := by
  simpa [aliasOrMissingParent] using h

/-! ### The two passes on plain keys, in terms of `Spec.valid*` -/
namespace Impl

theorem dry_dir (v : Val) (hpl : v.plain = true) (p : Path) (fs : FS) :
    Runs (outputTupleDir v [] p true) fs (okIf (validDir v (get p fs))) fs :=
  dry_eq_valid_dir v _ (regular_of_plain_dir v _ hpl) ▸ dryx_dir v p fs

theorem dry_entries (es : List (Key × Val)) (hpl : plainEntries es = true) (p : Path) (fs : FS) :
    Runs (outputEntries es [] p true) fs (okIf (validEntries es (children (get p fs)))) fs :=
  dry_eq_valid_entries es _ (regular_of_plain_entries es _ hpl) ▸ dryx_entries es p fs

theorem dry_entry (v : Val) (hpl : v.plain = true) (p : Path) (fs : FS) (hp : p ≠ []) :
    Runs (outputEntry v [] p true) fs (okIf (validEntry v (get p fs))) fs :=
  dry_eq_valid_entry v _ (regular_of_plain_entry v _ hpl) ▸ dryx_entry v p fs hp

theorem real_dir (v : Val) (hpl : v.plain = true) (p : Path) (fs : FS)
    (hv : validDir v (get p fs) = true) (hpar : (get p fs).present = false → parentIsDir p fs = true) :
    Runs (outputTupleDir v [] p false) fs (.ok ()) (alter p (fun _ => applyDir v (get p fs)) fs) :=
  realx_dir v p fs (ok_of_valid_dir v _ (regular_of_plain_dir v _ hpl) hv) hpar

theorem real_entries (es : List (Key × Val)) (hpl : plainEntries es = true) (p : Path) (fs : FS)
    (f : Name → T) (hg : get p fs = .dir f) (hv : validEntries es f = true) :
    Runs (outputEntries es [] p false) fs (.ok ()) (alter p (fun _ => .dir (applyEntries es f)) fs) :=
  realx_entries es p fs f hg (ok_of_valid_entries es f (regular_of_plain_entries es f hpl) hv)

theorem real_entry (v : Val) (hpl : v.plain = true) (p : Path) (fs : FS)
    (hpar : parentIsDir p fs = true) (hv : validEntry v (get p fs) = true) :
    Runs (outputEntry v [] p false) fs (.ok ()) (alter p (fun _ => applyEntry v (get p fs)) fs) :=
  realx_entry v p fs hpar (ok_of_valid_entry v _ (regular_of_plain_entry v _ hpl) hv)

end Impl

/-! ## Below a missing parent -/
namespace Impl

/-- an entry that has to be created: a file, or the directory of a non-empty dict -/
def needsParent : Val → Bool
  | .data _ _ => true
  | .dict _ => true
  | _ => false

theorem outputEntry_no_parent (v : Val) (q : Path) (fs : FS) (hv : needsParent v = true) (hq : q ≠ [])
    (h : parentIsDir q fs = false) : Runs (outputEntry v [] q false) fs (.err .io) fs := by
  have hab := get_absent_of_no_parent q fs hq h
  have hnd : statOf (get q fs) ≠ .isDir := by rw [hab]; exact StatRes.noConfusion
  cases v with
  | data b bs => exact outputFile_no_parent (.data b bs) bs q fs rfl hnd h
  | dict es =>
    cases es with
    | nil => exact outputFile_no_parent (.dict []) [] q fs rfl hnd h
    | cons e es => exact Runs.bind_err (dirHead_no_parent q fs hab h)
  | tup _ _ _ => cases hv
  | other _ => cases hv

theorem outputTupleDir_no_parent (v : Val) (p : Path) (fs : FS) (hi : isDictOrEmpty v = true)
    (hab : get p fs = .absent) (h : parentIsDir p fs = false) :
    Runs (outputTupleDir v [] p false) fs (.err .io) fs := by
  cases v with
  | dict es => exact Runs.bind_err (dirHead_no_parent p fs hab h)
  | data b bs =>
    cases bs with
    | nil => exact dirHead_no_parent p fs hab h
    | cons x xs => cases hi
  | tup _ _ _ => cases hi
  | other _ => cases hi

/-! ## `--out=dir:PATH`: the validation pass, then the writing pass -/

theorem isDictOrEmpty_of_dryDir {v : Val} {c : T} (h : Sem.dryDir v c = true) : isDictOrEmpty v = true := by
  cases v with
  | dict es => rfl
  | data b bs =>
    cases bs with
    | nil => rfl
    | cons x xs => cases h
  | tup _ _ _ => cases h
  | other _ => cases h

theorem runs_dir_refused {v : Val} {arg : Path} {fs : FS} (hd : Sem.dryDir v (get arg fs) = false) :
    Runs (outputValue [] v .dir arg) fs (.err .invalid) fs := by
  unfold outputValue
  cases hi : isDictOrEmpty v with
  | false => exact Runs.fail _ fs
  | true =>
    have h := dryx_dir v arg fs
    rw [hd] at h
    exact Runs.bind_err h

theorem runs_dir_accepted {v : Val} {arg : Path} {fs fs' : FS} {r : Res Unit}
    (hd : Sem.dryDir v (get arg fs) = true) (h : Runs (outputTupleDir v [] arg false) fs r fs') :
    Runs (outputValue [] v .dir arg) fs r fs' := by
  unfold outputValue
  rw [if_pos (isDictOrEmpty_of_dryDir hd)]
  have h1 := dryx_dir v arg fs
  rw [hd] at h1
  exact Runs.bind_ok h1 h

/-- if the validation pass accepts, PATH is absent below something that is not a directory, and the first call that
would change anything, Mkdir of PATH, fails -/
theorem runs_dir_unchanged {v : Val} {arg : Path} {fs : FS}
    (h : ¬ (Sem.dryDir v (get arg fs) = true ∧ ((get arg fs).present = true ∨ parentIsDir arg fs = true))) :
    ∃ e, Runs (outputValue [] v .dir arg) fs (.err e) fs := by
  cases hd : Sem.dryDir v (get arg fs) with
  | false => exact ⟨_, runs_dir_refused hd⟩
  | true =>
    have hab : get arg fs = .absent := by
      cases hg : get arg fs with
      | absent => rfl
      | file b => exact absurd ⟨hd, .inl (by rw [hg]; rfl)⟩ h
      | dir f => exact absurd ⟨hd, .inl (by rw [hg]; rfl)⟩ h
    have hnp : parentIsDir arg fs = false := Bool.eq_false_iff.2 (fun hp => h ⟨hd, .inr hp⟩)
    exact ⟨.io, runs_dir_accepted hd (outputTupleDir_no_parent v arg fs (isDictOrEmpty_of_dryDir hd) hab hnp)⟩

end Impl
end Arrai.C19
