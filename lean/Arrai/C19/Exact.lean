/-
  C19 — exact behaviour of the code on keys that denote paths of several elements ('a/b').

  * `seen`, `parentsExist`   : what `Stat(path.Join(dir, key))` finds; whether the intermediate directories exist
  * `Sem.dry*`               : what the validation pass decides, for every description (theorem `dry_exact`)
  * `Sem.ok*`                : sufficient condition, entry after entry on the then-current state, for the writing
                               pass to succeed with the specified result (theorem `out_refines_seq`)
  * `aliasOrMissingParent`   : the decidable class outside which the code meets the specification: two sibling
                               keys denote the same path or one a path below the other, or a key names an entry
                               whose parent directory does not exist when it is written.
  Core-only.
-/
import Arrai.C19.Model

namespace Arrai.C19

/-- what the code finds at the relative path `rel` of a directory with entries `ch` -/
def seen (rel : List Name) (ch : Name → T) : T := get rel (.dir ch)

/-- every proper prefix of `rel` is an existing directory (`rel` itself may be anything) -/
def parentsExist (rel : List Name) (ch : Name → T) : Bool := parentIsDir rel (.dir ch)

/-- one path is the other or lies below it -/
def comparable (a b : List Name) : Bool := a.isPrefixOf b || b.isPrefixOf a

/-- the cleaned relative paths of the accepted keys -/
def relsOf : List (Key × Val) → List (List Name)
  | [] => []
  | (k, _) :: r =>
    match k.rel with
    | some rel => rel :: relsOf r
    | none => relsOf r

namespace Sem
open Spec

mutual
/-- the decision of the validation pass on a directory description over `cur` -/
def dryDir : Val → T → Bool
  | .dict es, cur => notFile cur && dryEntries es (children cur)
  | .data _ [], cur => notFile cur
  | _, _ => false
def dryEntries : List (Key × Val) → (Name → T) → Bool
  | [], _ => true
  | (k, v) :: r, ch =>
    (match k.rel with
     | some rel => dryEntry v (seen rel ch)
     | none => false) && dryEntries r ch
def dryContent : Option Val → Option Val → T → Bool
  | some d, none, c => dryDir d c
  | none, some f, c => (bytesOf f).isSome && notDir c
  | _, _, _ => false
def dryEntry : Val → T → Bool
  | .data _ _, cur => notDir cur
  | .dict [], cur => notDir cur
  | .dict (e :: es), cur => notFile cur && dryEntries (e :: es) (children cur)
  | .other _, _ => false
  | .tup ifx dirF fileF, cur =>
    match ifx with
    | none => dryContent dirF fileF cur
    | some .merge => fileF.isNone && dryContent dirF fileF cur
    | some .remove => dirF.isNone && fileF.isNone
    | some .replace => dryContent dirF fileF .absent
    | some .ignore => dryContent dirF fileF .absent
    | some .fail => !cur.present && dryContent dirF fileF .absent
    | some .invalidStr => false
    | some .notStr => false
end

mutual
/-- the writing pass succeeds on a directory description over `cur`, entry after entry -/
def okDir : Val → T → Bool
  | .dict es, cur => notFile cur && okEntries es (children cur)
  | .data _ [], cur => notFile cur
  | _, _ => false
/-- each entry, on the directory as the entries before it have left it: its parent directories exist
and the entry itself can be written -/
def okEntries : List (Key × Val) → (Name → T) → Bool
  | [], _ => true
  | (k, v) :: r, ch =>
    match k.rel with
    | some rel => parentsExist rel ch && okEntry v (seen rel ch) && okEntries r (alterRel rel (applyEntry v) ch)
    | none => false
def okContent : Option Val → Option Val → T → Bool
  | some d, none, c => okDir d c
  | none, some f, c => (bytesOf f).isSome && notDir c
  | _, _, _ => false
def okEntry : Val → T → Bool
  | .data _ _, cur => notDir cur
  | .dict [], cur => notDir cur
  | .dict (e :: es), cur => notFile cur && okEntries (e :: es) (children cur)
  | .other _, _ => false
  | .tup ifx dirF fileF, cur =>
    match ifx with
    | none => okContent dirF fileF cur
    | some .merge => fileF.isNone && okContent dirF fileF cur
    | some .remove => dirF.isNone && fileF.isNone
    | some .replace => okContent dirF fileF .absent
    | some .ignore => if cur.present then true else okContent dirF fileF .absent
    | some .fail => !cur.present && okContent dirF fileF .absent
    | some .invalidStr => false
    | some .notStr => false
end

end Sem

mutual
/-- no two sibling keys denote comparable paths, and every key's parent directories exist, in every
directory description that the writing pass will write (over what is there before the run) -/
def regularDir : Val → T → Bool
  | .dict es, cur => regularEntries es (children cur)
  | _, _ => true
def regularEntries : List (Key × Val) → (Name → T) → Bool
  | [], _ => true
  | (k, v) :: r, ch =>
    (match k.rel with
     | some rel => parentsExist rel ch && (relsOf r).all (fun b => !comparable rel b) && regularEntry v (seen rel ch)
     | none => true) && regularEntries r ch
def regularContent : Option Val → Option Val → T → Bool
  | some d, _, c => regularDir d c
  | none, _, _ => true
def regularEntry : Val → T → Bool
  | .dict (e :: es), cur => regularEntries (e :: es) (children cur)
  | .tup ifx dirF fileF, cur =>
    match ifx with
    | none => regularContent dirF fileF cur
    | some .merge => regularContent dirF fileF cur
    | some .replace => regularContent dirF fileF .absent
    | some .ignore => cur.present || regularContent dirF fileF .absent
    | some .fail => cur.present || regularContent dirF fileF .absent
    | _ => true
  | _, _ => true
end

/-- the class on which today's code departs from the specification (KF-out-key-with-separator) -/
def aliasOrMissingParent (v : Val) (cur : T) : Bool := !regularDir v cur

end Arrai.C19
