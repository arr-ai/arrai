/-
  C19 helper lemmas: laws of the tree operations; the fault-free execution relation `Runs` with its laws and its
  bridge to `Impl.run` (`run_of_runs`); what `outputFile` and `dirHead` (the two leaves of the code) do in the
  validation pass and in the writing pass.
-/
import Arrai.C19.Model
import Arrai.Core.ListLemmas

namespace Arrai.C19

/-! ## Trees -/

theorem setKey_same (k : Name) (g : T → T) (f : Name → T) : setKey k g f k = g (f k) := by
  simp [setKey]

theorem setKey_ne {k k' : Name} (g : T → T) (f : Name → T) (h : k' ≠ k) : setKey k g f k' = f k' := by
  simp [setKey, h]

theorem setKey_setKey (k : Name) (g h : T → T) (f : Name → T) :
    setKey k g (setKey k h f) = setKey k (fun c => g (h c)) f := by
  funext k'
  by_cases e : k' = k <;> simp [setKey, e]

theorem setKey_congr (k : Name) (g h : T → T) (f : Name → T) (e : g (f k) = h (f k)) :
    setKey k g f = setKey k h f := by
  funext k'
  by_cases e' : k' = k <;> simp [setKey, e', e]

theorem setKey_id (k : Name) (f : Name → T) : setKey k (fun _ => f k) f = f := by
  funext k'
  by_cases e : k' = k <;> simp [setKey, e]

theorem get_append (p q : Path) (t : T) : get (p ++ q) t = get q (get p t) := by
  induction p generalizing t with
  | nil => rfl
  | cons k p ih =>
    cases t with
    | dir f => exact ih (f k)
    | absent => cases q <;> rfl
    | file b => cases q <;> rfl

theorem alter_append (p q : Path) (g : T → T) (t : T) : alter (p ++ q) g t = alter p (alter q g) t := by
  induction p generalizing t with
  | nil => rfl
  | cons k p ih =>
    cases t with
    | dir f => exact congrArg T.dir (setKey_congr k _ _ f (ih (f k)))
    | absent => rfl
    | file b => rfl

theorem alter_alter (p : Path) (g h : T → T) (t : T) :
    alter p g (alter p h t) = alter p (fun c => g (h c)) t := by
  induction p generalizing t with
  | nil => rfl
  | cons k p ih =>
    cases t with
    | dir f =>
      show T.dir (setKey k (alter p g) (setKey k (alter p h) f)) = _
      rw [setKey_setKey]
      exact congrArg T.dir (setKey_congr k _ _ f (ih (f k)))
    | absent => rfl
    | file b => rfl

theorem alter_congr (p : Path) (g h : T → T) (t : T) (e : g (get p t) = h (get p t)) :
    alter p g t = alter p h t := by
  induction p generalizing t with
  | nil => exact e
  | cons k p ih =>
    cases t with
    | dir f => exact congrArg T.dir (setKey_congr k _ _ f (ih (f k) e))
    | absent => rfl
    | file b => rfl

theorem alter_of_get {p : Path} {t x : T} (h : get p t = x) : alter p (fun _ => x) t = t := by
  subst h
  induction p generalizing t with
  | nil => rfl
  | cons k p ih =>
    cases t with
    | dir f => exact congrArg T.dir ((setKey_congr k _ (fun _ => f k) f ih).trans (setKey_id k f))
    | absent => rfl
    | file b => rfl

/-- the trees on which `alter p` takes effect (every proper prefix of `p` is a directory); unlike `parentIsDir`, true
of `[]` -/
def Reach : Path → T → Prop
  | [], _ => True
  | k :: p, .dir f => Reach p (f k)
  | _ :: _, _ => False

theorem get_alter_self (p : Path) (g : T → T) (t : T) (h : Reach p t) : get p (alter p g t) = g (get p t) := by
  induction p generalizing t with
  | nil => rfl
  | cons k p ih =>
    cases t with
    | dir f =>
      show get p (setKey k (alter p g) f k) = _
      rw [setKey_same]
      exact ih (f k) h
    | absent => exact h.elim
    | file b => exact h.elim

theorem reach_of_present {q : Path} {t : T} (h : (get q t).present = true) : Reach q t := by
  induction q generalizing t with
  | nil => trivial
  | cons k q ih =>
    cases t with
    | dir f => exact ih h
    | absent => cases h
    | file b => cases h

theorem reach_of_dir {q : Path} {t : T} {f : Name → T} (h : get q t = .dir f) : Reach q t :=
  reach_of_present (by rw [h]; rfl)

theorem reach_snoc (q : Path) (n : Name) (t : T) (h : statOf (get q t) = .isDir) : Reach (q ++ [n]) t := by
  induction q generalizing t with
  | nil =>
    cases t with
    | dir f => trivial
    | absent => cases h
    | file b => cases h
  | cons k q ih =>
    cases t with
    | dir f => exact ih (f k) h
    | absent => cases h
    | file b => cases h

theorem parentIsDir_snoc (q : Path) (n : Name) (t : T) : parentIsDir (q ++ [n]) t = decide (statOf (get q t) = .isDir) := by
  unfold parentIsDir
  split
  · rename_i h; simp at h
  · simp

theorem ne_nil_of_parentIsDir {p : Path} {t : T} (h : parentIsDir p t = true) : p ≠ [] := by
  rintro rfl; cases h

theorem reach_of_parentIsDir (p : Path) (t : T) (h : parentIsDir p t = true) : Reach p t := by
  obtain ⟨q, n, rfl⟩ := exists_snoc (ne_nil_of_parentIsDir h)
  rw [parentIsDir_snoc, decide_eq_true_eq] at h
  exact reach_snoc q n t h

theorem reach_of_creatable {p : Path} {t : T} (hpar : (get p t).present = false → parentIsDir p t = true) :
    Reach p t := by
  cases hp : (get p t).present with
  | true => exact reach_of_present hp
  | false => exact reach_of_parentIsDir p t (hpar hp)

theorem get_alter_outside (p q : Path) (g : T → T) (t : T) (h : ¬ p <+: q) :
    view (get q (alter p g t)) = view (get q t) ∧ (¬ q <+: p → get q (alter p g t) = get q t) := by
  induction p generalizing q t with
  | nil => exact absurd (List.nil_prefix) h
  | cons k p ih =>
    cases t with
    | dir f =>
      cases q with
      | nil => exact ⟨rfl, fun h2 => absurd List.nil_prefix h2⟩
      | cons k' q =>
        show view (get q (setKey k (alter p g) f k')) = view (get q (f k')) ∧
          (_ → get q (setKey k (alter p g) f k') = get q (f k'))
        by_cases e : k' = k
        · subst e
          rw [setKey_same]
          have := ih q (f k') (fun hp => h (by simpa using hp))
          exact ⟨this.1, fun h2 => this.2 (fun hp => h2 (by simpa using hp))⟩
        · rw [setKey_ne _ _ e]; exact ⟨rfl, fun _ => rfl⟩
    | absent => exact ⟨rfl, fun _ => rfl⟩
    | file b => exact ⟨rfl, fun _ => rfl⟩

theorem get_absent (p : Path) : get p .absent = .absent := by
  cases p <;> rfl

theorem get_emptyDir (p : Path) (h : p ≠ []) : get p (.dir (fun _ => .absent)) = .absent := by
  cases p with
  | nil => exact absurd rfl h
  | cons k p => exact get_absent p

theorem absent_of_notExist {t : T} (h : statOf t = .notExist) : t = .absent := by
  cases t with
  | absent => rfl
  | file b => cases h
  | dir f => cases h

theorem present_of_exists {t : T} (h : statOf t ≠ .notExist) : t.present = true := by
  cases t with
  | absent => exact absurd rfl h
  | file b => rfl
  | dir f => rfl

theorem dir_of_isDir {t : T} (h : statOf t = .isDir) : ∃ f, t = .dir f := by
  cases t with
  | dir f => exact ⟨f, rfl⟩
  | absent => simp [statOf] at h
  | file b => simp [statOf] at h

theorem parentIsDir_alter (p : Path) (g : T → T) (fs : FS) (h : parentIsDir p fs = true) :
    parentIsDir p (alter p g fs) = true := by
  obtain ⟨q, n, rfl⟩ := exists_snoc (ne_nil_of_parentIsDir h)
  rw [parentIsDir_snoc, decide_eq_true_eq] at h
  obtain ⟨f, hf⟩ := dir_of_isDir h
  rw [parentIsDir_snoc, alter_append, get_alter_self q _ fs (reach_of_dir hf), hf]
  rfl

theorem statOf_eq_of_view_eq {a b : T} (h : view a = view b) : statOf a = statOf b := by
  cases a <;> cases b <;> first | rfl | cases h

theorem get_absent_of_no_parent (q : Path) (fs : FS) (hq : q ≠ []) (h : parentIsDir q fs = false) :
    get q fs = .absent := by
  obtain ⟨q, n, rfl⟩ := exists_snoc hq
  rw [parentIsDir_snoc, decide_eq_false_iff_not] at h
  rw [get_append]
  cases hg : get q fs with
  | dir f => exact absurd (by rw [hg]; rfl) h
  | absent => rfl
  | file b => rfl

/-! ## Keys and descriptions -/

/-- an accepted key denotes at least one element -/
theorem rel_ne_nil {k : Key} {rel : List Name} (h : k.rel = some rel) : rel ≠ [] := by
  intro e
  subst e
  cases k with
  | nonstr => simp [Key.rel] at h
  | str cs =>
    cases cs with
    | nil => simp [Key.rel] at h
    | cons c cs =>
      simp only [Key.rel] at h
      -- `Key.rel` maps a cleaned path `[]` (the directory itself) to `none`
      split at h <;> simp_all

/-- the first conjunct of `Spec.valid` mirrors the test `outputValue` makes in `dir` mode; the second implies it -/
theorem Spec.valid_eq_validDir (v : Val) (cur : T) : Spec.valid v cur = Spec.validDir v cur := by
  cases v with
  | data b bs => cases bs <;> rfl
  | _ => rfl

/-! ## Fault-free execution -/

/-- holds only of code run under the empty oracle: the fired flag is kept, so `Runs (stat [0] p) …` is false -/
def Runs {α} (m : M α) (fs : FS) (r : Res α) (fs' : FS) : Prop :=
  ∀ n b, ∃ n', m ⟨fs, n, b⟩ = (r, ⟨fs', n', b⟩)

theorem Runs.pure {α} (a : α) (fs : FS) : Runs (Pure.pure a : M α) fs (.ok a) fs :=
  fun n _ => ⟨n, rfl⟩

theorem Runs.fail {α} (e : Err) (fs : FS) : Runs (M.fail e : M α) fs (.err e) fs :=
  fun n _ => ⟨n, rfl⟩

theorem Runs.lift {α} (r : Res α) (fs : FS) : Runs (M.lift r) fs r fs := by
  cases r with
  | ok a => exact fun n _ => ⟨n, rfl⟩
  | err e => exact fun n _ => ⟨n, rfl⟩

theorem M.bind_of_ok {α β} {m : M α} {f : α → M β} {s s' : St} {a : α} (h : m s = (.ok a, s')) :
    (m >>= f) s = f a s' := by
  show M.bind m f s = _
  unfold M.bind
  rw [h]

theorem M.bind_of_err {α β} {m : M α} {f : α → M β} {s s' : St} {e : Err} (h : m s = (.err e, s')) :
    (m >>= f) s = (.err e, s') := by
  show M.bind m f s = _
  unfold M.bind
  rw [h]

theorem Runs.bind_ok {α β} {m : M α} {f : α → M β} {fs fs1 fs2 : FS} {a : α} {r : Res β}
    (h1 : Runs m fs (.ok a) fs1) (h2 : Runs (f a) fs1 r fs2) : Runs (m >>= f) fs r fs2 := by
  intro n b
  obtain ⟨n1, e1⟩ := h1 n b
  obtain ⟨n2, e2⟩ := h2 n1 b
  exact ⟨n2, by rw [M.bind_of_ok e1, e2]⟩

theorem Runs.bind_err {α β} {m : M α} {f : α → M β} {fs fs1 : FS} {e : Err}
    (h1 : Runs m fs (.err e) fs1) : Runs (m >>= f) fs (.err e) fs1 := by
  intro n b
  obtain ⟨n1, e1⟩ := h1 n b
  exact ⟨n1, M.bind_of_err e1⟩

theorem Runs.fsop {α} (act : FS → Res α × FS) (fs : FS) : Runs (fsop [] act) fs (act fs).1 (act fs).2 :=
  fun n _ => ⟨n + 1, by simp [C19.fsop]⟩

theorem Runs.det {α} {m : M α} {fs : FS} {r r' : Res α} {fs' fs'' : FS}
    (h : Runs m fs r fs') (h' : Runs m fs r' fs'') : r = r' ∧ fs' = fs'' := by
  obtain ⟨n1, e1⟩ := h 0 false
  obtain ⟨n2, e2⟩ := h' 0 false
  rw [e1] at e2
  simp only [Prod.mk.injEq, St.mk.injEq] at e2
  exact ⟨e2.1, e2.2.1⟩

theorem Impl.run_of_runs {v : Val} {mode : Impl.Mode} {arg : Path} {fs fs' : FS} {r : Res Unit}
    (h : Runs (Impl.outputValue [] v mode arg) fs r fs') :
    (Impl.run [] v mode arg fs).1 = r ∧ (Impl.run [] v mode arg fs).2.fs = fs' := by
  obtain ⟨n', e⟩ := h 0 false
  simp [Impl.run, e]

theorem Runs.onEmptyFs {m : M Unit} {r : Res Unit} {fs' : FS} (fs : FS)
    (h : Runs m (.dir (fun _ => .absent)) r fs') : Runs (M.onEmptyFs m) fs r fs := by
  intro n b
  obtain ⟨n1, e1⟩ := h 0 false
  exact ⟨n, by simp [M.onEmptyFs, e1]⟩

theorem Runs.withClose {body close : M Unit} {fs fs1 fs2 : FS} {r c : Res Unit}
    (h1 : Runs body fs r fs1) (h2 : Runs close fs1 c fs2) :
    Runs (M.withClose body close) fs (M.closeRes r c) fs2 := by
  intro n b
  obtain ⟨n1, e1⟩ := h1 n b
  obtain ⟨n2, e2⟩ := h2 n1 b
  exact ⟨n2, by simp [M.withClose, e1, e2]⟩

/-- `ok` when `b`, otherwise refused as invalid -/
def okIf (b : Bool) : Res Unit := if b then .ok () else .err .invalid

@[simp] theorem okIf_true : okIf true = .ok () := rfl
@[simp] theorem okIf_false : okIf false = .err .invalid := rfl

/-- two checks that leave the file system alone, in sequence -/
theorem Runs.seq_okIf {m m' : M Unit} {fs : FS} {a b : Bool}
    (h1 : Runs m fs (okIf a) fs) (h2 : Runs m' fs (okIf b) fs) :
    Runs (m >>= fun _ => m') fs (okIf (a && b)) fs := by
  cases a with
  | true => simpa using Runs.bind_ok h1 h2
  | false => simpa using Runs.bind_err h1

theorem Runs.stat_bind {β} (p : Path) (f : StatRes → M β) (fs : FS) {r : Res β} {fs' : FS}
    (h : Runs (f (statOf (get p fs))) fs r fs') : Runs (stat [] p >>= f) fs r fs' :=
  Runs.bind_ok (Runs.fsop _ fs) h

/-- Stat, then one way with nothing at the path and another with something there (`os.IsNotExist(err)`) -/
theorem Runs.stat_exists {β} {p : Path} {a b : M β} {fs : FS} {r : Res β} {fs' : FS}
    (habs : get p fs = .absent → Runs a fs r fs') (hex : (get p fs).present = true → Runs b fs r fs') :
    Runs (do let st ← stat [] p; if st = .notExist then a else b) fs r fs' := by
  apply Runs.stat_bind
  by_cases hs : statOf (get p fs) = .notExist
  · rw [if_pos hs]; exact habs (absent_of_notExist hs)
  · rw [if_neg hs]; exact hex (present_of_exists hs)

theorem Runs.create_ok (p : Path) (fs : FS) (h1 : statOf (get p fs) ≠ .isDir) (h2 : parentIsDir p fs = true) :
    Runs (create [] p) fs (.ok ()) (alter p (fun _ => .file []) fs) := by
  have h : Runs (create [] p) fs _ _ := Runs.fsop _ fs
  simpa [h1, h2] using h

theorem Runs.create_no_parent (p : Path) (fs : FS) (h : parentIsDir p fs = false) :
    Runs (create [] p) fs (.err .io) fs := by
  have h' : Runs (create [] p) fs _ _ := Runs.fsop _ fs
  simpa [h] using h'

theorem Runs.mkdir_ok (p : Path) (fs : FS) (h1 : (get p fs).present = false) (h2 : parentIsDir p fs = true) :
    Runs (mkdir [] p) fs (.ok ()) (alter p (fun _ => .dir (fun _ => .absent)) fs) := by
  have h : Runs (mkdir [] p) fs _ _ := Runs.fsop _ fs
  simpa [h1, h2] using h

theorem Runs.mkdir_no_parent (p : Path) (fs : FS) (h : parentIsDir p fs = false) :
    Runs (mkdir [] p) fs (.err .io) fs := by
  have h' : Runs (mkdir [] p) fs _ _ := Runs.fsop _ fs
  simpa [h] using h'

theorem Runs.write_ok (p : Path) (bs : Bytes) (fs : FS) :
    Runs (write [] p bs) fs (.ok ()) (alter p (fun _ => .file bs) fs) := Runs.fsop _ fs
theorem Runs.removeAll_ok (p : Path) (fs : FS) :
    Runs (removeAll [] p) fs (.ok ()) (alter p (fun _ => .absent) fs) := Runs.fsop _ fs

/-! ## The leaves of the code: `outputFile`, `dirHead` -/
namespace Impl
open Spec

theorem dirHead_of_dir {p : Path} {fs : FS} {f : Name → T} (hg : get p fs = .dir f) (dry : Bool) :
    Runs (dirHead [] p dry) fs (.ok ()) fs := by
  unfold dirHead
  apply Runs.stat_bind
  rw [hg]
  exact Runs.pure () fs

/-! ### The validation pass -/

theorem dry_outputFile (v : Val) (p : Path) (fs : FS) :
    Runs (outputFile [] v p true) fs (okIf ((bytesOf v).isSome && notDir (get p fs))) fs := by
  unfold outputFile
  cases bytesOf v with
  | none => exact Runs.fail _ fs
  | some bs =>
    apply Runs.stat_bind
    cases get p fs with
    | absent => exact Runs.pure () fs
    | file b => exact Runs.pure () fs
    | dir f => exact Runs.fail _ fs

theorem dry_dirHead (p : Path) (fs : FS) :
    Runs (dirHead [] p true) fs (okIf (notFile (get p fs))) fs := by
  unfold dirHead
  apply Runs.stat_bind
  cases get p fs with
  | absent => exact Runs.pure () fs
  | file b => exact Runs.fail _ fs
  | dir f => exact Runs.pure () fs

/-! ### The writing pass -/

theorem real_outputFile (v : Val) (bs : Bytes) (p : Path) (fs : FS) (hb : bytesOf v = some bs)
    (hnd : notDir (get p fs) = true) (hpar : parentIsDir p fs = true) :
    Runs (outputFile [] v p false) fs (.ok ()) (alter p (fun _ => .file bs) fs) := by
  have hs : statOf (get p fs) ≠ .isDir := by simpa [notDir] using hnd
  unfold outputFile
  rw [hb]
  apply Runs.stat_bind
  simp only [hs, if_false, Bool.false_eq_true]
  have hw : Runs (write [] p bs) (alter p (fun _ => .file []) fs) (.ok ()) (alter p (fun _ => .file bs) fs) := by
    have := Runs.write_ok p bs (alter p (fun _ => .file []) fs)
    rwa [alter_alter] at this
  have hbody : Runs (do write [] p bs; sync []) (alter p (fun _ => .file []) fs) (.ok ())
      (alter p (fun _ => .file bs) fs) := Runs.bind_ok hw (Runs.fsop _ _)
  exact Runs.bind_ok (Runs.create_ok p fs hs hpar) (Runs.withClose hbody (Runs.fsop _ _))

theorem real_dirHead (p : Path) (fs : FS) (hnf : notFile (get p fs) = true)
    (hpar : (get p fs).present = false → parentIsDir p fs = true) :
    Runs (dirHead [] p false) fs (.ok ()) (alter p (fun _ => .dir (children (get p fs))) fs) := by
  unfold dirHead
  apply Runs.stat_bind
  cases hg : get p fs with
  | absent => exact Runs.mkdir_ok p fs (by rw [hg]; rfl) (hpar (by rw [hg]; rfl))
  | file b => rw [hg] at hnf; cases hnf
  | dir f =>
    show Runs _ fs _ (alter p (fun _ => T.dir f) fs)
    rw [alter_of_get hg]
    exact Runs.pure () fs

/-! ### Where the writing pass refuses -/

theorem outputFile_no_parent (v : Val) (bs : Bytes) (q : Path) (fs : FS) (hb : bytesOf v = some bs)
    (hs : statOf (get q fs) ≠ .isDir) (h : parentIsDir q fs = false) :
    Runs (outputFile [] v q false) fs (.err .io) fs := by
  unfold outputFile
  rw [hb]
  apply Runs.stat_bind
  simp only [hs, if_false, Bool.false_eq_true]
  exact Runs.bind_err (Runs.create_no_parent q fs h)

theorem outputFile_refuses (v : Val) (p : Path) (fs : FS)
    (h : bytesOf v = none ∨ statOf (get p fs) = .isDir ∨ parentIsDir p fs = false) :
    ∃ e, Runs (outputFile [] v p false) fs (.err e) fs := by
  cases hb : bytesOf v with
  | none => exact ⟨.invalid, by unfold outputFile; rw [hb]; exact Runs.fail _ fs⟩
  | some bs =>
    by_cases hs : statOf (get p fs) = .isDir
    · refine ⟨.invalid, ?_⟩
      unfold outputFile
      rw [hb]
      exact Runs.stat_bind _ _ _ (by rw [if_pos hs]; exact Runs.fail _ fs)
    · have hp : parentIsDir p fs = false := by
        rcases h with h | h | h
        · rw [hb] at h; cases h
        · exact absurd h hs
        · exact h
      exact ⟨.io, outputFile_no_parent v bs p fs hb hs hp⟩

theorem dirHead_no_parent (q : Path) (fs : FS) (hab : get q fs = .absent) (h : parentIsDir q fs = false) :
    Runs (dirHead [] q false) fs (.err .io) fs := by
  unfold dirHead
  apply Runs.stat_bind
  rw [hab]
  exact Runs.mkdir_no_parent q fs h

/-! ## `applyIfExistsConfig`, one value of `ifExists` at a time

The definition tests `st = .notExist && conf ≠ .remove` on the result `st` of the Stat: for a given `conf` a
test on `st` alone, hence the cases on `st` under the bind. -/

/-- with no `file` field both branches of `merge` after the Stat are `applyFilesFields` -/
theorem applyIfExistsConfig_merge (φ : List Nat) (t : TupF) (p : Path) (dry : Bool) :
    applyIfExistsConfig φ t .merge p dry =
      if t.fileF.isSome then M.fail .invalid else (do let _ ← stat φ p; applyFilesFields φ t p dry) := by
  obtain ⟨ifx, dF, fF, out⟩ := t
  cases fF with
  | some f => rfl
  | none => cases dF <;> exact congrArg (stat φ p >>= ·) (funext fun st => by cases st <;> rfl)

theorem applyIfExistsConfig_remove (φ : List Nat) (t : TupF) (p : Path) (dry : Bool) :
    applyIfExistsConfig φ t .remove p dry = (do
      let _ ← stat φ p
      M.lift (checkNotDirAndNotFileField t)
      if dry then pure () else removeAll φ p) :=
  congrArg (stat φ p >>= ·) (funext fun st => by cases st <;> rfl)

theorem applyIfExistsConfig_replace (φ : List Nat) (t : TupF) (p : Path) (dry : Bool) :
    applyIfExistsConfig φ t .replace p dry = (do
      let st ← stat φ p
      if st = .notExist then applyFilesFields φ t p dry
      else do
        M.lift (checkDirXorFileField t)
        if dry then M.onEmptyFs (applyFilesFields [] t p true)
        else do removeAll φ p; applyFilesFields φ t p dry) :=
  congrArg (stat φ p >>= ·) (funext fun st => by cases st <;> rfl)

theorem applyIfExistsConfig_ignore (φ : List Nat) (t : TupF) (p : Path) (dry : Bool) :
    applyIfExistsConfig φ t .ignore p dry = (do
      let st ← stat φ p
      if st = .notExist then applyFilesFields φ t p dry
      else if dry then M.onEmptyFs (applyFilesFields [] t p true) else pure ()) :=
  congrArg (stat φ p >>= ·) (funext fun st => by cases st <;> rfl)

theorem applyIfExistsConfig_fail (φ : List Nat) (t : TupF) (p : Path) (dry : Bool) :
    applyIfExistsConfig φ t .fail p dry = (do
      let st ← stat φ p
      if st = .notExist then applyFilesFields φ t p dry else M.fail .invalid) :=
  congrArg (stat φ p >>= ·) (funext fun st => by cases st <;> rfl)

theorem checkNotDirAndNotFileField_eq (t : TupF) :
    checkNotDirAndNotFileField t = okIf (t.dirF.isNone && t.fileF.isNone) := by
  unfold checkNotDirAndNotFileField
  cases t.dirF <;> cases t.fileF <;> rfl

theorem checkDirXorFileField_eq (t : TupF) :
    checkDirXorFileField t = okIf (!(t.dirF.isSome == t.fileF.isSome)) := by
  unfold checkDirXorFileField
  cases t.dirF.isSome == t.fileF.isSome <;> rfl

end Impl

end Arrai.C19
