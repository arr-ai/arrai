/-
  C19 — `--out` writes exactly the described tree, or changes nothing.

  * file system : a tree (`T = absent | file bytes | dir (Name → T)`), addressed by paths, with
                  exactly the operations pkg/arrai/out.go uses (Stat, Mkdir, Create, Write, Sync, Close,
                  RemoveAll).  Every operation is one numbered call; the calls whose index is in the
                  fault oracle `φ` fail without effect.  Mkdir/Create have their POSIX preconditions
                  (parent is a directory, Mkdir target absent, Create target not a directory).
  * `Impl`      : transliteration of outputValue / outputTupleDir / configureOutput /
                  applyIfExistsConfig / applyFilesFields / outputFile / getDirField / entryPath
                  (as repaired in /repo: same branches, same order of tests).
  * `Spec`      : `Spec.valid` (decidable) and `Spec.apply` by structural recursion on the description.
  Core-only.
-/
import Arrai.Core.Canon

namespace Arrai.C19

/-! ## File-system trees -/

abbrev Name := List Nat          -- the bytes of one path element
abbrev Bytes := List Nat

/-- what is at a path: nothing, a file, or a directory (a finite map given as a function from
element names; equality of trees is therefore extensional: same files, same bytes, same directories) -/
inductive T where
  | absent
  | file (b : Bytes)
  | dir (f : Name → T)
  deriving Inhabited

abbrev Path := List Name
/-- a file system (or the part of it below some path) -/
abbrev FS := T

def T.present : T → Bool
  | .absent => false
  | _ => true

def children : T → Name → T
  | .dir f => f
  | _ => fun _ => .absent

/-- replace what `k` maps to by `g` of it -/
def setKey (k : Name) (g : T → T) (f : Name → T) : Name → T :=
  fun k' => if k' = k then g (f k) else f k'

/-- what is at path `p` below `cur` -/
def get : Path → T → T
  | [], cur => cur
  | k :: p, .dir f => get p (f k)
  | _ :: _, _ => .absent

/-- replace what is at path `p` by `g` of it; no effect when the parent of `p` is not a directory -/
def alter : Path → (T → T) → T → T
  | [], g, cur => g cur
  | k :: p, g, .dir f => .dir (setKey k (alter p g) f)
  | _ :: _, _, cur => cur

/-- a directory given by an association list (first match wins) -/
def lookupL (k : Name) : List (Name × T) → T
  | [] => .absent
  | (k', v) :: r => if k' = k then v else lookupL k r
def T.ofList (es : List (Name × T)) : T := .dir (fun k => lookupL k es)

inductive StatRes | notExist | isFile | isDir
  deriving DecidableEq, Repr

def statOf : T → StatRes
  | .absent => .notExist
  | .file _ => .isFile
  | .dir _ => .isDir

/-- the observable content of a node: `none` absent, `some none` a directory, `some (some b)` a file -/
def view : T → Option (Option Bytes)
  | .absent => none
  | .dir _ => some none
  | .file b => some (some b)

def parentIsDir (p : Path) (fs : FS) : Bool :=
  match p with
  | [] => false
  | _ :: _ => statOf (get p.dropLast fs) = .isDir

/-! ## The state monad of file-system calls with a fault oracle -/

inductive Err | invalid | io
  deriving DecidableEq, Repr

inductive Res (α : Type) where
  | ok (a : α)
  | err (e : Err)
  deriving DecidableEq

def Res.isOk {α} : Res α → Bool
  | .ok _ => true
  | .err _ => false

structure St where
  fs : FS
  n : Nat          -- file-system calls made so far
  fired : Bool     -- an injected fault has fired

def M (α : Type) := St → Res α × St

namespace M
def pure {α} (a : α) : M α := fun s => (.ok a, s)
def bind {α β} (m : M α) (f : α → M β) : M β := fun s =>
  match m s with
  | (.ok a, s') => f a s'
  | (.err e, s') => (.err e, s')
def fail {α} (e : Err) : M α := fun s => (.err e, s)
def lift {α} : Res α → M α
  | .ok a => pure a
  | .err e => fail e
instance : Monad M where
  pure := M.pure
  bind := M.bind
/-- Go's `defer f.Close()` that reports the Close error when the body succeeded -/
def closeRes (r c : Res Unit) : Res Unit :=
  match r with
  | .err e => .err e
  | .ok _ => c
def withClose (body close : M Unit) : M Unit := fun s =>
  match body s with
  | (r, s1) =>
    match close s1 with
    | (c, s2) => (closeRes r c, s2)
/-- run `m` against a fresh, empty, fault-free file system and keep only its result
(`afero.NewMemMapFs()` in the dry pass of `replace`/`ignore`) -/
def onEmptyFs (m : M Unit) : M Unit := fun s =>
  ((m { fs := .dir (fun _ => .absent), n := 0, fired := false }).1, s)
end M

/-- one file-system call: fails without effect when its index is in `φ` -/
def fsop {α} (φ : List Nat) (act : FS → Res α × FS) : M α := fun s =>
  if φ.contains s.n then (.err .io, { s with n := s.n + 1, fired := true })
  else ((act s.fs).1, { s with n := s.n + 1, fs := (act s.fs).2 })

def stat (φ : List Nat) (p : Path) : M StatRes := fsop φ (fun fs => (.ok (statOf (get p fs)), fs))

def mkdir (φ : List Nat) (p : Path) : M Unit := fsop φ (fun fs =>
  if (get p fs).present || !parentIsDir p fs then (.err .io, fs)
  else (.ok (), alter p (fun _ => .dir (fun _ => .absent)) fs))

def create (φ : List Nat) (p : Path) : M Unit := fsop φ (fun fs =>
  if statOf (get p fs) = .isDir || !parentIsDir p fs then (.err .io, fs)
  else (.ok (), alter p (fun _ => .file []) fs))

/-- `f.Write(bytes)` on the handle `Create` returned for `p` -/
def write (φ : List Nat) (p : Path) (bs : Bytes) : M Unit :=
  fsop φ (fun fs => (.ok (), alter p (fun _ => .file bs) fs))
def sync (φ : List Nat) : M Unit := fsop φ (fun fs => (.ok (), fs))
def close (φ : List Nat) : M Unit := fsop φ (fun fs => (.ok (), fs))
def removeAll (φ : List Nat) (p : Path) : M Unit := fsop φ (fun fs => (.ok (), alter p (fun _ => .absent) fs))

/-! ## Output descriptions (the arr.ai result value, by dynamic Go type) -/

inductive IfEx | merge | remove | replace | ignore | fail | invalidStr | notStr
  deriving DecidableEq, Repr, Inhabited

inductive Key where
  | str (cs : List Nat)     -- a string key (`str []` is the empty set: not a rel.String)
  | nonstr                  -- any other key
  deriving DecidableEq, Repr, Inhabited

inductive Val where
  | data (isBytes : Bool) (bs : Bytes)   -- rel.String / rel.Bytes; with `bs = []` the empty set
  | dict (es : List (Key × Val))         -- rel.Dict; `dict []` is the empty set
  | tup (ifx : Option IfEx) (dir : Option Val) (file : Option Val)   -- rel.Tuple (fields ifExists, dir, file)
  | other (isSet : Bool)                 -- another non-empty set (array, true, …) / a number or function
  deriving Inhabited

/-! ### `entryPath`: `path.Join(".", key)` and the test that it stays below the directory -/

def splitSlash : List Nat → List Name
  | [] => [[]]
  | c :: cs =>
    if c = 47 then [] :: splitSlash cs
    else match splitSlash cs with
      | [] => [[c]]
      | w :: ws => (c :: w) :: ws

/-- `path.Clean` on the elements: `none` once the path has left the starting directory -/
def cleanStep (st : Option (List Name)) (c : Name) : Option (List Name) :=
  match st with
  | none => none
  | some st =>
    if c = [] || c = [46] then some st
    else if c = [46, 46] then (if st = [] then none else some st.dropLast)
    else some (st ++ [c])

/-- the cleaned relative path a key denotes, if it is a string naming something below the directory -/
def Key.rel : Key → Option (List Name)
  | .nonstr => none
  | .str [] => none
  | .str cs =>
    match (splitSlash cs).foldl cleanStep (some []) with
    | some [] => none
    | some r => some r
    | none => none

/-! ## Spec -/
namespace Spec

/-- bytes of a file description: string, byte array or the empty set -/
def bytesOf : Val → Option Bytes
  | .data _ bs => some bs
  | .dict [] => some []
  | _ => none

def isDictOrEmpty : Val → Bool
  | .dict _ => true
  | .data _ [] => true
  | _ => false

/-- apply `g` at the relative path `rel` inside a directory; missing intermediate directories appear -/
def alterRel : List Name → (T → T) → (Name → T) → (Name → T)
  | [], _, ch => ch
  | [n], g, ch => setKey n g ch
  | n :: m :: rest, g, ch => setKey n (fun cur => .dir (alterRel (m :: rest) g (children cur))) ch

/-- `g` holds of what is at `rel`, and no intermediate element is a file -/
def validRel : List Name → (T → Bool) → (Name → T) → Bool
  | [], _, _ => false
  | [n], g, ch => g (ch n)
  | n :: m :: rest, g, ch =>
    match ch n with
    | .file _ => false
    | cur => validRel (m :: rest) g (children cur)

def notDir (cur : T) : Bool := statOf cur != .isDir
def notFile (cur : T) : Bool := statOf cur != .isFile

mutual
/-- the description `v` of a directory (a dict or the empty set) is acceptable over `cur` -/
def validDir : Val → T → Bool
  | .dict es, cur => notFile cur && validEntries es (children cur)
  | .data _ [], cur => notFile cur
  | _, _ => false
/-- every entry has an acceptable key and is acceptable over what its key denotes -/
def validEntries : List (Key × Val) → (Name → T) → Bool
  | [], _ => true
  | (k, v) :: r, ch =>
    (match k.rel with
     | some rel => validRel rel (validEntry v) ch
     | none => false) && validEntries r ch
/-- exactly one of the fields dir / file, and it is acceptable over `c` -/
def validContent : Option Val → Option Val → T → Bool
  | some d, none, c => validDir d c
  | none, some f, c => (bytesOf f).isSome && notDir c
  | _, _, _ => false
/-- the entry `v` is acceptable over `cur` (what is at its path now) -/
def validEntry : Val → T → Bool
  | .data _ _, cur => notDir cur
  | .dict [], cur => notDir cur
  | .dict (e :: es), cur => notFile cur && validEntries (e :: es) (children cur)
  | .other _, _ => false
  | .tup ifx dirF fileF, cur =>
    match ifx with
    | none => validContent dirF fileF cur
    | some .merge => fileF.isNone && validContent dirF fileF cur
    | some .remove => dirF.isNone && fileF.isNone
    | some .replace => validContent dirF fileF .absent
    | some .ignore => validContent dirF fileF .absent
    | some .fail => !cur.present && validContent dirF fileF .absent
    | some .invalidStr => false
    | some .notStr => false
end

mutual
/-- the directory a directory description produces over `cur` (existing content is kept: merge) -/
def applyDir : Val → T → T
  | .dict es, cur => .dir (applyEntries es (children cur))
  | .data _ [], cur => .dir (children cur)
  | _, cur => cur
def applyEntries : List (Key × Val) → (Name → T) → (Name → T)
  | [], ch => ch
  | (k, v) :: r, ch =>
    applyEntries r (match k.rel with
      | some rel => alterRel rel (applyEntry v) ch
      | none => ch)
/-- what the field dir (or file) of a config tuple leaves over `c` -/
def applyContent : Option Val → Option Val → T → T
  | some d, none, c => applyDir d c
  | none, some f, _ => .file ((bytesOf f).getD [])
  | _, _, c => c
/-- what an entry leaves at its path: plain entries overwrite files and merge into directories;
`ifExists` = ignore keeps, replace substitutes, merge overlays, remove deletes, fail refuses -/
def applyEntry : Val → T → T
  | .data _ bs, _ => .file bs
  | .dict [], _ => .file []
  | .dict (e :: es), cur => .dir (applyEntries (e :: es) (children cur))
  | .other _, cur => cur
  | .tup ifx dirF fileF, cur =>
    match ifx with
    | none => applyContent dirF fileF cur
    | some .merge => applyContent dirF fileF cur
    | some .remove => .absent
    | some .replace => applyContent dirF fileF .absent
    | some .ignore => if cur.present then cur else applyContent dirF fileF .absent
    | some .fail => applyContent dirF fileF .absent
    | some .invalidStr => cur
    | some .notStr => cur
end

/-- `--out=dir:PATH`: the result must be a dict (or empty) and acceptable over what is at PATH -/
def valid (v : Val) (cur : T) : Bool := isDictOrEmpty v && validDir v cur
def apply (v : Val) (cur : T) : T := applyDir v cur

end Spec

/-! ## Impl: pkg/arrai/out.go -/
namespace Impl

/-- `getDirField`: a dict or the empty set -/
def getDirField : Val → Res (List (Key × Val))
  | .dict es => .ok es
  | .data _ [] => .ok []
  | _ => .err .invalid

/-- a config tuple as the non-recursive functions see it; `dirOut` is `outputTupleDir` applied to
the `dir` field (what `applyFilesFields` / `applyIfExistsConfig` call on it) -/
structure TupF where
  ifx : Option IfEx
  dirF : Option Val
  fileF : Option Val
  dirOut : List Nat → Path → Bool → M Unit

def checkNotDirAndNotFileField (t : TupF) : Res Unit :=
  if t.dirF.isSome || t.fileF.isSome then .err .invalid else .ok ()

def checkDirXorFileField (t : TupF) : Res Unit :=
  if t.dirF.isSome == t.fileF.isSome then .err .invalid else .ok ()

/-- `outputFile` -/
def outputFile (φ : List Nat) (content : Val) (p : Path) (dry : Bool) : M Unit :=
  match Spec.bytesOf content with
  | none => M.fail .invalid
  | some bytes => do
    let st ← stat φ p
    if st = .isDir then M.fail .invalid
    else if dry then pure ()
    else do
      create φ p
      M.withClose (do write φ p bytes; sync φ) (close φ)

/-- `applyFilesFields` -/
def applyFilesFields (φ : List Nat) (t : TupF) (p : Path) (dry : Bool) : M Unit := do
  M.lift (checkDirXorFileField t)
  match t.dirF with
  | some d => do
    let _ ← M.lift (getDirField d)
    t.dirOut φ p dry
  | none =>
    match t.fileF with
    | some f => outputFile φ f p dry
    | none => M.fail .invalid

/-- `applyIfExistsConfig` (`conf` = the `ifExists` field) -/
def applyIfExistsConfig (φ : List Nat) (t : TupF) (conf : IfEx) (p : Path) (dry : Bool) : M Unit :=
  if conf = .notStr || conf = .invalidStr then M.fail .invalid
  else if conf = .merge && t.fileF.isSome then M.fail .invalid
  else do
    let st ← stat φ p
    if st = .notExist && conf ≠ .remove then applyFilesFields φ t p dry
    else
      match conf with
      | .remove => do
        M.lift (checkNotDirAndNotFileField t)
        if dry then pure () else removeAll φ p
      | .replace => do
        M.lift (checkDirXorFileField t)
        if dry then M.onEmptyFs (applyFilesFields [] t p true)
        else do
          removeAll φ p
          applyFilesFields φ t p dry
      | .merge =>
        match t.dirF with
        | some d => do
          let _ ← M.lift (getDirField d)
          t.dirOut φ p dry
        | none => M.fail .invalid
      | .ignore => if dry then M.onEmptyFs (applyFilesFields [] t p true) else pure ()
      | .fail => M.fail .invalid
      | _ => M.fail .invalid

/-- `configureOutput` -/
def configureOutput (φ : List Nat) (t : TupF) (p : Path) (dry : Bool) : M Unit :=
  match t.ifx with
  | some conf => applyIfExistsConfig φ t conf p dry
  | none => applyFilesFields φ t p dry

/-- the head of `outputTupleDir`: Stat, Mkdir unless dry, refuse a file -/
def dirHead (φ : List Nat) (dir : Path) (dry : Bool) : M Unit := do
  let st ← stat φ dir
  match st with
  | .notExist => if dry then pure () else mkdir φ dir
  | .isFile => M.fail .invalid
  | .isDir => pure ()

mutual
/-- `outputTupleDir` -/
def outputTupleDir : Val → List Nat → Path → Bool → M Unit
  | .dict es, φ, dir, dry => do dirHead φ dir dry; outputEntries es φ dir dry
  | .data _ [], φ, dir, dry => dirHead φ dir dry
  | _, _, _, _ => M.fail .invalid
/-- the loop over the dict entries -/
def outputEntries : List (Key × Val) → List Nat → Path → Bool → M Unit
  | [], _, _, _ => pure ()
  | (k, v) :: r, φ, dir, dry =>
    match k.rel with
    | none => M.fail .invalid
    | some rel => do outputEntry v φ (dir ++ rel) dry; outputEntries r φ dir dry
/-- the type switch on an entry's value (`case rel.Dict` is `outputTupleDir` of it, inlined) -/
def outputEntry : Val → List Nat → Path → Bool → M Unit
  | .tup ifx dirF fileF, φ, p, dry =>
    configureOutput φ
      { ifx := ifx, dirF := dirF, fileF := fileF,
        dirOut := match dirF with
          | some d => outputTupleDir d
          | none => fun _ _ _ => M.fail .invalid } p dry
  | .dict (e :: es), φ, p, dry => do dirHead φ p dry; outputEntries (e :: es) φ p dry
  | .dict [], φ, p, dry => outputFile φ (.dict []) p dry
  | .data b bs, φ, p, dry => outputFile φ (.data b bs) p dry
  | .other _, _, _, _ => M.fail .invalid
end

inductive Mode | file | dir | bad
  deriving DecidableEq, Repr, Inhabited

/-- `outputValue` after the flag has been split into mode and path -/
def outputValue (φ : List Nat) (v : Val) (mode : Mode) (arg : Path) : M Unit :=
  match mode with
  | .file => outputFile φ v arg false
  | .dir =>
    if Spec.isDictOrEmpty v then do
      outputTupleDir v φ arg true
      outputTupleDir v φ arg false
    else M.fail .invalid
  | .bad => M.fail .invalid

/-- run from a file system with no call made yet -/
def run (φ : List Nat) (v : Val) (mode : Mode) (arg : Path) (fs : FS) : Res Unit × St :=
  outputValue φ v mode arg { fs := fs, n := 0, fired := false }

end Impl

/-! ## Plain descriptions: a sufficient condition for being outside the class of Exact.lean -/

/-- the element names of the keys that denote a single element -/
def namesOf : List (Key × Val) → List Name
  | [] => []
  | (k, _) :: r =>
    match k.rel with
    | some [n] => n :: namesOf r
    | _ => namesOf r

def keyPlain (k : Key) : Bool :=
  match k.rel with
  | none => true
  | some [_] => true
  | some _ => false

-- `Val.plain`: keys that are refused, or denote a single element; sibling elements pairwise distinct
mutual
def Val.plain : Val → Bool
  | .dict es => plainEntries es
  | .tup _ dirF fileF =>
    (match dirF with | some d => d.plain | none => true) &&
    (match fileF with | some f => f.plain | none => true)
  | _ => true
def plainEntries : List (Key × Val) → Bool
  | [] => true
  | (k, v) :: r =>
    keyPlain k && v.plain &&
    (match k.rel with | some [n] => !(namesOf r).contains n | _ => true) && plainEntries r
end

end Arrai.C19
