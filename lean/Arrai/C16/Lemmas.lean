/-
  C16 — helper lemmas (core Lean only): the string pipeline `resolve` is its factored form on components
  (`resolve_dot_eq`, `resolve_root_eq`, failures included), what a successful import reads (`resolve_dot`,
  `resolve_root`, `resolve_confined`), and `findRootFromModule` finds the nearest sentinel (`findRootUp_eq_some_iff`).
-/
import Arrai.C16.Model
import Arrai.Core.ListLemmas

namespace Arrai.C16
open Impl Impl.Strs Impl.Path Spec

/-! ## Part A — strings -/

theorem hasPrefix_iff (s p : Str) : hasPrefix s p = true ↔ p <+: s := by
  fun_induction hasPrefix s p with
  | case1 => simp
  | case2 => simp
  | case3 c s p ih => simp [List.cons_prefix_cons, ih]
  | case4 c s d p h => simp [List.cons_prefix_cons, Ne.symm h]

/-- `strings.ReplaceAll(s, "../", "")` as a direct scan -/
def removeDDS : Str → Str
  | '.' :: '.' :: '/' :: r => removeDDS r
  | c :: r => c :: removeDDS r
  | [] => []

theorem replaceAll_dds (s : Str) : replaceAll s ['.', '.', '/'] [] = removeDDS s := by
  show replaceGo ['.', '.', '/'] [] 0 s = removeDDS s
  fun_induction removeDDS s with
  | case1 r ih => simp [replaceGo, hasPrefix, ih]
  | case2 c r h ih =>
    have hp : hasPrefix (c :: r) ['.', '.', '/'] = false := by
      rw [Bool.eq_false_iff, Ne, hasPrefix_iff]
      rintro ⟨t, ht⟩
      injection ht with h1 h2
      exact h t h1.symm h2.symm
    simp [replaceGo, hp, ih]
  | case3 => rfl

theorem splitSlash_ne_nil (s : Str) : splitSlash s ≠ [] := by
  cases s with
  | nil => simp [splitSlash]
  | cons c r =>
    rw [splitSlash]
    split
    · simp
    · split <;> simp

theorem splitSlash_cons (c : Char) (r : Str) : ∃ h t, splitSlash r = h :: t ∧
    splitSlash (c :: r) = if c = '/' then [] :: h :: t else (c :: h) :: t := by
  cases e : splitSlash r with
  | nil => exact absurd e (splitSlash_ne_nil r)
  | cons h t => exact ⟨h, t, rfl, by simp only [splitSlash, e]⟩

theorem splitSlash_append_slash (a b : Str) : splitSlash (a ++ '/' :: b) = splitSlash a ++ splitSlash b := by
  induction a with
  | nil => simp [splitSlash]
  | cons c a ih =>
    obtain ⟨h, t, hr, e⟩ := splitSlash_cons c a
    obtain ⟨h', t', hr', e'⟩ := splitSlash_cons c (a ++ '/' :: b)
    rw [ih, hr] at hr'
    injection hr' with h1 h2
    rw [List.cons_append, e, e', ← h1, ← h2]
    split <;> rfl

theorem splitSlash_noSlash_append (p r : Str) (hp : '/' ∉ p) :
    ∃ h t, splitSlash r = h :: t ∧ splitSlash (p ++ r) = (p ++ h) :: t := by
  induction p with
  | nil =>
    obtain ⟨h, t, e⟩ := List.exists_cons_of_ne_nil (splitSlash_ne_nil r)
    exact ⟨h, t, e, e⟩
  | cons x p ih =>
    obtain ⟨h, t, e, e'⟩ := ih (fun m => hp (List.mem_cons_of_mem _ m))
    obtain ⟨_, _, e1, s1⟩ := splitSlash_cons x (p ++ r)
    rw [e'] at e1
    injection e1 with a1 a2
    subst a1 a2
    exact ⟨h, t, e, by rw [List.cons_append, s1, if_neg (fun e => hp (by simp [e]))]; rfl⟩

theorem splitSlash_of_noSlash (c : Str) (h : '/' ∉ c) : splitSlash c = [c] := by
  obtain ⟨_, _, e, e'⟩ := splitSlash_noSlash_append c [] h
  injection e with e1 e2
  rw [List.append_nil] at e'
  rw [e', ← e1, ← e2, List.append_nil]

theorem joinSlash_cons (c : Str) (r : List Str) (h : r ≠ []) : joinSlash (c :: r) = c ++ '/' :: joinSlash r := by
  cases r with
  | nil => exact absurd rfl h
  | cons d r => rfl

theorem splitSlash_joinSlash : ∀ cs : List Str, (∀ c ∈ cs, '/' ∉ c) → cs ≠ [] → splitSlash (joinSlash cs) = cs := by
  refine forall_mem_rec (fun h => absurd rfl h) fun c r hc ih _ => ?_
  have hc := splitSlash_of_noSlash c hc
  by_cases hr : r = []
  · subst hr; exact hc
  · rw [joinSlash_cons c r hr, splitSlash_append_slash, hc, ih hr]; rfl

theorem joinSlash_splitSlash (s : Str) : joinSlash (splitSlash s) = s := by
  induction s with
  | nil => rfl
  | cons x r ih =>
    obtain ⟨h, t, hr, e⟩ := splitSlash_cons x r
    rw [hr] at ih
    rw [e]
    split
    · rename_i hx; rw [joinSlash_cons _ _ (by simp), ih, hx]; rfl
    · cases t <;> simpa only [joinSlash, List.cons_append, List.cons.injEq, true_and] using ih

theorem noSlash_of_mem_splitSlash (s : Str) : ∀ c ∈ splitSlash s, '/' ∉ c := by
  induction s with
  | nil => simp [splitSlash]
  | cons x r ih =>
    obtain ⟨h, t, hr, e⟩ := splitSlash_cons x r
    rw [hr] at ih
    rw [e]
    intro c hc
    split at hc
    · rcases List.mem_cons.1 hc with rfl | hc
      · exact List.not_mem_nil
      · exact ih c hc
    · rename_i hx
      rcases List.mem_cons.1 hc with rfl | hc
      · exact fun m => (List.mem_cons.1 m).elim (fun e => hx e.symm) (ih h List.mem_cons_self)
      · exact ih c (List.mem_cons_of_mem _ hc)

theorem joinSlash_append (a b : List Str) (ha : a ≠ []) (hb : b ≠ []) :
    joinSlash (a ++ b) = joinSlash a ++ '/' :: joinSlash b := by
  induction a with
  | nil => exact absurd rfl ha
  | cons x a ih =>
    by_cases h : a = []
    · subst h; exact joinSlash_cons x b hb
    · rw [List.cons_append, joinSlash_cons x _ (by simp [h]), ih h, joinSlash_cons x a h]; simp

theorem trimLeft_eq_self (cut : List Char) (s : Str) (h : ∀ c, s.head? = some c → c ∉ cut) :
    trimLeft cut s = s := by
  cases s with
  | nil => rfl
  | cons c r => simp [trimLeft, h c rfl]

theorem trim_eq_self (cut : List Char) (s : Str) (hf : ∀ c, s.head? = some c → c ∉ cut)
    (hl : ∀ c, s.getLast? = some c → c ∉ cut) : trim cut s = s := by
  unfold trim trimRight
  rw [trimLeft_eq_self cut s hf, trimLeft_eq_self cut _ (by simpa using hl), List.reverse_reverse]

theorem trim_slash_eq_self (s : Str) (h : [] ∉ splitSlash s) : trim ['/'] s = s := by
  apply trim_eq_self
  · intro c hc hm
    rw [List.mem_singleton] at hm
    subst hm
    obtain ⟨r, rfl⟩ := List.head?_eq_some_iff.1 hc
    exact h (by simp [splitSlash])
  · intro c hc hm
    rw [List.mem_singleton] at hm
    subst hm
    obtain ⟨B, rfl⟩ := List.getLast?_eq_some_iff.1 hc
    exact h (by simp [splitSlash_append_slash, splitSlash])

/-! ## Part B — the component normal form -/

theorem Spec.Normal.ne_nil {c : Str} (h : Normal c) : c ≠ [] := h.1
theorem Spec.Normal.ne_dot {c : Str} (h : Normal c) : c ≠ dot1 := h.2.1
theorem Spec.Normal.ne_dd {c : Str} (h : Normal c) : c ≠ dd := h.2.2.1
theorem Spec.Normal.noSlash {c : Str} (h : Normal c) : '/' ∉ c := h.2.2.2

theorem splitSlash_joinSlash_normal (ns : List Str) (hne : ns ≠ []) (hn : ∀ c ∈ ns, Normal c) :
    splitSlash (joinSlash ns) = ns :=
  splitSlash_joinSlash ns (fun x hx => (hn x hx).noSlash) hne

theorem dd_ne_nil_dot : dd ≠ [] ∧ dd ≠ dot1 := by decide

theorem normStep_normal (r : Bool) (st : List Str) (c : Str) (h : Normal c) : normStep r st c = c :: st := by
  simp [normStep, h.ne_nil, h.ne_dot, h.ne_dd]

theorem normStep_skip (r : Bool) (st : List Str) (c : Str) (h : c = [] ∨ c = dot1) : normStep r st c = st := by
  simp [normStep, h]

theorem normStep_dd_nil (r : Bool) : normStep r [] dd = if r then [] else [dd] := by
  simp [normStep, dd_ne_nil_dot]

theorem normStep_dd_dd (r : Bool) (st : List Str) : normStep r (dd :: st) dd = dd :: dd :: st := by
  simp [normStep, dd_ne_nil_dot]

theorem normStep_dd_normal (r : Bool) (top : Str) (st : List Str) (h : Normal top) :
    normStep r (top :: st) dd = st := by
  simp [normStep, dd_ne_nil_dot, h.ne_dd]

theorem foldl_normStep_normal (r : Bool) : ∀ ys : List Str, (∀ c ∈ ys, Normal c) → ∀ st : List Str,
    ys.foldl (normStep r) st = ys.reverse ++ st := by
  refine forall_mem_rec (fun _ => rfl) fun y ys hy ih st => ?_
  rw [List.foldl_cons, normStep_normal r st y hy, ih]
  simp

theorem norm_append (r : Bool) (xs ys : List Str) :
    norm r (xs ++ ys) = (ys.foldl (normStep r) (xs.foldl (normStep r) [])).reverse := by
  simp [norm]

theorem norm_append_normal (r : Bool) (xs ys : List Str) (h : ∀ c ∈ ys, Normal c) :
    norm r (xs ++ ys) = norm r xs ++ ys := by
  rw [norm_append, foldl_normStep_normal r ys h]
  simp [norm]

theorem norm_normal (r : Bool) (ys : List Str) (h : ∀ c ∈ ys, Normal c) : norm r ys = ys :=
  norm_append_normal r [] ys h

theorem normal_or (c : Str) (hs : '/' ∉ c) : Normal c ∨ (c = [] ∨ c = dot1) ∨ c = dd := by
  by_cases h1 : c = []
  · exact .inr (.inl (.inl h1))
  by_cases h2 : c = dot1
  · exact .inr (.inl (.inr h2))
  by_cases h3 : c = dd
  · exact .inr (.inr h3)
  exact .inl ⟨h1, h2, h3, hs⟩

/-- invariant of the stack `normStep` works on (top first) -/
def Stack (rooted : Bool) (st : List Str) : Prop :=
  ∃ ns k, st = ns ++ List.replicate k dd ∧ (∀ c ∈ ns, Normal c) ∧ (rooted = true → k = 0)

theorem Stack.nil (r : Bool) : Stack r [] := ⟨[], 0, rfl, by simp, fun _ => rfl⟩

theorem normStep_stack (r : Bool) (st : List Str) (c : Str) (hst : Stack r st) (hc : '/' ∉ c) :
    Stack r (normStep r st c) := by
  obtain ⟨ns, k, rfl, hn, hk⟩ := hst
  rcases normal_or c hc with h | h | rfl
  · rw [normStep_normal _ _ _ h]
    exact ⟨c :: ns, k, rfl, List.forall_mem_cons.2 ⟨h, hn⟩, hk⟩
  · rw [normStep_skip _ _ _ h]
    exact ⟨ns, k, rfl, hn, hk⟩
  · cases ns with
    | cons top rest =>
      rw [List.cons_append, normStep_dd_normal _ _ _ (hn top (by simp))]
      exact ⟨rest, k, rfl, fun x hx => hn x (by simp [hx]), hk⟩
    | nil =>
      cases k with
      | zero =>
        rw [List.nil_append, List.replicate_zero, normStep_dd_nil]
        cases r
        · exact ⟨[], 1, rfl, by simp, by simp⟩
        · exact Stack.nil true
      | succ k =>
        rw [List.nil_append, List.replicate_succ, normStep_dd_dd]
        exact ⟨[], k + 2, rfl, by simp, fun e => absurd (hk e) (by simp)⟩

theorem foldl_stack (r : Bool) (xs st : List Str) (hst : Stack r st) (hxs : ∀ c ∈ xs, '/' ∉ c) :
    Stack r (xs.foldl (normStep r) st) :=
  List.foldlRecOn (motive := Stack r) xs _ hst fun st hst c hc => normStep_stack r st c hst (hxs c hc)

theorem norm_shape (r : Bool) (xs : List Str) (hxs : ∀ c ∈ xs, '/' ∉ c) :
    ∃ k ns, norm r xs = List.replicate k dd ++ ns ∧ (∀ c ∈ ns, Normal c) ∧ (r = true → k = 0) := by
  obtain ⟨ns, k, e, hn, hk⟩ := foldl_stack r xs [] (Stack.nil r) hxs
  exact ⟨k, ns.reverse, by simp [norm, e], fun c hc => hn c (List.mem_reverse.1 hc), hk⟩

theorem norm_rooted_normal (s : Str) : ∀ x ∈ norm true (splitSlash s), Normal x := by
  obtain ⟨k, ns, e, hn, hk⟩ := norm_shape true _ (noSlash_of_mem_splitSlash s)
  rw [e, hk rfl]
  exact hn

theorem comps_normal (cwd s : Str) : ∀ x ∈ comps cwd s, Normal x :=
  norm_rooted_normal _

theorem norm_mem_ne_nil_noSlash (r : Bool) (s : Str) : ∀ c ∈ norm r (splitSlash s), c ≠ [] ∧ '/' ∉ c := by
  obtain ⟨k, ns, e, hn, _⟩ := norm_shape r _ (noSlash_of_mem_splitSlash s)
  intro c hc
  rw [e] at hc
  rcases List.mem_append.1 hc with hc | hc
  · rw [List.eq_of_mem_replicate hc]; decide
  · exact ⟨(hn c hc).ne_nil, (hn c hc).noSlash⟩

/-- normalising in relative mode first does not change what the rooted machine computes: one step -/
theorem rooted_step_rel (acc st : List Str) (c : Str) (hst : Stack false st) (hc : '/' ∉ c) :
    (normStep false st c).reverse.foldl (normStep true) acc =
      normStep true (st.reverse.foldl (normStep true) acc) c := by
  -- whenever the relative machine pushes `c`, the rooted machine reads it last and takes the same step on it
  have push : normStep false st c = c :: st →
      (normStep false st c).reverse.foldl (normStep true) acc =
        normStep true (st.reverse.foldl (normStep true) acc) c := by
    intro e; rw [e]; simp [List.foldl_append]
  obtain ⟨ns, k, rfl, hn, _⟩ := hst
  rcases normal_or c hc with h | h | rfl
  · exact push (normStep_normal _ _ _ h)
  · rw [normStep_skip _ _ _ h, normStep_skip _ _ _ h]
  · cases ns with
    | cons top rest =>
      have htop := hn top (by simp)
      rw [List.cons_append, normStep_dd_normal _ _ _ htop, List.reverse_cons, List.foldl_append]
      simp only [List.foldl_cons, List.foldl_nil]
      rw [normStep_normal true _ top htop, normStep_dd_normal _ _ _ htop]
    | nil =>
      cases k with
      | zero => exact push (by simp [normStep_dd_nil])
      | succ k => exact push (by rw [List.nil_append, List.replicate_succ, normStep_dd_dd])

theorem rooted_foldl_rel (acc : List Str) : ∀ xs : List Str, (∀ c ∈ xs, '/' ∉ c) → ∀ st, Stack false st →
    (xs.foldl (normStep false) st).reverse.foldl (normStep true) acc =
      xs.foldl (normStep true) (st.reverse.foldl (normStep true) acc) := by
  refine forall_mem_rec (fun _ _ => rfl) fun c xs hc ih st hst => ?_
  simp only [List.foldl_cons]
  rw [ih _ (normStep_stack false st c hst hc), rooted_step_rel acc st c hst hc]

theorem rooted_norm_rel (s : Str) (acc : List Str) :
    (norm false (splitSlash s)).foldl (normStep true) acc = (splitSlash s).foldl (normStep true) acc := by
  simpa [norm] using rooted_foldl_rel acc _ (noSlash_of_mem_splitSlash s) [] (Stack.nil false)

/-! ### render, clean, comps -/

theorem isAbs_cons (c : Char) (s : Str) : isAbs (c :: s) = decide (c = '/') := by
  by_cases h : c = '/' <;> simp [isAbs, slash, hasPrefix, h]

theorem isAbs_append (a b : Str) (h : a ≠ []) : isAbs (a ++ b) = isAbs a := by
  cases a with
  | nil => exact absurd rfl h
  | cons c a => rw [List.cons_append, isAbs_cons, isAbs_cons]

theorem isAbs_nil : isAbs [] = false := rfl

theorem isAbs_joinSlash (c : Str) (r : List Str) (h1 : c ≠ []) (h2 : '/' ∉ c) : isAbs (joinSlash (c :: r)) = false := by
  have : isAbs c = false := by
    cases c with
    | nil => exact absurd rfl h1
    | cons x c => rw [isAbs_cons, decide_eq_false_iff_not]; exact fun e => h2 (by simp [e])
  cases r with
  | nil => exact this
  | cons d r => rw [joinSlash, isAbs_append _ _ h1, this]

theorem isAbs_joinSlash_normal (ns : List Str) (hn : ∀ c ∈ ns, Normal c) : isAbs (joinSlash ns) = false := by
  cases ns with
  | nil => rfl
  | cons c r =>
    have hc := hn c (by simp)
    exact isAbs_joinSlash c r hc.ne_nil hc.noSlash

theorem isAbs_render_true (ns : List Str) : isAbs (render true ns) = true := by
  simp [render, isAbs_cons]

theorem render_true_ne_nil (cs : List Str) : render true cs ≠ [] := by simp [render]

theorem comps_abs (cwd s : Str) (h : isAbs s = true) : comps cwd s = norm true (splitSlash s) := by
  simp [comps, h]

theorem comps_rel (cwd s : Str) (h : isAbs s = false) :
    comps cwd s = norm true (splitSlash cwd ++ splitSlash s) := by
  simp [comps, h, splitSlash_append_slash]

theorem clean_abs (z : Str) (h : isAbs z = true) : clean z = render true (norm true (splitSlash z)) := by
  simp [clean, h]

theorem clean_rel (z : Str) (h : isAbs z = false) : clean z = render false (norm false (splitSlash z)) := by
  simp [clean, h]

theorem comps_render_true (cwd : Str) (ns : List Str) (h : ∀ c ∈ ns, Normal c) : comps cwd (render true ns) = ns := by
  have e : norm true (splitSlash (render true ns)) = norm true (splitSlash (joinSlash ns)) := by
    simp [render, splitSlash, norm, normStep]
  rw [comps_abs _ _ (isAbs_render_true ns), e]
  cases ns with
  | nil => rfl
  | cons c r =>
    rw [splitSlash_joinSlash_normal _ (by simp) h]
    exact norm_normal true _ h

theorem render_false_of_ne_nil (cs : List Str) (h : cs ≠ []) : render false cs = joinSlash cs := by
  simp [render, h]

theorem isAbs_render_false (cs : List Str) (h : ∀ x ∈ cs, x ≠ [] ∧ '/' ∉ x) : isAbs (render false cs) = false := by
  cases cs with
  | nil => rfl
  | cons c r =>
    have hc := h c (by simp)
    rw [render_false_of_ne_nil _ (by simp), isAbs_joinSlash c r hc.1 hc.2]

theorem foldl_split_render_false (cs : List Str) (h : ∀ x ∈ cs, '/' ∉ x) (acc : List Str) :
    (splitSlash (render false cs)).foldl (normStep true) acc = cs.foldl (normStep true) acc := by
  cases cs with
  | nil => rfl
  | cons c r => rw [render_false_of_ne_nil _ (by simp), splitSlash_joinSlash _ h (by simp)]

theorem isAbs_clean (z : Str) : isAbs (clean z) = isAbs z := by
  cases h : isAbs z with
  | true => rw [clean_abs z h, isAbs_render_true]
  | false => rw [clean_rel z h, isAbs_render_false _ (norm_mem_ne_nil_noSlash false z)]

/-- cleaning a path string does not change the file it denotes -/
theorem comps_clean (cwd z : Str) : comps cwd (clean z) = comps cwd z := by
  cases h : isAbs z with
  | true =>
    rw [clean_abs z h, comps_render_true _ _ (norm_rooted_normal z), comps_abs _ _ h]
  | false =>
    have hm := norm_mem_ne_nil_noSlash false z
    rw [clean_rel z h, comps_rel _ _ (isAbs_render_false _ hm), comps_rel _ _ h, norm_append, norm_append,
      foldl_split_render_false _ (fun x hx => (hm x hx).2), rooted_norm_rel z]

theorem join_pair (a x : Str) (h : a ≠ []) : join [a, x] = clean (a ++ '/' :: x) := by
  simp [join, h, joinSlash]

theorem clean_append_normal (base : Str) (ns : List Str) (hb : base ≠ []) (hne : ns ≠ [])
    (hn : ∀ c ∈ ns, Normal c) :
    clean (base ++ '/' :: joinSlash ns) = render (isAbs base) (norm (isAbs base) (splitSlash base) ++ ns) := by
  simp only [clean]
  rw [isAbs_append _ _ hb, splitSlash_append_slash, splitSlash_joinSlash_normal ns hne hn, norm_append_normal _ _ _ hn]

theorem comps_append_normal (cwd base : Str) (ns : List Str) (hb : base ≠ []) (hne : ns ≠ [])
    (hn : ∀ c ∈ ns, Normal c) : comps cwd (base ++ '/' :: joinSlash ns) = comps cwd base ++ ns := by
  have hs := splitSlash_joinSlash_normal ns hne hn
  cases h : isAbs base with
  | true =>
    rw [comps_abs _ _ (by rw [isAbs_append _ _ hb, h]), comps_abs _ _ h, splitSlash_append_slash, hs,
      norm_append_normal _ _ _ hn]
  | false =>
    rw [comps_rel _ _ (by rw [isAbs_append _ _ hb, h]), comps_rel _ _ h, splitSlash_append_slash, hs,
      ← List.append_assoc, norm_append_normal _ _ _ hn]

theorem clean_joinSlash_normal (ns : List Str) (hne : ns ≠ []) (hn : ∀ c ∈ ns, Normal c) :
    clean (joinSlash ns) = joinSlash ns := by
  rw [clean_rel _ (isAbs_joinSlash_normal ns hn), splitSlash_joinSlash_normal ns hne hn, norm_normal _ _ hn,
    render_false_of_ne_nil ns hne]

/-! ### the default extension -/

theorem normal_of_length (c : Str) (hl : 3 ≤ c.length) (hs : '/' ∉ c) : Normal c :=
  ⟨by rintro rfl; simp at hl, by rintro rfl; simp [dot1] at hl, by rintro rfl; simp [dd] at hl, hs⟩

theorem extAdj_snoc (xs : List Str) (l : Str) :
    extAdj (xs ++ [l]) = xs ++ [if '.' ∈ l then l else l ++ arraiExt] := by
  unfold extAdj
  simp only [List.reverse_append, List.reverse_cons, List.reverse_nil, List.nil_append, List.cons_append,
    List.reverse_reverse]
  split <;> rfl

theorem extAdj_append (d ns : List Str) (hne : ns ≠ []) : extAdj (d ++ ns) = d ++ extAdj ns := by
  obtain ⟨xs, l, rfl⟩ := exists_snoc hne
  rw [← List.append_assoc, extAdj_snoc, extAdj_snoc, List.append_assoc]

theorem extAdj_ne_nil (ns : List Str) (hne : ns ≠ []) : extAdj ns ≠ [] := by
  obtain ⟨xs, l, rfl⟩ := exists_snoc hne
  simp [extAdj_snoc]

theorem extAdj_normal (ns : List Str) (hn : ∀ c ∈ ns, Normal c) : ∀ c ∈ extAdj ns, Normal c := by
  by_cases hne : ns = []
  · subst hne; exact hn
  · obtain ⟨xs, l, rfl⟩ := exists_snoc hne
    rw [extAdj_snoc]
    intro c hc
    rcases List.mem_append.1 hc with hc | hc
    · exact hn c (List.mem_append_left _ hc)
    · have hl := hn l (by simp)
      rw [List.mem_singleton] at hc
      rw [hc]
      split
      · exact hl
      · exact normal_of_length _ (by simp [arraiExt]) (by simpa [arraiExt] using hl.noSlash)

/-- what may stand in front of the last component of a path string -/
def SlashEnd (p : Str) : Prop := p = [] ∨ ∃ B, p = B ++ ['/']

/-- `filepath.Ext` only looks at the last component -/
theorem ext_last (p l : Str) (hp : SlashEnd p) (hl : '/' ∉ l) : ext (p ++ l) = [] ↔ '.' ∉ l := by
  have hall : ∀ x ∈ l.reverse, decide (x ≠ '/') = true := by
    intro x hx
    simpa using fun e : x = '/' => hl (e ▸ List.mem_reverse.1 hx)
  have htw : (p ++ l).reverse.takeWhile (· ≠ '/') = l.reverse := by
    rw [List.reverse_append, List.takeWhile_append_of_pos hall]
    rcases hp with rfl | ⟨B, rfl⟩ <;> simp
  unfold ext
  simp only [htw, List.mem_reverse]
  by_cases h : '.' ∈ l <;> simp [h]

theorem joinSlash_snoc (xs : List Str) : ∃ A, SlashEnd A ∧ ∀ l, joinSlash (xs ++ [l]) = A ++ l := by
  by_cases h : xs = []
  · subst h; exact ⟨[], .inl rfl, fun _ => rfl⟩
  · refine ⟨joinSlash xs ++ ['/'], .inr ⟨_, rfl⟩, fun l => ?_⟩
    rw [joinSlash_append xs _ h (by simp)]; simp [joinSlash]

theorem fileName_joinSlash (p : Str) (hp : SlashEnd p) (cs : List Str) (hne : cs ≠ []) (hcs : ∀ c ∈ cs, '/' ∉ c) :
    fileName (p ++ joinSlash cs) = p ++ joinSlash (extAdj cs) := by
  obtain ⟨xs, l, rfl⟩ := exists_snoc hne
  obtain ⟨A, hA, e⟩ := joinSlash_snoc xs
  have hpA : SlashEnd (p ++ A) := by
    rcases hA with rfl | ⟨B, rfl⟩
    · simpa using hp
    · exact .inr ⟨p ++ B, by simp⟩
  have hx := ext_last (p ++ A) l hpA (hcs l (by simp))
  rw [extAdj_snoc, e, e, ← List.append_assoc, ← List.append_assoc]
  unfold fileName
  by_cases hdot : '.' ∈ l
  · rw [if_neg (fun h => hx.1 h hdot), if_pos hdot]
  · rw [if_pos (hx.2 hdot), if_neg hdot, List.append_assoc]

theorem fileName_below (a s : Str) : fileName (a ++ '/' :: s) = a ++ '/' :: joinSlash (extAdj (splitSlash s)) := by
  have := fileName_joinSlash (a ++ ['/']) (.inr ⟨a, rfl⟩) _ (splitSlash_ne_nil s) (noSlash_of_mem_splitSlash s)
  simpa [joinSlash_splitSlash] using this

theorem fileName_render (r : Bool) (cs : List Str) (hne : cs ≠ []) (hcs : ∀ c ∈ cs, '/' ∉ c) :
    fileName (render r cs) = render r (extAdj cs) := by
  cases r with
  | true => exact fileName_joinSlash ['/'] (.inr ⟨[], rfl⟩) cs hne hcs
  | false =>
    rw [render_false_of_ne_nil cs hne, render_false_of_ne_nil _ (extAdj_ne_nil cs hne)]
    exact fileName_joinSlash [] (.inl rfl) cs hne hcs

theorem fileName_clean_append (base : Str) (ns : List Str) (hb : base ≠ []) (hne : ns ≠ [])
    (hn : ∀ c ∈ ns, Normal c) :
    fileName (clean (base ++ '/' :: joinSlash ns)) = clean (base ++ '/' :: joinSlash (extAdj ns)) := by
  rw [clean_append_normal base ns hb hne hn,
    clean_append_normal base _ hb (extAdj_ne_nil ns hne) (extAdj_normal ns hn),
    fileName_render _ _ (by simp [hne]), extAdj_append _ _ hne]
  intro c hc
  rcases List.mem_append.1 hc with hc | hc
  · exact (norm_mem_ne_nil_noSlash _ base c hc).2
  · exact (hn c hc).noSlash

/-! ## Part C — the "../" scan keeps components Normal -/

theorem normal_of_suffix {d c : Str} (hd : Normal d) (h : d <:+ c) (hc : '/' ∉ c) : Normal c := by
  obtain ⟨p, rfl⟩ := h
  have hne := hd.ne_nil
  match p with
  | [] => exact hd
  | [a] =>
    refine ⟨by simp, fun e => ?_, fun e => ?_, hc⟩
    · simp [dot1, hne] at e
    · exact hd.ne_dot (List.cons.inj e).2
  | a :: b :: p =>
    refine ⟨by simp, fun e => ?_, fun e => ?_, hc⟩
    · simp [dot1] at e
    · simp [dd, hne] at e

/-- every component the scan leaves ends in a whole component of its input: a cut takes the end of a component
together with its separator, so the component after it is glued on in full (`p`: the runes of the current
component already copied) -/
theorem removeDDS_comps (s : Str) : ∀ p, '/' ∉ p →
    ∀ c ∈ splitSlash (p ++ removeDDS s), ∃ d ∈ splitSlash (p ++ s), d <:+ c := by
  fun_induction removeDDS s with
  | case1 r ih =>
    intro p hp c hc
    obtain ⟨d, hd, hs⟩ := ih p hp c hc
    obtain ⟨h, t, e, e'⟩ := splitSlash_noSlash_append p r hp
    have e2 : p ++ '.' :: '.' :: '/' :: r = (p ++ dd) ++ '/' :: r := by simp [dd]
    rw [e2, splitSlash_append_slash, e]
    rw [e'] at hd
    rcases List.mem_cons.1 hd with rfl | hd
    · exact ⟨h, by simp, (List.suffix_append p h).trans hs⟩
    · exact ⟨d, by simp [hd], hs⟩
  | case2 x r _ ih =>
    intro p hp c hc
    by_cases hx : x = '/'
    · subst hx
      rw [splitSlash_append_slash, splitSlash_of_noSlash p hp] at hc ⊢
      rcases List.mem_append.1 hc with hc | hc
      · exact ⟨c, List.mem_append_left _ hc, List.suffix_refl _⟩
      · obtain ⟨d, hd, hs⟩ := ih [] (by simp) c hc
        exact ⟨d, List.mem_append_right _ hd, hs⟩
    · rw [List.append_cons] at hc ⊢
      exact ih (p ++ [x]) (by simpa [hp] using Ne.symm hx) c hc
  | case3 => exact fun p _ c hc => ⟨c, hc, List.suffix_refl _⟩

/-- removing every "../" from a relative path of Normal components leaves Normal components -/
theorem removeDDS_normal (ns : List Str) (hne : ns ≠ []) (hn : ∀ c ∈ ns, Normal c) :
    ∀ c ∈ splitSlash (removeDDS (joinSlash ns)), Normal c := by
  intro c hc
  obtain ⟨d, hd, hs⟩ := removeDDS_comps (joinSlash ns) [] (by simp) c hc
  rw [List.nil_append, splitSlash_joinSlash_normal ns hne hn] at hd
  exact normal_of_suffix (hn d hd) hs (noSlash_of_mem_splitSlash _ c hc)

/-! ## Part D — the resolution pipeline -/

theorem ite_error_ok {ε α : Type} {c : Prop} [Decidable c] {e : ε} {b : Except ε α} {x : α}
    (h : (if c then .error e else b) = .ok x) : ¬c ∧ b = .ok x := by
  by_cases hc : c
  · rw [if_pos hc] at h; cases h
  · rw [if_neg hc] at h; exact ⟨hc, h⟩

theorem trim_slash_joinSlash (ns : List Str) (hne : ns ≠ []) (hn : ∀ c ∈ ns, Normal c) :
    trim ['/'] (joinSlash ns) = joinSlash ns := by
  apply trim_slash_eq_self
  rw [splitSlash_joinSlash_normal ns hne hn]
  exact fun h => (hn [] h).1 rfl

theorem trim_slash_render_true (ns : List Str) (hne : ns ≠ []) (hn : ∀ c ∈ ns, Normal c) :
    trim ['/'] (render true ns) = joinSlash ns := by
  have e : trimLeft ['/'] (render true ns) = trimLeft ['/'] (joinSlash ns) := by simp [render, trimLeft]
  have := trim_slash_joinSlash ns hne hn
  unfold trim at this ⊢
  rw [e, this]

theorem hasPrefix_joinSlash_dd (r : List Str) : hasPrefix (joinSlash (dd :: r)) dd = true := by
  cases r <;> simp [joinSlash, dd, hasPrefix]

theorem norm_rel_normal (s : Str) (h : ¬hasPrefix (render false (norm false (splitSlash s))) dd = true) :
    ∀ c ∈ norm false (splitSlash s), Normal c := by
  obtain ⟨k, ns, e, hn, _⟩ := norm_shape false _ (noSlash_of_mem_splitSlash s)
  rw [e] at h ⊢
  cases k with
  | zero => simpa using hn
  | succ k =>
    rw [List.replicate_succ, List.cons_append, render_false_of_ne_nil _ (by simp), hasPrefix_joinSlash_dd] at h
    exact absurd rfl h

theorem dotRel_ok {raw : Str} {ns : List Str} (h : dotRel raw = .ok ns) : ns ≠ [] ∧ ∀ c ∈ ns, Normal c := by
  unfold dotRel at h
  obtain ⟨_, h⟩ := ite_error_ok h
  obtain ⟨h2, h⟩ := ite_error_ok h
  obtain ⟨hne, h⟩ := ite_error_ok h
  injection h with h
  subst h
  exact ⟨extAdj_ne_nil _ hne, extAdj_normal _ (norm_rel_normal _ h2)⟩

theorem rootRel_ok {raw : Str} {ms : List Str} (h : rootRel raw = .ok ms) : ms ≠ [] ∧ ∀ c ∈ ms, Normal c := by
  unfold rootRel at h
  obtain ⟨_, h⟩ := ite_error_ok h
  obtain ⟨hne, h⟩ := ite_error_ok h
  injection h with h
  subst h
  rw [replaceAll_dds]
  exact ⟨extAdj_ne_nil _ (splitSlash_ne_nil _), extAdj_normal _ (removeDDS_normal _ hne (norm_rooted_normal _))⟩

theorem joinSlash_normal_ne_nil_dot (ns : List Str) (hne : ns ≠ []) (hn : ∀ c ∈ ns, Normal c) :
    ¬(joinSlash ns = [] ∨ joinSlash ns = dot1) := by
  have hs := splitSlash_joinSlash_normal ns hne hn
  rintro (h | h) <;> rw [h] at hs <;> subst hs
  · exact (hn [] (by simp [splitSlash])).ne_nil rfl
  · exact (hn dot1 (by simp [splitSlash, dot1])).ne_dot rfl

/-- `raw` is the PKGPATH after the optional dot: `//{./x}` is `dot = true`, `raw = "/x"` -/
theorem resolve_dot_eq (w : World) (srcDir raw : Str) : resolve w srcDir true raw =
    match dotRel raw with
    | .error e => .error e
    | .ok ns => if srcDir = [] then .error .noContext else .ok (clean (srcDir ++ '/' :: joinSlash ns)) := by
  unfold resolve localPath dotRel
  generalize trim ws raw = name
  by_cases h1 : hasPrefix name slash = true
  case neg => simp only [h1, Bool.not_false, ↓reduceIte]
  simp only [h1, Bool.not_true, Bool.not_false, Bool.false_eq_true, ↓reduceIte]
  rw [clean_rel _ (by rw [isAbs_cons]; rfl)]
  by_cases h2 : hasPrefix (render false (norm false (splitSlash ('.' :: name)))) dd = true
  case pos => simp only [h2, ↓reduceIte]
  have hn := norm_rel_normal _ h2
  generalize norm false (splitSlash ('.' :: name)) = ns at h2 hn ⊢
  by_cases hne : ns = []
  · subst hne
    have e : trim ['/'] (render false []) = dot1 := by decide
    simp only [h2, e, Bool.false_eq_true, or_true, ↓reduceIte]
  · rw [render_false_of_ne_nil ns hne] at h2 ⊢
    simp only [h2, hne, trim_slash_joinSlash ns hne hn, joinSlash_normal_ne_nil_dot ns hne hn, Bool.false_eq_true,
      ↓reduceIte]
    by_cases hsd : srcDir = []
    · simp only [hsd, ↓reduceIte]
    · simp only [hsd, ↓reduceIte, importLocalFile, Bool.false_eq_true, join_pair _ _ hsd,
        fileName_clean_append srcDir ns hsd hne hn]

theorem resolve_root_eq (w : World) (srcDir raw : Str) : resolve w srcDir false raw =
    match rootRel raw with
    | .error e => .error e
    | .ok ms =>
      if srcDir = [] then .error .noContext
      else match findRoot w srcDir with
        | none => .error .noModule
        | some root => .ok (render true root ++ '/' :: joinSlash ms) := by
  unfold resolve localPath rootRel
  generalize trim ws raw = name
  by_cases h1 : hasPrefix name slash = true
  case neg => simp only [h1, Bool.not_false, ↓reduceIte]
  simp only [h1, Bool.not_true, Bool.not_false, Bool.false_eq_true, ↓reduceIte]
  rw [clean_abs _ h1]
  have hn := norm_rooted_normal name
  generalize norm true (splitSlash name) = ns at hn ⊢
  have h2 : hasPrefix (render true ns) dd = false := rfl
  by_cases hne : ns = []
  · subst hne
    have e : trim ['/'] (render true []) = [] := by decide
    simp only [h2, e, Bool.false_eq_true, true_or, ↓reduceIte]
  · simp only [h2, hne, trim_slash_render_true ns hne hn, joinSlash_normal_ne_nil_dot ns hne hn, Bool.false_eq_true,
      ↓reduceIte]
    by_cases hsd : srcDir = []
    · simp only [hsd, ↓reduceIte]
    · have hrel : hasPrefix (joinSlash ns) slash = false := isAbs_joinSlash_normal ns hn
      simp only [hsd, ↓reduceIte, importLocalFile, clean_joinSlash_normal ns hne hn, hrel, Bool.not_false,
        replaceAll_dds, fileName_below]
      cases findRoot w srcDir <;> rfl

/-! ### `findRootFromModule`: the nearest sentinel -/

theorem nearest_of_findRootUp_eq_some (w : World) : ∀ up r, findRootUp w up = some r →
    r <+: up.reverse ∧ w.fileExists (r ++ [sentinel]) = true ∧
    (∀ e, r <+: e → e <+: up.reverse → e ≠ r → w.fileExists (e ++ [sentinel]) = false) := by
  intro up
  induction up with
  | nil =>
    intro r h
    simp only [findRootUp] at h
    split at h
    · injection h with h; subst h
      exact ⟨List.prefix_refl _, by simpa using ‹_›, fun e _ he hne => absurd (List.prefix_nil.1 he) hne⟩
    · cases h
  | cons c up ih =>
    intro r h
    simp only [findRootUp] at h
    split at h
    · injection h with h; subst h
      exact ⟨List.prefix_refl _, ‹_›,
        fun e h1 h2 hne => absurd (List.IsPrefix.eq_of_length_le h2 (List.IsPrefix.length_le h1)) hne⟩
    · rename_i hnot
      obtain ⟨h1, h2, h3⟩ := ih r h
      rw [List.reverse_cons] at hnot ⊢
      refine ⟨h1.trans (List.prefix_append _ _), h2, fun e he1 he2 hne => ?_⟩
      rcases List.prefix_concat_iff.1 he2 with rfl | he2
      · simpa using hnot
      · exact h3 e he1 he2 hne

theorem no_sentinel_of_findRootUp_eq_none (w : World) : ∀ up, findRootUp w up = none →
    ∀ e, e <+: up.reverse → w.fileExists (e ++ [sentinel]) = false := by
  intro up
  induction up with
  | nil =>
    intro h e he
    rw [List.prefix_nil.1 he]
    simp only [findRootUp] at h
    split at h
    · cases h
    · rename_i hnot; simpa using hnot
  | cons c up ih =>
    intro h e he
    simp only [findRootUp] at h
    split at h
    · cases h
    · rename_i hnot
      rw [List.reverse_cons] at he hnot
      rcases List.prefix_concat_iff.1 he with rfl | he
      · simpa using hnot
      · exact ih h e he

theorem findRootUp_eq_some_iff (w : World) (up r : List Str) : findRootUp w up = some r ↔
    r <+: up.reverse ∧ w.fileExists (r ++ [sentinel]) = true ∧
      ∀ e, r <+: e → e <+: up.reverse → e ≠ r → w.fileExists (e ++ [sentinel]) = false := by
  refine ⟨nearest_of_findRootUp_eq_some w up r, fun ⟨hr, h, hno⟩ => ?_⟩
  cases hf : findRootUp w up with
  | none => rw [no_sentinel_of_findRootUp_eq_none w up hf r hr] at h; cases h
  | some r' =>
    obtain ⟨hr', h', hno'⟩ := nearest_of_findRootUp_eq_some w up r' hf
    by_cases e : r' = r
    · rw [e]
    · rcases List.prefix_or_prefix_of_prefix hr hr' with hp | hp
      · rw [hno r' hp hr' e] at h'; cases h'
      · rw [hno' r hp hr (Ne.symm e)] at h; cases h

theorem findRootUp_eq_none_iff (w : World) (up : List Str) : findRootUp w up = none ↔
    ∀ e, e <+: up.reverse → w.fileExists (e ++ [sentinel]) = false := by
  refine ⟨no_sentinel_of_findRootUp_eq_none w up, fun h => ?_⟩
  cases hf : findRootUp w up with
  | none => rfl
  | some r =>
    obtain ⟨hr, h', _⟩ := nearest_of_findRootUp_eq_some w up r hf
    rw [h r hr] at h'; cases h'

theorem findRoot_prefix (w : World) (d : Str) (r : List Str) (h : findRoot w d = some r) : r <+: comps w.cwd d := by
  simpa using (nearest_of_findRootUp_eq_some w _ r h).1

/-- the conclusion of `resolve_dot`: how the result `f` is spelt (`name`) and which file it denotes (`comps`) -/
structure DotImport (w : World) (srcDir raw f : Str) (ns : List Str) : Prop where
  srcDir_ne : srcDir ≠ []
  rel : dotRel raw = .ok ns
  ne : ns ≠ []
  normal : ∀ c ∈ ns, Normal c
  name : f = clean (srcDir ++ '/' :: joinSlash ns)
  comps : comps w.cwd f = comps w.cwd srcDir ++ ns

structure RootImport (w : World) (srcDir raw f : Str) (root ms : List Str) : Prop where
  found : findRoot w srcDir = some root
  rel : rootRel raw = .ok ms
  ne : ms ≠ []
  normal : ∀ c ∈ ms, Normal c
  name : f = render true root ++ '/' :: joinSlash ms
  comps : comps w.cwd f = root ++ ms

theorem resolve_dot (w : World) (srcDir raw f : Str) (h : resolve w srcDir true raw = .ok f) :
    ∃ ns, DotImport w srcDir raw f ns := by
  rw [resolve_dot_eq] at h
  split at h
  · cases h
  rename_i ns hd
  obtain ⟨hsd, h⟩ := ite_error_ok h
  injection h with h
  obtain ⟨hne, hn⟩ := dotRel_ok hd
  exact ⟨ns, hsd, hd, hne, hn, h.symm, by rw [← h, comps_clean, comps_append_normal _ _ _ hsd hne hn]⟩

theorem resolve_root (w : World) (srcDir raw f : Str) (h : resolve w srcDir false raw = .ok f) :
    ∃ root ms, RootImport w srcDir raw f root ms := by
  rw [resolve_root_eq] at h
  split at h
  · cases h
  rename_i ms hd
  obtain ⟨_, h⟩ := ite_error_ok h
  split at h
  · cases h
  rename_i root hroot
  injection h with h
  obtain ⟨hne, hn⟩ := rootRel_ok hd
  have hrn : ∀ c ∈ root, Normal c :=
    fun c hc => comps_normal w.cwd srcDir c ((findRoot_prefix w srcDir root hroot).subset hc)
  exact ⟨root, ms, hroot, hd, hne, hn, h.symm, by
    rw [← h, comps_append_normal _ _ _ (render_true_ne_nil root) hne hn, comps_render_true _ root hrn]⟩

theorem resolve_confined (w : World) (srcDir raw f : Str) (dot : Bool) (h : resolve w srcDir dot raw = .ok f) :
    Under ((findRoot w srcDir).getD (comps w.cwd srcDir)) (comps w.cwd f) := by
  unfold Under
  cases dot with
  | true =>
    obtain ⟨ns, hi⟩ := resolve_dot w srcDir raw f h
    rw [hi.comps]
    cases hr : findRoot w srcDir with
    | none => exact List.prefix_append _ _
    | some root => exact (findRoot_prefix w srcDir root hr).trans (List.prefix_append _ _)
  | false =>
    obtain ⟨root, ms, hi⟩ := resolve_root w srcDir raw f h
    rw [hi.comps, hi.found]
    exact List.prefix_append _ _

end Arrai.C16
