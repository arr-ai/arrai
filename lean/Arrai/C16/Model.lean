/-
  C16 — local imports stay inside the module, are consistent, and cycles fail fast.

  `Impl.Strs`  : Go `strings.HasPrefix/TrimPrefix/Trim/ReplaceAll`, literally, on rune lists.
  `Impl.Path`  : `path.Clean`, `filepath.Join/Dir/Base/Ext/Abs` by their *documented* meaning on path
                 components (split on '/', drop empty and "." components, cancel "x/..", drop leading
                 ".." of rooted paths, "." for empty) — DESIGN §3.3; agreement with Go's byte loop is
                 checked on every generated string by the `pathfn` harness operation.
  `Impl`       : the pipeline compilePackage → importLocalFile → findRootFromModule → fileValue of
                 syntax/compile.go + syntax/import.go (as repaired), and `Unrepaired.*`, the same
                 pipeline as it was before the repairs.
  `Impl.Cache` : pkg/importcache `getOrAdd` / `GetOrAddFromCacheCtx` for one goroutine, and the
                 compile-time recursion bytesValue → Compile → compilePackage over an import graph.
  Core-only.
-/
import Arrai.Core.Canon

namespace Arrai.C16

/-- Go strings are modelled as rune lists (kernel-friendly). -/
abbrev Str := List Char

def dd : Str := ['.', '.']
def dot1 : Str := ['.']
def slash : Str := ['/']
/-- the cut set of `strings.Trim(importPath, " \t\n")` -/
def ws : List Char := [' ', '\t', '\n']
def arraiExt : Str := ".arrai".toList
def sentinel : Str := "go.mod".toList

namespace Impl

/-! ## strings.* -/
namespace Strs

/-- `strings.HasPrefix(s, p)` -/
def hasPrefix : Str → Str → Bool
  | _, [] => true
  | [], _ :: _ => false
  | c :: s, d :: p => if c = d then hasPrefix s p else false

/-- `strings.TrimPrefix(s, p)` -/
def trimPrefix (s p : Str) : Str := if hasPrefix s p then s.drop p.length else s

/-- `strings.TrimLeft(s, cutset)` -/
def trimLeft (cut : List Char) : Str → Str
  | [] => []
  | c :: r => if c ∈ cut then trimLeft cut r else c :: r

/-- `strings.TrimRight(s, cutset)` -/
def trimRight (cut : List Char) (s : Str) : Str := (trimLeft cut s.reverse).reverse

/-- `strings.Trim(s, cutset)` -/
def trim (cut : List Char) (s : Str) : Str := trimRight cut (trimLeft cut s)

/-- the scan of `strings.ReplaceAll(s, old, new)` for a non-empty `old`: leftmost, non-overlapping
(`skip` = runes of the current match still to be consumed) -/
def replaceGo (old new : Str) : Nat → Str → Str
  | _, [] => []
  | skip + 1, _ :: r => replaceGo old new skip r
  | 0, c :: r =>
    if hasPrefix (c :: r) old then new ++ replaceGo old new (old.length - 1) r
    else c :: replaceGo old new 0 r

/-- `strings.ReplaceAll(s, old, new)`; only used with a non-empty `old` -/
def replaceAll (s old new : Str) : Str := if old = [] then s else replaceGo old new 0 s

end Strs

/-! ## path / filepath (unix) on components -/
namespace Path

def isAbs (s : Str) : Bool := Strs.hasPrefix s slash

/-- `strings.Split(s, "/")` -/
def splitSlash : Str → List Str
  | [] => [[]]
  | c :: r =>
    if c = '/' then [] :: splitSlash r
    else match splitSlash r with
      | h :: t => (c :: h) :: t
      | [] => [[c]]

/-- `strings.Join(cs, "/")` -/
def joinSlash : List Str → Str
  | [] => []
  | [c] => c
  | c :: d :: r => c ++ '/' :: joinSlash (d :: r)

/-- one step of the lexical normalisation; `st` is the stack of kept components, top first -/
def normStep (rooted : Bool) (st : List Str) (c : Str) : List Str :=
  if c = [] ∨ c = dot1 then st
  else if c = dd then
    match st with
    | [] => if rooted then [] else [dd]
    | top :: rest => if top = dd then dd :: top :: rest else rest
  else c :: st

/-- the normal form of a component list -/
def norm (rooted : Bool) (cs : List Str) : List Str := (cs.foldl (normStep rooted) []).reverse

/-- render a normal form -/
def render (rooted : Bool) (cs : List Str) : Str :=
  if rooted then '/' :: joinSlash cs else if cs = [] then dot1 else joinSlash cs

/-- `path.Clean` = `filepath.Clean` (unix) -/
def clean (s : Str) : Str := render (isAbs s) (norm (isAbs s) (splitSlash s))

/-- `filepath.Join(elems...)`: empty leading elements are ignored, the rest is joined and cleaned -/
def join : List Str → Str
  | [] => []
  | e :: r => if e = [] then join r else clean (joinSlash (e :: r))

/-- `filepath.Dir`: everything up to and including the last separator, cleaned -/
def dir (s : Str) : Str := clean (s.reverse.dropWhile (· ≠ '/')).reverse

/-- `filepath.Base` -/
def base (s : Str) : Str :=
  if s = [] then dot1
  else
    let b := ((s.reverse.dropWhile (· = '/')).takeWhile (· ≠ '/')).reverse
    if b = [] then slash else b

/-- `filepath.Ext`: the suffix of the last element starting at its last dot -/
def ext (s : Str) : Str :=
  let last := s.reverse.takeWhile (· ≠ '/')
  if '.' ∈ last then '.' :: (last.takeWhile (· ≠ '.')).reverse else []

/-- `filepath.Abs` relative to an explicit working directory -/
def abs (cwd p : Str) : Str := if isAbs p then clean p else join [cwd, p]

/-- Spec-level denotation of a path string: the components of the file the operating system (or an
afero file system) opens for it, given the working directory -/
def comps (cwd s : Str) : List Str :=
  norm true (splitSlash (if isAbs s then s else cwd ++ '/' :: s))

end Path

open Strs Path

/-! ## the world: working directory and the files that exist -/
structure World where
  cwd : Str
  /-- cleaned absolute component lists of the regular files -/
  files : List (List Str)

def World.fileExists (w : World) (cs : List Str) : Bool := decide (cs ∈ w.files)

/-- the loop of `findRootFromModule` on the components of the current path (`up` is reversed):
look for the sentinel, stop at the system root, otherwise continue with `filepath.Dir` -/
def findRootUp (w : World) : List Str → Option (List Str)
  | [] => if w.fileExists [sentinel] then some [] else none
  | c :: up =>
    if w.fileExists ((c :: up).reverse ++ [sentinel]) then some (c :: up).reverse
    else findRootUp w up

/-- `findRootFromModule(ctx, modulePath)` (the root cache only memoises this function) -/
def findRoot (w : World) (modulePath : Str) : Option (List Str) :=
  findRootUp w (comps w.cwd modulePath).reverse

inductive Err
  | external      -- not a local import (outside this model)
  | outside       -- "import path can not be pointing outside of the script's module directory"
  | noFile        -- "local import does not name a file"
  | noContext     -- "no local context"
  | noModule      -- errModuleNotExist
  | notFound      -- the file system has no such file
  | importCycle
  deriving DecidableEq, Repr

/-- `fileValue`: the default extension -/
def fileName (p : Str) : Str := if ext p = [] then p ++ arraiExt else p

/-- `compilePackage` for a PKGPATH `raw`, up to the call of `importLocalFile`:
returns `(fromRoot, importPath)` -/
def localPath (srcDir : Str) (dot : Bool) (raw : Str) : Except Err (Bool × Str) :=
  let name := trim ws raw
  if !hasPrefix name slash then .error .external
  else
    let fromRoot := !dot
    let name := if !fromRoot then '.' :: name else name
    let name := clean name
    if hasPrefix name dd then .error .outside
    else
      let filePath := trim ['/'] name
      if filePath = [] ∨ filePath = dot1 then .error .noFile
      else if srcDir = [] then .error .noContext
      else
        let importPath := clean filePath
        let importPath := if !fromRoot then join [srcDir, filePath] else importPath
        .ok (fromRoot, importPath)

/-- `importLocalFile` → `fileValue`: the file name handed to `afero.ReadFile` (and, for scripts,
the key of the import cache) -/
def importLocalFile (w : World) (fromRoot : Bool) (importPath srcDir : Str) : Except Err Str :=
  if fromRoot then
    match findRoot w srcDir with
    | none => .error .noModule
    | some root =>
      let rootPath := render true root
      let importPath :=
        if !hasPrefix importPath slash then rootPath ++ '/' :: replaceAll importPath ['.', '.', '/'] []
        else importPath
      .ok (fileName importPath)
  else .ok (fileName importPath)

/-- the whole pipeline for `//{.raw}` (`dot`) or `//{raw}` in a script whose `SourceDir` is `srcDir` -/
def resolve (w : World) (srcDir : Str) (dot : Bool) (raw : Str) : Except Err Str :=
  match localPath srcDir dot raw with
  | .error e => .error e
  | .ok (fromRoot, importPath) => importLocalFile w fromRoot importPath srcDir

/-! ### the same pipeline, factored: which components does an import append to its base directory?
(`Lemmas.resolve_dot_eq` / `resolve_root_eq`: `resolve` is these components with the base directory in front, an
equation that covers the failure exits too; `resolve_dot` / `resolve_root`: whenever `resolve` succeeds, the file
it names is the base directory followed by exactly these components.) -/

/-- `fileValue`'s default extension, on the last component -/
def extAdj (ns : List Str) : List Str :=
  match ns.reverse with
  | [] => []
  | l :: up => if '.' ∈ l then ns else ((l ++ arraiExt) :: up).reverse

/-- the components `//{.raw}` appends to the source directory -/
def dotRel (raw : Str) : Except Err (List Str) :=
  let name := trim ws raw
  if !hasPrefix name slash then .error .external
  else
    let cs := norm false (splitSlash ('.' :: name))
    if hasPrefix (render false cs) dd then .error .outside
    else if cs = [] then .error .noFile
    else .ok (extAdj cs)

/-- the components `//{raw}` appends to the module root -/
def rootRel (raw : Str) : Except Err (List Str) :=
  let name := trim ws raw
  if !hasPrefix name slash then .error .external
  else
    let cs := norm true (splitSlash name)
    if cs = [] then .error .noFile
    else .ok (extAdj (splitSlash (replaceAll (joinSlash cs) ['.', '.', '/'] [])))

/-- `Compile(ctx, filePath, source)`: the `SourceDir` of a script -/
def sourceDir (filePath : Str) : Str := if filePath = [] then dot1 else dir filePath

end Impl

/-! ## the pipeline before the repairs (kept to state what was wrong) -/
namespace Unrepaired
open Impl Impl.Strs Impl.Path

def localPath (srcDir : Str) (dot : Bool) (raw : Str) : Except Err (Bool × Str) :=
  let name := raw
  if !hasPrefix name slash then .error .external
  else
    let fromRoot := !dot
    let name := if !fromRoot then '.' :: name else name
    let name := clean name
    if hasPrefix name dd then .error .outside
    else
      let filePath := trim ['/'] name
      if srcDir = [] then .error .noContext
      else
        let importPath := clean filePath
        let importPath := if !fromRoot then join [srcDir, filePath] else importPath
        .ok (fromRoot, importPath)

def importLocalFile (w : World) (fromRoot : Bool) (importPath srcDir : Str) : Except Err Str :=
  let importPath := trim ws importPath
  if fromRoot then
    match findRoot w srcDir with
    | none => .error .noModule
    | some root =>
      let rootPath := render true root
      let importPath :=
        if !hasPrefix importPath slash then rootPath ++ '/' :: replaceAll importPath ['.', '.', '/'] []
        else importPath
      .ok (fileName importPath)
  else .ok (fileName importPath)

def resolve (w : World) (srcDir : Str) (dot : Bool) (raw : Str) : Except Err Str :=
  match localPath srcDir dot raw with
  | .error e => .error e
  | .ok (fromRoot, importPath) => importLocalFile w fromRoot importPath srcDir

end Unrepaired

/-! ## Spec -/
namespace Spec
/-- `Under root p`: component-wise prefix on cleaned absolute paths -/
def Under (root p : List Str) : Prop := root <+: p

instance (root p : List Str) : Decidable (Under root p) := by unfold Under; infer_instance

/-- a component that survives normalisation unchanged -/
def Normal (c : Str) : Prop := c ≠ [] ∧ c ≠ dot1 ∧ c ≠ dd ∧ '/' ∉ c

instance (c : Str) : Decidable (Normal c) := by unfold Normal; infer_instance
end Spec

/-! ## the import cache and the compile-time recursion over an import graph -/

/-- the compiled form of a script: its key and the compiled forms of its imports, in order -/
inductive Tree (κ : Type) where
  | node (k : κ) (kids : List (Tree κ))

inductive Fail where
  | err (e : Impl.Err)
  | hang          -- `cond.Wait()` with nobody left to `Broadcast`
  | fuel          -- model artefact; proved unreachable
  deriving DecidableEq

/-- an import graph: the scripts that exist, each with the cache keys its imports resolve to, in
source order (`none`: the import does not resolve, or names a file that does not exist) -/
structure Graph (κ : Type) where
  files : List (κ × List (Option κ))

namespace Impl.Cache
variable {κ : Type} [DecidableEq κ]

def Graph.lookup (g : Graph κ) (k : κ) : Option (List (Option κ)) := (g.files.lookup k)

/-- `map[string]rel.Expr`; value `none` is the `nil` "somebody is adding it" marker -/
abbrev Cache (κ : Type) := List (κ × Option (Tree κ))

def Cache.get (c : Cache κ) (k : κ) : Option (Option (Tree κ)) := c.lookup k
def Cache.del (c : Cache κ) (k : κ) : Cache κ := c.filter (fun p => !decide (p.1 = k))
def Cache.set (c : Cache κ) (k : κ) (v : Option (Tree κ)) : Cache κ := (k, v) :: Cache.del c k

abbrev Res (κ : Type) (α : Type) := Except Fail α × Cache κ

/-- `(*importCache).getOrAdd(key, add)` as seen by a single goroutine. `add` runs with the lock
released and may use (and change) the cache. -/
def getOrAdd (c : Cache κ) (key : κ) (add : Cache κ → Res κ (Tree κ)) : Res κ (Tree κ) :=
  match Cache.get c key with
  | some (some v) => (.ok v, c)
  | some none => (.error .hang, c)
  | none =>
    match add (Cache.set c key none) with
    | (.ok v, c2) => (.ok v, Cache.set c2 key (some v))
    | (.error f, c2) => (.error f, Cache.del c2 key)

/-- the imports of one script are compiled in source order; the first failure aborts -/
def compileImports (rec : Cache κ → κ → Res κ (Tree κ)) : Cache κ → List (Option κ) → Res κ (List (Tree κ))
  | c, [] => (.ok [], c)
  | c, none :: _ => (.error (.err .notFound), c)
  | c, some k :: r =>
    match rec c k with
    | (.error f, c1) => (.error f, c1)
    | (.ok t, c1) =>
      match compileImports rec c1 r with
      | (.ok ts, c2) => (.ok (t :: ts), c2)
      | (.error f, c2) => (.error f, c2)

/-- `fileValue` → `bytesValue` → `GetOrAddFromCacheCtx` → `Compile` for the script with key `k`;
`chain` = the keys in flight along this call chain (carried in the context) -/
def importFile (g : Graph κ) : Nat → List κ → Cache κ → κ → Res κ (Tree κ)
  | 0, _, c, _ => (.error .fuel, c)
  | fuel + 1, chain, c, k =>
    match Graph.lookup g k with
    | none => (.error (.err .notFound), c)
    | some imps =>
      if k ∈ chain then (.error (.err .importCycle), c)
      else getOrAdd c k (fun c1 =>
        match compileImports (importFile g fuel (k :: chain)) c1 imps with
        | (.ok ts, c2) => (.ok (.node k ts), c2)
        | (.error f, c2) => (.error f, c2))

/-- compile a main script (which is itself neither cached nor in the chain) with imports `imps` -/
def compileMain (g : Graph κ) (imps : List (Option κ)) : Except Fail (List (Tree κ)) :=
  (compileImports (importFile g (g.files.length + 1) []) [] imps).1

/-- before the repair: no chain, so a key in flight is waited for -/
def importFileU (g : Graph κ) : Nat → Cache κ → κ → Res κ (Tree κ)
  | 0, c, _ => (.error .fuel, c)
  | fuel + 1, c, k =>
    match Graph.lookup g k with
    | none => (.error (.err .notFound), c)
    | some imps =>
      getOrAdd c k (fun c1 =>
        match compileImports (importFileU g fuel) c1 imps with
        | (.ok ts, c2) => (.ok (.node k ts), c2)
        | (.error f, c2) => (.error f, c2))

def compileMainU (g : Graph κ) (imps : List (Option κ)) : Except Fail (List (Tree κ)) :=
  (compileImports (importFileU g (g.files.length + 1)) [] imps).1

end Impl.Cache

/-! ## Spec for graphs: the unfolding -/
namespace Spec
variable {κ : Type} [DecidableEq κ]
open Impl.Cache

/-- the recursive definition of "compile `k`": no cache, no chain -/
def unfold (g : Graph κ) : Nat → κ → Option (Tree κ)
  | 0, _ => none
  | fuel + 1, k =>
    match Graph.lookup g k with
    | none => none
    | some imps =>
      (imps.mapM (fun o => match o with | none => none | some k' => unfold g fuel k')).map (Tree.node k)

end Spec

end Arrai.C16
