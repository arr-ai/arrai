/-
  C16 — the vocabulary of the import-graph theorems of Proofs/C16 Part 3 (`Unfolds`/`UnfoldsL`: compiling by the
  recursive definition; `Closed`, `Ranked`; `Edge`, `Reach`) and the lemmas about the import cache and the
  compile-time recursion behind them: the invariant `Inv` of the cache along a call chain, the guarantee
  `Post`/`PostL` of one `importFile`/`compileImports` call (`importFile_spec`, `compileMain_spec`), and
  `no_unfold_on_cycle`.

  `Graph.lookup` is declared inside `namespace Impl.Cache` of the model, so `g.lookup k` does not elaborate: write
  `Graph.lookup g k` with `Impl.Cache` open.
-/
import Arrai.C16.Model
import Arrai.Core.Assoc

namespace Arrai.C16
open Impl Impl.Cache

variable {κ : Type} [DecidableEq κ]

/-! ## the cache as a finite map -/

namespace Impl.Cache.Cache

theorem get_set_same (c : Cache κ) (k : κ) (v : Option (Tree κ)) : Cache.get (Cache.set c k v) k = some v := by
  simp [Cache.get, Cache.set]

theorem get_set_other (c : Cache κ) (k k' : κ) (v : Option (Tree κ)) (h : k' ≠ k) :
    Cache.get (Cache.set c k v) k' = Cache.get c k' := by
  have : (k' == k) = false := by simp [h]
  simp [Cache.get, Cache.set, Cache.del, List.lookup_cons, this, lookup_filter_ne c k k' h]

theorem get_del_same (c : Cache κ) (k : κ) : Cache.get (Cache.del c k) k = none := by
  simp [Cache.get, Cache.del, lookup_filter_same]

theorem get_del_other (c : Cache κ) (k k' : κ) (h : k' ≠ k) : Cache.get (Cache.del c k) k' = Cache.get c k' := by
  simp [Cache.get, Cache.del, lookup_filter_ne c k k' h]

end Impl.Cache.Cache

/-! ## the unfolding relation: the recursive definition of "compile k"

`Spec.unfold` of the model file is the same recursion as a function with fuel; the theorems are stated with the
relation, and no lemma relates the two. -/
mutual
inductive Unfolds (g : Graph κ) : κ → Tree κ → Prop
  | node (k : κ) (imps : List (Option κ)) (ts : List (Tree κ)) :
      Graph.lookup g k = some imps → UnfoldsL g imps ts → Unfolds g k (.node k ts)
inductive UnfoldsL (g : Graph κ) : List (Option κ) → List (Tree κ) → Prop
  | nil : UnfoldsL g [] []
  | cons (k : κ) (t : Tree κ) (r : List (Option κ)) (ts : List (Tree κ)) :
      Unfolds g k t → UnfoldsL g r ts → UnfoldsL g (some k :: r) (t :: ts)
end

/-- every import of every script resolves to a script that exists -/
def Closed (g : Graph κ) : Prop :=
  ∀ k imps, Graph.lookup g k = some imps → ∀ o ∈ imps, ∃ k', o = some k' ∧ Graph.lookup g k' ≠ none

/-- `rank` strictly decreases along every import edge: the graph is acyclic -/
def Ranked (g : Graph κ) (rank : κ → Nat) : Prop :=
  ∀ k imps, Graph.lookup g k = some imps → ∀ k', some k' ∈ imps → rank k' < rank k

/-! ## invariants of the recursion -/

/-- the cache during a call chain; by `inflight` a key outside the chain is never waited for -/
structure Inv (g : Graph κ) (chain : List κ) (c : Cache κ) : Prop where
  inflight : ∀ k, Cache.get c k = some none → k ∈ chain
  sound : ∀ k t, Cache.get c k = some (some t) → Unfolds g k t

/-- what one `importFile` call guarantees about its result -/
structure Post (g : Graph κ) (rank : κ → Nat) (chain : List κ) (k : κ) (r : Except Fail (Tree κ)) : Prop where
  noHang : r ≠ .error .hang
  noFuel : r ≠ .error .fuel
  sound : ∀ t, r = .ok t → Unfolds g k t
  kinds : ∀ e, r = .error (.err e) → e = .notFound ∨ e = .importCycle
  closed : Closed g → Graph.lookup g k ≠ none → r ≠ .error (.err .notFound)
  dag : Ranked g rank → (∀ a ∈ chain, rank k < rank a) → r ≠ .error (.err .importCycle)

structure PostL (g : Graph κ) (rank : κ → Nat) (chain : List κ) (imps : List (Option κ))
    (r : Except Fail (List (Tree κ))) : Prop where
  noHang : r ≠ .error .hang
  noFuel : r ≠ .error .fuel
  sound : ∀ ts, r = .ok ts → UnfoldsL g imps ts
  kinds : ∀ e, r = .error (.err e) → e = .notFound ∨ e = .importCycle
  closed : Closed g → (∀ o ∈ imps, ∃ k', o = some k' ∧ Graph.lookup g k' ≠ none) → r ≠ .error (.err .notFound)
  dag : Ranked g rank → (∀ k', some k' ∈ imps → ∀ a ∈ chain, rank k' < rank a) → r ≠ .error (.err .importCycle)

/-- what `Post` and `PostL` alike say of a failure `f` -/
structure PostErr (g : Graph κ) (rank : κ → Nat) (f : Fail) (cl dg : Prop) : Prop where
  noHang : f ≠ .hang
  noFuel : f ≠ .fuel
  kinds : ∀ e, f = .err e → e = .notFound ∨ e = .importCycle
  closed : Closed g → cl → f ≠ .err .notFound
  dag : Ranked g rank → dg → f ≠ .err .importCycle

section transport
variable {g : Graph κ} {rank : κ → Nat} {chain : List κ} {f : Fail}

theorem PostErr.mono {cl dg cl' dg' : Prop} (h : PostErr g rank f cl dg)
    (hcl : Closed g → cl' → cl) (hdg : Ranked g rank → dg' → dg) : PostErr g rank f cl' dg' :=
  ⟨h.noHang, h.noFuel, h.kinds, fun c x => h.closed c (hcl c x), fun r x => h.dag r (hdg r x)⟩

/-- the two failures the recursion raises itself, each excused by the one field that speaks of it -/
theorem PostErr.notFound {cl dg : Prop} (h : Closed g → ¬ cl) : PostErr g rank (.err .notFound) cl dg :=
  ⟨nofun, nofun, fun _ e => .inl (by injection e with e; exact e.symm), fun c x _ => h c x, nofun⟩

theorem PostErr.importCycle {cl dg : Prop} (h : Ranked g rank → ¬ dg) : PostErr g rank (.err .importCycle) cl dg :=
  ⟨nofun, nofun, fun _ e => .inr (by injection e with e; exact e.symm), nofun, fun r x _ => h r x⟩

theorem Post.err {k : κ} (h : Post g rank chain k (.error f)) :
    PostErr g rank f (Graph.lookup g k ≠ none) (∀ a ∈ chain, rank k < rank a) :=
  ⟨fun e => h.noHang (e ▸ rfl), fun e => h.noFuel (e ▸ rfl), fun _ e => h.kinds _ (e ▸ rfl),
    fun c x e => h.closed c x (e ▸ rfl), fun r x e => h.dag r x (e ▸ rfl)⟩

theorem Post.of_err {k : κ} (h : PostErr g rank f (Graph.lookup g k ≠ none) (∀ a ∈ chain, rank k < rank a)) :
    Post g rank chain k (.error f) :=
  ⟨fun e => h.noHang (by injection e), fun e => h.noFuel (by injection e), nofun,
    fun _ e => h.kinds _ (by injection e), fun c x e => h.closed c x (by injection e),
    fun r x e => h.dag r x (by injection e)⟩

theorem Post.of_ok {k : κ} {t : Tree κ} (h : Unfolds g k t) : Post g rank chain k (.ok t) :=
  ⟨nofun, nofun, fun _ e => (by injection e with e; exact e ▸ h),
    nofun, nofun, nofun⟩

theorem PostL.err {imps : List (Option κ)} (h : PostL g rank chain imps (.error f)) :
    PostErr g rank f (∀ o ∈ imps, ∃ k', o = some k' ∧ Graph.lookup g k' ≠ none)
      (∀ k', some k' ∈ imps → ∀ a ∈ chain, rank k' < rank a) :=
  ⟨fun e => h.noHang (e ▸ rfl), fun e => h.noFuel (e ▸ rfl), fun _ e => h.kinds _ (e ▸ rfl),
    fun c x e => h.closed c x (e ▸ rfl), fun r x e => h.dag r x (e ▸ rfl)⟩

theorem PostL.of_err {imps : List (Option κ)}
    (h : PostErr g rank f (∀ o ∈ imps, ∃ k', o = some k' ∧ Graph.lookup g k' ≠ none)
      (∀ k', some k' ∈ imps → ∀ a ∈ chain, rank k' < rank a)) :
    PostL g rank chain imps (.error f) :=
  ⟨fun e => h.noHang (by injection e), fun e => h.noFuel (by injection e), nofun,
    fun _ e => h.kinds _ (by injection e), fun c x e => h.closed c x (by injection e),
    fun r x e => h.dag r x (by injection e)⟩

theorem PostL.of_ok {imps : List (Option κ)} {ts : List (Tree κ)} (h : UnfoldsL g imps ts) :
    PostL g rank chain imps (.ok ts) :=
  ⟨nofun, nofun, fun _ e => (by injection e with e; exact e ▸ h),
    nofun, nofun, nofun⟩

end transport

/-- the list recursion, given the guarantee for single imports -/
theorem compileImports_spec (g : Graph κ) (rank : κ → Nat) (chain : List κ)
    (rec : Cache κ → κ → Res κ (Tree κ))
    (hrec : ∀ c k, Inv g chain c → Inv g chain (rec c k).2 ∧ Post g rank chain k (rec c k).1)
    (imps : List (Option κ)) : ∀ c, Inv g chain c →
      Inv g chain (compileImports rec c imps).2 ∧ PostL g rank chain imps (compileImports rec c imps).1 := by
  induction imps with
  | nil => exact fun c hc => ⟨hc, .of_ok .nil⟩
  | cons o imps ih =>
    intro c hc
    cases o with
    | none =>
      refine ⟨hc, .of_err (.notFound fun _ hall => ?_)⟩
      obtain ⟨k', hk', _⟩ := hall none (by simp)
      cases hk'
    | some k =>
      obtain ⟨hinv1, hpost1⟩ := hrec c k hc
      simp only [compileImports]
      cases h1 : rec c k with
      | mk r1 c1 =>
        rw [h1] at hinv1 hpost1
        cases r1 with
        | error f =>
          refine ⟨hinv1, .of_err (hpost1.err.mono ?_ (fun _ hall => hall k (by simp)))⟩
          intro _ hall
          obtain ⟨k', hk', hex⟩ := hall (some k) (by simp)
          injection hk' with hk'
          exact hk' ▸ hex
        | ok t =>
          simp only
          obtain ⟨hinv2, hpost2⟩ := ih c1 hinv1
          cases h2 : compileImports rec c1 imps with
          | mk r2 c2 =>
            rw [h2] at hinv2 hpost2
            cases r2 with
            | error f =>
              exact ⟨hinv2, .of_err (hpost2.err.mono (fun _ hall o ho => hall o (by simp [ho]))
                (fun _ hall k' hk' => hall k' (by simp [hk'])))⟩
            | ok ts => exact ⟨hinv2, .of_ok (.cons k t imps ts (hpost1.sound t rfl) (hpost2.sound ts rfl))⟩

theorem inv_set_inflight (g : Graph κ) (chain : List κ) (c : Cache κ) (k : κ) (hc : Inv g chain c)
    (hk : Cache.get c k = none) : Inv g (k :: chain) (Cache.set c k none) := by
  constructor
  · intro k' h
    by_cases e : k' = k
    · simp [e]
    · rw [Cache.get_set_other c k k' none e] at h
      exact List.mem_cons_of_mem _ (hc.inflight k' h)
  · intro k' t h
    by_cases e : k' = k
    · subst e; rw [Cache.get_set_same] at h; cases h
    · rw [Cache.get_set_other c k k' none e] at h
      exact hc.sound k' t h

theorem inv_pop (g : Graph κ) (chain : List κ) (c2 c' : Cache κ) (k : κ) (hc : Inv g (k :: chain) c2)
    (ho : ∀ k', k' ≠ k → Cache.get c' k' = Cache.get c2 k')
    (hk : Cache.get c' k = none ∨ ∃ t, Cache.get c' k = some (some t) ∧ Unfolds g k t) : Inv g chain c' := by
  constructor
  · intro k' h
    by_cases e : k' = k
    · subst e
      rcases hk with hk | ⟨t, hk, _⟩ <;> rw [hk] at h <;> cases h
    · rw [ho k' e] at h
      have := hc.inflight k' h
      simp [e] at this
      exact this
  · intro k' t' h
    by_cases e : k' = k
    · subst e
      rcases hk with hk | ⟨t, hk, hu⟩ <;> rw [hk] at h
      · cases h
      · injection h with h; injection h with h
        exact h ▸ hu
    · rw [ho k' e] at h
      exact hc.sound k' t' h

/-- the fuel never runs out: the chain has no repetition and consists of keys of `g`, so it is no longer than the
list of keys, and the bound `keys + 1 ≤ chain + fuel` (kept by every recursive call, which lengthens the chain by
one) cannot hold at fuel 0 -/
theorem importFile_spec (g : Graph κ) (rank : κ → Nat) : ∀ fuel chain,
    chain.Nodup → (∀ a ∈ chain, a ∈ g.files.map (·.1)) → (g.files.map (·.1)).length + 1 ≤ chain.length + fuel →
    ∀ c k, Inv g chain c →
      Inv g chain (importFile g fuel chain c k).2 ∧ Post g rank chain k (importFile g fuel chain c k).1 := by
  intro fuel
  induction fuel with
  | zero =>
    intro chain hnd hsub hb
    exact absurd (Nat.le_trans hb (List.Nodup.length_le_of_subset hnd (fun a ha => hsub a ha)))
      (Nat.not_succ_le_self _)
  | succ fuel ih =>
    intro chain hnd hsub hb c k hc
    simp only [importFile]
    cases hl : Graph.lookup g k with
    | none =>
      exact ⟨hc, .of_err (.notFound fun _ hne => hne hl)⟩
    | some imps =>
      simp only
      by_cases hk : k ∈ chain
      · rw [if_pos hk]
        exact ⟨hc, .of_err (.importCycle fun _ hall => Nat.lt_irrefl _ (hall k hk))⟩
      · rw [if_neg hk]
        simp only [getOrAdd]
        cases hg : Cache.get c k with
        | some o =>
          cases o with
          | some v => exact ⟨hc, .of_ok (hc.sound k v hg)⟩
          | none => exact absurd (hc.inflight k hg) hk
        | none =>
          simp only
          have hrec := ih (k :: chain) (List.nodup_cons.2 ⟨hk, hnd⟩)
            (List.forall_mem_cons.2 ⟨List.mem_map_of_mem (mem_of_lookup hl), hsub⟩)
            (by rw [List.length_cons, Nat.add_right_comm]; exact hb)
          obtain ⟨hinv2, hpost2⟩ :=
            compileImports_spec g rank (k :: chain) _ hrec imps _ (inv_set_inflight g chain c k hc hg)
          cases h2 : compileImports (importFile g fuel (k :: chain)) (Cache.set c k none) imps with
          | mk r2 c2 =>
            rw [h2] at hinv2 hpost2
            cases r2 with
            | ok ts =>
              have hu : Unfolds g k (.node k ts) := .node k imps ts hl (hpost2.sound ts rfl)
              exact ⟨inv_pop g chain c2 _ k hinv2 (fun k' e => Cache.get_set_other c2 k k' _ e)
                (.inr ⟨_, Cache.get_set_same c2 k _, hu⟩), .of_ok hu⟩
            | error f =>
              refine ⟨inv_pop g chain c2 _ k hinv2 (fun k' e => Cache.get_del_other c2 k k' e)
                  (.inl (Cache.get_del_same c2 k)),
                .of_err (hpost2.err.mono (fun hcl _ => hcl k imps hl) ?_)⟩
              intro hr hall k' hk' a ha
              have h1 : rank k' < rank k := hr k imps hl k' hk'
              rcases List.mem_cons.1 ha with rfl | ha
              · exact h1
              · exact Nat.lt_trans h1 (hall a ha)

/-- the guarantee for a main script -/
theorem compileMain_spec (g : Graph κ) (rank : κ → Nat) (imps : List (Option κ)) :
    PostL g rank [] imps (compileMain g imps) := by
  have hrec := importFile_spec g rank (g.files.length + 1) [] List.nodup_nil (by simp) (by simp)
  have hinv : Inv g [] ([] : Cache κ) := ⟨by simp [Cache.get], by simp [Cache.get]⟩
  exact (compileImports_spec g rank [] _ hrec imps [] hinv).2

/-! ## a finite unfolding rules out reachable cycles -/

mutual
def Tree.size : Tree κ → Nat
  | .node _ kids => 1 + Tree.sizeL kids
def Tree.sizeL : List (Tree κ) → Nat
  | [] => 0
  | t :: r => Tree.size t + Tree.sizeL r
end

/-- `b` is imported by `a` -/
def Edge (g : Graph κ) (a b : κ) : Prop := ∃ imps, Graph.lookup g a = some imps ∧ some b ∈ imps

inductive Reach (g : Graph κ) : κ → κ → Prop
  | refl (a : κ) : Reach g a a
  | step (a b c : κ) : Edge g a b → Reach g b c → Reach g a c

theorem unfoldsL_mem (g : Graph κ) (imps : List (Option κ)) (ts : List (Tree κ)) (h : UnfoldsL g imps ts)
    (k' : κ) (hk : some k' ∈ imps) : ∃ t', Unfolds g k' t' ∧ Tree.size t' ≤ Tree.sizeL ts := by
  induction imps generalizing ts with
  | nil => simp at hk
  | cons o imps ih =>
    cases h with
    | cons k t r ts' h1 h2 =>
      simp at hk
      rcases hk with rfl | hk
      · exact ⟨t, h1, by simp [Tree.sizeL]⟩
      · obtain ⟨t', ht', hs⟩ := ih ts' h2 hk
        exact ⟨t', ht', by simp [Tree.sizeL]; omega⟩

theorem unfolds_edge (g : Graph κ) (k k' : κ) (t : Tree κ) (h : Unfolds g k t) (he : Edge g k k') :
    ∃ t', Unfolds g k' t' ∧ Tree.size t' < Tree.size t := by
  obtain ⟨imps, hl, hm⟩ := he
  cases h with
  | node _ imps' ts hl' hu =>
    rw [hl] at hl'
    injection hl' with hl'
    subst hl'
    obtain ⟨t', ht', hs⟩ := unfoldsL_mem g imps ts hu k' hm
    exact ⟨t', ht', by simp [Tree.size]; omega⟩

theorem unfolds_reach (g : Graph κ) (a b : κ) (hr : Reach g a b) :
    ∀ t, Unfolds g a t → ∃ t', Unfolds g b t' ∧ Tree.size t' ≤ Tree.size t := by
  induction hr with
  | refl a => intro t h; exact ⟨t, h, Nat.le_refl _⟩
  | step a b c he _ ih =>
    intro t h
    obtain ⟨t1, h1, hs1⟩ := unfolds_edge g a b t h he
    obtain ⟨t2, h2, hs2⟩ := ih t1 h1
    exact ⟨t2, h2, Nat.le_trans hs2 (Nat.le_of_lt hs1)⟩

/-- one lap round the cycle gives a smaller unfolding -/
theorem no_unfold_on_cycle (g : Graph κ) (k k' : κ) (he : Edge g k k') (hr : Reach g k' k) (t : Tree κ) :
    ¬ Unfolds g k t := by
  generalize hn : Tree.size t = n
  induction n using Nat.strongRecOn generalizing t with
  | _ n ih =>
    intro hu
    obtain ⟨t1, h1, hs1⟩ := unfolds_edge g k k' t hu he
    obtain ⟨t2, h2, hs2⟩ := unfolds_reach g k' k hr t1 h1
    exact ih (Tree.size t2) (hn ▸ Nat.lt_of_le_of_lt hs2 hs1) t2 rfl h2

end Arrai.C16
