/-
  C04 helper lemmas: representations — well-formed operands (`RepWF`) enumerate canonical tuples with one heading
  (`enumerate_rows`), a `SetBuilder` fed canonical tuples denotes them and returns a well-formed operand again
  (`finish_mkTup`), and so the generic path refines the specification (`genericPath_refines_ok`).  Core-only.
-/
import Arrai.C04.LemmasGeneric

namespace Arrai.C04
open Spec Impl

/-! ### positional rows as attribute lists -/

theorem valuesToTuple_identity (attrs : Names) (row : Row) (h : row.length = attrs.length) :
    valuesToTuple attrs (List.range attrs.length) row = V.mkTup (attrs.zip row) := by
  unfold valuesToTuple
  congr 1
  apply List.ext_getElem
  · simp [h]
  · intro i h1 h2
    have hi : i < row.length := by simp at h2; omega
    simp [hi]

theorem zip_map_self (ns : Names) (f : String → V) : ns.zip (ns.map f) = ns.map fun n => (n, f n) := by
  induction ns with
  | nil => rfl
  | cons n r ih => simp [ih]

theorem has_zip {attrs : Names} {row : Row} (h : row.length = attrs.length) (n : String) :
    has (attrs.zip row) n = attrs.contains n := by
  rw [has_eq_contains]
  exact congrArg (List.contains · n) (List.map_fst_zip (by omega))

/-! ### `ofMembers` (SetBuilder) is faithful -/

theorem bucketOf_cons (p : String × V) (r : Tup) :
    bucketOf (.tup (p :: r)) =
      if (p :: r).map (·.1) = ["@", "@char"] then .sugar .char
      else if (p :: r).map (·.1) = ["@", "@item"] then .sugar .item
      else if (p :: r).map (·.1) = ["@", "@byte"] then .sugar .byte
      else if (p :: r).map (·.1) = ["@", "@value"] then .sugar .value
      else .names ((p :: r).map (·.1)) := rfl

theorem bucketOf_tup (as : Tup) :
    match bucketOf (.tup as) with
    | .generic => as = []
    | .sugar k => as.map (·.1) = ["@", k.attr]
    | .names ns => as.map (·.1) = ns := by
  cases as with
  | nil => rfl
  | cons p r =>
    rw [bucketOf_cons]
    by_cases h1 : (p :: r).map (·.1) = ["@", "@char"]
    · rw [if_pos h1]; exact h1
    by_cases h2 : (p :: r).map (·.1) = ["@", "@item"]
    · rw [if_neg h1, if_pos h2]; exact h2
    by_cases h3 : (p :: r).map (·.1) = ["@", "@byte"]
    · rw [if_neg h1, if_neg h2, if_pos h3]; exact h3
    by_cases h4 : (p :: r).map (·.1) = ["@", "@value"]
    · rw [if_neg h1, if_neg h2, if_neg h3, if_pos h4]; exact h4
    rw [if_neg h1, if_neg h2, if_neg h3, if_neg h4]

theorem at_ne_attr (k : SeqKind) : "@" ≠ k.attr := by cases k <;> decide

theorem sugar_roundtrip {y : V} {k : SeqKind} (cy : CanonT y) (h : bucketOf y = .sugar k) :
    pairTuple k (pairOf k y) = y := by
  obtain ⟨as, rfl, hs⟩ := cy
  have hn := bucketOf_tup as
  rw [h] at hn
  match as, hn, hs with
  | [(a, i), (b, v)], hn, hs =>
    simp only [List.map_cons, List.map_nil, List.cons.injEq, and_true] at hn
    obtain ⟨ha, hb⟩ := hn
    subst ha; subst hb
    unfold pairTuple pairOf
    simp only [tupOf, get_cons, if_true, at_ne_attr k, if_false, Option.getD_some]
    exact V.mkTup_of_sorted _ hs

theorem names_roundtrip {y : V} {ns : Names} (cy : CanonT y) (h : bucketOf y = .names ns) :
    valuesToTuple ns (List.range ns.length) (ns.map fun n => (get n (tupOf y)).getD V.none) = y := by
  obtain ⟨as, rfl, hs⟩ := cy
  have hn := bucketOf_tup as
  rw [h] at hn
  rw [valuesToTuple_identity _ _ (by simp), zip_map_self]
  simp only [tupOf]
  refine Eq.trans (mkTup_congr ?_) (V.mkTup_of_sorted as hs)
  intro m
  rw [get_map_pair]
  cases hc : ns.contains m
  · simp [(has_false_iff as m).1 (by rw [has_eq_contains, hn]; exact hc)]
  · obtain ⟨v, hv⟩ := (has_true_iff as m).1 (by rw [has_eq_contains, hn]; exact hc)
    simp [hv]

theorem enumerate_ofMembers (xs : List V) (h : ∀ x ∈ xs, CanonT x) :
    enumerate (ofMembers xs) = dedup xs := by
  unfold ofMembers
  have hd : ∀ x ∈ dedup xs, CanonT x := fun x hx => h x ((mem_dedup x xs).1 hx)
  generalize dedup xs = d at hd
  cases d with
  | nil => rfl
  | cons x r =>
    dsimp only
    split
    · rename_i hall
      rw [List.all_eq_true] at hall
      have hb : ∀ y ∈ x :: r, bucketOf y = bucketOf x := fun y hy => of_decide_eq_true (hall y hy)
      cases hbx : bucketOf x with
      | generic =>
        dsimp only
        split
        · rename_i e; rw [e]; rfl
        · rfl
      | sugar k =>
        simp only [enumerate, List.map_map]
        have : ∀ y ∈ x :: r, (pairTuple k ∘ pairOf k) y = id y := by
          intro y hy
          exact sugar_roundtrip (hd y hy) (by rw [hb y hy, hbx])
        rw [List.map_congr_left this, List.map_id]
      | names ns =>
        simp only [enumerate, List.map_map]
        have : ∀ y ∈ x :: r, ((valuesToTuple ns (List.range ns.length)) ∘
            fun t => ns.map fun n => (get n (tupOf t)).getD V.none) y = id y := by
          intro y hy
          exact names_roundtrip (hd y hy) (by rw [hb y hy, hbx])
        rw [List.map_congr_left this, List.map_id]
    · rfl

theorem den_ofMembers (xs : List V) (h : ∀ x ∈ xs, CanonT x) : den (ofMembers xs) = V.mkSet xs := by
  unfold den
  rw [enumerate_ofMembers xs h]
  exact V.mkSet_congr fun x => mem_dedup x xs

theorem den_ofMembers_mkTup (R : List Tup) : den (ofMembers (R.map V.mkTup)) = denRows R :=
  den_ofMembers _ fun x hx => by
    obtain ⟨t, _, rfl⟩ := List.mem_map.1 hx
    exact canonT_mkTup t

/-! ### well-formed operands -/

/-- a `Relation` as every constructor builds it: distinct names, the identity projector, rows of the heading's
width, at least one row (an empty result is `Rep.empty`: `ofMembers []`).  That the constructors of rel/ build it so
is not derived from the Go source: it is in the trusted base of C04 (lib/props_c04.py `trusted_base`, DESIGN.md A.4) -/
def RelWF (r : Relation) : Prop :=
  r.attrs.Nodup ∧ r.p = List.range r.attrs.length ∧ (∀ row ∈ r.rows, row.length = r.attrs.length) ∧ r.rows ≠ []

theorem RelWF.nodup {r : Relation} (w : RelWF r) : r.attrs.Nodup := w.1
theorem RelWF.proj {r : Relation} (w : RelWF r) : r.p = List.range r.attrs.length := w.2.1
theorem RelWF.width {r : Relation} (w : RelWF r) : ∀ row ∈ r.rows, row.length = r.attrs.length := w.2.2.1
theorem RelWF.nonempty {r : Relation} (w : RelWF r) : r.rows ≠ [] := w.2.2.2

theorem RelWF.sameWidth {r : Relation} (w : RelWF r) : ∀ v ∈ r.rows, ∀ v' ∈ r.rows, v.length = v'.length :=
  fun v hv v' hv' => by rw [w.width v hv, w.width v' hv']

-- The sugared forms, `{()}` and the empty set enumerate canonical tuples by construction; a union set has no
-- heading and is turned away by `relationAttrs`.
def RepWF : Rep → Prop
  | .relation r => RelWF r
  | .generic xs => ∀ x ∈ xs, CanonT x
  | _ => True

def RepOK (r : Rep) : Prop := RepWF r ∧ ∃ N, relationAttrs r = some N

/-- the rows of a relation as attribute lists -/
def relTups (r : Relation) : List Tup := r.rows.map fun row => r.attrs.zip row

theorem enumerate_relation {r : Relation} (w : RelWF r) : enumerate (.relation r) = (relTups r).map V.mkTup := by
  show List.map (valuesToTuple r.attrs r.p) r.rows = _
  unfold relTups
  rw [List.map_map, w.proj]
  exact List.map_congr_left fun row hrow => valuesToTuple_identity r.attrs row (w.width row hrow)

theorem den_relation {r : Relation} (w : RelWF r) : den (.relation r) = denRows (relTups r) :=
  congrArg V.mkSet (enumerate_relation w)

theorem sameNames_contains {a b : Names} (h : sameNames a b = true) (n : String) :
    b.contains n = a.contains n := by
  unfold sameNames at h
  rw [Bool.and_eq_true, isSubset_iff, isSubset_iff] at h
  rw [Bool.eq_iff_iff, List.contains_iff_mem, List.contains_iff_mem]
  exact ⟨h.2 n, h.1 n⟩

theorem enumerate_rows (a : Rep) (N : Names) (w : RepWF a) (h : relationAttrs a = some N) :
    ∃ R, enumerate a = R.map V.mkTup ∧ Uniform N R ∧ den a = denRows R := by
  suffices ∃ R, enumerate a = R.map V.mkTup ∧ Uniform N R from
    let ⟨R, e, u⟩ := this
    ⟨R, e, u, congrArg V.mkSet e⟩
  cases a with
  | empty => exact ⟨[], rfl, fun _ ht => nomatch ht⟩
  | union xs => cases h
  | true_ =>
    obtain rfl := Option.some.inj h
    exact ⟨[[]], rfl, fun t ht n => by rw [List.mem_singleton.1 ht]; rfl⟩
  | relation r =>
    obtain rfl := Option.some.inj h
    refine ⟨relTups r, enumerate_relation w, fun t ht => ?_⟩
    obtain ⟨row, hrow, rfl⟩ := List.mem_map.1 ht
    exact has_zip (w.width row hrow)
  | seq k pairs =>
    obtain rfl := Option.some.inj h
    refine ⟨pairs.map fun iv => [("@", iv.1), (k.attr, iv.2)], by rw [List.map_map]; rfl, fun t ht n => ?_⟩
    obtain ⟨iv, _, rfl⟩ := List.mem_map.1 ht
    exact has_eq_contains _ n
  | generic xs =>
    refine ⟨xs.map tupOf, ?_, fun t ht n => ?_⟩
    · rw [List.map_map]
      exact (List.map_id _).symm.trans (List.map_congr_left fun x hx => (mkTup_tupOf (w x hx)).symm)
    · obtain ⟨x, hx, rfl⟩ := List.mem_map.1 ht
      cases xs with
      | nil => cases hx
      | cons y rest =>
        cases y with
        | num _ => cases h
        | set _ => cases h
        | tup as =>
          simp only [relationAttrs] at h
          split at h
          · rename_i hall
            obtain rfl := Option.some.inj h
            rcases List.mem_cons.1 hx with rfl | hx'
            · exact has_eq_contains as n
            · have := List.all_eq_true.1 hall x hx'
              cases x with
              | num _ => cases this
              | set _ => cases this
              | tup bs => rw [← sameNames_contains this n]; exact has_eq_contains bs n
          · cases h

theorem isTrue_false_enumerate {a : Rep} (h : Impl.isTrue a = false) : enumerate a = [] := by
  cases a <;> simp_all [Impl.isTrue, enumerate]

theorem den_of_isTrue_false {a : Rep} (h : Impl.isTrue a = false) : den a = V.mkSet [] :=
  congrArg V.mkSet (isTrue_false_enumerate h)

/-! ### results of a run; `SetBuilder.Finish` -/

instance Impl.Res.decidableExistsOk (x : Res) (P : Rep → Prop) [DecidablePred P] :
    Decidable (∃ r, x = .ok r ∧ P r) :=
  match x with
  | .ok r => decidable_of_iff (P r) ⟨fun h => ⟨r, rfl, h⟩, fun ⟨_, e, h⟩ => Res.ok.inj e ▸ h⟩
  | .err => isFalse fun ⟨_, e, _⟩ => Res.noConfusion e
  | .panic _ => isFalse fun ⟨_, e, _⟩ => Res.noConfusion e

theorem finish_ok (ms : List (Option V)) (h : ∀ m ∈ ms, m.isSome = true) :
    finish ms = .ok (ofMembers (ms.filterMap id)) := by
  unfold finish
  have : ms.any Option.isNone = false := by
    rw [Bool.eq_false_iff]
    intro hany
    rw [List.any_eq_true] at hany
    obtain ⟨m, hm, hn⟩ := hany
    have := h m hm
    cases m with
    | none => simp at this
    | some v => simp at hn
  simp [this]

theorem any_isNone_map_some (l : List V) : (l.map some).any Option.isNone = false := by
  rw [List.any_map]; exact List.any_eq_false.2 fun _ _ => Bool.false_ne_true

theorem filterMap_id_map_some (l : List V) : (l.map some).filterMap id = l := by
  rw [List.filterMap_map]; exact List.filterMap_some

/-! ### what a builder fed canonical tuples of one heading returns -/

/-- canonical tuples with the same attribute names (as sets) have the same list of names -/
theorem names_eq_of_has_eq {as bs : Tup} (ha : SortedNames as) (hb : SortedNames bs)
    (h : ∀ n, has as n = has bs n) : as.map (·.1) = bs.map (·.1) :=
  eq_of_pairwise_of_mem_iff (r := (· < ·)) (fun _ _ => String.lt_asymm) (List.pairwise_map.2 ha)
    (List.pairwise_map.2 hb) fun n => by rw [← has_iff_mem_names, ← has_iff_mem_names, h n]

theorem bucketOf_congr {as bs : Tup} (h : as.map (·.1) = bs.map (·.1)) :
    bucketOf (.tup as) = bucketOf (.tup bs) := by
  cases as with
  | nil => obtain rfl := List.map_eq_nil_iff.1 h.symm; rfl
  | cons p r =>
    cases bs with
    | nil => cases h
    | cons q s => rw [bucketOf_cons, bucketOf_cons, h]

/-- canonical tuples with the same attribute names are filed under the same bucket -/
theorem bucketOf_eq_of_has_eq {x y : V} (cx : CanonT x) (cy : CanonT y)
    (h : ∀ n, has (tupOf x) n = has (tupOf y) n) : bucketOf x = bucketOf y := by
  obtain ⟨as, rfl, sa⟩ := cx
  obtain ⟨bs, rfl, sb⟩ := cy
  exact bucketOf_congr (names_eq_of_has_eq sa sb h)

theorem ofMembers_ok {xs : List V} {R : List Tup} (names : Names) (hx : ∀ x ∈ xs, x ∈ R.map V.mkTup)
    (uR : Uniform names R) : RepOK (ofMembers xs) := by
  have hd : ∀ x ∈ dedup xs, CanonT x ∧ ∀ n, has (tupOf x) n = names.contains n := fun x hx' => by
    obtain ⟨t, ht, rfl⟩ := List.mem_map.1 (hx x ((mem_dedup x xs).1 hx'))
    exact ⟨canonT_mkTup t, fun n => (has_mkTup t n).trans (uR t ht n)⟩
  have hnd := nodup_dedup xs
  unfold ofMembers
  generalize dedup xs = d at hd hnd
  cases d with
  | nil => exact ⟨trivial, [], rfl⟩
  | cons x r =>
    have hx0 := hd x (List.mem_cons_self ..)
    -- all members have the same names, hence the same bucket
    have hb : ∀ y ∈ x :: r, bucketOf y = bucketOf x := fun y hy =>
      bucketOf_eq_of_has_eq (hd y hy).1 hx0.1 fun n => ((hd y hy).2 n).trans (hx0.2 n).symm
    simp only [List.all_eq_true.2 fun y hy => decide_eq_true (hb y hy), if_true]
    cases hbx : bucketOf x with
    | generic =>
      -- every member is `()`, and the members are distinct: the set is `{()}`
      have hunit : ∀ y ∈ x :: r, y = .tup [] := fun y hy => by
        obtain ⟨as, rfl, _⟩ := (hd y hy).1
        have := bucketOf_tup as
        rw [hb _ hy, hbx] at this
        rw [this]
      have : x :: r = [.tup []] := by
        cases r with
        | nil => rw [hunit x (List.mem_cons_self ..)]
        | cons y r' =>
          exact absurd ((hunit x (List.mem_cons_self ..)).trans (hunit y (by simp)).symm)
            ((List.pairwise_cons.1 hnd).1 y (List.mem_cons_self ..))
      dsimp only
      rw [if_pos this]
      exact ⟨trivial, [], rfl⟩
    | sugar k => exact ⟨trivial, _, rfl⟩
    | names ns =>
      refine ⟨?_, ns, rfl⟩
      obtain ⟨⟨bs, e2, s2⟩, _⟩ := hx0
      subst e2
      have hns := bucketOf_tup bs
      rw [hbx] at hns
      refine ⟨?_, rfl, ?_, by simp⟩
      · rw [← hns]; exact V.SortedAttrs.nodup s2
      · intro row hrow
        obtain ⟨t, _, e⟩ := List.mem_map.1 hrow
        rw [← e]; simp

theorem finish_mkTup {ms : List (Option V)} {R : List Tup} (h : ∀ m, m ∈ ms ↔ ∃ t ∈ R, m = some (V.mkTup t)) :
    ∃ res, finish ms = .ok res ∧ den res = denRows R ∧ ∀ N, Uniform N R → RepOK res := by
  have hmem : ∀ z, z ∈ ms.filterMap id ↔ z ∈ R.map V.mkTup := fun z => by
    rw [List.mem_filterMap, List.mem_map]
    constructor
    · rintro ⟨m, hm, e⟩
      obtain ⟨t, ht, e'⟩ := (h m).1 hm
      exact ⟨t, ht, Option.some.inj (by rw [← e', ← e]; rfl)⟩
    · rintro ⟨t, ht, e⟩
      exact ⟨some z, (h _).2 ⟨t, ht, by rw [e]⟩, rfl⟩
  refine ⟨_, finish_ok ms fun m hm => ?_, ?_, fun N uR => ofMembers_ok N (fun z hz => (hmem z).1 hz) uR⟩
  · obtain ⟨t, _, e⟩ := (h m).1 hm
    rw [e]; rfl
  · refine (den_ofMembers _ fun z hz => ?_).trans (V.mkSet_congr hmem)
    obtain ⟨t, _, e⟩ := List.mem_map.1 ((hmem z).1 hz)
    rw [← e]; exact canonT_mkTup t

/-! ### the generic path refines the specification -/

theorem genericPath_refines_ok (op : JoinOp) (a b : Rep) (aN bN : Names) (wa : RepWF a) (wb : RepWF b)
    (ha : relationAttrs a = some aN) (hb : relationAttrs b = some bN) :
    ∃ r, genericPath op a b = .ok r ∧ den r = Spec.join op (den a) (den b) ∧ RepOK r := by
  obtain ⟨A, eA, uA, dA⟩ := enumerate_rows a aN wa ha
  obtain ⟨B, eB, uB, dB⟩ := enumerate_rows b bN wb hb
  obtain ⟨r, hfin, hden, hok⟩ := finish_mkTup (generic_members op aN bN A B uA uB)
  refine ⟨r, ?_, by rw [hden, dA, dB, join_denRows], hok _ (uniform_joinRows op uA uB)⟩
  unfold genericPath
  simp only [ha, hb, eA, eB]
  exact hfin

end Arrai.C04
