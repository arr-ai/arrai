/-
  C04 — the join family, nest/unnest and rank.

  `Spec`: the relational definitions on attribute maps (`Tup`) and on values (`V`).
  `Impl`: transliteration of rel/ops_rel.go (RelationAttrs, Joiner, GenericJoin, nestWithFunc, Reduce, Nest,
          SingleAttrNest, Unnest), rel/expr_rel.go (the eight partitionNames/combine pairs),
          rel/value_set_rel.go (Relation.Join, getIndices), rel/value_set_relpos.go (createMode, Join,
          JoinKeepEverything, JoinIfCommonExist, JoinCommonOnly, joinOneSide, groupBy),
          rel/value_values.go (valueProjector, projectedValues), rel/expr_nest.go, expr_single_nest.go,
          expr_unnest.go, rel/ops_set_rank.go, rel/ops_tuple.go (Combine/Merge) — with the repairs DESIGN.md records for C04.
  Core-only (linked into driver-c04).
-/
import Arrai.Core.Canon

namespace Arrai.C04

abbrev Row := List V
abbrev Tup := List (String × V)
abbrev Names := List String
abbrev Proj := List Nat

/-- members of a frozen set / keys of a frozen map: no duplicates (keeps the last occurrence) -/
def dedup {α : Type} [DecidableEq α] : List α → List α
  | [] => []
  | x :: xs => if x ∈ xs then dedup xs else x :: dedup xs

/-- attribute lookup: the first binding of a name wins -/
def get (n : String) : Tup → Option V
  | [] => none
  | (m, v) :: r => if m = n then some v else get n r

def has (t : Tup) (n : String) : Bool := (get n t).isSome

def tupOf : V → Tup
  | .tup as => as
  | _ => []

/-- the eight operators of the join family -/
inductive JoinOp
  | join | compose | common | exists_ | rmatch | lmatch | rres | lres
  deriving DecidableEq, Repr, Inhabited

namespace JoinOp
def all : List JoinOp := [join, compose, common, exists_, rmatch, lmatch, rres, lres]
/-- the operator keeps the attributes unique to the left operand (`<` not replaced by `-`) -/
def keepL : JoinOp → Bool
  | join | compose | lmatch | lres => true
  | _ => false
/-- the operator keeps the common attributes (`&` not replaced by `-`) -/
def keepC : JoinOp → Bool
  | join | common | rmatch | lmatch => true
  | _ => false
/-- the operator keeps the attributes unique to the right operand (`>` not replaced by `-`) -/
def keepR : JoinOp → Bool
  | join | compose | rmatch | rres => true
  | _ => false
def sym : JoinOp → String
  | join => "<&>" | compose => "<->" | common => "-&-" | exists_ => "---"
  | rmatch => "-&>" | lmatch => "<&-" | rres => "-->" | lres => "<--"
end JoinOp

/-! ## Spec: relations as sets of attribute maps -/
namespace Spec

/-- `t` and `u` carry equal values under every name they share -/
def agree (t u : Tup) : Bool :=
  t.all fun p => match get p.1 u with
    | some w => decide (get p.1 t = some w)
    | none => true

/-- `t ∪ u` (for agreeing tuples) -/
def merge (t u : Tup) : Tup := t ++ u.filter (fun p => !has t p.1)

def restrict (S : String → Bool) (t : Tup) : Tup := t.filter (fun p => S p.1)

/-- the attributes of `t ∪ u` an operator keeps: left-only, common, right-only -/
def sel (op : JoinOp) (t u : Tup) (n : String) : Bool :=
  (op.keepL && has t n && !has u n) || (op.keepC && has t n && has u n) || (op.keepR && !has t n && has u n)

/-- `A op B = { (t ∪ u)↾sel | t ∈ A, u ∈ B, t and u agree on their common names }` -/
def joinRows (op : JoinOp) (A B : List Tup) : List Tup :=
  A.flatMap fun t => B.filterMap fun u =>
    if agree t u then some (restrict (sel op t u) (merge t u)) else none

def rowsOf : V → List Tup
  | .set xs => xs.filterMap fun x => match x with
    | .tup as => some as
    | _ => none
  | _ => []

def denRows (R : List Tup) : V := V.mkSet (R.map V.mkTup)

def join (op : JoinOp) (A B : V) : V := denRows (joinRows op (rowsOf A) (rowsOf B))

/-- the key of a row when `attrs` are nested away -/
def keyOf (attrs : Names) (t : Tup) : V := V.mkTup (restrict (fun m => !attrs.contains m) t)

/-- the rows of `R` that share `t`'s key -/
def group (R : List Tup) (attrs : Names) (t : Tup) : List Tup :=
  R.filter fun u => decide (keyOf attrs u = keyOf attrs t)

/-- `R nest |attrs| n = { k ∪ (n: { t↾attrs | t ∈ R, t↾¬attrs = k }) | k ∈ π¬attrs R }` -/
def nestRows (R : List Tup) (attrs : Names) (n : String) : List Tup :=
  R.map fun t =>
    (n, V.mkSet ((group R attrs t).map fun u => V.mkTup (restrict attrs.contains u)))
      :: restrict (fun m => !attrs.contains m) t

/-- `R nest a`: the values of the single attribute `a`, grouped by the other attributes, under `a` -/
def singleNestRows (R : List Tup) (a : String) : List Tup :=
  R.map fun t =>
    (a, V.mkSet ((group R [a] t).filterMap fun u => get a u)) :: restrict (fun m => !([a].contains m)) t

/-- `R unnest n = { (t ∖ n) ∪ s | t ∈ R, s ∈ t.n }` -/
def unnestRows (R : List Tup) (n : String) : List Tup :=
  R.flatMap fun t => (rowsOf ((get n t).getD V.none)).map fun s => merge (restrict (fun m => m ≠ n) t) s

def nest (A : V) (attrs : Names) (n : String) : V := denRows (nestRows (rowsOf A) attrs n)
def singleNest (A : V) (a : String) : V := denRows (singleNestRows (rowsOf A) a)
def unnest (A : V) (n : String) : V := denRows (unnestRows (rowsOf A) n)

/-- the number of rows of `R` whose `k` is strictly smaller than `t`'s -/
def rankOf (R : List Tup) (k : String) (t : Tup) : Nat :=
  (R.filter fun u => V.cmp ((get k u).getD V.none) ((get k t).getD V.none) == .lt).length

/-- `R rank (r: .k, …)`: every row gains, per `(r, k)`, the number of rows with a strictly smaller `k` -/
def rankRows (R : List Tup) (keys : List (String × String)) : List Tup :=
  R.map fun t => (keys.map fun rk => (rk.1, V.num (Int.ofNat (rankOf R rk.2 t)))) ++ t

def rank (A : V) (keys : List (String × String)) : V := denRows (rankRows (rowsOf A) keys)

end Spec

/-! ## Impl -/
namespace Impl

/-! ### NamesSlice (rel/value_tuple.go) -/
def hasIntersect (n n2 : Names) : Bool :=
  if n.length > n2.length then n.any n2.contains else n2.any n.contains

def intersect (n n2 : Names) : Names :=
  if n.length > n2.length then n.filter n2.contains else n2.filter n.contains

def minus (n n2 : Names) : Names := n.filter fun x => !n2.contains x
def isSubset (n n2 : Names) : Bool := n.all n2.contains

/-! ### the eight `partitionNames` closures (rel/ops_rel.go `join`, rel/expr_rel.go) -/
def partitionNames (op : JoinOp) (left right common : Names) : Names × Names :=
  match op with
  | .join =>
    if isSubset left right then ([], right)
    else if isSubset right left then (left, [])
    else (left, minus right left)
  | .compose => (minus left common, minus right common)
  | .common => (common, [])
  | .exists_ => ([], [])
  | .rmatch => ([], right)
  | .lmatch => (left, [])
  | .rres => ([], minus right common)
  | .lres => (minus left common, [])

/-! ### valueProjector / projectedValues (rel/value_values.go) -/
def compose (p p2 : Proj) : Proj := p2.map fun i => p.getD i 0

def isSubProjection (p p2 : Proj) : Bool := p.all p2.contains

def hasCommonIndices (p p2 : Proj) : Bool :=
  if p.length > p2.length then p.any p2.contains else p2.any p.contains

def isIdentityFrom : Nat → Proj → Bool
  | _, [] => true
  | i, x :: xs => x == i && isIdentityFrom (i + 1) xs

def isIdentity (p : Proj) (max : Nat) : Bool := p.length == max && isIdentityFrom 0 p

/-- `Values.project(p).values()`; a slice index out of range (a Go panic) is totalised by `V.none`:
unreachable for rows that have the heading's width (`RelWF`, LemmasRep). -/
def project (p : Proj) (v : Row) : Row :=
  if p.isEmpty || v.isEmpty then [] else p.map fun i => v.getD i V.none

/-! ### positionalRelation (rel/value_set_relpos.go) -/

/-- `CombineOp` as its three bits -/
structure Mode where
  lhs : Bool      -- OnlyOnLHS
  inBoth : Bool   -- InBoth
  rhs : Bool      -- OnlyOnRHS
  deriving DecidableEq, Repr, Inhabited

def createMode (leftKey rightKey leftOutput rightOutput : Proj) : Except String Mode :=
  if leftKey.length != rightKey.length then .error "createMode: keys are not of the same length"
  else if (!isSubProjection leftKey leftOutput && hasCommonIndices leftOutput leftKey) ||
      (!isSubProjection rightKey rightOutput && hasCommonIndices rightOutput rightKey) then
    .error "createMode: partial key output"
  else .ok {
    lhs := !isSubProjection leftOutput leftKey
    rhs := !isSubProjection rightOutput rightKey
    inBoth := hasCommonIndices leftOutput leftKey != hasCommonIndices rightOutput rightKey }

def lookupKey (g : List (Row × List Row)) (k : Row) : Option (List Row) :=
  match g with
  | [] => none
  | (k', s) :: r => if k' = k then some s else lookupKey r k

def hasKey (g : List (Row × List Row)) (k : Row) : Bool := (lookupKey g k).isSome

/-- `groupBy(p)`: key ↦ the rows with that key; one entry `() ↦ all rows` for the empty projector -/
def groupBy (rows : List Row) (p : Proj) : List (Row × List Row) :=
  if p.length == 0 then [([], rows)]
  else (dedup (rows.map (project p))).map fun k => (k, rows.filter fun r => decide (project p r = k))

def joinKeepEverything (r r2 : List Row) (leftKey rightKey leftOutput rightOutput : Proj) : List Row :=
  let rightGroup := groupBy r2 rightKey
  dedup ((groupBy r leftKey).flatMap fun e =>
    match lookupKey rightGroup e.1 with
    | none => []
    | some rightSubset =>
      e.2.flatMap fun leftVal => rightSubset.map fun rightVal =>
        project leftOutput leftVal ++ project rightOutput rightVal)

def truePosRel : List Row := [[]]
def falsePosRel : List Row := []

def joinIfCommonExist (r r2 : List Row) (leftKey rightKey : Proj) : List Row :=
  let (r, r2, leftKey, rightKey) :=
    if (dedup r).length > (dedup r2).length then (r2, r, rightKey, leftKey) else (r, r2, leftKey, rightKey)
  let group := groupBy r leftKey
  if r2.any fun row => hasKey group (project rightKey row) then truePosRel else falsePosRel

/-- position of `index` in `key` (`mapping[index] = i`; the last write wins) -/
def posIn (index : Nat) : Proj → Nat → Option Nat
  | [], _ => none
  | x :: xs, i => match posIn index xs (i + 1) with
    | some j => some j
    | none => if x = index then some i else none

def remap (key : Proj) : Proj → Except String Proj
  | [] => .ok []
  | index :: rest =>
    match posIn index key 0 with
    | none => .error "JoinCommonOnly: invalid output value"
    | some i => (remap key rest).map (i :: ·)

/-- the `mapper` of `JoinCommonOnly` applied to the common keys: the identity when key and output projector
coincide, otherwise the re-mapping of every key into the output order -/
def commonOnlyOut (key value : Proj) (keys : List Row) : Except String (List Row) :=
  if key = value then .ok (dedup keys)
  else match remap key value with
    | .error e => .error e
    | .ok output => .ok (dedup (keys.map (project output)))

def joinCommonOnly (r r2 : List Row) (leftKey rightKey leftOutput rightOutput : Proj) : Except String (List Row) :=
  let keys := ((groupBy r leftKey).map (·.1)).filter fun k => hasKey (groupBy r2 rightKey) k
  if leftOutput.length == 0 then commonOnlyOut rightKey rightOutput keys
  else commonOnlyOut leftKey leftOutput keys

/-- `base.Width()`: the length of any row -/
def width : List Row → Except String Nat
  | [] => .error "Width: Any() of an empty set"
  | r :: _ => .ok r.length

def joinOneSide (base : List Row) (intersector : List (Row × List Row)) (key output : Proj) :
    Except String (List Row) :=
  match width base with
  | .error e => .error e
  | .ok w =>
    if isIdentity output w then
      .ok (base.filter fun v => hasKey intersector (project key v))
    else
      .ok (dedup ((base.filter fun v => hasKey intersector (project key v)).map (project output)))

/-- the strategy `positionalRelation.Join` selects for a mode -/
inductive Strategy
  | keepEverything | oneSideLeft | oneSideRight | commonOnly | ifCommonExist
  deriving DecidableEq, Repr, Inhabited

def strategyOf (m : Mode) : Strategy :=
  match m.lhs, m.inBoth, m.rhs with
  | true, _, true => .keepEverything        -- AllPairs, OnlyOnLHS|OnlyOnRHS
  | true, _, false => .oneSideLeft          -- OnlyOnLHS, OnlyOnLHS|InBoth
  | false, _, true => .oneSideRight         -- OnlyOnRHS, OnlyOnRHS|InBoth
  | false, true, false => .commonOnly       -- InBoth
  | false, false, false => .ifCommonExist   -- 0

def posJoin (r r2 : List Row) (leftKey rightKey leftOutput rightOutput : Proj) : Except String (List Row) :=
  match createMode leftKey rightKey leftOutput rightOutput with
  | .error e => .error e
  | .ok mode =>
    match strategyOf mode with
    | .keepEverything => .ok (joinKeepEverything r r2 leftKey rightKey leftOutput rightOutput)
    | .oneSideLeft => joinOneSide r (groupBy r2 rightKey) leftKey leftOutput
    | .oneSideRight => joinOneSide r2 (groupBy r leftKey) rightKey rightOutput
    | .commonOnly => joinCommonOnly r r2 leftKey rightKey leftOutput rightOutput
    | .ifCommonExist => .ok (joinIfCommonExist r r2 leftKey rightKey)

/-! ### the set representations the join family distinguishes -/

structure Relation where
  attrs : Names
  p : Proj
  rows : List Row
  deriving DecidableEq, Inhabited

inductive SeqKind
  | char | item | byte | value
  deriving DecidableEq, Repr, Inhabited

def SeqKind.attr : SeqKind → String
  | .char => "@char" | .item => "@item" | .byte => "@byte" | .value => "@value"

inductive Rep
  | empty                                   -- EmptySet
  | true_                                   -- TrueSet
  | relation (r : Relation)                 -- Relation
  | seq (k : SeqKind) (pairs : List (V × V))  -- String / Array / Bytes / Dict: the pairs (@, @char|@item|@byte|@value)
  | generic (xs : List V)                   -- GenericSet
  | union (xs : List V)                     -- UnionSet (several buckets)
  deriving Inhabited

inductive Res
  | ok (r : Rep)
  | err
  | panic (site : String)
  deriving Inhabited

/-- `valuesToTuple(val, attrMap)` with `attrMap = mapIndices(attrs, p)` -/
def valuesToTuple (attrs : Names) (p : Proj) (val : Row) : V :=
  V.mkTup ((attrs.zip p).map fun np => (np.1, val.getD np.2 V.none))

def pairTuple (k : SeqKind) (iv : V × V) : V := V.mkTup [("@", iv.1), (k.attr, iv.2)]

/-- the members a representation enumerates -/
def enumerate : Rep → List V
  | .empty => []
  | .true_ => [.tup []]
  | .relation r => r.rows.map (valuesToTuple r.attrs r.p)
  | .seq k pairs => pairs.map (pairTuple k)
  | .generic xs => xs
  | .union xs => xs

def den (r : Rep) : V := V.mkSet (enumerate r)

def isTrue : Rep → Bool
  | .empty => false
  | .true_ => true
  | .relation r => !r.rows.isEmpty
  | .seq _ pairs => !pairs.isEmpty
  | .generic xs => !xs.isEmpty
  | .union xs => !xs.isEmpty

/-- the bucket `SetBuilder.Add` files a member under (`getBucket`) -/
inductive Bucket
  | generic
  | sugar (k : SeqKind)
  | names (ns : Names)
  deriving DecidableEq, Inhabited

def bucketOf : V → Bucket
  | .tup [] => .generic
  | .tup as =>
    let ns := as.map (·.1)
    if ns = ["@", "@char"] then .sugar .char
    else if ns = ["@", "@item"] then .sugar .item
    else if ns = ["@", "@byte"] then .sugar .byte
    else if ns = ["@", "@value"] then .sugar .value
    else .names ns
  | _ => .generic

def pairOf (k : SeqKind) (t : V) : V × V :=
  ((get "@" (tupOf t)).getD V.none, (get k.attr (tupOf t)).getD V.none)

/-- `SetBuilder.Finish()` over canonical members: one bucket → that bucket's builder (relationBuilder with
the sorted names of the tuples and the identity projector; String/Array/Bytes/Dict for the sugar headings;
TrueSet for `{()}`), several buckets → UnionSet -/
def ofMembers (xs0 : List V) : Rep :=
  let xs := dedup xs0
  match xs with
  | [] => .empty
  | x :: _ =>
    let b := bucketOf x
    if xs.all fun y => decide (bucketOf y = b) then
      match b with
      | .generic => if xs = [.tup []] then .true_ else .generic xs
      | .sugar k => .seq k (xs.map (pairOf k))
      | .names ns =>
        .relation ⟨ns, List.range ns.length, xs.map fun t => ns.map fun n => (get n (tupOf t)).getD V.none⟩
    else .union xs

def ofV : V → Rep
  | .set xs => ofMembers xs
  | _ => .union []

/-- members, some of which may be Go `nil` tuples (adding one to a builder panics) -/
def finish (ms : List (Option V)) : Res :=
  if ms.any Option.isNone then .panic "nil tuple added to a set builder"
  else .ok (ofMembers (ms.filterMap id))

/-! ### Relation.Join (rel/value_set_rel.go) -/

def indexOf (n : String) : Names → Option Nat
  | [] => none
  | a :: as => if a = n then some 0 else (indexOf n as).map (· + 1)

/-- `getIndices`: positions of `names` in the heading (the heading of a relation has distinct names) -/
def getIndices (attrs : Names) : Names → Except String (List Nat)
  | [] => .ok []
  | n :: ns =>
    match indexOf n attrs with
    | none => .error "getIndices: name not found in relation"
    | some i => (getIndices attrs ns).map (i :: ·)

def isLiteralTrue (rows : List Row) : Bool := (dedup rows).length == 1 && rows.contains []

def isSugarAttr (n : String) : Option SeqKind :=
  if n = "@item" then some .item else if n = "@byte" then some .byte
  else if n = "@value" then some .value else if n = "@char" then some .char else none

/-- `i.Values().project(proj)` then `values.get(i) = v[p[i]]` -/
def pvGet (proj : Proj) (v : Row) (i : Nat) : Option V :=
  match proj[i]? with
  | none => none
  | some j => v[j]?

/-- the re-sugaring loop of `Relation.Join`; `proj` is the projector the rows are read through:
the identity of the output heading after the repair, the left operand's `r.p` before it -/
def resugarRow (proj : Proj) (attrs : Names) (at_ val : Nat) (row : Row) : Option V :=
  match pvGet proj row at_, pvGet proj row val with
  | some a, some b => some (V.mkTup [("@", a), (attrs.getD val "", b)])
  | _, _ => none

def resugar (proj : Proj) (attrs : Names) (at_ val : Nat) (rows : List Row) : Res :=
  let ms := rows.map (resugarRow proj attrs at_ val)
  if ms.any Option.isNone then .panic "Relation.Join: index out of range" else .ok (ofMembers (ms.filterMap id))

def relationJoinWith (oldProjector : Bool) (r r2 : Relation) (keys leftOutput rightOutput : Names) : Res :=
  if hasIntersect leftOutput rightOutput then .panic "relation.Join: left and right output intersect"
  else
    match getIndices r.attrs keys, getIndices r2.attrs keys,
          getIndices r.attrs leftOutput, getIndices r2.attrs rightOutput with
    | .ok lki, .ok rki, .ok loi, .ok roi =>
      let leftKey := compose r.p lki
      let rightKey := compose r2.p rki
      let leftOutputProj := compose r.p loi
      let rightOutputProj := compose r2.p roi
      let count := leftOutput.length + rightOutput.length
      let projection := List.range count
      match posJoin r.rows r2.rows leftKey rightKey leftOutputProj rightOutputProj with
      | .error e => .panic e
      | .ok rows =>
        if rows.isEmpty then .ok .empty
        else if isLiteralTrue rows then .ok .true_
        else
          let attrs := leftOutput ++ rightOutput
          let plain := Res.ok (.relation ⟨attrs, projection, rows⟩)
          if attrs.length == 2 then
            let (at_, val) := if attrs.getD 1 "" = "@" then (1, 0) else (0, 1)
            if attrs.getD at_ "" = "@" then
              match isSugarAttr (attrs.getD val "") with
              | some _ => resugar (if oldProjector then r.p else projection) attrs at_ val rows
              | none => plain
            else plain
          else plain
    | _, _, _, _ => .panic "getIndices: name not found in relation"

def relationJoin := relationJoinWith false

/-! ### tuples (rel/ops_tuple.go, value_tuple.go) -/

/-- `t.Project(names)`: `nil` when a name is missing -/
def projectT (names : Names) (t : V) : Option V :=
  if names.all (has (tupOf t)) then
    some (V.mkTup (names.map fun n => (n, (get n (tupOf t)).getD V.none)))
  else none

def namesOf (t : V) : Names := (tupOf t).map (·.1)

/-- `TupleProjectAllBut(t, names)` -/
def projectAllBut (t : V) (names : Names) : Option V := projectT (minus (namesOf t) names) t

/-- `Merge(a, b)` via `Combine(a, b, AllPairs)`: `nil` when a common name maps to different values -/
def mergeT (a b : V) : Option V :=
  let ta := tupOf a
  let tb := tupOf b
  if ta.all fun p => match get p.1 tb with
      | some w => decide (p.2 = w)
      | none => true
  then some (V.mkTup (ta ++ tb.filter fun p => !has ta p.1))
  else none

/-- the eight `combine` closures -/
def combine (op : JoinOp) (common : Names) (a b : V) : Option V :=
  match op with
  | .join => mergeT a b
  | .compose =>
    match projectAllBut a common, projectAllBut b common with
    | some x, some y => mergeT x y
    | _, _ => none
  | .common => projectT common a
  | .exists_ => some (.tup [])
  | .rmatch => some b
  | .lmatch => some a
  | .rres => projectAllBut b common
  | .lres => projectAllBut a common

/-! ### RelationAttrs, GenericJoin, Joiner (rel/ops_rel.go) -/

def sameNames (a b : Names) : Bool := isSubset a b && isSubset b a

def relationAttrs : Rep → Option Names
  | .relation r => some r.attrs
  | .empty => some []
  | .true_ => some []
  | .seq k _ => some ["@", k.attr]
  | .generic [] => some []
  | .generic (x :: rest) =>
    match x with
    | .tup as =>
      let names := as.map (·.1)
      if rest.all fun y => match y with
          | .tup bs => sameNames names (bs.map (·.1))
          | _ => false
      then some names else none
    | _ => none
  | .union _ => none

/-- `GenericJoin`: both sides are bucketed by key; every key's buckets are combined pairwise -/
def genericJoin (a b : List V) (getKey : V → Option V) (f : V → V → Option V) : List (Option V) :=
  (dedup ((a ++ b).map getKey)).flatMap fun k =>
    (a.filter fun x => decide (getKey x = k)).flatMap fun x =>
      (b.filter fun y => decide (getKey y = k)).map fun y => f x y

def joiner (op : JoinOp) (a b : Rep) : Res :=
  match a with
  | .empty => .ok .empty
  | _ =>
    match b with
    | .empty => .ok .empty
    | _ =>
      match a, b with
      | .relation r1, .relation r2 =>
        let common := intersect r1.attrs r2.attrs
        let lr := partitionNames op r1.attrs r2.attrs common
        relationJoin r1 r2 common lr.1 lr.2
      | _, _ =>
        match relationAttrs a, relationAttrs b with
        | some aNames, some bNames =>
          let common := aNames.filter bNames.contains
          finish (genericJoin (enumerate a) (enumerate b) (projectT common) (combine op common))
        | _, _ => .err

/-- the generic path alone (what `Joiner` does when an operand is not a `Relation`) -/
def genericPath (op : JoinOp) (a b : Rep) : Res :=
  match relationAttrs a, relationAttrs b with
  | some aNames, some bNames =>
    let common := aNames.filter bNames.contains
    finish (genericJoin (enumerate a) (enumerate b) (projectT common) (combine op common))
  | _, _ => .err

/-! ### Reduce, nest, unnest (rel/ops_rel.go, expr_nest.go, expr_single_nest.go, expr_unnest.go) -/

def reduce (a : List V) (getKey : V → Option V) (red : Option V → List V → List (Option V)) : List (Option V) :=
  (dedup (a.map getKey)).flatMap fun k => red k (a.filter fun v => decide (getKey v = k))

/-- the reducer of `nestWithFunc`: the key tuple merged with `(attr: {fn t | t in the bucket})` -/
def nestGroup (attr : String) (fn : V → Option V) (k : Option V) (tuples : List V) : List (Option V) :=
  match k with
  | none => [none]
  | some kt =>
    if (tuples.map fn).any Option.isNone then [none]
    else [mergeT kt (V.mkTup [(attr, V.mkSet ((tuples.map fn).filterMap id))])]

def nestWithFunc (a : Rep) (relAttrs attrs : Names) (attr : String) (fn : V → Option V) : Res :=
  if !isTrue a then .ok a
  else if !isSubset attrs relAttrs then .panic "nestWithFunc: nest attrs not a subset of relation attrs"
  else finish (reduce (enumerate a) (projectT (minus relAttrs attrs)) (nestGroup attr fn))

def nest (a : Rep) (relAttrs attrs : Names) (attr : String) : Res :=
  nestWithFunc a relAttrs attrs attr (projectT attrs)

def singleAttrNest (a : Rep) (relAttrs : Names) (attr : String) : Res :=
  nestWithFunc a relAttrs [attr] attr fun t => get attr (tupOf t)

/-- `NestExpr.Eval` (as repaired: the subset and clash tests come before `Nest` for both forms) -/
def nestExpr (inverse : Bool) (lhs : Rep) (attrs : Names) (attr : String) : Res :=
  if !isTrue lhs then .ok lhs
  else match relationAttrs lhs with
    | none => .err
    | some relAttrs =>
      if !isSubset attrs relAttrs then .err
      else
        let attrs' := if inverse then minus relAttrs attrs else attrs
        if inverse && attrs'.isEmpty then .err
        else if (minus relAttrs attrs').contains attr then .err
        else nest lhs relAttrs attrs' attr

/-- `SingleNestExpr.Eval` (as repaired) -/
def singleNestExpr (lhs : Rep) (attr : String) : Res :=
  match relationAttrs lhs with
  | none => .err
  | some relAttrs =>
    if isTrue lhs && !relAttrs.contains attr then .err
    else singleAttrNest lhs relAttrs attr

/-- the row `t` cannot be unnested: its `attr` is not a set of tuples that merge with the rest of `t` -/
def unnestBad (attr : String) (t : V) : Bool :=
  match get attr (tupOf t) with
  | some (.set xs) =>
    xs.any fun s => match s with
      | .tup _ => (mergeT (V.mkTup ((tupOf t).filter fun p => p.1 ≠ attr)) s).isNone
      | _ => true
  | _ => true

/-- the reducer of `Unnest`: every member of `t.attr` merged with `t` without `attr` -/
def unnestGroup (attr : String) (k : Option V) (_tuples : List V) : List (Option V) :=
  match k with
  | none => [none]
  | some t =>
    match get attr (tupOf t) with
    | some (.set xs) => xs.map fun s => mergeT (V.mkTup ((tupOf t).filter fun p => p.1 ≠ attr)) s
    | _ => [none]

/-- `Unnest` (as repaired: ill-typed rows are an error) -/
def unnest (a : Rep) (attr : String) : Res :=
  match relationAttrs a with
  | none => .err
  | some key =>
    if !key.contains attr then .err
    else if (enumerate a).any (unnestBad attr) then .err
    else finish (reduce (enumerate a) (projectT key) (unnestGroup attr))

def unnestExpr (lhs : Rep) (attr : String) : Res :=
  if !isTrue lhs then .ok lhs else unnest lhs attr

/-! ### Rank (rel/ops_set_rank.go) -/

structure Entry where
  input : Tup
  ranker : Tup

/-- insertion into a list sorted by the ranker's `attr` (`sort.Sort` is modelled by a sorting function) -/
def insertBy (attr : String) (e : Entry) : List Entry → List Entry
  | [] => [e]
  | x :: xs =>
    if V.cmp ((get attr e.ranker).getD V.none) ((get attr x.ranker).getD V.none) == .lt then e :: x :: xs
    else x :: insertBy attr e xs

def sortBy (attr : String) (es : List Entry) : List Entry := es.foldr (insertBy attr) []

/-- the loop `for i, r := range ranker.entries { … }` -/
def rankLoop (attr : String) : List Entry → Nat → Nat → V → List Entry
  | [], _, _, _ => []
  | r :: rest, i, rank, current =>
    let a := (get attr r.ranker).getD V.none
    let rank' := if a = current then rank else i
    { r with input := (attr, V.num (Int.ofNat rank')) :: r.input.filter (fun p => p.1 ≠ attr) }
      :: rankLoop attr rest (i + 1) rank' a

def rankPass (es : List Entry) (attr : String) : List Entry :=
  match sortBy attr es with
  | [] => []
  | e0 :: rest => rankLoop attr (e0 :: rest) 0 0 ((get attr e0.ranker).getD V.none)

/-- `Rank(s, rankerf)` with `rankerf = \t (r: t.k, …)` given as the pairs `(r, k)` -/
def rank (a : Rep) (keys : List (String × String)) : Res :=
  if !isTrue a then .ok .empty
  else
    let ts := enumerate a
    if ts.any fun t => keys.any fun rk => !has (tupOf t) rk.2 then .err
    else
      let entries : List Entry := ts.map fun t =>
        ⟨tupOf t, keys.map fun rk => (rk.1, (get rk.2 (tupOf t)).getD V.none)⟩
      let out := (keys.map (·.1)).foldl rankPass entries
      .ok (ofMembers (out.map fun e => V.mkTup e.input))

end Impl

/-! ## Observables -/

def Impl.Res.obs : Impl.Res → String
  | .ok r => (Impl.den r).canon
  | .err => "error"
  | .panic _ => "panic"

def countOf : V → Nat
  | .set xs => xs.length
  | _ => 0

/-- canon and member count -/
def obsCount (v : V) : String := v.canon ++ "#" ++ toString (countOf v)

def Impl.Res.obsCount : Impl.Res → String
  | .ok r => C04.obsCount (Impl.den r)
  | .err => "error"
  | .panic _ => "panic"

end Arrai.C04
