/-
  C04 helper lemmas: `Reduce` followed by `SetBuilder` over an operand written as rows (`finish_reduce`),
  `nestWithFunc` for any collecting function (`nestWith_refines`, from which Proofs/C04 also gets `SingleAttrNest`), and
  from it `Nest` and `NestExpr.Eval` refine `Spec.nest` (`nest_refines`, `nestExpr_refines`).  Core-only.
-/
import Arrai.C04.LemmasRep

namespace Arrai.C04
open Spec Impl

/-! ### Reduce -/

theorem mem_reduce (a : List V) (getKey : V → Option V) (red : Option V → List V → List (Option V))
    (m : Option V) :
    m ∈ reduce a getKey red ↔
      ∃ x ∈ a, m ∈ red (getKey x) (a.filter fun v => decide (getKey v = getKey x)) := by
  unfold reduce
  simp only [List.mem_flatMap, mem_dedup, List.mem_map]
  constructor
  · rintro ⟨k, ⟨x, hx, e⟩, hm⟩
    subst e
    exact ⟨x, hx, hm⟩
  · rintro ⟨x, hx, hm⟩
    exact ⟨getKey x, ⟨x, hx, rfl⟩, hm⟩

theorem finish_reduce {R : List Tup} {key : V → Option V} {red : Option V → List V → List (Option V)}
    {F : Tup → List Tup}
    (h : ∀ t ∈ R, red (key (V.mkTup t)) ((R.map V.mkTup).filter fun v => decide (key v = key (V.mkTup t))) =
      (F t).map fun s => some (V.mkTup s)) :
    ∃ res, finish (reduce (R.map V.mkTup) key red) = .ok res ∧ den res = denRows (R.flatMap F) := by
  have hm : ∀ m, m ∈ reduce (R.map V.mkTup) key red ↔ ∃ s ∈ R.flatMap F, m = some (V.mkTup s) := by
    intro m
    rw [mem_reduce]
    simp only [List.mem_map, List.mem_flatMap]
    constructor
    · rintro ⟨_, ⟨t, ht, rfl⟩, hm⟩
      rw [h t ht, List.mem_map] at hm
      obtain ⟨s, hs, rfl⟩ := hm
      exact ⟨s, ⟨t, ht, hs⟩, rfl⟩
    · rintro ⟨s, ⟨t, ht, hs⟩, rfl⟩
      exact ⟨_, ⟨t, ht, rfl⟩, by rw [h t ht]; exact List.mem_map.2 ⟨s, hs, rfl⟩⟩
  exact let ⟨res, hres, hden, _⟩ := finish_mkTup hm; ⟨res, hres, hden⟩

/-! ### nestWithFunc -/

def nestRowWith (g : Tup → V) (R : List Tup) (attrs : Names) (attr : String) (t : Tup) : Tup :=
  (attr, V.mkSet ((group R attrs t).map g)) :: restrict (fun m => !attrs.contains m) t

theorem nestRows_eq_map_nestRowWith (R : List Tup) (attrs : Names) (n : String) :
    nestRows R attrs n = R.map (nestRowWith (fun u => V.mkTup (restrict attrs.contains u)) R attrs n) := rfl

section nestWith
variable {N attrs : Names} {attr : String} {fn : V → Option V} {g : Tup → V} {R : List Tup}

theorem projectT_minus {t : Tup} (ht : ∀ n, has t n = N.contains n) :
    projectT (minus N attrs) (V.mkTup t) = some (keyOf attrs t) :=
  projectT_mkTup_of fun n => by rw [contains_minus, ht]

variable (uR : Uniform N R) (hfn : ∀ u ∈ R, fn (V.mkTup u) = some (g u))
variable (hclash : (minus N attrs).contains attr = false)

include uR hfn hclash in
theorem nestGroup_eq {t : Tup} (ht : t ∈ R) :
    nestGroup attr fn (projectT (minus N attrs) (V.mkTup t))
      ((R.map V.mkTup).filter fun v => decide (projectT (minus N attrs) v = projectT (minus N attrs) (V.mkTup t))) =
      [some (V.mkTup (nestRowWith g R attrs attr t))] := by
  -- the bucket is the group of `t`, and `fn` is defined on it
  have hbucket : ((R.map V.mkTup).filter fun v => decide (projectT (minus N attrs) v =
      projectT (minus N attrs) (V.mkTup t))).map fn = ((group R attrs t).map g).map some := by
    unfold group
    rw [List.filter_map, List.map_map, List.map_map, List.filter_congr fun u hu => by
      show decide (projectT (minus N attrs) (V.mkTup u) = _) = decide (keyOf attrs u = keyOf attrs t)
      rw [projectT_minus (uR u hu), projectT_minus (uR t ht)]
      exact decide_eq_decide.2 Option.some_inj]
    exact List.map_congr_left fun u hu => hfn u (List.mem_filter.1 hu).1
  -- the key has no attribute `attr`, so the merge never clashes
  have hkey : get attr (restrict (fun m => !attrs.contains m) t) = none := by
    rw [contains_minus, ← uR t ht] at hclash
    rw [get_restrict]
    cases ha : attrs.contains attr
    · rw [ha] at hclash; exact (has_false_iff t attr).1 (by simpa using hclash)
    · rfl
  have hag : agree (restrict (fun m => !attrs.contains m) t) [(attr, V.mkSet ((group R attrs t).map g))] = true := by
    rw [agree_iff]
    intro n v w hv hw
    rw [get_cons] at hw
    by_cases e : attr = n
    · subst e; rw [hkey] at hv; cases hv
    · simp [e] at hw
  unfold nestGroup
  rw [hbucket, projectT_minus (uR t ht), any_isNone_map_some, filterMap_id_map_some]
  simp only [Bool.false_eq_true, if_false]
  unfold keyOf
  rw [mergeT_mkTup hag]
  refine congrArg (fun z => [some z]) (mkTup_congr fun m => ?_)
  unfold nestRowWith
  rw [get_merge, get_cons, get_cons, get_nil]
  by_cases e : attr = m
  · subst e; rw [(has_false_iff _ _).2 hkey]; simp
  · simp only [e, if_false]
    cases hh : has (restrict (fun m => !attrs.contains m) t) m
    · exact ((has_false_iff _ m).1 hh).symm
    · rfl

end nestWith

theorem nestWith_refines (a : Rep) {R : List Tup} (relAttrs attrs : Names) (attr : String) (fn : V → Option V)
    (g : Tup → V) (eR : enumerate a = R.map V.mkTup) (uR : Uniform relAttrs R)
    (hsub : isSubset attrs relAttrs = true) (hclash : (minus relAttrs attrs).contains attr = false)
    (hfn : ∀ u ∈ R, fn (V.mkTup u) = some (g u)) :
    ∃ res, nestWithFunc a relAttrs attrs attr fn = .ok res ∧
      den res = denRows (R.map (nestRowWith g R attrs attr)) := by
  unfold nestWithFunc
  cases ht : Impl.isTrue a with
  | true =>
    simp only [Bool.not_true, Bool.false_eq_true, if_false, hsub]
    obtain ⟨res, hres, hden⟩ := finish_reduce (key := projectT (minus relAttrs attrs)) (red := nestGroup attr fn)
      (F := fun t => [nestRowWith g R attrs attr t]) fun t ht => nestGroup_eq uR hfn hclash ht
    exact ⟨res, by rw [eR]; exact hres, by rw [hden, ← List.map_eq_flatMap]⟩
  | false =>
    refine ⟨a, rfl, ?_⟩
    rw [isTrue_false_enumerate ht] at eR
    rw [List.map_eq_nil_iff.1 eR.symm]
    exact den_of_isTrue_false ht

theorem nest_refines (a : Rep) (relAttrs attrs : Names) (attr : String) (wa : RepWF a)
    (ha : relationAttrs a = some relAttrs) (hsub : isSubset attrs relAttrs = true)
    (hclash : (minus relAttrs attrs).contains attr = false) :
    ∃ res, Impl.nest a relAttrs attrs attr = .ok res ∧ den res = Spec.nest (den a) attrs attr := by
  obtain ⟨R, eR, uR, dR⟩ := enumerate_rows a relAttrs wa ha
  rw [dR, nest_denRows, nestRows_eq_map_nestRowWith]
  exact nestWith_refines a relAttrs attrs attr (projectT attrs) (fun u => V.mkTup (restrict attrs.contains u))
    eR uR hsub hclash fun u hu => projectT_mkTup (has_of_mem_heading (uR u hu) ((isSubset_iff _ _).1 hsub))

theorem nestExpr_refines (inverse : Bool) (a : Rep) (relAttrs attrs : Names) (attr : String) (wa : RepWF a)
    (ha : relationAttrs a = some relAttrs) (hsub : isSubset attrs relAttrs = true)
    (hne : inverse = true → (minus relAttrs attrs).isEmpty = false)
    (hclash : (minus relAttrs (if inverse then minus relAttrs attrs else attrs)).contains attr = false) :
    ∃ res, nestExpr inverse a attrs attr = .ok res ∧
      den res = Spec.nest (den a) (if inverse then minus relAttrs attrs else attrs) attr := by
  unfold nestExpr
  cases ht : Impl.isTrue a with
  | true =>
    simp only [Bool.not_true, Bool.false_eq_true, if_false, ha, hsub]
    cases inverse with
    | false =>
      simp only [Bool.false_eq_true, if_false, Bool.false_and] at hclash ⊢
      rw [hclash]
      simp only [Bool.false_eq_true, if_false]
      exact nest_refines a relAttrs attrs attr wa ha hsub hclash
    | true =>
      simp only [if_true, Bool.true_and] at hclash ⊢
      rw [hne rfl, hclash]
      simp only [Bool.false_eq_true, if_false]
      exact nest_refines a relAttrs (minus relAttrs attrs) attr wa ha (isSubset_minus _ _) hclash
  | false => exact ⟨a, rfl, by rw [den_of_isTrue_false ht]; rfl⟩

end Arrai.C04
