/-
  C04 helper lemmas for `Unnest` (Reduce over the whole tuple as key): the rows it can be applied to, that none
  of them is turned away, and what its reducer returns on them.  Core-only.
-/
import Arrai.C04.LemmasNest

namespace Arrai.C04
open Spec Impl

theorem projectT_heading {N : Names} {t : Tup} (ht : ∀ n, has t n = N.contains n) :
    projectT N (V.mkTup t) = some (V.mkTup t) :=
  (projectT_mkTup_of (S := fun _ => true) fun n => by rw [ht, Bool.and_true]).trans
    (congrArg (some ∘ V.mkTup) (List.filter_eq_self.2 fun _ _ => rfl))

/-- the rows an operand must have for `unnest attr`: `attr` holds a set of canonical tuples each of which
merges with the rest of its row -/
def Unnestable (attr : String) (xs : List V) : Prop :=
  ∀ x ∈ xs, ∃ ys, get attr (tupOf x) = some (.set ys) ∧
    ∀ s ∈ ys, CanonT s ∧ agree ((tupOf x).filter fun p => p.1 ≠ attr) (tupOf s) = true

theorem mergeT_canon {T : Tup} {s : V} (cs : CanonT s) (hag : agree T (tupOf s) = true) :
    mergeT (V.mkTup T) s = some (V.mkTup (merge T (tupOf s))) := by
  conv => lhs; rw [← mkTup_tupOf cs]
  exact mergeT_mkTup hag

theorem rowsOf_set_canon (ys : List V) (h : ∀ s ∈ ys, CanonT s) : rowsOf (.set ys) = ys.map tupOf :=
  filterMap_eq_map_of_some ys fun s hs => by obtain ⟨as, rfl, _⟩ := h s hs; rfl

theorem unnestBad_false {attr : String} {xs : List V} (hu : Unnestable attr xs) :
    xs.any (unnestBad attr) = false := by
  rw [Bool.eq_false_iff]
  intro h
  rw [List.any_eq_true] at h
  obtain ⟨x, hx, hb⟩ := h
  obtain ⟨ys, hg, hys⟩ := hu x hx
  unfold unnestBad at hb
  rw [hg] at hb
  simp only [List.any_eq_true] at hb
  obtain ⟨s, hs, hb⟩ := hb
  obtain ⟨⟨as, e, sas⟩, hag⟩ := hys s hs
  subst e
  dsimp only at hb
  rw [mergeT_canon ⟨as, rfl, sas⟩ hag] at hb
  cases hb

theorem unnestGroup_eq {N : Names} {attr : String} {R : List Tup} {t : Tup} (bucket : List V)
    (uR : Uniform N R) (hu : Unnestable attr (R.map V.mkTup)) (ht : t ∈ R) :
    unnestGroup attr (projectT N (V.mkTup t)) bucket =
      ((rowsOf ((get attr t).getD V.none)).map fun s => merge (restrict (fun m => m ≠ attr) t) s).map
        fun s => some (V.mkTup s) := by
  obtain ⟨ys, hg, hys⟩ := hu _ (List.mem_map.2 ⟨t, ht, rfl⟩)
  rw [projectT_heading (uR t ht)]
  unfold unnestGroup
  simp only [hg]
  rw [get_tupOf_mkTup] at hg
  rw [hg, Option.getD_some, rowsOf_set_canon ys fun s hs => (hys s hs).1, List.map_map, List.map_map]
  refine List.map_congr_left fun s hs => ?_
  rw [mergeT_canon (hys s hs).1 (hys s hs).2]
  exact congrArg some (mkTup_congr
    (merge_congr (restrict_congr (fun m => decide (m ≠ attr)) (get_tupOf_mkTup t)) (Eqv.refl _)))

end Arrai.C04
