/-
  C04 helper lemmas: the positional path — indices and projections in terms of attribute names, `groupBy`,
  and the five strategies of `positionalRelation.Join`, each shown to return, under its side condition (`SideOK`),
  the matched pairs (`Matched`)
  `{ project lo l ++ project ro r | l ∈ rows₁, r ∈ rows₂, project lk l = project rk r }`.  Core-only.
-/
import Arrai.C04.LemmasRep

namespace Arrai.C04
open Spec Impl

/-! ### indices of names -/

/-- core's `attrs.idxOf n` for a name of the heading (`idxOf_eq`); `0` for any other name, where `attrs.idxOf n` is the
length -/
def idxOf (attrs : Names) (n : String) : Nat := (indexOf n attrs).getD 0

theorem indexOf_eq {n : String} {attrs : Names} (h : n ∈ attrs) : indexOf n attrs = some (attrs.idxOf n) := by
  induction attrs with
  | nil => cases h
  | cons a as ih =>
    rw [indexOf, List.idxOf_cons]
    by_cases e : a = n
    · simp [e]
    · rw [if_neg e, ih ((List.mem_cons.1 h).resolve_left (Ne.symm e)), beq_false_of_ne e]
      rfl

theorem idxOf_eq {n : String} {attrs : Names} (h : n ∈ attrs) : idxOf attrs n = attrs.idxOf n := by
  rw [idxOf, indexOf_eq h]; rfl

theorem idxOf_lt {n : String} {attrs : Names} (h : n ∈ attrs) : idxOf attrs n < attrs.length := by
  rw [idxOf_eq h]; exact List.idxOf_lt_length_of_mem h

theorem idxOf_inj {n m : String} {attrs : Names} (hn : n ∈ attrs) (hm : m ∈ attrs)
    (h : idxOf attrs n = idxOf attrs m) : n = m := by
  rw [idxOf_eq hn, idxOf_eq hm] at h
  rw [← List.getElem_idxOf (List.idxOf_lt_length_of_mem hn), ← List.getElem_idxOf (List.idxOf_lt_length_of_mem hm)]
  congr 1

theorem getIndices_ok {attrs : Names} : ∀ names : Names, (∀ n ∈ names, n ∈ attrs) →
    getIndices attrs names = .ok (names.map (idxOf attrs)) :=
  forall_mem_rec rfl fun n ns hn ih => by
    have hi := indexOf_eq hn
    unfold getIndices
    rw [hi, ih]
    simp [idxOf, hi, Except.map]

theorem compose_range_idxOf {attrs names : Names} (h : ∀ n ∈ names, n ∈ attrs) :
    compose (List.range attrs.length) (names.map (idxOf attrs)) = names.map (idxOf attrs) := by
  unfold compose
  rw [List.map_map]
  refine List.map_congr_left fun n hn => ?_
  show (List.range attrs.length).getD (idxOf attrs n) 0 = _
  rw [List.getD_eq_getElem?_getD, List.getElem?_range (idxOf_lt (h n hn))]; rfl

/-! ### `project` -/

@[simp] theorem project_nil (v : Row) : project [] v = [] := rfl

theorem project_nil_right (p : Proj) : project p [] = [] := by
  unfold project; rw [List.isEmpty_nil, Bool.or_true]; rfl

theorem project_of_ne_nil {v : Row} (hv : v ≠ []) (p : Proj) : project p v = p.map fun i => v.getD i V.none := by
  cases p with
  | nil => rfl
  | cons i is =>
    cases v with
    | nil => exact absurd rfl hv
    | cons w ws => rfl

theorem isIdentityFrom_project (p : Proj) (s : Nat) (pre v : Row) (hs : pre.length = s)
    (h : isIdentityFrom s p = true) (hl : p.length = v.length) :
    p.map (fun i => (pre ++ v).getD i V.none) = v := by
  induction p generalizing s pre v with
  | nil => cases v <;> simp_all
  | cons a as ih =>
    cases v with
    | nil => simp at hl
    | cons w ws =>
      simp only [isIdentityFrom, Bool.and_eq_true, beq_iff_eq] at h
      simp only [List.length_cons] at hl
      have hl' : as.length = ws.length := by omega
      rw [List.map_cons]
      congr 1
      · rw [h.1, ← hs]; simp
      · have := ih (s + 1) (pre ++ [w]) ws (by simp [hs]) h.2 hl'
        simpa using this

theorem isIdentity_project (p : Proj) (v : Row) (h : isIdentity p v.length = true) : project p v = v := by
  unfold isIdentity at h
  simp only [Bool.and_eq_true, beq_iff_eq] at h
  cases v with
  | nil =>
    obtain rfl : p = [] := List.eq_nil_of_length_eq_zero h.1
    rfl
  | cons w ws =>
    rw [project_of_ne_nil (List.cons_ne_nil w ws)]
    exact isIdentityFrom_project p 0 [] (w :: ws) rfl h.2 h.1

/-! ### projections in terms of names -/

/-- the values of `names` in a tuple -/
def vals (names : Names) (t : Tup) : Row := names.map fun n => (get n t).getD V.none

theorem get_zip_index {attrs : Names} {row : Row} {n : String} {i : Nat}
    (h : indexOf n attrs = some i) (hl : row.length = attrs.length) :
    get n (attrs.zip row) = row[i]? := by
  induction attrs generalizing row i with
  | nil => simp [indexOf] at h
  | cons a as ih =>
    cases row with
    | nil => simp at hl
    | cons v vs =>
      simp only [List.length_cons] at hl
      have hl' : vs.length = as.length := by omega
      unfold indexOf at h
      rw [List.zip_cons_cons, get_cons]
      by_cases e : a = n
      · simp [e] at h; subst h; simp [e]
      · simp only [e, if_false] at h ⊢
        cases hi : indexOf n as with
        | none => simp [hi] at h
        | some j =>
          simp [hi] at h
          subst h
          rw [ih hi hl']
          simp

theorem project_names {attrs names : Names} {row : Row} (h : ∀ n ∈ names, n ∈ attrs)
    (hl : row.length = attrs.length) :
    project (names.map (idxOf attrs)) row = vals names (attrs.zip row) := by
  cases row with
  | nil =>
    obtain rfl : attrs = [] := List.eq_nil_of_length_eq_zero hl.symm
    obtain rfl : names = [] := List.eq_nil_iff_forall_not_mem.2 fun n hn => nomatch h n hn
    rfl
  | cons v vs =>
    rw [project_of_ne_nil (List.cons_ne_nil v vs), List.map_map]
    refine List.map_congr_left fun n hn => ?_
    have hi := indexOf_eq (h n hn)
    simp only [Function.comp, idxOf, hi, Option.getD_some]
    rw [get_zip_index hi hl, List.getD_eq_getElem?_getD]

theorem vals_length (names : Names) (t : Tup) : (vals names t).length = names.length := by simp [vals]

theorem vals_eq_iff {names : Names} {t u : Tup} (ht : ∀ n ∈ names, has t n = true)
    (hu : ∀ n ∈ names, has u n = true) :
    vals names t = vals names u ↔ ∀ n ∈ names, get n t = get n u := by
  unfold vals
  constructor
  · intro h n hn
    have := List.map_inj_left.1 h n hn
    obtain ⟨v, hv⟩ := (has_true_iff t n).1 (ht n hn)
    obtain ⟨w, hw⟩ := (has_true_iff u n).1 (hu n hn)
    rw [hv, hw] at this ⊢
    simp at this
    rw [this]
  · intro h
    apply List.map_congr_left
    intro n hn
    rw [h n hn]

theorem get_zip_vals {names : Names} {t : Tup} (n : String) (ht : ∀ m ∈ names, has t m = true) :
    get n (names.zip (vals names t)) = if names.contains n then get n t else none := by
  unfold vals
  rw [zip_map_self, get_map_pair]
  cases hc : names.contains n
  · simp
  · obtain ⟨v, hv⟩ := (has_true_iff t n).1 (ht n (by simpa using hc))
    simp [hv]

/-! ### groupBy -/

theorem lookupKey_eq_lookup (g : List (Row × List Row)) (k : Row) : lookupKey g k = g.lookup k :=
  eq_lookup_of_first_wins (f := (lookupKey · k)) rfl (fun _ _ => if_pos rfl) (fun _ _ _ h => if_neg h) g

theorem groupBy_eq (rows : List Row) (p : Proj) (hne : rows ≠ []) :
    groupBy rows p =
      (dedup (rows.map (project p))).map fun k => (k, rows.filter fun r => decide (project p r = k)) := by
  unfold groupBy
  split
  · rename_i hp
    obtain rfl : p = [] := List.eq_nil_of_length_eq_zero (by simpa using hp)
    rw [show rows.map (project []) = rows.map fun _ => [] from List.map_congr_left fun r _ => project_nil r,
      dedup_map_const [] rows hne]
    simp [List.filter_eq_self.2]
  · rfl

theorem lookupKey_groupBy (rows : List Row) (p : Proj) (k : Row) (hne : rows ≠ []) :
    lookupKey (groupBy rows p) k =
      if ∃ r ∈ rows, project p r = k then some (rows.filter fun r => decide (project p r = k)) else none := by
  rw [groupBy_eq rows p hne, lookupKey_eq_lookup, lookup_map_key]
  simp only [mem_dedup, List.mem_map]

theorem hasKey_groupBy (rows : List Row) (p : Proj) (k : Row) (hne : rows ≠ []) :
    hasKey (groupBy rows p) k = true ↔ ∃ r ∈ rows, project p r = k := by
  unfold hasKey
  rw [lookupKey_groupBy rows p k hne]
  by_cases h : ∃ r ∈ rows, project p r = k <;> simp [h]

theorem mem_groupBy (rows : List Row) (p : Proj) (hne : rows ≠ []) (e : Row × List Row) (he : e ∈ groupBy rows p) (l : Row) :
    l ∈ e.2 ↔ l ∈ rows ∧ project p l = e.1 := by
  rw [groupBy_eq rows p hne] at he
  obtain ⟨k, _, rfl⟩ := List.mem_map.1 he
  simp [List.mem_filter]

theorem groupBy_covers (rows : List Row) (p : Proj) (l : Row) (hl : l ∈ rows) :
    ∃ e ∈ groupBy rows p, e.1 = project p l ∧ l ∈ e.2 := by
  rw [groupBy_eq rows p (List.ne_nil_of_mem hl)]
  exact ⟨_, List.mem_map.2 ⟨project p l, (mem_dedup _ _).2 (List.mem_map.2 ⟨l, hl, rfl⟩), rfl⟩, rfl,
    List.mem_filter.2 ⟨hl, by simp⟩⟩

theorem mem_keys_groupBy (rows : List Row) (p : Proj) (k : Row) (hne : rows ≠ []) :
    k ∈ (groupBy rows p).map (·.1) ↔ ∃ l ∈ rows, project p l = k := by
  rw [groupBy_eq rows p hne, List.map_map]
  simp [mem_dedup]

/-! ### the strategies

The operands have a row throughout (`RelWF.nonempty`): grouped by the empty projector an empty relation still has the
one entry `() ↦ []`, which `groupBy_eq` does not cover. -/

/-- what every strategy has to compute -/
def Matched (r r2 : List Row) (lk rk lo ro : Proj) (x : Row) : Prop :=
  ∃ l ∈ r, ∃ r' ∈ r2, project lk l = project rk r' ∧ x = project lo l ++ project ro r'

/-- the side condition under which a strategy computes the matched pairs -/
def SideOK : Strategy → Proj → Proj → Proj → Proj → Prop
  | .keepEverything, _, _, _, _ => True
  | .oneSideLeft, _, _, _, ro => ro = []
  | .oneSideRight, _, _, lo, _ => lo = []
  | .commonOnly, lk, rk, lo, ro => (ro = [] ∧ ∀ i ∈ lo, i ∈ lk) ∨ (lo = [] ∧ ∀ i ∈ ro, i ∈ rk)
  | .ifCommonExist, _, _, lo, ro => lo = [] ∧ ro = []

theorem matched_swap (r r2 : List Row) (lk rk ro : Proj) (x : Row) :
    Matched r r2 lk rk [] ro x ↔ Matched r2 r rk lk ro [] x := by
  unfold Matched
  simp only [project_nil, List.nil_append, List.append_nil]
  constructor
  · rintro ⟨l, hl, r', hr', e, ex⟩; exact ⟨r', hr', l, hl, e.symm, ex⟩
  · rintro ⟨r', hr', l, hl, e, ex⟩; exact ⟨l, hl, r', hr', e.symm, ex⟩

theorem joinKeepEverything_mem (r r2 : List Row) (lk rk lo ro : Proj) (x : Row) (h1 : r ≠ []) (h2 : r2 ≠ []) :
    x ∈ joinKeepEverything r r2 lk rk lo ro ↔ Matched r r2 lk rk lo ro x := by
  unfold joinKeepEverything Matched
  simp only [mem_dedup, List.mem_flatMap]
  constructor
  · rintro ⟨e, he, hx⟩
    rw [lookupKey_groupBy r2 rk e.1 h2] at hx
    by_cases hk : ∃ r' ∈ r2, project rk r' = e.1
    · simp only [hk, if_true, List.mem_flatMap, List.mem_map, List.mem_filter, decide_eq_true_eq] at hx
      obtain ⟨l, hl, r', ⟨hr', hkr⟩, e'⟩ := hx
      have := (mem_groupBy r lk h1 e he l).1 hl
      exact ⟨l, this.1, r', hr', by rw [this.2, hkr], e'.symm⟩
    · simp [hk] at hx
  · rintro ⟨l, hl, r', hr', hk, e'⟩
    obtain ⟨e, he, hek, hle⟩ := groupBy_covers r lk l hl
    refine ⟨e, he, ?_⟩
    rw [lookupKey_groupBy r2 rk e.1 h2]
    have : ∃ r' ∈ r2, project rk r' = e.1 := ⟨r', hr', by rw [hek, hk]⟩
    simp only [this, if_true, List.mem_flatMap, List.mem_map, List.mem_filter, decide_eq_true_eq]
    exact ⟨l, hle, r', ⟨hr', by rw [hek, hk]⟩, e'.symm⟩

theorem joinOneSide_mem (base other : List Row) (key okey output : Proj) (hb : base ≠ [])
    (ho : other ≠ []) (hw : ∀ v ∈ base, ∀ v' ∈ base, v.length = v'.length) :
    ∃ rows, joinOneSide base (groupBy other okey) key output = .ok rows ∧
      ∀ x, x ∈ rows ↔ Matched base other key okey output [] x := by
  unfold joinOneSide Matched
  simp only [project_nil, List.append_nil]
  cases base with
  | nil => exact absurd rfl hb
  | cons b0 bs =>
    simp only [width]
    by_cases hid : isIdentity output b0.length = true
    · simp only [hid, if_true]
      refine ⟨_, rfl, fun x => ?_⟩
      simp only [List.mem_filter, hasKey_groupBy other okey _ ho]
      constructor
      · rintro ⟨hx, r', hr', hk⟩
        refine ⟨x, hx, r', hr', hk.symm, ?_⟩
        have : x.length = b0.length := hw x hx b0 (by simp)
        rw [isIdentity_project output x (by rw [this]; exact hid)]
      · rintro ⟨l, hl, r', hr', hk, e⟩
        have : l.length = b0.length := hw l hl b0 (by simp)
        rw [isIdentity_project output l (by rw [this]; exact hid)] at e
        subst e
        exact ⟨hl, r', hr', hk.symm⟩
    · simp only [hid, Bool.false_eq_true, if_false]
      refine ⟨_, rfl, fun x => ?_⟩
      simp only [mem_dedup, List.mem_map, List.mem_filter, hasKey_groupBy other okey _ ho]
      constructor
      · rintro ⟨l, ⟨hl, r', hr', hk⟩, e⟩
        exact ⟨l, hl, r', hr', hk.symm, e.symm⟩
      · rintro ⟨l, hl, r', hr', hk, e⟩
        exact ⟨l, ⟨hl, r', hr', hk.symm⟩, e.symm⟩

theorem joinIfCommonExist_mem (r r2 : List Row) (lk rk : Proj) (h1 : r ≠ []) (h2 : r2 ≠ []) (x : Row) :
    x ∈ joinIfCommonExist r r2 lk rk ↔ Matched r r2 lk rk [] [] x := by
  -- either branch tests whether some pair of rows has equal keys
  have key : ∀ b : Bool, (b = true ↔ ∃ l ∈ r, ∃ r' ∈ r2, project lk l = project rk r') →
      (x ∈ (if b then truePosRel else falsePosRel) ↔
        ∃ l ∈ r, ∃ r' ∈ r2, project lk l = project rk r' ∧ x = []) := by
    intro b hb
    cases b with
    | false =>
      simp only [Bool.false_eq_true, if_false, falsePosRel, List.not_mem_nil, false_iff]
      rintro ⟨l, hl, r', hr', e, _⟩
      exact Bool.noConfusion (hb.2 ⟨l, hl, r', hr', e⟩)
    | true =>
      obtain ⟨l, hl, r', hr', e⟩ := hb.1 rfl
      simp only [if_true, truePosRel, List.mem_singleton]
      exact ⟨fun hx => ⟨l, hl, r', hr', e, hx⟩, fun ⟨_, _, _, _, _, hx⟩ => hx⟩
  unfold joinIfCommonExist Matched
  simp only [project_nil, List.append_nil]
  split
  · refine key _ ?_
    simp only [List.any_eq_true, hasKey_groupBy r2 rk _ h2]
    constructor <;> rintro ⟨l, hl, r', hr', e⟩ <;> exact ⟨l, hl, r', hr', e.symm⟩
  · refine key _ ?_
    simp only [List.any_eq_true, hasKey_groupBy r lk _ h1]
    constructor
    · rintro ⟨r', hr', l, hl, e⟩; exact ⟨l, hl, r', hr', e⟩
    · rintro ⟨l, hl, r', hr', e⟩; exact ⟨r', hr', l, hl, e⟩

/-! ### JoinCommonOnly -/

theorem posIn_spec {index : Nat} {key : Proj} {i j : Nat} (h : posIn index key i = some j) :
    i ≤ j ∧ key[j - i]? = some index := by
  induction key generalizing i with
  | nil => simp [posIn] at h
  | cons x xs ih =>
    unfold posIn at h
    cases hrec : posIn index xs (i + 1) with
    | some j' =>
      rw [hrec] at h
      simp at h
      subst h
      have := ih hrec
      refine ⟨by omega, ?_⟩
      have e : j' - i = (j' - (i + 1)) + 1 := by omega
      rw [e, List.getElem?_cons_succ]
      exact this.2
    | none =>
      rw [hrec] at h
      by_cases e : x = index
      · simp [e] at h; subst h; simp [e]
      · simp [e] at h

theorem posIn_some_of_mem {index : Nat} {key : Proj} (i : Nat) (h : index ∈ key) :
    ∃ j, posIn index key i = some j := by
  induction key generalizing i with
  | nil => simp at h
  | cons x xs ih =>
    unfold posIn
    cases hrec : posIn index xs (i + 1) with
    | some j' => exact ⟨j', rfl⟩
    | none =>
      rcases List.mem_cons.1 h with e | h'
      · exact ⟨i, by simp [e]⟩
      · obtain ⟨j, hj⟩ := ih (i + 1) h'
        rw [hrec] at hj; cases hj

theorem remap_ok {key : Proj} : ∀ value : Proj, (∀ i ∈ value, i ∈ key) →
    ∃ output, remap key value = .ok output ∧ output.length = value.length ∧
      ∀ f : Nat → V, output.map (fun j => (key.map f).getD j V.none) = value.map f :=
  forall_mem_rec ⟨[], rfl, rfl, fun _ => rfl⟩ fun a r ha ih => by
    obtain ⟨out, ho, hlen, hmap⟩ := ih
    obtain ⟨j, hj⟩ := posIn_some_of_mem 0 ha
    refine ⟨j :: out, ?_, by simp [hlen], fun f => ?_⟩
    · unfold remap
      rw [hj, ho]; rfl
    · rw [List.map_cons, List.map_cons, hmap f]
      congr 1
      have := (posIn_spec hj).2
      simp only [Nat.sub_zero] at this
      rw [List.getD_eq_getElem?_getD, List.getElem?_map, this]
      rfl

theorem project_remap {key value : Proj} (h : ∀ i ∈ value, i ∈ key) :
    ∃ output, remap key value = .ok output ∧ ∀ row, project output (project key row) = project value row := by
  obtain ⟨out, ho, hlen, hmap⟩ := remap_ok value h
  refine ⟨out, ho, fun row => ?_⟩
  cases row with
  | nil => rw [project_nil_right, project_nil_right, project_nil_right]
  | cons v vs =>
    have hv := List.cons_ne_nil v vs
    rw [project_of_ne_nil hv key, project_of_ne_nil hv value]
    cases key with
    | nil =>
      obtain rfl : value = [] := List.eq_nil_iff_forall_not_mem.2 fun i hi => nomatch h i hi
      obtain rfl : out = [] := List.eq_nil_of_length_eq_zero hlen
      rfl
    | cons k ks =>
      rw [project_of_ne_nil (v := (k :: ks).map _) (by simp)]
      exact hmap _

theorem commonOnlyOut_mem {base other : List Row} {key okey value : Proj} {keys : List Row}
    (hkeys : ∀ k, k ∈ keys ↔ (∃ l ∈ base, project key l = k) ∧ ∃ r' ∈ other, project okey r' = k)
    (hv : ∀ i ∈ value, i ∈ key) :
    ∃ rows, commonOnlyOut key value keys = .ok rows ∧ ∀ x, x ∈ rows ↔ Matched base other key okey value [] x := by
  -- with or without re-mapping, the result is the image of the keys under a translation `tr`
  have core : ∃ (rows : List Row) (tr : Row → Row), commonOnlyOut key value keys = Except.ok rows ∧
      (∀ row, tr (project key row) = project value row) ∧ ∀ x, x ∈ rows ↔ ∃ k ∈ keys, x = tr k := by
    by_cases e : key = value
    · subst e
      refine ⟨dedup keys, id, by simp [commonOnlyOut], fun _ => rfl, fun x => ?_⟩
      rw [mem_dedup]
      exact ⟨fun hx => ⟨x, hx, rfl⟩, fun ⟨k, hk, e⟩ => e ▸ hk⟩
    · obtain ⟨out, ho, hproj⟩ := project_remap hv
      refine ⟨dedup (keys.map (project out)), project out, by simp [commonOnlyOut, e, ho], hproj, fun x => ?_⟩
      rw [mem_dedup, List.mem_map]
      exact ⟨fun ⟨k, hk, e'⟩ => ⟨k, hk, e'.symm⟩, fun ⟨k, hk, e'⟩ => ⟨k, hk, e'.symm⟩⟩
  obtain ⟨rows, tr, hr, htr, hmem⟩ := core
  refine ⟨rows, hr, fun x => ?_⟩
  rw [hmem]
  unfold Matched
  simp only [project_nil, List.append_nil]
  constructor
  · rintro ⟨k, hk, e⟩
    obtain ⟨⟨l, hl, e1⟩, ⟨r', hr', e2⟩⟩ := (hkeys k).1 hk
    exact ⟨l, hl, r', hr', by rw [e1, e2], by rw [e, ← e1, htr l]⟩
  · rintro ⟨l, hl, r', hr', ek, e⟩
    exact ⟨project key l, (hkeys _).2 ⟨⟨l, hl, rfl⟩, ⟨r', hr', ek.symm⟩⟩, by rw [htr l]; exact e⟩

theorem joinCommonOnly_mem (r r2 : List Row) (lk rk lo ro : Proj) (h1 : r ≠ []) (h2 : r2 ≠ [])
    (side : SideOK .commonOnly lk rk lo ro) :
    ∃ rows, joinCommonOnly r r2 lk rk lo ro = .ok rows ∧ ∀ x, x ∈ rows ↔ Matched r r2 lk rk lo ro x := by
  -- the keys present on both sides
  have hkeys : ∀ k, k ∈ ((groupBy r lk).map (·.1)).filter (fun k => hasKey (groupBy r2 rk) k) ↔
      (∃ l ∈ r, project lk l = k) ∧ (∃ r' ∈ r2, project rk r' = k) := fun k => by
    rw [List.mem_filter, mem_keys_groupBy r lk k h1, hasKey_groupBy r2 rk k h2]
  unfold joinCommonOnly
  by_cases hl0 : lo = []
  · -- no left output: the keys are mapped into the right output, the operands exchange their parts
    subst hl0
    have hro : ∀ i ∈ ro, i ∈ rk := by
      rcases side with ⟨rfl, _⟩ | ⟨_, h⟩
      · exact fun i hi => nomatch hi
      · exact h
    obtain ⟨rows, hr, hmem⟩ := commonOnlyOut_mem (fun k => (hkeys k).trans and_comm) hro
    exact ⟨rows, by simpa using hr, fun x => (hmem x).trans (matched_swap r r2 lk rk ro x).symm⟩
  · -- otherwise the strategy is only chosen without right output
    obtain ⟨rfl, hlo⟩ : ro = [] ∧ ∀ i ∈ lo, i ∈ lk := side.resolve_right fun h => hl0 h.1
    obtain ⟨rows, hr, hmem⟩ := commonOnlyOut_mem hkeys hlo
    exact ⟨rows, by simpa [show (lo.length == 0) = false by simpa using hl0] using hr, hmem⟩

end Arrai.C04
