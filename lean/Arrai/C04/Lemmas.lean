/-
  C04 helper lemmas: attribute lookup (`get` is `List.lookup`: `get_eq_lookup`) and the specification up to the way
  rows are written — tuples up to lookup equivalence (`Eqv`, `≃`), relations up to `RelEqv` — so that `Spec.join` on
  values is `joinRows` on any rows that denote them (`join_denRows`).  Core-only.
-/
import Arrai.C04.Model
import Arrai.Core.CanonLemmas

namespace Arrai.C04
open Arrai

/-! ### lists -/

theorem mem_dedup {α : Type} [DecidableEq α] (a : α) (l : List α) : a ∈ dedup l ↔ a ∈ l := by
  induction l with
  | nil => simp [dedup]
  | cons x xs ih =>
    unfold dedup
    split
    · rename_i h
      rw [ih]
      constructor
      · exact List.mem_cons_of_mem _
      · intro h'
        rcases List.mem_cons.1 h' with e | h'
        · subst e; exact h
        · exact h'
    · simp [ih]

theorem nodup_dedup {α : Type} [DecidableEq α] (l : List α) : (dedup l).Nodup := by
  induction l with
  | nil => simp [dedup]
  | cons x xs ih =>
    unfold dedup
    split
    · exact ih
    · rename_i h
      rw [List.nodup_cons]
      exact ⟨fun h' => h ((mem_dedup x xs).1 h'), ih⟩

theorem dedup_eq_nil {α : Type} [DecidableEq α] (l : List α) : dedup l = [] ↔ l = [] := by
  constructor
  · intro h
    cases l with
    | nil => rfl
    | cons x xs =>
      have : x ∈ dedup (x :: xs) := (mem_dedup x _).2 (by simp)
      rw [h] at this; simp at this
  · intro h; subst h; rfl

theorem dedup_map_const {α β : Type} [DecidableEq β] (c : β) (l : List α) (h : l ≠ []) :
    dedup (l.map fun _ => c) = [c] := by
  induction l with
  | nil => exact absurd rfl h
  | cons x xs ih =>
    cases xs with
    | nil => simp [dedup]
    | cons y ys => rw [List.map_cons, dedup, if_pos (by simp)]; exact ih (by simp)

theorem mem_mkSet (l : List V) (x : V) : (∃ ys, V.mkSet l = .set ys ∧ (x ∈ ys ↔ x ∈ l)) :=
  ⟨FinSet.mk l, rfl, FinSet.mem_mk l x⟩

/-! ### attribute lookup -/

@[simp] theorem get_nil (n : String) : get n [] = none := rfl
@[simp] theorem get_cons (n m : String) (v : V) (r : Tup) :
    get n ((m, v) :: r) = if m = n then some v else get n r := rfl

theorem get_eq_lookup (n : String) : ∀ t : Tup, get n t = t.lookup n :=
  eq_lookup_of_first_wins rfl (fun _ _ => if_pos rfl) fun _ _ _ h => if_neg h

theorem get_append (n : String) (t u : Tup) :
    get n (t ++ u) = if has t n then get n t else get n u := by
  unfold has
  rw [get_eq_lookup, get_eq_lookup, get_eq_lookup, List.lookup_append]
  cases t.lookup n <;> rfl

theorem get_filter (S : String → Bool) (n : String) (t : Tup) :
    get n (t.filter fun p => S p.1) = if S n then get n t else none := by
  rw [get_eq_lookup, get_eq_lookup]; exact lookup_filter_key S t n

theorem get_map_pair (ns : Names) (f : String → V) (m : String) :
    get m (ns.map fun n => (n, f n)) = if ns.contains m then some (f m) else none := by
  rw [get_eq_lookup, lookup_map_key]
  simp only [List.contains_iff_mem]

theorem has_iff_mem_names (t : Tup) (n : String) : has t n = true ↔ n ∈ t.map (·.1) := by
  unfold has; rw [get_eq_lookup]; exact lookup_isSome_iff

theorem has_eq_contains (t : Tup) (n : String) : has t n = (t.map (·.1)).contains n :=
  Bool.eq_iff_iff.2 ((has_iff_mem_names t n).trans List.contains_iff_mem.symm)

theorem has_true_iff (t : Tup) (n : String) : has t n = true ↔ ∃ v, get n t = some v :=
  Option.isSome_iff_exists

theorem has_false_iff (t : Tup) (n : String) : has t n = false ↔ get n t = none :=
  Option.isSome_eq_false_iff.trans Option.isNone_iff_eq_none

theorem has_of_mem_heading {t : Tup} {N names : Names} (ht : ∀ n, has t n = N.contains n)
    (h : ∀ n ∈ names, n ∈ N) : ∀ n ∈ names, has t n = true :=
  fun n hn => (ht n).trans (List.contains_iff_mem.2 (h n hn))

/-! ### lists of names -/

theorem contains_filter (l : Names) (p : String → Bool) (n : String) :
    (l.filter p).contains n = (l.contains n && p n) := by
  rw [Bool.eq_iff_iff, List.contains_iff_mem, List.mem_filter, Bool.and_eq_true, List.contains_iff_mem]

theorem contains_minus (a b : Names) (n : String) :
    (Impl.minus a b).contains n = (a.contains n && !b.contains n) :=
  contains_filter a _ n

theorem isSubset_iff (a b : Names) : Impl.isSubset a b = true ↔ ∀ n ∈ a, n ∈ b := by
  simp only [Impl.isSubset, List.all_eq_true, List.contains_iff_mem]

theorem isSubset_minus (a b : Names) : Impl.isSubset (Impl.minus a b) a = true :=
  (isSubset_iff _ a).2 fun _ hn => (List.mem_filter.1 hn).1

/-! ### canonical tuples -/

/-- Core's `V.SortedAttrs` (`sortedNames_eq`) -/
def SortedNames (l : Tup) : Prop := l.Pairwise fun a b => a.1 < b.1

/-- Core's `V.attrs` (`canonAttrs_eq`); not `V.canonAttrs`, the strings of `canon` -/
def canonAttrs (as : Tup) : Tup := as.foldr (fun p acc => V.insAttr p.1 p.2 acc) []

theorem sortedNames_eq : SortedNames = V.SortedAttrs := rfl

theorem canonAttrs_eq : canonAttrs = V.attrs := rfl

theorem get_canonAttrs (as : Tup) (m : String) : get m (canonAttrs as) = get m as := by
  rw [get_eq_lookup, get_eq_lookup]; exact V.lookup_attrs as m

theorem mkTup_eq_iff (as bs : Tup) : V.mkTup as = V.mkTup bs ↔ ∀ n, get n as = get n bs := by
  simp only [get_eq_lookup]; exact V.mkTup_eq_iff as bs

theorem mkTup_congr {as bs : Tup} (h : ∀ n, get n as = get n bs) : V.mkTup as = V.mkTup bs :=
  (mkTup_eq_iff as bs).2 h

@[simp] theorem get_tupOf_mkTup (as : Tup) (n : String) : get n (tupOf (V.mkTup as)) = get n as :=
  get_canonAttrs as n

/-! ### lookup equivalence -/

/-- lookup equivalence of attribute lists -/
def Eqv (t u : Tup) : Prop := ∀ n, get n t = get n u

notation:50 lhs:51 " ≃ " rhs:51 => Eqv lhs rhs

theorem Eqv.refl (t : Tup) : t ≃ t := fun _ => rfl
theorem Eqv.symm {t u : Tup} (h : t ≃ u) : u ≃ t := fun n => (h n).symm
theorem Eqv.trans {t u w : Tup} (h1 : t ≃ u) (h2 : u ≃ w) : t ≃ w := fun n => (h1 n).trans (h2 n)

theorem has_congr {t u : Tup} (h : t ≃ u) (n : String) : has t n = has u n := by
  unfold has; rw [h n]

theorem has_mkTup (T : Tup) (n : String) : has (tupOf (V.mkTup T)) n = has T n := has_congr (get_tupOf_mkTup T) n

/-! ### `Spec`: tuples -/
namespace Spec

theorem get_merge (t u : Tup) (n : String) :
    get n (merge t u) = if has t n then get n t else get n u := by
  unfold merge
  rw [get_append, get_filter (fun m => !has t m) n u]
  cases has t n <;> rfl

theorem get_restrict (S : String → Bool) (t : Tup) (n : String) :
    get n (restrict S t) = if S n then get n t else none := get_filter S n t

theorem has_restrict (S : String → Bool) (t : Tup) (n : String) : has (restrict S t) n = (S n && has t n) := by
  unfold has; rw [get_restrict]; cases S n <;> rfl

theorem agree_iff (t u : Tup) :
    agree t u = true ↔ ∀ n v w, get n t = some v → get n u = some w → v = w := by
  unfold agree
  rw [List.all_eq_true]
  constructor
  · intro h n v w hv hw
    have := h (n, v) (mem_of_lookup (get_eq_lookup n t ▸ hv))
    simp only [hw] at this
    have := of_decide_eq_true this
    rw [hv] at this
    injection this
  · intro h p hp
    cases hu : get p.1 u with
    | none => rfl
    | some w =>
      obtain ⟨v, hv⟩ := (has_true_iff t p.1).1 ((has_iff_mem_names t p.1).2 (List.mem_map_of_mem hp))
      simp only [decide_eq_true_eq]
      rw [hv, h p.1 v w hv hu]

theorem agree_congr {t t' u u' : Tup} (ht : t ≃ t') (hu : u ≃ u') : agree t u = agree t' u' := by
  have : agree t u = true ↔ agree t' u' = true := by
    rw [agree_iff, agree_iff]
    constructor
    · intro h n v w hv hw; exact h n v w (by rw [ht n]; exact hv) (by rw [hu n]; exact hw)
    · intro h n v w hv hw; exact h n v w (by rw [← ht n]; exact hv) (by rw [← hu n]; exact hw)
  cases h1 : agree t u <;> cases h2 : agree t' u' <;> simp_all

/-- the tuple an operator makes of an agreeing pair -/
def joined (op : JoinOp) (t u : Tup) : Tup := restrict (sel op t u) (merge t u)

theorem get_joined (op : JoinOp) (t u : Tup) (n : String) :
    get n (joined op t u) = if sel op t u n then (if has t n then get n t else get n u) else none := by
  unfold joined; rw [get_restrict, get_merge]

theorem joined_congr {t t' u u' : Tup} (op : JoinOp) (ht : t ≃ t') (hu : u ≃ u') :
    joined op t u ≃ joined op t' u' := by
  intro n
  rw [get_joined, get_joined]
  unfold sel
  rw [has_congr ht, has_congr hu, ht n, hu n]

theorem merge_congr {t t' u u' : Tup} (ht : t ≃ t') (hu : u ≃ u') : merge t u ≃ merge t' u' := by
  intro n; rw [get_merge, get_merge, has_congr ht, ht n, hu n]

theorem restrict_congr (S : String → Bool) {t t' : Tup} (ht : t ≃ t') : restrict S t ≃ restrict S t' := by
  intro n; rw [get_restrict, get_restrict, ht n]

theorem mem_joinRows (op : JoinOp) (A B : List Tup) (x : Tup) :
    x ∈ joinRows op A B ↔ ∃ t ∈ A, ∃ u ∈ B, agree t u = true ∧ x = joined op t u := by
  unfold joinRows
  rw [List.mem_flatMap]
  constructor
  · rintro ⟨t, ht, hx⟩
    rw [List.mem_filterMap] at hx
    obtain ⟨u, hu, he⟩ := hx
    by_cases ha : agree t u = true
    · simp only [ha, if_true] at he
      injection he with he
      exact ⟨t, ht, u, hu, ha, he.symm⟩
    · simp [ha] at he
  · rintro ⟨t, ht, u, hu, ha, he⟩
    refine ⟨t, ht, ?_⟩
    rw [List.mem_filterMap]
    exact ⟨u, hu, by simp [ha, he, joined]⟩

/-! ### `Spec`: relations up to lookup equivalence -/

/-- the same rows up to lookup equivalence -/
def RelEqv (A B : List Tup) : Prop := (∀ t ∈ A, ∃ t' ∈ B, t ≃ t') ∧ (∀ t' ∈ B, ∃ t ∈ A, t ≃ t')

theorem RelEqv.refl (A : List Tup) : RelEqv A A :=
  ⟨fun t ht => ⟨t, ht, Eqv.refl t⟩, fun t ht => ⟨t, ht, Eqv.refl t⟩⟩

theorem RelEqv.symm {A B : List Tup} (h : RelEqv A B) : RelEqv B A :=
  ⟨fun t ht => let ⟨t', h1, h2⟩ := h.2 t ht; ⟨t', h1, h2.symm⟩,
   fun t ht => let ⟨t', h1, h2⟩ := h.1 t ht; ⟨t', h1, h2.symm⟩⟩

theorem RelEqv.trans {A B C : List Tup} (h1 : RelEqv A B) (h2 : RelEqv B C) : RelEqv A C :=
  ⟨fun t ht => let ⟨t', a, b⟩ := h1.1 t ht; let ⟨t'', c, d⟩ := h2.1 t' a; ⟨t'', c, b.trans d⟩,
   fun t ht => let ⟨t', a, b⟩ := h2.2 t ht; let ⟨t'', c, d⟩ := h1.2 t' a; ⟨t'', c, d.trans b⟩⟩

def RelSub (A B : List Tup) : Prop := ∀ t ∈ A, ∃ t' ∈ B, t ≃ t'

theorem RelEqv.of_sub {A B : List Tup} (h1 : RelSub A B) (h2 : RelSub B A) : RelEqv A B :=
  ⟨h1, fun t' ht' => let ⟨t, ht, e⟩ := h2 t' ht'; ⟨t, ht, e.symm⟩⟩

theorem RelEqv.map {α : Type} {l : List α} {f g : α → Tup} (h : ∀ x ∈ l, f x ≃ g x) :
    RelEqv (l.map f) (l.map g) := by
  constructor <;> intro t ht <;> obtain ⟨x, hx, e⟩ := List.mem_map.1 ht
  · exact ⟨g x, List.mem_map.2 ⟨x, hx, rfl⟩, e ▸ h x hx⟩
  · exact ⟨f x, List.mem_map.2 ⟨x, hx, rfl⟩, e ▸ h x hx⟩

theorem RelSub.map {f : Tup → Tup} (hf : ∀ {t t' : Tup}, t ≃ t' → f t ≃ f t') {A B : List Tup} (h : RelSub A B) :
    RelSub (A.map f) (B.map f) := by
  intro x hx
  obtain ⟨t, ht, e⟩ := List.mem_map.1 hx
  obtain ⟨t', ht', et⟩ := h t ht
  exact ⟨f t', List.mem_map.2 ⟨t', ht', rfl⟩, e ▸ hf et⟩

theorem RelEqv.map_congr {f : Tup → Tup} (hf : ∀ {t t' : Tup}, t ≃ t' → f t ≃ f t') {A B : List Tup}
    (h : RelEqv A B) : RelEqv (A.map f) (B.map f) :=
  .of_sub (.map hf h.1) (.map hf h.symm.1)

theorem denRows_congr {A B : List Tup} (h : RelEqv A B) : denRows A = denRows B := by
  unfold denRows
  apply V.mkSet_congr
  intro x
  simp only [List.mem_map]
  constructor
  · rintro ⟨t, ht, e⟩
    obtain ⟨t', ht', he⟩ := h.1 t ht
    exact ⟨t', ht', by rw [← e]; exact (mkTup_congr he).symm⟩
  · rintro ⟨t, ht, e⟩
    obtain ⟨t', ht', he⟩ := h.2 t ht
    exact ⟨t', ht', by rw [← e]; exact mkTup_congr he⟩

theorem mem_rowsOf_set (xs : List V) (t : Tup) : t ∈ rowsOf (.set xs) ↔ V.tup t ∈ xs := by
  unfold rowsOf
  rw [List.mem_filterMap]
  constructor
  · rintro ⟨x, hx, e⟩
    cases x with
    | tup as => simp at e; subst e; exact hx
    | num _ => simp at e
    | set _ => simp at e
  · intro h
    exact ⟨.tup t, h, rfl⟩

theorem mem_rowsOf_denRows (A : List Tup) (t : Tup) :
    t ∈ rowsOf (denRows A) ↔ ∃ a ∈ A, t = canonAttrs a := by
  unfold denRows V.mkSet
  rw [mem_rowsOf_set, FinSet.mem_mk, List.mem_map]
  exact exists_congr fun a => and_congr_right fun _ => by
    rw [V.mkTup_eq, V.tup.injEq, canonAttrs_eq]; exact eq_comm

theorem rowsOf_denRows_eqv (A : List Tup) : RelEqv (rowsOf (denRows A)) A := by
  constructor
  · intro t ht
    obtain ⟨a, ha, e⟩ := (mem_rowsOf_denRows A t).1 ht
    exact ⟨a, ha, by rw [e]; exact get_canonAttrs a⟩
  · intro a ha
    exact ⟨canonAttrs a, (mem_rowsOf_denRows A _).2 ⟨a, ha, rfl⟩, get_canonAttrs a⟩

theorem joinRows_sub (op : JoinOp) {A A' B B' : List Tup} (hA : RelSub A A') (hB : RelSub B B') :
    RelSub (joinRows op A B) (joinRows op A' B') := by
  intro x hx
  obtain ⟨t, ht, u, hu, ha, e⟩ := (mem_joinRows op A B x).1 hx
  obtain ⟨t', ht', et⟩ := hA t ht
  obtain ⟨u', hu', eu⟩ := hB u hu
  refine ⟨joined op t' u', (mem_joinRows op A' B' _).2 ⟨t', ht', u', hu', ?_, rfl⟩, ?_⟩
  · rw [← agree_congr et eu]; exact ha
  · rw [e]; exact joined_congr op et eu

theorem joinRows_congr (op : JoinOp) {A A' B B' : List Tup} (hA : RelEqv A A') (hB : RelEqv B B') :
    RelEqv (joinRows op A B) (joinRows op A' B') :=
  .of_sub (joinRows_sub op hA.1 hB.1) (joinRows_sub op hA.symm.1 hB.symm.1)

/-- the specification on values does not depend on how the operands' rows are written -/
theorem join_denRows (op : JoinOp) (A B : List Tup) :
    join op (denRows A) (denRows B) = denRows (joinRows op A B) := by
  unfold join
  exact denRows_congr (joinRows_congr op (rowsOf_denRows_eqv A) (rowsOf_denRows_eqv B))

end Spec
end Arrai.C04
