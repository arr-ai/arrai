/-
  C04 helper lemmas: the ranking loop of `Rank` assigns the number of strictly smaller keys
  (`rankLoop_eq`), the passes for several rank attributes do not disturb one another, and so `Rank` on an
  operand written as rows denotes the specified rows (`perm_rank_members`, `rank_rows`).  Core-only.
-/
import Arrai.C04.LemmasRep

namespace Arrai.C04
open Spec Impl

/-! ### the ranking loop -/

def keyOfEntry (attr : String) (e : Entry) : V := (get attr e.ranker).getD V.none

/-- `cnt attr es (keyOfEntry attr e)`, by definition -/
def smallerCount (es : List Entry) (attr : String) (e : Entry) : Nat :=
  (es.filter fun x => V.cmp (keyOfEntry attr x) (keyOfEntry attr e) == .lt).length

/-- of a value `a`, not of an entry, because the loop compares with the key of the entry before (`current`) -/
def cnt (attr : String) (L : List Entry) (a : V) : Nat :=
  (L.filter fun x => V.cmp (keyOfEntry attr x) a == .lt).length

/-- sorted by key, non-strictly -/
def SortedE (attr : String) (L : List Entry) : Prop :=
  L.Pairwise fun x y => V.cmp (keyOfEntry attr y) (keyOfEntry attr x) ≠ .lt

theorem perm_insertBy (attr : String) (e : Entry) : ∀ l, (insertBy attr e l).Perm (e :: l) :=
  perm_cons_of_insert rfl fun y l => by simp only [insertBy]; split <;> simp

theorem perm_sortBy (attr : String) (es : List Entry) : (sortBy attr es).Perm es := by
  induction es with
  | nil => exact .refl _
  | cons e r ih => exact (perm_insertBy attr e _).trans (ih.cons e)

theorem sorted_insertBy (attr : String) (e : Entry) : ∀ l, SortedE attr l → SortedE attr (insertBy attr e l) :=
  pairwise_insert (r := fun x y => V.cmp (keyOfEntry attr y) (keyOfEntry attr x) ≠ .lt)
    (fun {a b c} hab hbc hca => by
      rcases V.cmp_trichotomy (keyOfEntry attr a) (keyOfEntry attr b) with h | h | h
      · exact hbc (V.cmp_lt_trans _ _ _ hca h)
      · exact hbc (h ▸ hca)
      · exact hab h)
    rfl fun y l => by
      simp only [insertBy, beq_iff_eq]
      split
      · next h => exact .inl ⟨V.cmp_lt_asymm _ _ h, rfl⟩
      · next h => exact .inr ⟨h, rfl⟩

theorem sorted_sortBy (attr : String) (es : List Entry) : SortedE attr (sortBy attr es) := by
  induction es with
  | nil => simp [sortBy, SortedE]
  | cons e r ih => exact sorted_insertBy attr e _ ih

theorem cnt_sortBy (attr attr' : String) (es : List Entry) (a : V) :
    cnt attr' (sortBy attr es) a = cnt attr' es a :=
  ((perm_sortBy attr es).filter _).length_eq

/-- what the loop writes into an entry -/
def withRank (attr : String) (r : Entry) (n : Nat) : Entry :=
  { r with input := (attr, V.num (Int.ofNat n)) :: r.input.filter (fun p => p.1 ≠ attr) }

def ranked (attr : String) (L : List Entry) (r : Entry) : Entry := withRank attr r (cnt attr L (keyOfEntry attr r))

theorem SortedE.head_le {attr : String} {r : Entry} {rest : List Entry} (hs : SortedE attr (r :: rest)) :
    ∀ y ∈ r :: rest, V.cmp (keyOfEntry attr y) (keyOfEntry attr r) ≠ .lt := by
  intro y hy
  rcases List.mem_cons.1 hy with rfl | hy'
  · rw [V.cmp_self]; exact Ordering.noConfusion
  · exact (List.pairwise_cons.1 hs).1 y hy'

theorem cnt_eq_zero {attr : String} {L : List Entry} {a : V} (h : ∀ y ∈ L, V.cmp (keyOfEntry attr y) a ≠ .lt) :
    cnt attr L a = 0 :=
  List.length_eq_zero_iff.2 (List.filter_eq_nil_iff.2 fun x hx => by simpa using h x hx)

/-- `rankLoop` on any suffix `L` of the sorted entries: the state of the loop is the key of the entry before (at the
start that of the first entry), a tie is equality with it -/
theorem rankLoop_eq (attr : String) (L : List Entry) (i rk : Nat) (current : V)
    (hs : SortedE attr L) (hc : ∀ y ∈ L, V.cmp (keyOfEntry attr y) current ≠ .lt) :
    rankLoop attr L i rk current = L.map fun r =>
      withRank attr r (if keyOfEntry attr r = current then rk else i + cnt attr L (keyOfEntry attr r)) := by
  have := rankLoop_closed (lt := fun a b => V.cmp a b == .lt) (key := keyOfEntry attr) (cur := some)
    (tie := fun r s => decide (keyOfEntry attr r = s)) (out := withRank attr) (loop := rankLoop attr)
    (irrefl := fun a => by simp [V.cmp_self])
    (total := fun {a b} h1 h2 =>
      ((V.cmp_trichotomy a b).resolve_left (by simpa using h1)).resolve_right (by simpa using h2))
    (htie := fun r s => by simp [eq_comm]) (nil := fun _ _ _ => rfl)
    (cons := fun r rs i rk s => ⟨keyOfEntry attr r, rfl, by simp only [decide_eq_true_eq]; rfl⟩)
    L i rk current (hs.imp (by simp)) (fun c hc' y hy => by cases hc'; simpa using hc y hy)
  simpa [cnt] using this

theorem rankPass_eq (es : List Entry) (attr : String) :
    rankPass es attr = (sortBy attr es).map (ranked attr (sortBy attr es)) := by
  unfold rankPass
  have hs := sorted_sortBy attr es
  cases hL : sortBy attr es with
  | nil => rfl
  | cons e0 rest =>
    rw [hL] at hs
    show rankLoop attr (e0 :: rest) 0 0 (keyOfEntry attr e0) = _
    rw [rankLoop_eq attr _ 0 0 _ hs hs.head_le]
    -- the first group gets 0, which is its count
    refine List.map_congr_left fun r _ => congrArg (withRank attr r) ?_
    by_cases e : keyOfEntry attr r = keyOfEntry attr e0
    · rw [if_pos e, e, cnt_eq_zero hs.head_le]
    · rw [if_neg e, Nat.zero_add]

theorem ranked_sortBy (attr : String) (es : List Entry) : ranked attr (sortBy attr es) = ranked attr es :=
  funext fun r => by unfold ranked; rw [cnt_sortBy]

theorem perm_rankPass (es : List Entry) (attr : String) : (rankPass es attr).Perm (es.map (ranked attr es)) := by
  rw [rankPass_eq, ranked_sortBy]
  exact (perm_sortBy attr es).map _

/-! ### several rank attributes: the passes are independent -/

theorem cnt_map_ranker (attr' : String) (L : List Entry) (f : Entry → Entry) (hf : ∀ r, (f r).ranker = r.ranker)
    (a : V) : cnt attr' (L.map f) a = cnt attr' L a :=
  length_filter_map f fun x _ => by unfold keyOfEntry; rw [hf x]

/-- a pass rewrites inputs only: the multiset of rankers, hence every count of smaller keys, is unchanged -/
theorem cnt_rankPass (attr attr' : String) (es : List Entry) (a : V) :
    cnt attr' (rankPass es attr) a = cnt attr' es a := by
  rw [rankPass_eq, cnt_map_ranker attr' _ (ranked attr (sortBy attr es)) (fun r => rfl), cnt_sortBy]

/-- the input of an entry after the passes for `rs` (counts taken in `es0`) -/
def rankedInput (es0 : List Entry) (rs : List String) (ranker input : Tup) : Tup :=
  rs.foldl (fun inp r => (r, V.num (Int.ofNat (cnt r es0 ((get r ranker).getD V.none)))) ::
    inp.filter (fun p => p.1 ≠ r)) input

theorem perm_foldl_rankPass (es0 : List Entry) (rs : List String) (es : List Entry)
    (hcnt : ∀ r a, cnt r es a = cnt r es0 a) :
    (rs.foldl rankPass es).Perm (es.map fun e => ⟨rankedInput es0 rs e.ranker e.input, e.ranker⟩) := by
  induction rs generalizing es with
  | nil => simp [rankedInput]
  | cons r rs ih =>
    have hr : ranked r es = ranked r es0 := funext fun e => by unfold ranked; rw [hcnt]
    refine (ih (rankPass es r) fun r' a => by rw [cnt_rankPass, hcnt]).trans ?_
    have := (perm_rankPass es r).map fun e => (⟨rankedInput es0 rs e.ranker e.input, e.ranker⟩ : Entry)
    rwa [List.map_map, hr] at this

theorem get_rankedInput (es0 : List Entry) (rs : List String) (k i : Tup) (m : String) :
    get m (rankedInput es0 rs k i) =
      if rs.contains m then some (V.num (Int.ofNat (cnt m es0 ((get m k).getD V.none)))) else get m i := by
  induction rs generalizing i with
  | nil => simp [rankedInput]
  | cons r rs ih =>
    show get m (rankedInput es0 rs k ((r, _) :: i.filter _)) = _
    rw [ih, List.contains_cons]
    cases hc : rs.contains m
    · simp only [Bool.or_false, Bool.false_eq_true, if_false]
      rw [get_cons]
      by_cases e1 : r = m
      · subst e1; simp
      · have : (m == r) = false := by simp; exact fun h => e1 h.symm
        rw [this]
        simp only [e1, if_false, Bool.false_eq_true]
        have := get_filter (fun n => decide (n ≠ r)) m i
        simp only [ne_eq] at this
        rw [this]
        have : decide (¬ m = r) = true := by simp; exact fun h => e1 h.symm
        rw [this]; rfl
    · simp

/-! ### `Rank` on members -/

/-- the entry `Rank` makes of a row -/
def mkEntry (keys : List (String × String)) (t : V) : Entry :=
  ⟨tupOf t, keys.map fun rk => (rk.1, (get rk.2 (tupOf t)).getD V.none)⟩

theorem get_map_keys (keys : List (String × String)) (f : String → V) (m : String) :
    get m (keys.map fun rk => (rk.1, f rk.2)) =
      match keys.find? (fun rk => rk.1 == m) with
      | some rk => some (f rk.2)
      | none => none := by
  induction keys with
  | nil => rfl
  | cons rk rest ih =>
    simp only [List.map_cons, get_cons, List.find?_cons]
    by_cases e : rk.1 = m
    · simp [e]
    · have : (rk.1 == m) = false := by simp [e]
      simp [e, this, ih]

theorem contains_map_fst (keys : List (String × String)) (m : String) :
    (keys.map (·.1)).contains m = (keys.find? (fun rk => rk.1 == m)).isSome := by
  induction keys with
  | nil => rfl
  | cons rk rest ih =>
    simp only [List.map_cons, List.contains_cons, List.find?_cons, ih]
    by_cases e : rk.1 = m
    · subst e; simp
    · have h1 : (rk.1 == m) = false := by simp [e]
      have h2 : (m == rk.1) = false := by simp; exact fun h => e h.symm
      simp [h1, h2]

theorem cnt_entries (keys : List (String × String)) (ts : List V) (m k : String) {m' : String}
    (hfind : keys.find? (fun rk => rk.1 == m) = some (m', k)) (t : V) :
    cnt m (ts.map (mkEntry keys)) (keyOfEntry m (mkEntry keys t)) = rankOf (ts.map tupOf) k (tupOf t) := by
  have hkey : ∀ u : V, keyOfEntry m (mkEntry keys u) = (get k (tupOf u)).getD V.none := by
    intro u
    unfold keyOfEntry mkEntry
    simp only
    rw [get_map_keys keys (fun k' => (get k' (tupOf u)).getD V.none) m, hfind]
    rfl
  exact (length_filter_map (mkEntry keys) fun u _ => by rw [hkey, hkey]).trans
    (length_filter_map tupOf fun _ _ => rfl).symm

theorem perm_rank_members (keys : List (String × String)) (ts : List V) :
    (((keys.map (·.1)).foldl rankPass (ts.map (mkEntry keys))).map fun e => V.mkTup e.input).Perm
      ((rankRows (ts.map tupOf) keys).map V.mkTup) := by
  refine ((perm_foldl_rankPass _ (keys.map (·.1)) _ fun _ _ => rfl).map _).trans (.of_eq ?_)
  simp only [rankRows, List.map_map]
  refine List.map_congr_left fun t _ => mkTup_congr fun m => ?_
  simp only [Function.comp]
  rw [get_rankedInput, contains_map_fst, get_append, has,
    get_map_keys keys (fun k => V.num (Int.ofNat (rankOf (ts.map tupOf) k (tupOf t)))) m]
  cases hf : keys.find? (fun rk => rk.1 == m) with
  | none => rfl
  | some rk =>
    obtain ⟨m', k⟩ := rk
    simp only [Option.isSome_some, if_true]
    exact congrArg (fun c => some (V.num (Int.ofNat c))) (cnt_entries keys ts m k hf t)

/-- of the rows as written: unlike `rank_denRows`, no row need be written once -/
theorem rank_rows {a : Rep} {R : List Tup} {N : Names} (keys : List (String × String))
    (eR : enumerate a = R.map V.mkTup) (uR : Uniform N R) (hkeys : ∀ rk ∈ keys, N.contains rk.2 = true) :
    ∃ res, Impl.rank a keys = .ok res ∧ den res = denRows (rankRows R keys) := by
  unfold Impl.rank
  cases ht : Impl.isTrue a with
  | true =>
    simp only [Bool.not_true, Bool.false_eq_true, if_false]
    rw [eR]
    -- every row has every key attribute
    have hnone : ((R.map V.mkTup).any fun t => keys.any fun rk => !has (tupOf t) rk.2) = false := by
      rw [Bool.eq_false_iff]
      intro h
      rw [List.any_eq_true] at h
      obtain ⟨x, hx, h⟩ := h
      obtain ⟨t, ht', rfl⟩ := List.mem_map.1 hx
      rw [List.any_eq_true] at h
      obtain ⟨rk, hrk, h⟩ := h
      rw [has_mkTup, uR t ht', hkeys rk hrk] at h
      cases h
    rw [hnone]
    simp only [Bool.false_eq_true, if_false]
    refine ⟨_, rfl, ?_⟩
    rw [den_ofMembers _ (fun x hx => by obtain ⟨e, _, rfl⟩ := List.mem_map.1 hx; exact canonT_mkTup _)]
    -- the members' attribute lists are the canonical forms of the rows
    refine V.mkSet_congr fun v => ((perm_rank_members keys (R.map V.mkTup)).trans (.of_eq ?_)).mem_iff
    rw [List.map_map]
    exact rankRows_canon R keys
  | false =>
    rw [isTrue_false_enumerate ht] at eR
    rw [List.map_eq_nil_iff.1 eR.symm]
    exact ⟨.empty, rfl, rfl⟩

end Arrai.C04
