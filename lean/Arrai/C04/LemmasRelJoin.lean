/-
  C04 helper lemmas for `Relation.Join`: an output row read through an output heading that holds the names the
  operator keeps is the specified tuple, so the matched pairs are the specified rows (`matched_eqv`); and
  `Relation.Join`, with its short-cuts and re-sugaring, for any key and output names, given the rows the positional
  join returns (`relationJoin_of_rows`).  Core-only.
-/
import Arrai.C04.LemmasMode

namespace Arrai.C04
open Spec Impl

section outTuple
variable (op : JoinOp) {A1 A2 : Names} {l r' : Row}
variable (hl : l.length = A1.length) (hr : r'.length = A2.length)

include hl hr in
theorem keys_agree :
    project ((intersect A1 A2).map (idxOf A1)) l = project ((intersect A1 A2).map (idxOf A2)) r' ↔
      agree (A1.zip l) (A2.zip r') = true := by
  obtain ⟨c1, c2⟩ := intersect_sub A1 A2
  rw [project_names c1 hl, project_names c2 hr,
    vals_eq_iff (has_of_mem_heading (has_zip hl) c1) (has_of_mem_heading (has_zip hr) c2),
    agree_iff_on (has_zip hl) (has_zip hr) (mem_intersect A1 A2)]

include hl hr in
theorem out_tuple {lo ro : Names} (loA1 : ∀ n ∈ lo, n ∈ A1) (roA2 : ∀ n ∈ ro, n ∈ A2)
    (hkeep : ∀ n, (lo ++ ro).contains n = keep op A1 A2 n) (hag : agree (A1.zip l) (A2.zip r') = true) :
    (lo ++ ro).zip (project (lo.map (idxOf A1)) l ++ project (ro.map (idxOf A2)) r') ≃
      joined op (A1.zip l) (A2.zip r') := by
  have hL := has_zip hl
  have hR := has_zip hr
  rw [project_names loA1 hl, project_names roA2 hr]
  intro n
  obtain ⟨g, hgt, hgu⟩ := value_at hL hR hag n
  have hk := hkeep n
  rw [List.contains_append] at hk
  rw [List.zip_append (by rw [vals_length]), get_append, has_zip (vals_length lo _),
    get_zip_vals n (has_of_mem_heading hL loA1), get_zip_vals n (has_of_mem_heading hR roA2)]
  rw [get_joined, sel_eq_keep op hL hR, hL, hgt, hgu, ← hk]
  -- a name of `lo` is in `A1`, a name of `ro` in `A2`, and a common name holds the same value `g` on both sides
  cases hlo : lo.contains n <;> cases hro : ro.contains n
  · rfl
  · rw [List.contains_iff_mem.2 (roA2 n (List.contains_iff_mem.1 hro))]
    cases A1.contains n <;> rfl
  · rw [List.contains_iff_mem.2 (loA1 n (List.contains_iff_mem.1 hlo))]; rfl
  · rw [List.contains_iff_mem.2 (loA1 n (List.contains_iff_mem.1 hlo))]; rfl

end outTuple

theorem matched_eqv (op : JoinOp) {r1 r2 : Relation} (w1 : RelWF r1) (w2 : RelWF r2) {lo ro : Names}
    {rows : List Row} (loA1 : ∀ n ∈ lo, n ∈ r1.attrs) (roA2 : ∀ n ∈ ro, n ∈ r2.attrs)
    (hkeep : ∀ n, (lo ++ ro).contains n = keep op r1.attrs r2.attrs n)
    (hmem : ∀ x, x ∈ rows ↔ Matched r1.rows r2.rows
      ((intersect r1.attrs r2.attrs).map (idxOf r1.attrs)) ((intersect r1.attrs r2.attrs).map (idxOf r2.attrs))
      (lo.map (idxOf r1.attrs)) (ro.map (idxOf r2.attrs)) x) :
    RelEqv (rows.map fun row => (lo ++ ro).zip row) (joinRows op (relTups r1) (relTups r2)) ∧
      ∀ x ∈ rows, x.length = (lo ++ ro).length := by
  refine ⟨⟨?_, ?_⟩, ?_⟩
  · intro t ht
    obtain ⟨x, hx, e⟩ := List.mem_map.1 ht
    obtain ⟨l, hl, r', hr', hk, ex⟩ := (hmem x).1 hx
    have hll := w1.width l hl
    have hrl := w2.width r' hr'
    have hag := (keys_agree hll hrl).1 hk
    refine ⟨joined op (r1.attrs.zip l) (r2.attrs.zip r'), ?_, ?_⟩
    · exact (mem_joinRows op _ _ _).2 ⟨_, List.mem_map.2 ⟨l, hl, rfl⟩, _, List.mem_map.2 ⟨r', hr', rfl⟩, hag, rfl⟩
    · rw [← e, ex]
      exact out_tuple op hll hrl loA1 roA2 hkeep hag
  · intro t ht
    obtain ⟨tL, htL, tR, htR, hag, e⟩ := (mem_joinRows op _ _ t).1 ht
    obtain ⟨l, hl, el⟩ := List.mem_map.1 htL
    obtain ⟨r', hr', er⟩ := List.mem_map.1 htR
    subst el; subst er
    have hll := w1.width l hl
    have hrl := w2.width r' hr'
    have hk := (keys_agree hll hrl).2 hag
    refine ⟨(lo ++ ro).zip _, List.mem_map.2 ⟨_, (hmem _).2 ⟨l, hl, r', hr', hk, rfl⟩, rfl⟩, ?_⟩
    rw [e]
    exact out_tuple op hll hrl loA1 roA2 hkeep hag
  · intro x hx
    obtain ⟨l, hl, r', hr', _, ex⟩ := (hmem x).1 hx
    have hll := w1.width l hl
    have hrl := w2.width r' hr'
    rw [ex, project_names loA1 hll, project_names roA2 hrl]
    simp [vals_length]

/-! ### the re-sugaring branch -/

theorem eq_pair_of_length_two {row : Row} (h : row.length = 2) : ∃ a b, row = [a, b] := by
  match row, h with
  | [a, b], _ => exact ⟨a, b, rfl⟩

theorem sugar_ne_at {n : String} {k : SeqKind} (h : isSugarAttr n = some k) : n ≠ "@" := by
  intro e
  subst e
  simp [isSugarAttr] at h

theorem resugar_den (H : Names) (at_ val : Nat) (rows : List Row) (k : SeqKind)
    (hH : H.length = 2) (hav : (at_ = 0 ∧ val = 1) ∨ (at_ = 1 ∧ val = 0))
    (hat : H.getD at_ "" = "@") (hs : isSugarAttr (H.getD val "") = some k)
    (hrows : ∀ row ∈ rows, row.length = 2) :
    ∃ res, resugar (List.range 2) H at_ val rows = .ok res ∧
      den res = denRows (rows.map fun row => H.zip row) ∧ RepOK res := by
  match H, hH with
  | [h0, h1], _ =>
    -- the tuple built for a row, as an attribute list
    let tl : Row → Tup := fun row => [("@", row.getD at_ V.none), ([h0, h1].getD val "", row.getD val V.none)]
    have hf : ∀ row ∈ rows, resugarRow (List.range 2) [h0, h1] at_ val row = some (V.mkTup (tl row)) := by
      intro row hrow
      obtain ⟨a, b, e⟩ := eq_pair_of_length_two (hrows row hrow)
      subst e
      rcases hav with ⟨rfl, rfl⟩ | ⟨rfl, rfl⟩ <;> rfl
    have hms : rows.map (resugarRow (List.range 2) [h0, h1] at_ val) =
        (rows.map fun row => V.mkTup (tl row)).map some := by
      rw [List.map_map]; exact List.map_congr_left hf
    refine ⟨ofMembers (rows.map fun row => V.mkTup (tl row)), ?_, ?_, ?_⟩
    · unfold resugar
      dsimp only
      rw [hms, any_isNone_map_some, filterMap_id_map_some]
      rfl
    rotate_left
    · refine ofMembers_ok (R := rows.map tl) ["@", [h0, h1].getD val ""] (fun x hx => by rwa [List.map_map])
        fun t ht n => ?_
      obtain ⟨row, _, rfl⟩ := List.mem_map.1 ht
      exact has_eq_contains _ n
    · rw [show (rows.map fun row => V.mkTup (tl row)) = (rows.map tl).map V.mkTup from by rw [List.map_map]; rfl,
        den_ofMembers_mkTup]
      refine denRows_congr ?_
      have hrow : ∀ row ∈ rows, tl row ≃ [h0, h1].zip row := by
        intro row hrow
        obtain ⟨a, b, e⟩ := eq_pair_of_length_two (hrows row hrow)
        subst e
        rcases hav with ⟨e1, e2⟩ | ⟨e1, e2⟩
        · subst e1; subst e2
          simp only [List.getD_cons_zero] at hat
          subst hat
          intro n; rfl
        · subst e1; subst e2
          simp only [List.getD_cons_succ, List.getD_cons_zero] at hat hs
          subst hat
          have hne : h0 ≠ "@" := sugar_ne_at hs
          intro n
          simp only [tl, List.getD_cons_succ, List.getD_cons_zero, List.zip_cons_cons, List.zip_nil_right,
            get_cons, get_nil]
          by_cases e1 : "@" = n
          · subst e1; simp [hne]
          · simp [e1]
      exact RelEqv.map hrow

theorem all_nil_of_literalTrue {rows : List Row} (h : isLiteralTrue rows = true) : ∀ x ∈ rows, x = [] := by
  unfold isLiteralTrue at h
  simp only [Bool.and_eq_true, beq_iff_eq] at h
  obtain ⟨h1, h2⟩ := h
  have hnil : ([] : Row) ∈ rows := List.contains_iff_mem.1 h2
  match hd : dedup rows, h1 with
  | [y], _ =>
    intro x hx
    have hx' : x ∈ dedup rows := (mem_dedup x rows).2 hx
    have hn' : ([] : Row) ∈ dedup rows := (mem_dedup _ rows).2 hnil
    rw [hd] at hx' hn'
    simp at hx' hn'
    rw [hx', ← hn']

theorem den_true_of_literalTrue (H : Names) {rows : List Row} (hne : rows ≠ [])
    (ht : isLiteralTrue rows = true) : den .true_ = denRows (rows.map fun row => H.zip row) := by
  have hall := all_nil_of_literalTrue ht
  obtain ⟨x0, hx0⟩ := List.exists_mem_of_ne_nil rows hne
  have hrow : ∀ x ∈ rows, H.zip x ≃ [] := fun x hx => by
    rw [hall x hx, List.zip_nil_right]; exact Eqv.refl _
  refine (denRows_congr (B := [[]]) ⟨fun t ht' => ?_, fun t ht' => ?_⟩).symm
  · obtain ⟨x, hx, rfl⟩ := List.mem_map.1 ht'
    exact ⟨[], List.mem_singleton.2 rfl, hrow x hx⟩
  · obtain rfl := List.mem_singleton.1 ht'
    exact ⟨_, List.mem_map.2 ⟨x0, hx0, rfl⟩, hrow x0 hx0⟩

theorem relation_of_rows (H : Names) {rows : List Row} (hnd : H.Nodup) (hne : rows ≠ [])
    (hlen : ∀ x ∈ rows, x.length = H.length) :
    den (.relation ⟨H, List.range H.length, rows⟩) = denRows (rows.map fun row => H.zip row) ∧
      RepOK (.relation ⟨H, List.range H.length, rows⟩) :=
  have w : RelWF ⟨H, List.range H.length, rows⟩ := ⟨hnd, rfl, hlen, hne⟩
  ⟨den_relation w, w, H, rfl⟩

/-! ### `Relation.Join` around the positional join -/

theorem relationJoin_of_rows {r1 r2 : Relation} {keys lo ro : Names} {rows : List Row}
    (hk1 : ∀ n ∈ keys, n ∈ r1.attrs) (hk2 : ∀ n ∈ keys, n ∈ r2.attrs)
    (hlo : ∀ n ∈ lo, n ∈ r1.attrs) (hro : ∀ n ∈ ro, n ∈ r2.attrs)
    (hp1 : r1.p = List.range r1.attrs.length) (hp2 : r2.p = List.range r2.attrs.length)
    (hrows : posJoin r1.rows r2.rows (keys.map (idxOf r1.attrs)) (keys.map (idxOf r2.attrs))
      (lo.map (idxOf r1.attrs)) (ro.map (idxOf r2.attrs)) = .ok rows)
    (hnd : (lo ++ ro).Nodup) (hlen : ∀ x ∈ rows, x.length = (lo ++ ro).length) :
    ∃ res, relationJoin r1 r2 keys lo ro = .ok res ∧
      den res = denRows (rows.map fun row => (lo ++ ro).zip row) ∧ RepOK res := by
  -- distinct output names: the intersection test does not fire
  have hni : hasIntersect lo ro = false := by
    rw [hasIntersect_eq, Bool.eq_false_iff]
    intro h
    obtain ⟨n, h1, h2⟩ := (meets_iff lo ro).1 h
    exact (List.nodup_append.1 hnd).2.2 n (List.contains_iff_mem.1 h1) n (List.contains_iff_mem.1 h2) rfl
  unfold relationJoin relationJoinWith
  rw [hni]
  simp only [Bool.false_eq_true, if_false]
  rw [getIndices_ok _ hk1, getIndices_ok _ hk2, getIndices_ok _ hlo, getIndices_ok _ hro]
  dsimp only
  rw [hp1, hp2, compose_range_idxOf hk1, compose_range_idxOf hk2, compose_range_idxOf hlo, compose_range_idxOf hro,
    hrows]
  dsimp only
  by_cases he : rows.isEmpty = true
  · rw [if_pos he]
    refine ⟨_, rfl, ?_, ⟨trivial, [], rfl⟩⟩
    have : rows = [] := by simpa using he
    subst this
    rfl
  · rw [if_neg he]
    have hne : rows ≠ [] := fun e => he (by rw [e]; rfl)
    by_cases ht : isLiteralTrue rows = true
    · rw [if_pos ht]
      exact ⟨_, rfl, den_true_of_literalTrue (lo ++ ro) hne ht, ⟨trivial, [], rfl⟩⟩
    · rw [if_neg ht]
      have hplain := relation_of_rows (lo ++ ro) hnd hne hlen
      rw [List.length_append] at hplain
      by_cases h2 : ((lo ++ ro).length == 2) = true
      · rw [if_pos h2]
        have hH2 : (lo ++ ro).length = 2 := by simpa using h2
        have hcount : lo.length + ro.length = 2 := by rw [← List.length_append]; exact hH2
        -- whichever of the two columns is tested for `@`, the walk is the same
        obtain ⟨at_, val, hav, hif⟩ : ∃ at_ val, ((at_ = 0 ∧ val = 1) ∨ (at_ = 1 ∧ val = 0)) ∧
            (if (lo ++ ro).getD 1 "" = "@" then (1, 0) else (0, 1)) = (at_, val) := by
          split
          · exact ⟨1, 0, .inr ⟨rfl, rfl⟩, rfl⟩
          · exact ⟨0, 1, .inl ⟨rfl, rfl⟩, rfl⟩
        rw [hif]
        dsimp only
        by_cases hat : (lo ++ ro).getD at_ "" = "@"
        · rw [if_pos hat]
          cases hs : isSugarAttr ((lo ++ ro).getD val "") with
          | none => exact ⟨_, rfl, hplain⟩
          | some k =>
            dsimp only
            rw [hcount]
            exact resugar_den (lo ++ ro) at_ val rows k hH2 hav hat hs (fun row hr => by rw [hlen row hr, hH2])
        · rw [if_neg hat]
          exact ⟨_, rfl, hplain⟩
      · rw [if_neg h2]
        exact ⟨_, rfl, hplain⟩

end Arrai.C04
