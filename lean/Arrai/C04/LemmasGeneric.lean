/-
  C04 helper lemmas: the tuple operations of the implementation (`Project`, `Merge`, the eight `combine` closures) on
  `V.mkTup T` as operations on the attribute list `T`, so that the generic join path (`GenericJoin` keyed by the common
  names + `combine`) on operands written as rows `R.map V.mkTup` returns exactly the specified rows
  (`generic_members`).  Core-only.
-/
import Arrai.C04.LemmasSpec

namespace Arrai.C04
open Spec Impl

/-- a canonical tuple value: attributes strictly sorted by name -/
def CanonT (x : V) : Prop := ∃ as, x = .tup as ∧ SortedNames as

theorem canonT_mkTup (as : Tup) : CanonT (V.mkTup as) := ⟨canonAttrs as, rfl, V.sorted_attrs as⟩

theorem mkTup_tupOf {x : V} (h : CanonT x) : V.mkTup (tupOf x) = x := by
  obtain ⟨as, rfl, hs⟩ := h
  exact V.mkTup_of_sorted as hs

/-! ### the tuple operations of the implementation on `V.mkTup T` -/

theorem projectT_mkTup {names : Names} {T : Tup} (h : ∀ n ∈ names, has T n = true) :
    projectT names (V.mkTup T) = some (V.mkTup (restrict names.contains T)) := by
  unfold projectT
  rw [if_pos (List.all_eq_true.2 fun n hn => (has_mkTup T n).trans (h n hn))]
  refine congrArg some (mkTup_congr fun m => ?_)
  rw [get_map_pair, get_restrict, get_tupOf_mkTup]
  cases hc : names.contains m
  · rfl
  · obtain ⟨v, hv⟩ := (has_true_iff T m).1 (h m (List.contains_iff_mem.1 hc))
    rw [hv]; rfl

theorem projectT_mkTup_of {names : Names} {T : Tup} {S : String → Bool}
    (h : ∀ n, names.contains n = (has T n && S n)) :
    projectT names (V.mkTup T) = some (V.mkTup (restrict S T)) := by
  rw [projectT_mkTup fun n hn => (Bool.and_eq_true_iff.1 (h n ▸ List.contains_iff_mem.2 hn)).1]
  refine congrArg some (mkTup_congr fun m => ?_)
  rw [get_restrict, get_restrict, h]
  cases hm : has T m
  · rw [(has_false_iff T m).1 hm]; simp
  · rfl

theorem projectAllBut_mkTup (T : Tup) (names : Names) :
    projectAllBut (V.mkTup T) names = some (V.mkTup (restrict (fun n => !names.contains n) T)) :=
  projectT_mkTup_of fun n => by rw [contains_minus, namesOf, ← has_eq_contains, has_mkTup]

theorem mergeT_mkTup {T U : Tup} (h : agree T U = true) :
    mergeT (V.mkTup T) (V.mkTup U) = some (V.mkTup (merge T U)) := by
  unfold mergeT
  dsimp only
  rw [if_pos]
  · exact congrArg some (mkTup_congr (merge_congr (get_tupOf_mkTup T) (get_tupOf_mkTup U)))
  · rw [List.all_eq_true]
    intro p hp
    cases hu : get p.1 (tupOf (V.mkTup U)) with
    | none => rfl
    | some w =>
      have hv : get p.1 T = some p.2 := by
        rw [← get_tupOf_mkTup, get_eq_lookup]; exact lookup_of_mem (V.sorted_attrs T).nodup hp
      rw [get_tupOf_mkTup] at hu
      exact decide_eq_true ((agree_iff T U).1 h p.1 p.2 w hv hu)

/-! ### GenericJoin -/

theorem mem_genericJoin (a b : List V) (getKey : V → Option V) (f : V → V → Option V) (m : Option V) :
    m ∈ Impl.genericJoin a b getKey f ↔ ∃ x ∈ a, ∃ y ∈ b, getKey x = getKey y ∧ m = f x y := by
  unfold Impl.genericJoin
  simp only [List.mem_flatMap, List.mem_map, List.mem_filter, decide_eq_true_eq]
  constructor
  · rintro ⟨k, _, x, ⟨hx, hkx⟩, y, ⟨hy, hky⟩, e⟩
    exact ⟨x, hx, y, hy, by rw [hkx, hky], e.symm⟩
  · rintro ⟨x, hx, y, hy, hk, e⟩
    refine ⟨getKey x, ?_, x, ⟨hx, rfl⟩, y, ⟨hy, hk.symm⟩, e.symm⟩
    rw [mem_dedup]
    exact List.mem_map.2 ⟨x, List.mem_append_left _ hx, rfl⟩

/-! ### the `combine` closures -/

def combined (op : JoinOp) (common : Names) (t u : Tup) : Tup :=
  match op with
  | .join => merge t u
  | .compose => merge (restrict (fun n => !common.contains n) t) (restrict (fun n => !common.contains n) u)
  | .common => restrict common.contains t
  | .exists_ => []
  | .rmatch => u
  | .lmatch => t
  | .rres => restrict (fun n => !common.contains n) u
  | .lres => restrict (fun n => !common.contains n) t

theorem agree_restrict {t u : Tup} (S S' : String → Bool) (h : agree t u = true) :
    agree (restrict S t) (restrict S' u) = true := by
  rw [agree_iff] at h ⊢
  intro n v w hv hw
  rw [get_restrict] at hv hw
  split at hv
  · split at hw
    · exact h n v w hv hw
    · cases hw
  · cases hv

theorem agree_iff_on {aN bN common : Names} {t u : Tup}
    (ht : ∀ n, has t n = aN.contains n) (hu : ∀ n, has u n = bN.contains n)
    (hc : ∀ n, n ∈ common ↔ aN.contains n = true ∧ bN.contains n = true) :
    agree t u = true ↔ ∀ n ∈ common, get n t = get n u := by
  rw [agree_iff]
  constructor
  · intro h n hn
    obtain ⟨h1, h2⟩ := (hc n).1 hn
    obtain ⟨v, hv⟩ := (has_true_iff _ n).1 (by rw [ht]; exact h1)
    obtain ⟨w, hw⟩ := (has_true_iff _ n).1 (by rw [hu]; exact h2)
    rw [hv, hw, h n v w hv hw]
  · intro h n v w hv hw
    have h1 : aN.contains n = true := by rw [← ht]; exact (has_true_iff _ n).2 ⟨v, hv⟩
    have h2 : bN.contains n = true := by rw [← hu]; exact (has_true_iff _ n).2 ⟨w, hw⟩
    have := h n ((hc n).2 ⟨h1, h2⟩)
    rw [hv, hw] at this
    injection this

theorem value_at {aN bN : Names} {t u : Tup}
    (ht : ∀ n, has t n = aN.contains n) (hu : ∀ n, has u n = bN.contains n) (hag : agree t u = true) (n : String) :
    ∃ g, get n t = (if aN.contains n then g else none) ∧ get n u = (if bN.contains n then g else none) := by
  have hxn : aN.contains n = false → get n t = none := fun h => (has_false_iff t n).1 (by rw [ht]; exact h)
  have hyn : bN.contains n = false → get n u = none := fun h => (has_false_iff u n).1 (by rw [hu]; exact h)
  cases ha : aN.contains n <;> cases hb : bN.contains n
  · exact ⟨none, hxn ha, hyn hb⟩
  · exact ⟨get n u, hxn ha, rfl⟩
  · exact ⟨get n t, rfl, hyn hb⟩
  · obtain ⟨v, hv⟩ := (has_true_iff t n).1 (by rw [ht]; exact ha)
    obtain ⟨w, hw⟩ := (has_true_iff u n).1 (by rw [hu]; exact hb)
    exact ⟨some v, hv, by rw [hw, (agree_iff t u).1 hag n v w hv hw]; rfl⟩

theorem joined_eqv_combined (op : JoinOp) {aN bN : Names} {t u : Tup}
    (ht : ∀ n, has t n = aN.contains n) (hu : ∀ n, has u n = bN.contains n) (hag : agree t u = true) :
    joined op t u ≃ combined op (aN.filter bN.contains) t u := by
  intro n
  -- with the one value `g` of `value_at`, both sides are a Boolean table over the membership of `n` in the headings
  obtain ⟨g, hgt, hgu⟩ := value_at ht hu hag n
  rw [get_joined]
  unfold sel
  cases op <;>
    simp only [combined, get_merge, get_restrict, has_restrict, contains_filter, ht, hu, get_nil, hgt, hgu] <;>
    cases aN.contains n <;> cases bN.contains n <;> rfl

theorem common_mem (aN bN : Names) (n : String) :
    n ∈ aN.filter bN.contains ↔ aN.contains n = true ∧ bN.contains n = true := by
  simp [List.mem_filter]

theorem combine_mkTup (op : JoinOp) (common : Names) {T U : Tup} (hc : ∀ n ∈ common, has T n = true)
    (hag : agree T U = true) :
    combine op common (V.mkTup T) (V.mkTup U) = some (V.mkTup (combined op common T U)) := by
  cases op with
  | join => exact mergeT_mkTup hag
  | compose =>
    show (match projectAllBut (V.mkTup T) common, projectAllBut (V.mkTup U) common with
      | some a, some b => mergeT a b
      | _, _ => none) = _
    rw [projectAllBut_mkTup, projectAllBut_mkTup]
    exact mergeT_mkTup (agree_restrict _ _ hag)
  | common => exact projectT_mkTup hc
  | exists_ => rfl
  | rmatch => rfl
  | lmatch => rfl
  | rres => exact projectAllBut_mkTup U common
  | lres => exact projectAllBut_mkTup T common

/-! ### the generic path on rows -/

theorem generic_members (op : JoinOp) (aN bN : Names) (A B : List Tup) (uA : Uniform aN A) (uB : Uniform bN B)
    (m : Option V) :
    m ∈ genericJoin (A.map V.mkTup) (B.map V.mkTup) (projectT (aN.filter bN.contains))
        (combine op (aN.filter bN.contains)) ↔ ∃ t ∈ joinRows op A B, m = some (V.mkTup t) := by
  have hcA : ∀ t ∈ A, ∀ n ∈ aN.filter bN.contains, has t n = true := fun t ht n hn => by
    rw [uA t ht]; exact ((common_mem aN bN n).1 hn).1
  have hcB : ∀ u ∈ B, ∀ n ∈ aN.filter bN.contains, has u n = true := fun u hu n hn => by
    rw [uB u hu]; exact ((common_mem aN bN n).1 hn).2
  have hkey : ∀ t ∈ A, ∀ u ∈ B, projectT (aN.filter bN.contains) (V.mkTup t) =
      projectT (aN.filter bN.contains) (V.mkTup u) ↔ agree t u = true := fun t ht u hu => by
    rw [projectT_mkTup (hcA t ht), projectT_mkTup (hcB u hu), Option.some.injEq, mkTup_restrict_eq_iff,
      agree_iff_on (uA t ht) (uB u hu) (common_mem aN bN)]
    exact forall_congr' fun n => by rw [List.contains_iff_mem]
  have hout : ∀ t ∈ A, ∀ u ∈ B, agree t u = true →
      combine op (aN.filter bN.contains) (V.mkTup t) (V.mkTup u) = some (V.mkTup (joined op t u)) :=
    fun t ht u hu hag => by
      rw [combine_mkTup op _ (hcA t ht) hag]
      exact congrArg some (mkTup_congr (joined_eqv_combined op (uA t ht) (uB u hu) hag).symm)
  rw [mem_genericJoin]
  simp only [mem_joinRows, List.mem_map]
  constructor
  · rintro ⟨_, ⟨t, ht, rfl⟩, _, ⟨u, hu, rfl⟩, hk, e⟩
    have hag := (hkey t ht u hu).1 hk
    exact ⟨_, ⟨t, ht, u, hu, hag, rfl⟩, by rw [e, hout t ht u hu hag]⟩
  · rintro ⟨_, ⟨t, ht, u, hu, hag, rfl⟩, e⟩
    exact ⟨_, ⟨t, ht, rfl⟩, _, ⟨u, hu, rfl⟩, (hkey t ht u hu).2 hag, by rw [e, hout t ht u hu hag]⟩

end Arrai.C04
