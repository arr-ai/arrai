/-
  C04 helper lemmas: `createMode` on the projectors `Relation.Join` hands it, brought to a Boolean table — its tests
  on index lists as tests on lists of names, the two output headings `partitionNames` makes as unions of the classes
  own-only / common (`partition_shape`), `modeB` / `sideB` as `createMode` / the strategies' side conditions (`SideOK`)
  on the class flags (`createMode_of_shape`), and the output names: those the operator keeps (`partition_keep`), each
  once (`partition_nodup`).  Core-only.
-/
import Arrai.C04.LemmasPos

namespace Arrai.C04
open Spec Impl

/-! ### index-level tests are name-level tests -/

theorem contains_map_idxOf {attrs b : Names} {n : String} (hb : ∀ m ∈ b, m ∈ attrs) (hn : n ∈ attrs) :
    (b.map (idxOf attrs)).contains (idxOf attrs n) = b.contains n := by
  cases hc : b.contains n
  · rw [Bool.eq_false_iff]
    intro h
    obtain ⟨m, hm, e⟩ := List.mem_map.1 (List.contains_iff_mem.1 h)
    have := idxOf_inj (hb m hm) hn e
    have hmem : b.contains n = true := by rw [← this]; exact List.contains_iff_mem.2 hm
    rw [hmem] at hc
    cases hc
  · exact List.contains_iff_mem.2 (List.mem_map.2 ⟨n, List.contains_iff_mem.1 hc, rfl⟩)

theorem isSubProjection_names {attrs a b : Names} (ha : ∀ m ∈ a, m ∈ attrs) (hb : ∀ m ∈ b, m ∈ attrs) :
    isSubProjection (a.map (idxOf attrs)) (b.map (idxOf attrs)) = isSubset a b := by
  unfold isSubProjection isSubset
  rw [List.all_map, Bool.eq_iff_iff, List.all_eq_true, List.all_eq_true]
  exact forall₂_congr fun n hn => by rw [Function.comp, contains_map_idxOf hb (ha n hn)]

/-- some name of `a` is in `b` -/
def meets (a b : Names) : Bool := a.any b.contains

theorem meets_iff (a b : Names) : meets a b = true ↔ ∃ n, a.contains n = true ∧ b.contains n = true := by
  unfold meets
  rw [List.any_eq_true]
  constructor
  · rintro ⟨n, hn, hc⟩; exact ⟨n, List.contains_iff_mem.2 hn, hc⟩
  · rintro ⟨n, hn, hc⟩; exact ⟨n, List.contains_iff_mem.1 hn, hc⟩

theorem meets_comm (a b : Names) : meets a b = meets b a := by
  rw [Bool.eq_iff_iff, meets_iff, meets_iff]
  exact ⟨fun ⟨n, h1, h2⟩ => ⟨n, h2, h1⟩, fun ⟨n, h1, h2⟩ => ⟨n, h2, h1⟩⟩

theorem hasIntersect_eq (a b : Names) : hasIntersect a b = meets a b := by
  unfold hasIntersect
  split
  · rfl
  · exact meets_comm b a

theorem hasCommonIndices_names {attrs a b : Names} (ha : ∀ m ∈ a, m ∈ attrs) (hb : ∀ m ∈ b, m ∈ attrs) :
    hasCommonIndices (a.map (idxOf attrs)) (b.map (idxOf attrs)) = meets a b := by
  have key : ∀ {a b : Names}, (∀ m ∈ a, m ∈ attrs) → (∀ m ∈ b, m ∈ attrs) →
      (a.map (idxOf attrs)).any (b.map (idxOf attrs)).contains = meets a b := fun ha hb => by
    unfold meets
    rw [List.any_map, Bool.eq_iff_iff, List.any_eq_true, List.any_eq_true]
    exact exists_congr fun n => and_congr_right fun hn => by rw [Function.comp, contains_map_idxOf hb (ha n hn)]
  unfold hasCommonIndices
  split
  · exact key ha hb
  · rw [key hb ha]; exact meets_comm b a

/-- the form in which emptiness, inclusion and disjointness of name lists are compared -/
def NoName (p : String → Bool) : Prop := ∀ n, p n = false

theorem noName_and (f : Bool) (p : String → Bool) : NoName (fun n => f && p n) ↔ (f = true → NoName p) := by
  cases f <;> simp [NoName]

theorem noName_or (p q : String → Bool) : NoName (fun n => p n || q n) ↔ NoName p ∧ NoName q := by
  simp [NoName, forall_and]

theorem noName_congr {p q : String → Bool} (h : ∀ n, p n = q n) : NoName p ↔ NoName q := by
  simp [NoName, h]

theorem isSubset_iff_noName (a b : Names) : isSubset a b = true ↔ NoName fun n => a.contains n && !b.contains n :=
  (isSubset_iff a b).trans (forall_congr' fun n => by
    show _ ↔ (a.contains n && !b.contains n) = false
    rw [← List.contains_iff_mem, ← List.contains_iff_mem]
    cases a.contains n <;> cases b.contains n <;> simp)

theorem meets_iff_noName (a b : Names) : meets a b = false ↔ NoName fun n => a.contains n && b.contains n := by
  rw [← Bool.not_eq_true, meets_iff, not_exists]
  exact forall_congr' fun n => by
    show _ ↔ (a.contains n && b.contains n) = false
    cases a.contains n <;> cases b.contains n <;> simp

theorem isEmpty_iff_noName (l : Names) : l.isEmpty = true ↔ NoName l.contains := by
  cases l with
  | nil => simp [NoName]
  | cons a r => simp [NoName]; exact ⟨a, by simp⟩

/-! ### classes

A name of the two headings `A1`, `A2` is left-only (class X), common (class Y) or right-only (class Z).  Each of
the two output headings `partitionNames` makes is a union of classes (`fX`, `fY`: the left output includes X, Y;
`gY`, `gZ`: the right output includes Y, Z); `createMode` only asks which classes an output includes and which
classes are empty (`ex`, `ey`, `ez`; `partitionNames .join` tests `ex` and `ez`). -/

/-- which classes the two output headings include -/
structure Flags where
  fX : Bool
  fY : Bool
  gY : Bool
  gZ : Bool
  deriving DecidableEq, Repr

/-- the classes `partitionNames op` puts into the two outputs, in the order `⟨fX, fY, gY, gZ⟩` -/
def flagsOf (op : JoinOp) (ex ez : Bool) : Flags :=
  match op with
  | .join => if ex then ⟨false, false, true, true⟩ else if ez then ⟨true, true, false, false⟩
             else ⟨true, true, false, true⟩
  | .compose => ⟨true, false, false, true⟩
  | .common => ⟨false, true, false, false⟩
  | .exists_ => ⟨false, false, false, false⟩
  | .rmatch => ⟨false, false, true, true⟩
  | .lmatch => ⟨true, true, false, false⟩
  | .rres => ⟨false, false, false, true⟩
  | .lres => ⟨true, false, false, false⟩

section classes
variable (A1 A2 : Names)

def cX (n : String) : Bool := A1.contains n && !A2.contains n
def cY (n : String) : Bool := A1.contains n && A2.contains n

/-- `l`, an output heading seen from its own operand `A1`, is the union of the classes the flags select (from the
right operand, `cX A2 A1` is class Z) -/
def LoShape (fX fY : Bool) (l : Names) : Prop :=
  ∀ n, l.contains n = ((fX && cX A1 A2 n) || (fY && cY A1 A2 n))

/-- `LoShape` takes the own-only flag first: for the right output that is `gZ`, then `gY`, the reverse of their order
in `Flags` -/
def Shape (f : Flags) (lo ro : Names) : Prop :=
  LoShape A1 A2 f.fX f.fY lo ∧ LoShape A2 A1 f.gZ f.gY ro

theorem contains_intersect (n : String) : (intersect A1 A2).contains n = cY A1 A2 n := by
  unfold intersect cY
  split
  · exact contains_filter A1 _ n
  · rw [contains_filter, Bool.and_comm]

theorem mem_intersect (n : String) : n ∈ intersect A1 A2 ↔ A1.contains n = true ∧ A2.contains n = true := by
  rw [← List.contains_iff_mem, contains_intersect]
  unfold cY
  simp

/-- the partition `partitionNames` makes has the shape `flagsOf` predicts -/
theorem partition_shape (op : JoinOp) :
    Shape A1 A2 (flagsOf op (isSubset A1 A2) (isSubset A2 A1))
      (partitionNames op A1 A2 (intersect A1 A2)).1 (partitionNames op A1 A2 (intersect A1 A2)).2 := by
  have hc := contains_intersect A1 A2
  unfold Shape LoShape
  cases op <;> simp only [partitionNames, flagsOf]
  case join =>
    -- the three branches of `partitionNames .join` are the three branches of `flagsOf .join`
    by_cases h1 : isSubset A1 A2 = true <;> by_cases h2 : isSubset A2 A1 = true <;>
      simp only [h1, h2, if_true, if_false, Bool.false_eq_true]
    all_goals
      refine ⟨fun n => ?_, fun n => ?_⟩
      all_goals
        simp only [contains_minus, List.contains_nil, cX, cY]
        cases A1.contains n <;> cases A2.contains n <;> rfl
  all_goals
    refine ⟨fun n => ?_, fun n => ?_⟩
    all_goals
      simp only [contains_minus, hc, List.contains_nil, cX, cY]
      cases A1.contains n <;> cases A2.contains n <;> rfl

/-! ### emptiness of the classes -/

theorem cX_empty_iff : isSubset A1 A2 = true ↔ NoName (cX A1 A2) := isSubset_iff_noName A1 A2

def noCommon : Bool := !meets A1 A2

theorem cY_empty_iff : noCommon A1 A2 = true ↔ NoName (cY A1 A2) := by
  unfold noCommon; rw [Bool.not_eq_true']; exact meets_iff_noName A1 A2

end classes

/-! ### name-level tests from the shape of an output heading -/

section shape
variable {A1 A2 common l : Names} {fX fY : Bool}
variable (hc : ∀ n, common.contains n = cY A1 A2 n) (hl : LoShape A1 A2 fX fY l)

include hc hl in
theorem shape_sub_common : isSubset l common = !(fX && !isSubset A1 A2) := by
  have : (!(fX && !isSubset A1 A2)) = true ↔ (fX = true → NoName (cX A1 A2)) := by
    rw [← cX_empty_iff]; cases fX <;> simp
  rw [Bool.eq_iff_iff, isSubset_iff_noName, this, ← noName_and]
  refine noName_congr fun n => ?_
  rw [hl n, hc n]
  unfold cX cY
  cases fX <;> cases fY <;> cases A1.contains n <;> cases A2.contains n <;> rfl

include hc hl in
theorem shape_common_sub : isSubset common l = (fY || noCommon A1 A2) := by
  have : (fY || noCommon A1 A2) = true ↔ ((!fY) = true → NoName (cY A1 A2)) := by
    rw [← cY_empty_iff]; cases fY <;> simp
  rw [Bool.eq_iff_iff, isSubset_iff_noName, this, ← noName_and]
  refine noName_congr fun n => ?_
  rw [hl n, hc n]
  unfold cX cY
  cases fX <;> cases fY <;> cases A1.contains n <;> cases A2.contains n <;> rfl

include hc hl in
theorem shape_meets_common : meets l common = (fY && !noCommon A1 A2) := by
  have : (!(fY && !noCommon A1 A2)) = true ↔ (fY = true → NoName (cY A1 A2)) := by
    rw [← cY_empty_iff]; cases fY <;> simp
  rw [← Bool.not_inj_iff, Bool.eq_iff_iff, Bool.not_eq_true', meets_iff_noName, this, ← noName_and]
  refine noName_congr fun n => ?_
  rw [hl n, hc n]
  unfold cX cY
  cases fX <;> cases fY <;> cases A1.contains n <;> cases A2.contains n <;> rfl

include hl in
theorem shape_empty : l.isEmpty = (!(fX && !isSubset A1 A2) && !(fY && !noCommon A1 A2)) := by
  have : (!(fX && !isSubset A1 A2) && !(fY && !noCommon A1 A2)) = true ↔
      (fX = true → NoName (cX A1 A2)) ∧ (fY = true → NoName (cY A1 A2)) := by
    rw [← cX_empty_iff, ← cY_empty_iff]; cases fX <;> cases fY <;> simp
  rw [Bool.eq_iff_iff, isEmpty_iff_noName, this, ← noName_and, ← noName_and, ← noName_or]
  exact noName_congr hl

include hl in
theorem shape_sub_A1 (n : String) (h : n ∈ l) : n ∈ A1 := by
  have := hl n
  rw [List.contains_iff_mem.2 h] at this
  apply List.contains_iff_mem.1
  unfold cX cY at this
  cases hA : A1.contains n
  · rw [hA] at this; simp at this
  · rfl

end shape

theorem cY_comm (A1 A2 : Names) (n : String) : cY A2 A1 n = cY A1 A2 n := by
  unfold cY; rw [Bool.and_comm]

theorem noCommon_comm (A1 A2 : Names) : noCommon A2 A1 = noCommon A1 A2 := by
  unfold noCommon; rw [meets_comm]

theorem intersect_sub (A1 A2 : Names) :
    (∀ n ∈ intersect A1 A2, n ∈ A1) ∧ (∀ n ∈ intersect A1 A2, n ∈ A2) :=
  ⟨fun n hn => List.contains_iff_mem.1 ((mem_intersect A1 A2 n).1 hn).1,
   fun n hn => List.contains_iff_mem.1 ((mem_intersect A1 A2 n).1 hn).2⟩

theorem partition_sub (op : JoinOp) (A1 A2 : Names) :
    (∀ n ∈ (partitionNames op A1 A2 (intersect A1 A2)).1, n ∈ A1) ∧
    (∀ n ∈ (partitionNames op A1 A2 (intersect A1 A2)).2, n ∈ A2) :=
  ⟨shape_sub_A1 (partition_shape A1 A2 op).1, shape_sub_A1 (partition_shape A1 A2 op).2⟩

/-! ### the Boolean table -/

/-- `createMode` computed from the class flags and the emptiness of the classes; `none` = one of its panics.
The `let`s are `createMode`'s tests in its order: `lo`/`ro` the left/right output, `C` the common names
(`loSubC`: lo ⊆ C, `cSubLo`: C ⊆ lo, `loMeetsC`: lo ∩ C ≠ ∅). -/
def modeB (f : Flags) (ex ey ez : Bool) : Option Mode :=
  let loSubC := !(f.fX && !ex)
  let cSubLo := f.fY || ey
  let loMeetsC := f.fY && !ey
  let roSubC := !(f.gZ && !ez)
  let cSubRo := f.gY || ey
  let roMeetsC := f.gY && !ey
  if (!cSubLo && loMeetsC) || (!cSubRo && roMeetsC) then none
  else some { lhs := !loSubC, rhs := !roSubC, inBoth := loMeetsC != roMeetsC }

def loEmptyB (f : Flags) (ex ey : Bool) : Bool := !(f.fX && !ex) && !(f.fY && !ey)
def roEmptyB (f : Flags) (ey ez : Bool) : Bool := !(f.gY && !ey) && !(f.gZ && !ez)

def sideB (s : Strategy) (f : Flags) (ex ey ez : Bool) : Bool :=
  match s with
  | .keepEverything => true
  | .oneSideLeft => roEmptyB f ey ez
  | .oneSideRight => loEmptyB f ex ey
  | .commonOnly => (roEmptyB f ey ez && !(f.fX && !ex)) || (loEmptyB f ex ey && !(f.gZ && !ez))
  | .ifCommonExist => loEmptyB f ex ey && roEmptyB f ey ez

theorem createMode_of_shape {A1 A2 lo ro : Names} {f : Flags} (hsh : Shape A1 A2 f lo ro) :
    (∀ m, modeB f (isSubset A1 A2) (noCommon A1 A2) (isSubset A2 A1) = some m →
      createMode ((intersect A1 A2).map (idxOf A1)) ((intersect A1 A2).map (idxOf A2))
        (lo.map (idxOf A1)) (ro.map (idxOf A2)) = .ok m) ∧
    ∀ s, sideB s f (isSubset A1 A2) (noCommon A1 A2) (isSubset A2 A1) = true →
      SideOK s ((intersect A1 A2).map (idxOf A1)) ((intersect A1 A2).map (idxOf A2))
        (lo.map (idxOf A1)) (ro.map (idxOf A2)) := by
  have hc : ∀ n, (intersect A1 A2).contains n = cY A1 A2 n := contains_intersect A1 A2
  have hc' : ∀ n, (intersect A1 A2).contains n = cY A2 A1 n := fun n => by rw [hc, cY_comm]
  have hlo : LoShape A1 A2 _ _ lo := hsh.1
  have hro : LoShape A2 A1 _ _ ro := hsh.2
  refine ⟨fun m hm => ?_, fun s hs => ?_⟩
  · -- `createMode`'s tests on the projectors are `modeB`'s tests on the flags
    obtain ⟨cA1, cA2⟩ := intersect_sub A1 A2
    have loA1 := shape_sub_A1 hlo
    have roA2 := shape_sub_A1 hro
    unfold createMode
    simp only [List.length_map, bne_self_eq_false, Bool.false_eq_true, if_false]
    rw [isSubProjection_names cA1 loA1, isSubProjection_names cA2 roA2,
      isSubProjection_names loA1 cA1, isSubProjection_names roA2 cA2,
      hasCommonIndices_names loA1 cA1, hasCommonIndices_names roA2 cA2,
      shape_common_sub hc hlo, shape_common_sub hc' hro, shape_sub_common hc hlo, shape_sub_common hc' hro,
      shape_meets_common hc hlo, shape_meets_common hc' hro, noCommon_comm A1 A2]
    unfold modeB at hm
    dsimp only at hm
    split at hm
    · cases hm
    · rename_i h; rw [if_neg h, Option.some.inj hm]
  · -- a heading whose selected classes are empty is empty
    have loNil : loEmptyB f (isSubset A1 A2) (noCommon A1 A2) = true → lo.map (idxOf A1) = [] := fun h => by
      rw [List.isEmpty_iff.1 ((shape_empty hlo).trans h)]; rfl
    have roNil : roEmptyB f (noCommon A1 A2) (isSubset A2 A1) = true → ro.map (idxOf A2) = [] := fun h => by
      have hroE := shape_empty hro
      rw [noCommon_comm, Bool.and_comm] at hroE
      rw [List.isEmpty_iff.1 (hroE.trans h)]; rfl
    cases s with
    | keepEverything => trivial
    | oneSideLeft => exact roNil hs
    | oneSideRight => exact loNil hs
    | ifCommonExist =>
      simp only [sideB, Bool.and_eq_true] at hs
      exact ⟨loNil hs.1, roNil hs.2⟩
    | commonOnly =>
      simp only [sideB, Bool.or_eq_true, Bool.and_eq_true] at hs
      rcases hs with ⟨h1, h2⟩ | ⟨h1, h2⟩
      · refine Or.inl ⟨roNil h1, List.map_subset _ ((isSubset_iff _ _).1 ?_)⟩
        rw [shape_sub_common hc hlo]; exact h2
      · refine Or.inr ⟨loNil h1, List.map_subset _ ((isSubset_iff _ _).1 ?_)⟩
        rw [shape_sub_common hc' hro]; exact h2

/-! ### what the flags say about the output names -/

/-- the two output headings never share a class -/
theorem flags_disjoint : ∀ (op : JoinOp) (ex ez : Bool),
    ((flagsOf op ex ez).fY && (flagsOf op ex ez).gY) = false := by
  intro op
  cases op <;> decide

/-- the classes are disjoint, so two headings that share no class share no name -/
theorem classes_disjoint : ∀ fX fY gY gZ a b : Bool, (fY && gY) = false →
    ((fX && (a && !b)) || (fY && (a && b))) = true → ((gZ && (b && !a)) || (gY && (b && a))) = true → False := by
  decide

/-- a name is output iff the operator keeps its class -/
theorem flags_select : ∀ (op : JoinOp) (ex ez bx bz : Bool) (b : Bool),
    (ex = true → bx = false) → (ez = true → bz = false) →
    (((flagsOf op ex ez).fX && bx) || ((flagsOf op ex ez).fY && b) ||
      (((flagsOf op ex ez).gZ && bz) || ((flagsOf op ex ez).gY && b))) =
    ((op.keepL && bx) || (op.keepC && b) || (op.keepR && bz)) := by
  intro op
  cases op <;> decide

theorem partition_keep (op : JoinOp) (A1 A2 : Names) (n : String) :
    ((partitionNames op A1 A2 (intersect A1 A2)).1 ++ (partitionNames op A1 A2 (intersect A1 A2)).2).contains n =
      keep op A1 A2 n := by
  have hsh := partition_shape A1 A2 op
  have hfs := flags_select op (isSubset A1 A2) (isSubset A2 A1) (cX A1 A2 n) (cX A2 A1 n) (cY A1 A2 n)
    (fun h => (cX_empty_iff A1 A2).1 h n) (fun h => (cX_empty_iff A2 A1).1 h n)
  rw [List.contains_append, hsh.1 n, hsh.2 n, cY_comm A1 A2 n, hfs]
  unfold keep cX cY
  cases A1.contains n <;> cases A2.contains n <;> simp

theorem partition_nodup (op : JoinOp) (A1 A2 : Names) (h1 : A1.Nodup) (h2 : A2.Nodup) :
    ((partitionNames op A1 A2 (intersect A1 A2)).1 ++ (partitionNames op A1 A2 (intersect A1 A2)).2).Nodup := by
  have hc : (intersect A1 A2).Nodup := by
    unfold intersect; split
    · exact List.Pairwise.filter _ h1
    · exact List.Pairwise.filter _ h2
  rw [List.nodup_append]
  refine ⟨?_, ?_, ?_⟩
  · cases op <;> simp only [partitionNames]
    case join =>
      split
      · exact List.nodup_nil
      · split <;> exact h1
    case compose => exact List.Pairwise.filter _ h1
    case common => exact hc
    case exists_ => exact List.nodup_nil
    case rmatch => exact List.nodup_nil
    case lmatch => exact h1
    case rres => exact List.nodup_nil
    case lres => exact List.Pairwise.filter _ h1
  · cases op <;> simp only [partitionNames]
    case join =>
      split
      · exact h2
      · split
        · exact List.nodup_nil
        · exact List.Pairwise.filter _ h2
    case compose => exact List.Pairwise.filter _ h2
    case common => exact List.nodup_nil
    case exists_ => exact List.nodup_nil
    case rmatch => exact h2
    case lmatch => exact List.nodup_nil
    case rres => exact List.Pairwise.filter _ h2
    case lres => exact List.nodup_nil
  · -- the two output headings never include the same class
    intro a ha b hb e
    subst e
    have hsh := partition_shape A1 A2 op
    exact classes_disjoint _ _ _ _ _ _ (flags_disjoint op _ _) ((hsh.1 a).symm.trans (List.contains_iff_mem.2 ha))
      ((hsh.2 a).symm.trans (List.contains_iff_mem.2 hb))

end Arrai.C04
