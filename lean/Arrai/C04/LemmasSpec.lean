/-
  C04 helper lemmas: laws of the specification — the seven other operators are projections of the join, nest is
  lossless, unnest inverts nest, nest / single nest / unnest respect `RelEqv` and so do not depend on how the rows of a
  value are written, and rank does not for rows written once (`rank_denRows`).  Core-only.
-/
import Arrai.C04.Lemmas

namespace Arrai.C04
namespace Spec

/-! ### headings -/

/-- every row of `A` has exactly the names `h` -/
def Uniform (h : Names) (A : List Tup) : Prop := ∀ t ∈ A, ∀ n, has t n = h.contains n

/-- the names an operator keeps, at the level of headings -/
def keep (op : JoinOp) (hA hB : Names) (n : String) : Bool :=
  (op.keepL && hA.contains n && !hB.contains n) || (op.keepC && hA.contains n && hB.contains n) ||
    (op.keepR && !hA.contains n && hB.contains n)

theorem sel_eq_keep (op : JoinOp) {hA hB : Names} {t u : Tup}
    (ht : ∀ n, has t n = hA.contains n) (hu : ∀ n, has u n = hB.contains n) (n : String) :
    sel op t u n = keep op hA hB n := by
  unfold keep sel; rw [ht, hu]

theorem has_joined_sel (op : JoinOp) (t u : Tup) (n : String) : has (joined op t u) n = sel op t u n := by
  unfold has
  rw [get_joined]
  unfold sel has
  cases get n t <;> cases get n u <;> cases op <;> rfl

theorem uniform_joinRows (op : JoinOp) {hA hB : Names} {A B : List Tup} (uA : Uniform hA A) (uB : Uniform hB B) :
    Uniform ((hA ++ hB).filter (keep op hA hB)) (joinRows op A B) := by
  intro x hx n
  obtain ⟨t, ht, u, hu, _, rfl⟩ := (mem_joinRows op A B x).1 hx
  rw [has_joined_sel, sel_eq_keep op (uA t ht) (uB u hu), contains_filter, List.contains_append]
  unfold keep
  cases hA.contains n <;> cases hB.contains n <;> simp

/-! ### the operators are projections of `<&>` -/

theorem sel_join_of_sel (op : JoinOp) (t u : Tup) (n : String) (h : sel op t u n = true) :
    sel .join t u n = true := by
  unfold sel at *
  generalize has t n = a at *
  generalize has u n = b at *
  revert h
  cases op <;> revert a b <;> decide

theorem joined_eqv_restrict_join (op : JoinOp) (hA hB : Names) (t u : Tup)
    (ht : ∀ n, has t n = hA.contains n) (hu : ∀ n, has u n = hB.contains n) :
    joined op t u ≃ restrict (keep op hA hB) (joined .join t u) := by
  intro n
  rw [get_restrict, get_joined, get_joined, ← sel_eq_keep op ht hu]
  by_cases hs : sel op t u n = true
  · rw [hs, sel_join_of_sel op t u n hs]; simp
  · simp [hs]

theorem projection_of_join_rows (op : JoinOp) (hA hB : Names) (A B : List Tup)
    (uA : Uniform hA A) (uB : Uniform hB B) :
    RelEqv (joinRows op A B) ((joinRows .join A B).map (restrict (keep op hA hB))) := by
  constructor
  · intro x hx
    obtain ⟨t, ht, u, hu, ha, e⟩ := (mem_joinRows op A B x).1 hx
    refine ⟨restrict (keep op hA hB) (joined .join t u), ?_, ?_⟩
    · exact List.mem_map.2 ⟨joined .join t u, (mem_joinRows .join A B _).2 ⟨t, ht, u, hu, ha, rfl⟩, rfl⟩
    · rw [e]; exact joined_eqv_restrict_join op hA hB t u (uA t ht) (uB u hu)
  · intro x hx
    obtain ⟨y, hy, e⟩ := List.mem_map.1 hx
    obtain ⟨t, ht, u, hu, ha, e'⟩ := (mem_joinRows .join A B y).1 hy
    refine ⟨joined op t u, (mem_joinRows op A B _).2 ⟨t, ht, u, hu, ha, rfl⟩, ?_⟩
    rw [← e, e']
    exact joined_eqv_restrict_join op hA hB t u (uA t ht) (uB u hu)

/-! ### an empty operand -/

theorem join_empty_left (op : JoinOp) (B : V) : join op (V.mkSet []) B = V.mkSet [] := by
  unfold join
  have : rowsOf (V.mkSet []) = [] := rfl
  rw [this]
  rfl

theorem join_empty_right (op : JoinOp) (A : V) : join op A (V.mkSet []) = V.mkSet [] := by
  unfold join
  have : rowsOf (V.mkSet []) = [] := rfl
  rw [this]
  have : joinRows op (rowsOf A) [] = [] := List.flatMap_eq_nil_iff.2 fun _ _ => rfl
  rw [this]
  rfl

/-! ### nest -/

/-- the nested relation a row's key gets -/
def nestedOf (R : List Tup) (attrs : Names) (t : Tup) : V :=
  denRows ((group R attrs t).map (restrict attrs.contains))

theorem nestRows_eq (R : List Tup) (attrs : Names) (n : String) :
    nestRows R attrs n =
      R.map fun t => (n, nestedOf R attrs t) :: restrict (fun m => !attrs.contains m) t := by
  unfold nestRows nestedOf denRows
  simp [List.map_map, Function.comp_def]

theorem mkTup_restrict_eq_iff (S : String → Bool) (t u : Tup) :
    V.mkTup (restrict S t) = V.mkTup (restrict S u) ↔ ∀ n, S n = true → get n t = get n u := by
  rw [mkTup_eq_iff]
  refine forall_congr' fun n => ?_
  rw [get_restrict, get_restrict]
  cases S n <;> simp

theorem keyOf_eq_iff (attrs : Names) (t u : Tup) :
    keyOf attrs t = keyOf attrs u ↔
      ∀ m, attrs.contains m = false → get m t = get m u := by
  unfold keyOf
  rw [mkTup_restrict_eq_iff]
  exact forall_congr' fun m => by rw [Bool.not_eq_true']

theorem mem_group (R : List Tup) (attrs : Names) (t u : Tup) :
    u ∈ group R attrs t ↔ u ∈ R ∧ keyOf attrs u = keyOf attrs t := by
  unfold group; simp [List.mem_filter]

/-- no row is lost: every row's nested part is in the group of its own key -/
theorem nest_covers (R : List Tup) (attrs : Names) (t : Tup) (ht : t ∈ R) :
    canonAttrs (restrict attrs.contains t) ∈ rowsOf (nestedOf R attrs t) := by
  unfold nestedOf
  rw [mem_rowsOf_denRows]
  exact ⟨restrict attrs.contains t, List.mem_map.2 ⟨t, (mem_group R attrs t t).2 ⟨ht, rfl⟩, rfl⟩, rfl⟩

/-- no row is invented: every member of a group comes from a row of `R` with that key -/
theorem nest_sound (R : List Tup) (attrs : Names) (t s : Tup) (hs : s ∈ rowsOf (nestedOf R attrs t)) :
    ∃ u ∈ R, keyOf attrs u = keyOf attrs t ∧ s = canonAttrs (restrict attrs.contains u) := by
  unfold nestedOf at hs
  rw [mem_rowsOf_denRows] at hs
  obtain ⟨a, ha, e⟩ := hs
  obtain ⟨u, hu, e'⟩ := List.mem_map.1 ha
  have := (mem_group R attrs t u).1 hu
  exact ⟨u, this.1, this.2, by rw [e, ← e']⟩

/-! ### unnest inverts nest -/

theorem mem_unnestRows (R : List Tup) (n : String) (x : Tup) :
    x ∈ unnestRows R n ↔ ∃ t ∈ R, ∃ s ∈ rowsOf ((get n t).getD V.none),
      x = merge (restrict (fun m => m ≠ n) t) s := by
  unfold unnestRows
  rw [List.mem_flatMap]
  constructor
  · rintro ⟨t, ht, hx⟩
    obtain ⟨s, hs, e⟩ := List.mem_map.1 hx
    exact ⟨t, ht, s, hs, e.symm⟩
  · rintro ⟨t, ht, s, hs, e⟩
    exact ⟨t, ht, List.mem_map.2 ⟨s, hs, e.symm⟩⟩

/-- the unnested row built from `t`'s key and a group member coming from `u` (same key) is `u` -/
theorem unnest_row_eqv (attrs : Names) (n : String) (G : V) (t u : Tup)
    (hk : keyOf attrs u = keyOf attrs t)
    (hn : attrs.contains n = false → get n u = none) :
    merge (restrict (fun m => m ≠ n) ((n, G) :: restrict (fun m => !attrs.contains m) t))
      (canonAttrs (restrict attrs.contains u)) ≃ u := by
  intro m
  have hkey := (keyOf_eq_iff attrs u t).1 hk
  rw [get_merge]
  unfold has
  rw [get_restrict, get_canonAttrs, get_restrict, get_cons, get_restrict]
  by_cases hmn : m = n
  · subst hmn
    simp only [ne_eq, not_true, decide_false]
    cases ha : attrs.contains m
    · simp [hn ha]
    · simp
  · have hnm : ¬ n = m := fun e => hmn e.symm
    simp only [ne_eq, hmn, not_false_eq_true, decide_true, if_true, hnm, if_false]
    cases ha : attrs.contains m
    · simp only [Bool.not_false, if_true]
      rw [← hkey m ha]
      cases get m u <;> simp
    · simp

theorem unnest_nest_rows (R : List Tup) (attrs : Names) (n : String)
    (hn : ∀ t ∈ R, attrs.contains n = false → get n t = none) :
    RelEqv (unnestRows (nestRows R attrs n) n) R := by
  rw [nestRows_eq]
  constructor
  · intro x hx
    obtain ⟨g, hg, s, hs, e⟩ := (mem_unnestRows _ n x).1 hx
    obtain ⟨t, ht, eg⟩ := List.mem_map.1 hg
    subst eg
    simp only [get_cons, if_true, Option.getD_some] at hs
    obtain ⟨u, hu, hk, es⟩ := nest_sound R attrs t s hs
    refine ⟨u, hu, ?_⟩
    rw [e, es]
    exact unnest_row_eqv attrs n _ t u hk (hn u hu)
  · intro u hu
    refine ⟨merge (restrict (fun m => m ≠ n)
        ((n, nestedOf R attrs u) :: restrict (fun m => !attrs.contains m) u))
        (canonAttrs (restrict attrs.contains u)), ?_, ?_⟩
    · rw [mem_unnestRows]
      refine ⟨_, List.mem_map.2 ⟨u, hu, rfl⟩, canonAttrs (restrict attrs.contains u), ?_, rfl⟩
      simp only [get_cons, if_true, Option.getD_some]
      exact nest_covers R attrs u hu
    · exact unnest_row_eqv attrs n (nestedOf R attrs u) u u rfl (hn u hu)

/-! ### nest, single nest and unnest respect `RelEqv` -/

theorem unnestRows_sub {A A' : List Tup} (n : String) (h : RelSub A A') :
    RelSub (unnestRows A n) (unnestRows A' n) := by
  intro x hx
  obtain ⟨t, ht, s, hs, e⟩ := (mem_unnestRows A n x).1 hx
  obtain ⟨t', ht', et⟩ := h t ht
  refine ⟨merge (restrict (fun m => m ≠ n) t') s,
    (mem_unnestRows A' n _).2 ⟨t', ht', s, by rw [← et n]; exact hs, rfl⟩, ?_⟩
  rw [e]; exact merge_congr (restrict_congr _ et) (Eqv.refl s)

theorem unnestRows_congr {A A' : List Tup} (n : String) (h : RelEqv A A') :
    RelEqv (unnestRows A n) (unnestRows A' n) :=
  .of_sub (unnestRows_sub n h.1) (unnestRows_sub n h.symm.1)

theorem keyOf_congr (attrs : Names) {t t' : Tup} (e : t ≃ t') : keyOf attrs t = keyOf attrs t' :=
  (keyOf_eq_iff attrs t t').2 fun m _ => e m

theorem group_sub (attrs : Names) {A A' : List Tup} (h : RelSub A A') {t t' : Tup} (e : t ≃ t') :
    RelSub (group A attrs t) (group A' attrs t') := by
  intro u hu
  obtain ⟨hu1, hu2⟩ := (mem_group A attrs t u).1 hu
  obtain ⟨u', hu', eu⟩ := h u hu1
  exact ⟨u', (mem_group A' attrs t' u').2 ⟨hu', by rw [← keyOf_congr attrs eu, hu2, keyOf_congr attrs e]⟩, eu⟩

section collect
variable {F : List Tup → V} (hF : ∀ {G G' : List Tup}, RelEqv G G' → F G = F G') (attrs : Names) (n : String)

include hF in
theorem collect_sub {A A' : List Tup} (h : RelEqv A A') :
    RelSub (A.map fun t => (n, F (group A attrs t)) :: restrict (fun m => !attrs.contains m) t)
      (A'.map fun t => (n, F (group A' attrs t)) :: restrict (fun m => !attrs.contains m) t) := by
  intro x hx
  obtain ⟨t, ht, ex⟩ := List.mem_map.1 hx
  obtain ⟨t', ht', et⟩ := h.1 t ht
  refine ⟨_, List.mem_map.2 ⟨t', ht', rfl⟩, fun m => ?_⟩
  rw [← ex, get_cons, get_cons, restrict_congr _ et m,
    hF (.of_sub (group_sub attrs h.1 et) (group_sub attrs h.symm.1 et.symm))]

include hF in
theorem collect_congr {A A' : List Tup} (h : RelEqv A A') :
    RelEqv (A.map fun t => (n, F (group A attrs t)) :: restrict (fun m => !attrs.contains m) t)
      (A'.map fun t => (n, F (group A' attrs t)) :: restrict (fun m => !attrs.contains m) t) :=
  .of_sub (collect_sub hF attrs n h) (collect_sub hF attrs n h.symm)

end collect

theorem nestRows_congr {A A' : List Tup} (attrs : Names) (n : String) (h : RelEqv A A') :
    RelEqv (nestRows A attrs n) (nestRows A' attrs n) := by
  refine collect_congr (F := fun G => V.mkSet (G.map fun u => V.mkTup (restrict attrs.contains u)))
    (fun hG => ?_) attrs n h
  simpa only [denRows, List.map_map, Function.comp_def] using
    denRows_congr (hG.map_congr (restrict_congr attrs.contains))

theorem singleNestRows_congr {A A' : List Tup} (a : String) (h : RelEqv A A') :
    RelEqv (singleNestRows A a) (singleNestRows A' a) := by
  have sub : ∀ {G G' : List Tup}, RelSub G G' → ∀ v ∈ G.filterMap (fun u => get a u), v ∈ G'.filterMap fun u => get a u := by
    intro G G' hG v hv
    obtain ⟨u, hu, e⟩ := List.mem_filterMap.1 hv
    obtain ⟨u', hu', eu⟩ := hG u hu
    exact List.mem_filterMap.2 ⟨u', hu', by rw [← eu a]; exact e⟩
  exact collect_congr (F := fun G => V.mkSet (G.filterMap fun u => get a u))
    (fun hG => V.mkSet_congr fun v => ⟨sub hG.1 v, sub hG.symm.1 v⟩) [a] a h

theorem nest_denRows (R : List Tup) (attrs : Names) (n : String) :
    nest (denRows R) attrs n = denRows (nestRows R attrs n) := by
  unfold nest
  exact denRows_congr (nestRows_congr attrs n (rowsOf_denRows_eqv R))

theorem singleNest_denRows (R : List Tup) (a : String) :
    singleNest (denRows R) a = denRows (singleNestRows R a) := by
  unfold singleNest
  exact denRows_congr (singleNestRows_congr a (rowsOf_denRows_eqv R))

theorem unnest_denRows (R : List Tup) (n : String) :
    unnest (denRows R) n = denRows (unnestRows R n) := by
  unfold unnest
  exact denRows_congr (unnestRows_congr n (rowsOf_denRows_eqv R))

/-! ### rank on rows written once -/

theorem rowsOf_denRows_perm (R : List Tup) (hn : (R.map V.mkTup).Nodup) :
    (rowsOf (denRows R)).Perm (R.map canonAttrs) := by
  have hmap : R.map V.mkTup = (R.map canonAttrs).map V.tup := by rw [List.map_map]; rfl
  unfold denRows V.mkSet rowsOf
  rw [hmap] at hn ⊢
  have hp := (FinSet.perm_mk hn).filterMap (fun x => match x with
    | V.tup as => some as
    | _ => none)
  refine hp.trans ?_
  rw [List.filterMap_map]
  have : ((fun x => match x with
      | V.tup as => some as
      | _ => none) ∘ V.tup) = (some : Tup → Option Tup) := rfl
  rw [this, List.filterMap_some]

theorem rankOf_perm {R R0 : List Tup} (h : R.Perm R0) (k : String) (t : Tup) : rankOf R k t = rankOf R0 k t := by
  unfold rankOf
  exact (h.filter _).length_eq

theorem rankRows_perm {R R0 : List Tup} (keys : List (String × String)) (h : R.Perm R0) :
    (rankRows R keys).Perm (rankRows R0 keys) := by
  have : rankRows R keys = R.map fun t => (keys.map fun rk => (rk.1, V.num (Int.ofNat (rankOf R0 rk.2 t)))) ++ t :=
    List.map_congr_left fun t _ => by simp only [rankOf_perm h]
  rw [this]
  exact h.map _

theorem rankOf_canon (R : List Tup) (k : String) (t : Tup) :
    rankOf (R.map canonAttrs) k (canonAttrs t) = rankOf R k t :=
  length_filter_map canonAttrs fun u _ => by rw [get_canonAttrs, get_canonAttrs]

theorem rankRows_canon (R : List Tup) (keys : List (String × String)) :
    (rankRows (R.map canonAttrs) keys).map V.mkTup = (rankRows R keys).map V.mkTup := by
  simp only [rankRows, List.map_map]
  refine List.map_congr_left fun t _ => mkTup_congr fun m => ?_
  simp only [Function.comp, rankOf_canon]
  rw [get_append, get_append, get_canonAttrs]

/-- Unlike join, nest and unnest, rank counts rows, so the value only determines it for rows written once. -/
theorem rank_denRows (R : List Tup) (keys : List (String × String)) (hn : (R.map V.mkTup).Nodup) :
    rank (denRows R) keys = denRows (rankRows R keys) := by
  unfold rank
  refine Eq.trans (V.mkSet_congr fun v => ?_) (congrArg V.mkSet (rankRows_canon R keys))
  exact ((rankRows_perm keys (rowsOf_denRows_perm R hn)).map V.mkTup).mem_iff

end Spec
end Arrai.C04
