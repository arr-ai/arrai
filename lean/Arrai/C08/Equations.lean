/-
  C08: one step of `evalE`/`evalItems`/`evalCond` on each constructor, by name, and the laws of `>>=` and `Res.mapM'`
  that the proofs use beyond the unit laws in `Model`.
  Two functions are called `bind`: `bind_ident` is about `Impl.bind` (`Pattern.Bind`), `Res.bind_*` about `>>=`.
-/
import Arrai.C08.Model

namespace Arrai.C08

theorem Res.bind_assoc {α β γ} (r : Res α) (f : α → Res β) (g : β → Res γ) :
    r >>= f >>= g = r >>= fun a => f a >>= g := by
  cases r <;> rfl

theorem Res.bind_ok_inv {α β} {r : Res α} {f : α → Res β} {b : β} (h : (r >>= f) = .ok b) :
    ∃ a, r = .ok a ∧ f a = .ok b := by
  cases r <;> first | exact ⟨_, rfl, h⟩ | cases h

theorem Res.mapM'_map {α β γ} (f : α → Res β) (g : β → γ) (xs : List α) :
    Res.mapM' (fun x => f x >>= fun y => .ok (g y)) xs = Res.mapM' f xs >>= fun ys => .ok (ys.map g) := by
  induction xs with
  | nil => rfl
  | cons x r ih => simp only [Res.mapM', ih, Res.bind_assoc, Res.bind_ok, List.map]

def isCell : Expr → Bool
  | .nil => true
  | .cons _ _ _ _ => true
  | _ => false

def isCons : Expr → Bool
  | .cons _ _ _ _ => true
  | _ => false

namespace Impl
open Res

def onSet (v : Val) (f : List V → Res Val) : Res Val :=
  match v with
  | .data (.set xs) => f xs
  | .data _ => .err
  | .clo _ _ _ => .unsup

def mapBody {γ} (bnd : Val → Res Env) (ev : Env → Res Val) (post : V → Val → Res γ) (xs : List V) : Res (List γ) :=
  Res.mapM' (fun x => bnd (.data x) >>= fun s => ev s >>= post x) xs

/-- the `.arrow` case of `evalE`, nine operators in one `match`, with the binder and the evaluation of the body as
parameters: the operators are gone through once, outside the induction of `sim` (`arrowV_rel`) -/
def arrowV (op : ArrOp) (bnd : Val → Res Env) (ev : Env → Res Val) (v : Val) : Res Val :=
  match op with
  | .arrow => bnd v >>= ev
  | .darrow => onSet v fun xs => mapBody bnd ev (fun _ => asData) xs >>= fun rs => .ok (.data (V.mkSet rs))
  | .seq => onSet v fun xs =>
    match arrItems xs 0 with
    | some vs => mapBody bnd ev (fun _ => asData) vs >>= fun rs => .ok (.data (V.mkArr rs))
    | none => .unsup
  | .where_ => onSet v fun xs =>
    mapBody bnd ev (fun x r => .ok (x, isTrue r)) xs >>= fun rs => .ok (.data (V.mkSet ((rs.filter (·.2)).map (·.1))))
  | .orderby => onSet v fun xs =>
    mapBody bnd ev (fun x r => keyOf r >>= fun k => .ok (k, x)) xs >>= fun ks =>
    match sortByKey ks with
    | some sorted => .ok (.data (V.mkArr (sorted.map (·.2))))
    | none => .unsup
  | .tupmap =>
    match v with
    | .data (.tup as) =>
      mapBody bnd ev (fun _ => asData) (as.map (·.2)) >>= fun rs => .ok (.data (V.mkTup ((as.map (·.1)).zip rs)))
    | _ => .unsup
  | .sum => onSet v fun xs => mapBody bnd ev (fun _ => numOf) xs >>= fun ns => mkNum (ns.foldl (· + ·) 0)
  | .max => onSet v fun xs =>
    if xs.isEmpty then .err else mapBody bnd ev (fun _ => keyOf) xs >>= fun ns => .ok (.data (.num (maxOf ns)))
  | .min => onSet v fun xs =>
    if xs.isEmpty then .err else mapBody bnd ev (fun _ => keyOf) xs >>= fun ns => .ok (.data (.num (minOf ns)))

theorem arrowV_arrow (bnd : Val → Res Env) (ev : Env → Res Val) (v : Val) : arrowV .arrow bnd ev v = bnd v >>= ev := rfl

theorem asData_data (v : V) : asData (.data v) = .ok v := rfl

theorem bind_ident (x : String) (v : Val) : bind (.ident x) v = .ok (if x = "_" then [] else [(x, v)]) := rfl

section
variable (call : Caller) (env : Env)

theorem evalE_lit (v : V) : evalE call (.lit v) env = .ok (.data v) := rfl
theorem evalE_ident (x : String) :
    evalE call (.ident x) env = match lookup x env with | some v => .ok v | none => .err := rfl
theorem evalE_fn (p : Pat) (b : Expr) : evalE call (.fn p b) env = .ok (.clo env p b) := rfl
theorem evalE_paren (e : Expr) : evalE call (.paren e) env = evalE call e env := rfl
theorem evalE_neg (e : Expr) : evalE call (.neg e) env = evalE call e env >>= negV := rfl
theorem evalE_un (op : UnOp) (e : Expr) : evalE call (.un op e) env = evalE call e env >>= unV op := rfl
theorem evalE_dot (e : Expr) (n : String) : evalE call (.dot e n) env = evalE call e env >>= dotV n := rfl
theorem evalE_call (a b : Expr) :
    evalE call (.bin .call a b) env = evalE call a env >>= fun va => evalE call b env >>= fun vb =>
      match va with
      | .clo cenv p body => call cenv p body vb
      | .data (.set _) => .unsup
      | .data _ => .err := rfl
theorem evalE_bin {op : BinOp} (h : op ≠ .call) (a b : Expr) :
    evalE call (.bin op a b) env = evalE call a env >>= fun va => evalE call b env >>= applyData op va := by
  cases op <;> first | rfl | exact absurd rfl h
theorem evalE_and (a b : Expr) :
    evalE call (.and_ a b) env = evalE call a env >>= fun va => if isTrue va then evalE call b env else .ok va := rfl
theorem evalE_or (a b : Expr) :
    evalE call (.or_ a b) env = evalE call a env >>= fun va => if isTrue va then .ok va else evalE call b env := rfl
theorem evalE_arrow (op : ArrOp) (lhs : Expr) (p : Pat) (b : Expr) :
    evalE call (.arrow op lhs p b) env =
      evalE call lhs env >>= arrowV op (bind p) (fun s => evalE call b (s ++ env)) := by
  cases op <;> rfl
theorem evalE_cond (es : Expr) : evalE call (.cond es) env = evalCond call es env := rfl
theorem evalE_coll (k : Coll) (items : Expr) :
    evalE call (.coll k items) env = evalItems call items env >>= fun es =>
      match mkColl k es with
      | .ok v => .ok (.data v)
      | .err => .err
      | .oof => .oof
      | .unsup => .unsup := rfl
theorem evalE_nil : evalE call .nil env = .err := rfl
theorem evalE_cons (n : String) (k v r : Expr) : evalE call (.cons n k v r) env = .err := rfl
theorem evalE_cerr : evalE call .cerr env = .err := rfl

theorem evalItems_nil : evalItems call .nil env = .ok [] := rfl
theorem evalItems_cons (n : String) (k v rest : Expr) :
    evalItems call (.cons n k v rest) env =
      (if isNil k then .ok V.none else evalE call k env >>= asData) >>= fun kv =>
      evalE call v env >>= asData >>= fun vv =>
      evalItems call rest env >>= fun r => .ok ((n, kv, vv) :: r) := rfl
theorem evalItems_junk {a : Expr} (h : isCell a = false) : evalItems call a env = .err := by
  cases a <;> first | rfl | cases h

theorem evalCond_cons (n : String) (k v rest : Expr) :
    evalCond call (.cons n k v rest) env =
      if isUnderscore k then evalE call v env
      else evalE call k env >>= fun c => if isTrue c then evalE call v env else evalCond call rest env := rfl
theorem evalCond_end {a : Expr} (h : isCons a = false) : evalCond call a env = .ok (.data V.none) := by
  cases a <;> first | rfl | cases h

end
end Impl
end Arrai.C08
