/-
  C08 — documented source-level equivalences preserve meaning.

  Layer 1 model.  `Ast` is the core expression language as written; `Impl.compile : Ast → Expr`
  transliterates the decisions of syntax/compile.go that matter for the equivalences
  (compileLet/compileArrow ⇒ ArrowExpr over NewFunction(pattern, body); compileFunction;
  NewCallExpr; ExprAsFunction's default binder `.`; compileExpr wrapping a parenthesised term in
  ExprExpr; the literal folding of NewSetExpr/NewTupleExpr/NewDictExpr/NewArrayExpr;
  compileCondWithoutControlVar ⇒ CondExpr over an always-unfolded DictExpr) and
  `Impl.evalE`/`Impl.eval` transliterate the `Eval` methods of rel/expr_*.go over `Arrai.V` + closures
  (Scope.With/Update as association lists, Closure capture, And/Or/Cond evaluation order,
  Pattern.Bind for identifier / literal / array / tuple patterns).

  Representation notes
  * Go slices (`[]Expr`, `[]AttrExpr`, `[]DictEntryTupleExpr`, pattern items) are cons-spines *inside*
    the same inductive type (`Expr.cons/nil`, `Ast.cons/nil`, `Pat.pcons/pnil`), so that `Expr`, `Ast`
    and `Pat` are plain (non-nested) inductive types and Lean's `induction` applies.
  * Fuel bounds the depth of *closure calls* only (`callAt`); everything else is structural recursion
    on the expression.  A program without calls of closure values (the first-order fragment: let,
    arrows, cond, &&, ||, where/=>/>>/orderby, constructors) evaluates with fuel 0.  `e -> \p b` binds and
    evaluates the body in place, `(\p b)(e)` spends one unit of fuel on the same.
  * `compileG fold poison` is the compiler with two switches.  `Impl.compile = compileG true true` is today's:
    a literal collection that cannot be built fails the compilation (`cerr`), and `Impl.run` answers `err`
    for a program that holds a `cerr` before it evaluates anything.  `Spec.compile = compileG true false` keeps
    such a collection unfolded, `Spec.run` has no such test; `fold = false` never folds.
  * `Res.unsup` marks inputs outside the model (closures stored inside data, non-integral or huge
    numbers, `<` on non-numbers, sets applied as functions, sparse arrays in array patterns, …);
    the generator gives such cases the loose specification `!panic`.
  Core-only.
-/
import Arrai.Core.Lit

namespace Arrai.C08

/-! ## Syntax -/

/-- patterns (`rel.IdentPattern`, `rel.ExprPattern` over a literal, `rel.ArrayPattern`, `rel.TuplePattern`);
`pcons name p rest` is the spine of the item slice (`name` is the attribute name for tuple patterns) -/
inductive Pat where
  | ident (x : String)
  | lit (v : V)
  | arr (items : Pat)
  | tup (items : Pat)
  | pnil
  | pcons (name : String) (p : Pat) (rest : Pat)
  deriving Inhabited, DecidableEq

/-- names bound by a pattern (`_` binds nothing) -/
def patVars : Pat → List String
  | .ident x => if x = "_" then [] else [x]
  | .lit _ => []
  | .arr items => patVars items
  | .tup items => patVars items
  | .pnil => []
  | .pcons _ p r => patVars p ++ patVars r

/-- strict binary operators (`rel.BinExpr` / two-argument `rel.CompareExpr`): both operands are evaluated -/
inductive BinOp where
  | add | sub | mul | pow | eq | ne | lt | le | gt | ge | call
  deriving Inhabited, DecidableEq

/-- the `lhs op f` family that goes through `ExprAsFunction`: `->`, `=>`, `>>`, `where`, `orderby`, `:>`,
and the reducers `sum`, `max`, `min` -/
inductive ArrOp where
  | arrow | darrow | seq | where_ | orderby | tupmap | sum | max | min
  deriving Inhabited, DecidableEq

/-- the other prefix operators of the grammar's unop level: `+` (NewPosExpr), `!` (NewNotExpr), `^` (NewPowerSetExpr) -/
inductive UnOp where
  | pos | not | pset
  deriving Inhabited, DecidableEq

/-- `rel` is a relation literal `{|n1, n2| (c1, c2), …}`: a spine of rows, each row a `tup` collection that carries
the heading's names (its denotation is the set of those tuples, whatever the order of the heading) -/
inductive Coll where
  | set | arr | tup | dict | rel
  deriving Inhabited, DecidableEq

/-- compiled expressions (`rel.Expr`).  `cons name key val rest` is the spine of an element slice:
set/array elements use `val` only, tuple attributes `name`+`val`, dict and cond entries `key`+`val`.
`cerr` marks a compile-time failure (NewDictExpr folding a literal dict with duplicate keys). -/
inductive Expr where
  | lit (v : V)                                        -- LiteralExpr
  | ident (x : String)                                 -- IdentExpr
  | fn (p : Pat) (b : Expr)                            -- *Function
  | paren (e : Expr)                                   -- ExprExpr
  | neg (e : Expr)                                     -- UnaryExpr "-"
  | un (op : UnOp) (e : Expr)                          -- UnaryExpr "+", "!", "^"
  | dot (e : Expr) (attr : String)                     -- DotExpr
  | bin (op : BinOp) (a b : Expr)                      -- BinExpr / CompareExpr
  | and_ (a b : Expr)                                  -- AndExpr
  | or_ (a b : Expr)                                   -- OrExpr
  | arrow (op : ArrOp) (lhs : Expr) (p : Pat) (b : Expr)  -- ArrowExpr/DArrowExpr/SeqArrowExpr/where/orderby over a *Function
  | cond (entries : Expr)                              -- CondExpr over a DictExpr
  | coll (k : Coll) (items : Expr)                     -- SetExpr/ArrayExpr/TupleExpr/DictExpr
  | nil
  | cons (name : String) (key : Expr) (val : Expr) (rest : Expr)
  | cerr
  deriving Inhabited, DecidableEq

/-- the core expression language as written -/
inductive Ast where
  | num (n : Nat)
  | str (cs : List Nat)
  | bytes (bs : List Nat)                              -- <<b0, b1, …>>
  | tt
  | ff
  | ident (x : String)
  | let_ (p : Pat) (e b : Ast)                         -- let p = e; b
  | opFn (op : ArrOp) (lhs : Ast) (p : Pat) (b : Ast)  -- lhs op \p b
  | opDot (op : ArrOp) (lhs f : Ast)                   -- lhs op f        (default binder `.`)
  | fn (p : Pat) (b : Ast)                             -- \p b
  | call (f a : Ast)                                   -- f(a)
  | neg (e : Ast)
  | un (op : UnOp) (e : Ast)                           -- +e  !e  ^e
  | dot (e : Ast) (attr : String)                      -- e.attr
  | bin (op : BinOp) (a b : Ast)
  | and_ (a b : Ast)
  | or_ (a b : Ast)
  | cond (entries : Ast)                               -- cond {k: v, …}
  | coll (k : Coll) (items : Ast)                      -- {…} [ … ] (n: …) {k: v}
  | paren (e : Ast)
  | nil
  | cons (name : String) (key : Ast) (val : Ast) (rest : Ast)
  deriving Inhabited, DecidableEq

/-! ## Values and results -/

inductive Val where
  | data (v : V)
  | clo (env : List (String × Val)) (p : Pat) (b : Expr)   -- rel.Closure{scope, f}
  deriving Inhabited

abbrev Env := List (String × Val)

inductive Res (α : Type) where
  | ok (a : α)
  | err            -- an arr.ai error (compile time or run time)
  | oof            -- closure-call depth exhausted
  | unsup          -- outside the model
  deriving Inhabited

namespace Res
@[inline] def bind {α β} (r : Res α) (f : α → Res β) : Res β :=
  match r with
  | .ok a => f a
  | .err => .err
  | .oof => .oof
  | .unsup => .unsup
instance : Monad Res where
  pure := .ok
  bind := Res.bind

@[simp] theorem bind_ok {α β} (a : α) (f : α → Res β) : (Res.ok a >>= f) = f a := rfl
@[simp] theorem bind_err {α β} (f : α → Res β) : ((Res.err : Res α) >>= f) = .err := rfl
@[simp] theorem bind_oof {α β} (f : α → Res β) : ((Res.oof : Res α) >>= f) = .oof := rfl
@[simp] theorem bind_unsup {α β} (f : α → Res β) : ((Res.unsup : Res α) >>= f) = .unsup := rfl
@[simp] theorem pure_eq {α} (a : α) : (pure a : Res α) = .ok a := rfl

/-- `mapM` written out (structural on the list) -/
def mapM' {α β} (f : α → Res β) : List α → Res (List β)
  | [] => .ok []
  | x :: xs => f x >>= fun y => mapM' f xs >>= fun ys => .ok (y :: ys)
end Res

namespace Impl
open Res

/-! ## Value helpers -/

/-- `Value.IsTrue` -/
def isTrue : Val → Bool
  | .data (.num n) => n != 0
  | .data (.tup as) => !as.isEmpty
  | .data (.set xs) => !xs.isEmpty
  | .clo _ _ _ => true

def asData : Val → Res V
  | .data v => .ok v
  | .clo _ _ _ => .unsup

/-- largest magnitude printed as an integer by the harness (and exactly representable in a float64) -/
def numLimit : Int := 1000000000000000

def mkNum (n : Int) : Res Val := if n.natAbs < numLimit.natAbs then .ok (.data (.num n)) else .unsup

/-- is `xs` (a canonical member list) `[(@:i,@item:v0), (@:i+1,@item:v1), …]` ? -/
def arrItems : List V → Int → Option (List V)
  | [], _ => some []
  | .tup [("@", .num j), ("@item", v)] :: r, i =>
    if j = i then (arrItems r (i + 1)).map (v :: ·) else none
  | _, _ => none

/-- every member is an `(@:n, @item:v)` tuple (an Array in Go, possibly sparse or offset) -/
def arrLike : List V → Bool
  | [] => true
  | .tup [("@", .num _), ("@item", _)] :: r => arrLike r
  | _ => false

def lookupV (n : String) : List (String × V) → Option V
  | [] => none
  | (m, v) :: r => if n = m then some v else lookupV n r

def lookup (n : String) : Env → Option Val
  | [] => none
  | (m, v) :: r => if n = m then some v else lookup n r

/-- the comparison inside `Scope.MatchedUpdate` (`matchedUpdate` below: bindings of `t` are added to `s`; a name
bound in both must be bound to the same value): Go compares the printed values; closures are outside the model -/
def sameVal : Val → Val → Res Bool
  | .data a, .data b => .ok (decide (a = b))
  | _, _ => .unsup

def matchedOk (s : Env) : Env → Res Bool
  | [] => .ok true
  | (n, v) :: r =>
    match lookup n s with
    | none => matchedOk s r
    | some u => sameVal u v >>= fun b => if b then matchedOk s r else .ok false

def matchedUpdate (s t : Env) : Res Env :=
  matchedOk s t >>= fun b => if b then .ok (t ++ s) else .err

def patLen : Pat → Nat
  | .pcons _ _ r => patLen r + 1
  | _ => 0

/-! ## Pattern.Bind -/
mutual
/-- `Pattern.Bind(ctx, local, value)`: the scope of new bindings (`Scope{}.With(name, value)`; the name
`_` binds nothing) -/
def bind : Pat → Val → Res Env
  | .ident x, v => .ok (if x = "_" then [] else [(x, v)])
  | .lit w, v =>
    match v with
    | .data u => if u = w then .ok [] else .err
    | .clo _ _ _ => .err
  | .arr items, v =>
    match v with
    | .data (.set xs) =>
      match arrItems xs 0 with
      | some vs => if patLen items = vs.length then bindItems items vs else .err
      | none => if arrLike xs then .unsup else .err
    | _ => .err
  | .tup items, v =>
    match v with
    | .data (.tup as) => bindAttrs items as as
    | _ => .err
  | .pnil, _ => .err
  | .pcons _ _ _, _ => .err
/-- ArrayPattern.Bind's loop (no `...`, no fallbacks) -/
def bindItems : Pat → List V → Res Env
  | .pcons _ p rest, v :: vs =>
    bind p (.data v) >>= fun s => bindItems rest vs >>= fun r => matchedUpdate s r
  | .pnil, [] => .ok []
  | _, _ => .err
/-- TuplePattern.Bind's loop: `rem` = names of the tuple not yet matched -/
def bindAttrs : Pat → List (String × V) → List (String × V) → Res Env
  | .pcons n p rest, rem, all =>
    if rem.isEmpty then .err
    else match lookupV n all with
      | none => .err
      | some v =>
        bind p (.data v) >>= fun s =>
        bindAttrs rest (rem.filter (fun a => a.1 != n)) all >>= fun r => matchedUpdate s r
  | .pnil, rem, _ => if rem.isEmpty then .ok [] else .err
  | _, _, _ => .err
end

/-! ## Operators on values -/

/-- tuples that Go specialises (`(@: i, @item: x)` …): their `Negate` negates the components (outside the model) -/
def specialPair (as : List (String × V)) : Bool :=
  match as with
  | [("@", _), (n, _)] => n == "@item" || n == "@char" || n == "@value" || n == "@byte"
  | _ => false

/-- `Value.Negate`: a number is negated arithmetically; `(@neg: x)` is `x`; the empty tuple is itself;
every other tuple and every set `x` becomes `(@neg: x)` (so negation is an involution only on numbers
and on values that are not themselves `@neg` wrappers) -/
def negV : Val → Res Val
  | .data (.num n) => mkNum (-n)
  | .data (.tup [("@neg", x)]) => .ok (.data x)
  | .data (.tup []) => .ok (.data (.tup []))
  | .data (.tup as) => if specialPair as then .unsup else .ok (.data (.tup [("@neg", .tup as)]))
  | .data (.set xs) => .ok (.data (.tup [("@neg", .set xs)]))
  | .clo _ _ _ => .unsup

def sublists : List V → List (List V)
  | [] => [[]]
  | x :: r => sublists r ++ (sublists r).map (x :: ·)

/-- `+x` is x; `!x` is the negated truth value; `^s` is the power set of a (small) set -/
def unV (op : UnOp) (v : Val) : Res Val :=
  match op with
  | .pos => .ok v
  | .not => .ok (.data (V.bool (!isTrue v)))
  | .pset =>
    match v with
    | .data (.set xs) => if xs.length ≤ 4 then .ok (.data (V.mkSet ((sublists xs).map V.set))) else .unsup
    | .data _ => .err
    | .clo _ _ _ => .unsup

/-- `DotExpr.Eval`: attribute of a tuple, or of the sole tuple member of a set (deprecated but accepted);
everything else is an error (`&name` method attributes are outside the model) -/
def getAttr (name : String) (as : List (String × V)) : Res Val :=
  match lookupV name as with
  | some v => .ok (.data v)
  | none => if (lookupV ("&" ++ name) as).isSome then .unsup else .err

def dotV (name : String) : Val → Res Val
  | .data (.tup as) => getAttr name as
  | .data (.set [.tup as]) => getAttr name as
  | _ => .err

def powNat (a : Int) : Nat → Int
  | 0 => 1
  | n + 1 => a * powNat a n

def cmpOp (op : BinOp) (a b : Int) : Bool :=
  match op with
  | .lt => a < b
  | .le => a ≤ b
  | .gt => b < a
  | .ge => b ≤ a
  | _ => false

/-- the strict operators on two evaluated operands (everything except `call`) -/
def applyData (op : BinOp) (va vb : Val) : Res Val :=
  match op with
  | .add =>
    match va, vb with
    | .data (.num a), .data (.num b) => mkNum (a + b)
    | .data (.tup _), .data (.tup _) => .unsup     -- deprecated tuple merge
    | .data (.set _), .data (.set _) => .unsup     -- deprecated concatenation
    | .clo _ _ _, .data (.set _) => .unsup         -- a Closure is a Set in Go
    | .data (.set _), .clo _ _ _ => .unsup
    | .clo _ _ _, .clo _ _ _ => .unsup
    | _, _ => .err
  | .sub =>
    match va, vb with
    | .data (.num a), .data (.num b) => mkNum (a - b)
    | _, _ => .err
  | .mul =>
    match va, vb with
    | .data (.num a), .data (.num b) => mkNum (a * b)
    | _, _ => .err
  | .pow =>
    match va, vb with
    | .data (.num a), .data (.num b) =>
      if b < 0 then .unsup else if b > 40 then .unsup else mkNum (powNat a b.toNat)
    | _, _ => .err
  | .eq =>
    match va, vb with
    | .data a, .data b => .ok (.data (V.bool (decide (a = b))))
    | _, _ => .unsup
  | .ne =>
    match va, vb with
    | .data a, .data b => .ok (.data (V.bool (!decide (a = b))))
    | _, _ => .unsup
  | .call => .unsup
  | op =>
    match va, vb with
    | .data (.num a), .data (.num b) => .ok (.data (V.bool (cmpOp op a b)))
    | _, _ => .unsup

/-- insertion of `(k, x)` into a list sorted by key; `none` on a repeated key -/
def insKey (k : Int) (x : V) : List (Int × V) → Option (List (Int × V))
  | [] => some [(k, x)]
  | (j, y) :: r =>
    if k < j then some ((k, x) :: (j, y) :: r)
    else if k = j then none
    else (insKey k x r).map ((j, y) :: ·)

def sortByKey : List (Int × V) → Option (List (Int × V))
  | [] => some []
  | (k, x) :: r => (sortByKey r).bind (insKey k x)

def keyOf : Val → Res Int
  | .data (.num n) => .ok n
  | _ => .unsup

/-- `sum`'s reducer: "Non-numeric value used in sum" -/
def numOf : Val → Res Int
  | .data (.num n) => .ok n
  | _ => .err

def maxOf : List Int → Int
  | [] => 0
  | [a] => a
  | a :: r => if a < maxOf r then maxOf r else a

def minOf : List Int → Int
  | [] => 0
  | [a] => a
  | a :: r => if minOf r < a then minOf r else a

/-- no key twice, the test of `NewDict(false, …)`.  It serves `mkColl` below, the collection built from evaluated
entries `(name, key, value)`: `SetBuilder.Finish`, `NewArray`, `tuple.With` left to right (the last attribute of a
name wins; `V.mkTup` lets the first win, hence the `reverse`), `NewDict(false, …)` (a repeated key is an error) -/
def keysNodup : List V → Bool
  | [] => true
  | k :: r => !(r.any (fun j => decide (j = k))) && keysNodup r

def dictEntry (k v : V) : V := V.mkTup [("@", k), ("@value", v)]

def mkColl (k : Coll) (es : List (String × V × V)) : Res V :=
  match k with
  | .set => .ok (V.mkSet (es.map (·.2.2)))
  | .rel => .ok (V.mkSet (es.map (·.2.2)))
  | .arr => .ok (V.mkArr (es.map (·.2.2)))
  | .tup => .ok (V.mkTup (es.reverse.map (fun e => (e.1, e.2.2))))
  | .dict =>
    if keysNodup (es.map (·.2.1)) then .ok (V.mkSet (es.map (fun e => dictEntry e.2.1 e.2.2))) else .err

def isNil : Expr → Bool
  | .nil => true
  | _ => false

/-- `CondExpr.Eval` recognises the default entry by `expr.at.String() == "_"` (parentheses print nothing) -/
def isUnderscore : Expr → Bool
  | .ident x => x == "_"
  | .paren e => isUnderscore e
  | _ => false

/-! ## Eval -/

/-- how a closure value is applied (`Closure.CallAll`): supplied by `callAt` with the remaining depth -/
abbrev Caller := Env → Pat → Expr → Val → Res Val

mutual
/-- `Expr.Eval(ctx, local)` -/
def evalE (call : Caller) : Expr → Env → Res Val
  | .lit v, _ => .ok (.data v)
  | .ident x, env =>
    match lookup x env with
    | some v => .ok v
    | none => .err
  | .fn p b, env => .ok (.clo env p b)
  | .paren e, env => evalE call e env
  | .neg e, env => evalE call e env >>= negV
  | .un op e, env => evalE call e env >>= unV op
  | .dot e name, env => evalE call e env >>= dotV name
  | .bin op a b, env =>
    evalE call a env >>= fun va =>
    evalE call b env >>= fun vb =>
    match op with
    | .call =>
      match va with
      | .clo cenv p body => call cenv p body vb
      | .data (.set _) => .unsup       -- a set applied as a function
      | .data _ => .err                -- "call lhs must be a function"
    | op => applyData op va vb
  | .and_ a b, env =>
    evalE call a env >>= fun va => if isTrue va then evalE call b env else .ok va
  | .or_ a b, env =>
    evalE call a env >>= fun va => if isTrue va then .ok va else evalE call b env
  | .arrow op lhs p b, env =>
    evalE call lhs env >>= fun v =>
    match op with
    | .arrow =>        -- ArrowExpr.Eval: bind, then the body in local.Update(scope)
      bind p v >>= fun s => evalE call b (s ++ env)
    | .darrow =>       -- DArrowExpr.Eval
      match v with
      | .data (.set xs) =>
        Res.mapM' (fun x => bind p (.data x) >>= fun s => evalE call b (s ++ env) >>= asData) xs >>= fun rs =>
        .ok (.data (V.mkSet rs))
      | .data _ => .err
      | .clo _ _ _ => .unsup
    | .seq =>          -- SeqArrowExpr.Eval on a dense array (and on the empty set)
      match v with
      | .data (.set xs) =>
        match arrItems xs 0 with
        | some vs =>
          Res.mapM' (fun x => bind p (.data x) >>= fun s => evalE call b (s ++ env) >>= asData) vs >>= fun rs =>
          .ok (.data (V.mkArr rs))
        | none => .unsup
      | .data _ => .err
      | .clo _ _ _ => .unsup
    | .where_ =>       -- NewWhereExpr: keep the members whose predicate result IsTrue
      match v with
      | .data (.set xs) =>
        Res.mapM' (fun x => bind p (.data x) >>= fun s => evalE call b (s ++ env) >>= fun r =>
          .ok (x, isTrue r)) xs >>= fun rs =>
        .ok (.data (V.mkSet ((rs.filter (·.2)).map (·.1))))
      | .data _ => .err
      | .clo _ _ _ => .unsup
    | .orderby =>      -- NewOrderByExpr with pairwise distinct numeric keys
      match v with
      | .data (.set xs) =>
        Res.mapM' (fun x => bind p (.data x) >>= fun s => evalE call b (s ++ env) >>= fun r =>
          keyOf r >>= fun k => .ok (k, x)) xs >>= fun ks =>
        match sortByKey ks with
        | some sorted => .ok (.data (V.mkArr (sorted.map (·.2))))
        | none => .unsup
      | .data _ => .err
      | .clo _ _ _ => .unsup
    | .tupmap =>       -- TupleMapExpr.Eval: `value.(Tuple).Map(…)` (a non-tuple is a Go panic: outside the model)
      match v with
      | .data (.tup as) =>
        Res.mapM' (fun x => bind p (.data x) >>= fun s => evalE call b (s ++ env) >>= asData) (as.map (·.2)) >>= fun rs =>
        .ok (.data (V.mkTup ((as.map (·.1)).zip rs)))
      | _ => .unsup
    | .sum =>          -- ReduceExpr.Eval with NewSumExpr
      match v with
      | .data (.set xs) =>
        Res.mapM' (fun x => bind p (.data x) >>= fun s => evalE call b (s ++ env) >>= numOf) xs >>= fun ns =>
        mkNum (ns.foldl (· + ·) 0)
      | .data _ => .err
      | .clo _ _ _ => .unsup
    | .max =>          -- NewMaxExpr over numeric results ("Empty set has no max")
      match v with
      | .data (.set xs) =>
        if xs.isEmpty then .err else
        Res.mapM' (fun x => bind p (.data x) >>= fun s => evalE call b (s ++ env) >>= keyOf) xs >>= fun ns =>
        .ok (.data (.num (maxOf ns)))
      | .data _ => .err
      | .clo _ _ _ => .unsup
    | .min =>
      match v with
      | .data (.set xs) =>
        if xs.isEmpty then .err else
        Res.mapM' (fun x => bind p (.data x) >>= fun s => evalE call b (s ++ env) >>= keyOf) xs >>= fun ns =>
        .ok (.data (.num (minOf ns)))
      | .data _ => .err
      | .clo _ _ _ => .unsup
  | .cond es, env => evalCond call es env
  | .coll k items, env =>
    evalItems call items env >>= fun es =>
    match mkColl k es with
    | .ok v => .ok (.data v)
    | .err => .err
    | .oof => .oof
    | .unsup => .unsup
  | .nil, _ => .err
  | .cons _ _ _ _, _ => .err
  | .cerr, _ => .err
/-- the element loop of SetExpr/ArrayExpr/TupleExpr/DictExpr.Eval: entries left to right, key before value -/
def evalItems (call : Caller) : Expr → Env → Res (List (String × V × V))
  | .nil, _ => .ok []
  | .cons n k v rest, env =>
    (if isNil k then .ok V.none else evalE call k env >>= asData) >>= fun kv =>
    evalE call v env >>= asData >>= fun vv =>
    evalItems call rest env >>= fun r => .ok ((n, kv, vv) :: r)
  | _, _ => .err
/-- `CondExpr.Eval`: the first entry whose key is `_` or evaluates to a true value is selected and only its
value is evaluated; no entry selected ⇒ `{}` -/
def evalCond (call : Caller) : Expr → Env → Res Val
  | .cons _ k v rest, env =>
    if isUnderscore k then evalE call v env
    else evalE call k env >>= fun c => if isTrue c then evalE call v env else evalCond call rest env
  | _, _ => .ok (.data V.none)
end

/-- `Closure.CallAll` with `n` further nested closure calls allowed: bind the argument in the captured scope,
evaluate the body in `c.scope.Update(scope)` -/
def callAt : Nat → Caller
  | 0 => fun _ _ _ _ => .oof
  | n + 1 => fun cenv p b arg => bind p arg >>= fun s => evalE (callAt n) b (s ++ cenv)

def eval (n : Nat) (e : Expr) (env : Env) : Res Val := evalE (callAt n) e env

/-! ## Compile -/

/-- the looking through parentheses of the repaired `ExprAsFunction`, which is `asFunction` below: a function
literal is used as it is, anything else becomes `\. expr` -/
def stripParens : Expr → Expr
  | .paren e => stripParens e
  | e => e

def asFunction (e : Expr) : Pat × Expr :=
  match stripParens e with
  | .fn p b => (p, b)
  | _ => (.ident ".", e)

/-- `exprIsValue` on every entry of a spine: the literal entries, if all are literals -/
def litsOf : Expr → Option (List (String × V × V))
  | .nil => some []
  | .cons n .nil (.lit v) rest => (litsOf rest).map ((n, V.none, v) :: ·)
  | .cons n (.lit k) (.lit v) rest => (litsOf rest).map ((n, k, v) :: ·)
  | _ => none

/-- NewSetExpr/NewArrayExpr/NewTupleExpr/NewDictExpr: fold when every element is a value.
`poison = true` is today's compiler (a literal dict with duplicate keys fails to compile);
`poison = false` keeps the unfolded expression (the error is raised when the dict is evaluated). -/
def foldColl (poison : Bool) (k : Coll) (items : Expr) : Expr :=
  match litsOf items with
  | some es =>
    match mkColl k es with
    | .ok v => .lit v
    | _ => if poison then .cerr else .coll k items
  | none => .coll k items

/-- `ParseContext.CompileExpr`; `fold = false` never folds (used to state that folding is inert) -/
def compileG (fold poison : Bool) : Ast → Expr
  | .num n => .lit (.num n)
  | .str cs => .lit (V.mkStr cs)
  | .bytes bs => .lit (V.mkBytes bs)
  | .tt => .lit V.tt
  | .ff => .lit V.none
  | .ident x => .ident x
  | .let_ p e b => .arrow .arrow (compileG fold poison e) p (compileG fold poison b)
  | .opFn op lhs p b => .arrow op (compileG fold poison lhs) p (compileG fold poison b)
  | .opDot op lhs f =>
    .arrow op (compileG fold poison lhs) (asFunction (compileG fold poison f)).1 (asFunction (compileG fold poison f)).2
  | .fn p b => .fn p (compileG fold poison b)
  | .call f a => .bin .call (compileG fold poison f) (compileG fold poison a)
  | .neg e => .neg (compileG fold poison e)
  | .un op e => .un op (compileG fold poison e)
  | .dot e name => .dot (compileG fold poison e) name
  | .bin op a b => .bin op (compileG fold poison a) (compileG fold poison b)
  | .and_ a b => .and_ (compileG fold poison a) (compileG fold poison b)
  | .or_ a b => .or_ (compileG fold poison a) (compileG fold poison b)
  | .cond es => .cond (compileG fold poison es)
  | .coll k items =>
    if fold then foldColl poison k (compileG fold poison items) else .coll k (compileG fold poison items)
  | .paren e => .paren (compileG fold poison e)
  | .nil => .nil
  | .cons n k v r => .cons n (compileG fold poison k) (compileG fold poison v) (compileG fold poison r)

/-- today's compiler -/
def compile : Ast → Expr := compileG true true

/-- does the compiled program contain a compile-time failure? -/
def poisoned : Expr → Bool
  | .cerr => true
  | .fn _ b => poisoned b
  | .paren e => poisoned e
  | .neg e => poisoned e
  | .un _ e => poisoned e
  | .dot e _ => poisoned e
  | .bin _ a b => poisoned a || poisoned b
  | .and_ a b => poisoned a || poisoned b
  | .or_ a b => poisoned a || poisoned b
  | .arrow _ l _ b => poisoned l || poisoned b
  | .cond es => poisoned es
  | .coll _ es => poisoned es
  | .cons _ k v r => poisoned k || poisoned v || poisoned r
  | _ => false

/-- `syntax.EvaluateExpr`: compile (a compile error is an error), then evaluate in the empty scope -/
def run (n : Nat) (a : Ast) : Res Val :=
  if poisoned (compile a) then .err else eval n (compile a) []

end Impl

/-! ## Spec: what the documentation promises -/
namespace Spec
/-- the compiler without compile-time evaluation of literal sub-terms: an ill-formed literal is an error
only where (and if) it is evaluated -/
def compile : Ast → Expr := Impl.compileG true false
def run (n : Nat) (a : Ast) : Res Val := Impl.eval n (compile a) []
end Spec

/-! ## Observables -/

def Val.obs : Val → String
  | .data v => v.canon
  | .clo _ _ _ => "fn"

def Res.obs : Res Val → String
  | .ok v => v.obs
  | .err => "error"
  | .oof => "?oof"
  | .unsup => "?unsup"

def Res.defined : Res Val → Bool
  | .ok _ => true
  | .err => true
  | _ => false

end Arrai.C08
