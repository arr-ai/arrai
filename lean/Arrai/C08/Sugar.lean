/-
  C08: sugared literals and constructors equal their spelled-out sets of tuples
  (`[e0, e1]` = `{(@: 0, @item: e0), (@: 1, @item: e1)}`, `{k: v}` = `{(@: k, @value: v)}`,
  `'ab'` = `{(@: 0, @char: 97), (@: 1, @char: 98)}`), at the level of evaluation, for arbitrary element
  expressions.  Core-only.
-/
import Arrai.C08.Equations
import Arrai.Core.CanonLemmas

namespace Arrai.C08
open Impl

def elems (es : List Expr) : Expr := es.foldr (fun v r => .cons "" .nil v r) .nil
def entriesE (kvs : List (Expr × Expr)) : Expr := kvs.foldr (fun kv r => .cons "" kv.1 kv.2 r) .nil
/-- `(@: k, nm: v)` -/
def tupleOf (nm : String) (k v : Expr) : Expr := .coll .tup (.cons "@" .nil k (.cons nm .nil v .nil))
/-- `{(@: k0, nm: v0), (@: k1, nm: v1), …}` as an element spine -/
def spelled (nm : String) (kvs : List (Expr × Expr)) : Expr := elems (kvs.map fun kv => tupleOf nm kv.1 kv.2)
/-- `[(i, e0), (i+1, e1), …]` with literal indices -/
def indexed : List Expr → Int → List (Expr × Expr)
  | [], _ => []
  | e :: r, i => (.lit (.num i), e) :: indexed r (i + 1)

/-- evaluate a key and a value to data -/
def evalKV (c : Caller) (env : Env) (kv : Expr × Expr) : Res (V × V) :=
  evalE c kv.1 env >>= asData >>= fun k => evalE c kv.2 env >>= asData >>= fun v => .ok (k, v)

theorem evalItems_entries (c : Caller) (env : Env) : ∀ kvs : List (Expr × Expr), (∀ kv ∈ kvs, isNil kv.1 = false) →
    evalItems c (entriesE kvs) env =
      Res.mapM' (fun kv => evalKV c env kv >>= fun p => .ok ("", p.1, p.2)) kvs := by
  refine forall_mem_rec rfl fun kv r hk ih => ?_
  rw [show entriesE (kv :: r) = .cons "" kv.1 kv.2 (entriesE r) from rfl, evalItems_cons, hk, ih]
  simp only [Res.mapM', evalKV, Res.bind_assoc, Res.bind_ok, Bool.false_eq_true, if_false]

/-- `mkColl .tup` hands the attributes to `V.mkTup` in reverse, `(nm, _)` before `("@", _)`, hence `V.mkTup_at_swap` -/
theorem evalItems_spelled (c : Caller) (env : Env) (nm : String) (h : nm ≠ "@") (kvs : List (Expr × Expr)) :
    evalItems c (spelled nm kvs) env =
      Res.mapM' (fun kv => evalKV c env kv >>= fun p => .ok ("", V.none, V.mkTup [("@", p.1), (nm, p.2)])) kvs := by
  induction kvs with
  | nil => rfl
  | cons kv r ih =>
    rw [show spelled nm (kv :: r) = .cons "" .nil (tupleOf nm kv.1 kv.2) (spelled nm r) from rfl, evalItems_cons, ih]
    simp only [tupleOf, evalE_coll, evalItems_cons, evalItems_nil, isNil, if_true, Res.mapM', evalKV, Res.bind_assoc,
      Res.bind_ok, mkColl, List.reverse_cons, List.reverse_nil, List.nil_append, List.cons_append, List.map,
      V.mkTup_at_swap nm _ _ h, asData_data]

theorem evalItems_elems (c : Caller) (env : Env) (es : List Expr) :
    evalItems c (elems es) env =
      Res.mapM' (fun e => evalE c e env >>= asData) es >>= fun vs => .ok (vs.map fun v => ("", V.none, v)) := by
  induction es with
  | nil => rfl
  | cons e r ih =>
    rw [show elems (e :: r) = .cons "" .nil e (elems r) from rfl, evalItems_cons, ih]
    simp only [isNil, if_true, Res.mapM', Res.bind_assoc, Res.bind_ok, List.map]

theorem evalItems_indexed (c : Caller) (env : Env) (nm : String) (h : nm ≠ "@") (es : List Expr) (i : Int) :
    evalItems c (spelled nm (indexed es i)) env =
      Res.mapM' (fun e => evalE c e env >>= asData) es >>= fun vs =>
        .ok ((V.seqMembers nm i (vs.map some)).map fun t => ("", V.none, t)) := by
  rw [evalItems_spelled c env nm h]
  induction es generalizing i with
  | nil => rfl
  | cons e r ih =>
    rw [indexed, Res.mapM', ih (i + 1)]
    simp only [Res.mapM', evalKV, evalE_lit, asData_data, Res.bind_assoc, Res.bind_ok, List.map, V.seqMembers]

theorem mapM'_lits {α} (c : Caller) (env : Env) (g : α → V) (xs : List α) :
    Res.mapM' (fun e => evalE c e env >>= asData) (xs.map fun x => .lit (g x)) = .ok (xs.map g) := by
  induction xs with
  | nil => rfl
  | cons x r ih => simp only [List.map, Res.mapM', ih, evalE_lit, asData_data, Res.bind_ok]

end Arrai.C08
