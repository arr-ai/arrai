/-
  C08: the documented rewrites on source terms (`AR`) and the proof that compiling related source
  terms gives related compiled expressions (`compileG_rel`), so that `sim` applies (`Theorems.rewrite_inert`
  in `Proofs/C08`).
  A further rewrite needs a rule of `ER` with its case in `sim`, and a rule of `AR` with its case in
  `compileG_rel`; `AR.refl` and `substA_rel` follow the constructors of `Ast`, not the rules.
-/
import Arrai.C08.Lemmas

namespace Arrai.C08
open Impl

/-! ## source-level helpers -/

/-- the term inside redundant outer parentheses -/
def stripA : Ast → Ast
  | .paren e => stripA e
  | a => a

/-- is the term a (possibly parenthesised) function literal? -/
def isFnA : Ast → Bool
  | .paren e => isFnA e
  | .fn _ _ => true
  | _ => false

/-- atomic literals: their value -/
def leafLit : Ast → Option V
  | .num n => some (.num n)
  | .str cs => some (V.mkStr cs)
  | .bytes bs => some (V.mkBytes bs)
  | .tt => some V.tt
  | .ff => some V.none
  | _ => none

def isCellA : Ast → Bool
  | .nil => true
  | .cons _ _ _ _ => true
  | _ => false

def isConsA : Ast → Bool
  | .cons _ _ _ _ => true
  | _ => false

def isUnderscoreA : Ast → Bool
  | .ident x => x == "_"
  | .paren e => isUnderscoreA e
  | _ => false

/-- Nothing is renamed: capture is avoided only when `v` is closed, and the lemmas take an atomic literal for it
(`leafLit`). -/
def substA (x : String) (v : Ast) : Ast → Ast
  | .ident y => if y = x then v else .ident y
  | .let_ p e b => .let_ p (substA x v e) (if x ∈ patVars p then b else substA x v b)
  | .opFn op l p b => .opFn op (substA x v l) p (if x ∈ patVars p then b else substA x v b)
  | .opDot op l g => .opDot op (substA x v l) (if isFnA g || x != "." then substA x v g else g)
  | .fn p b => .fn p (if x ∈ patVars p then b else substA x v b)
  | .call g a => .call (substA x v g) (substA x v a)
  | .neg e => .neg (substA x v e)
  | .dot e n => .dot (substA x v e) n
  | .un op e => .un op (substA x v e)
  | .bin op a b => .bin op (substA x v a) (substA x v b)
  | .and_ a b => .and_ (substA x v a) (substA x v b)
  | .or_ a b => .or_ (substA x v a) (substA x v b)
  | .cond es => .cond (substA x v es)
  | .coll c es => .coll c (substA x v es)
  | .paren e => .paren (substA x v e)
  | .cons n k val r => .cons n (substA x v k) (substA x v val) (substA x v r)
  | a => a

theorem stripA_of_isFnA {f : Ast} (h : isFnA f = true) : ∃ p b, stripA f = .fn p b := by
  induction f with
  | paren e ih => exact ih h
  | fn p b => exact ⟨p, b, rfl⟩
  | _ => cases h

theorem stripA_not_fn {f : Ast} (h : isFnA f = false) (p : Pat) (b : Ast) : stripA f ≠ .fn p b := by
  induction f with
  | paren e ih => exact ih h
  | fn p b => cases h
  | _ => exact Ast.noConfusion

theorem leafLit_head {lv : Ast} {v : V} (h : leafLit lv = some v) :
    isFnA lv = false ∧ isCellA lv = false ∧ lv ≠ .nil := by
  cases lv <;> first | exact ⟨rfl, rfl, Ast.noConfusion⟩ | cases h

theorem isConsA_of_isCellA {a : Ast} (h : isCellA a = false) : isConsA a = false := by
  cases a <;> first | rfl | cases h

/-! ## facts about `compileG` -/

theorem foldColl_false (k : Coll) (c : Expr) :
    (∃ es v, litsOf c = some es ∧ mkColl k es = .ok v ∧ foldColl false k c = .lit v) ∨
    foldColl false k c = .coll k c := by
  unfold foldColl
  cases h1 : litsOf c with
  | none => exact .inr rfl
  | some es =>
    dsimp only
    cases h2 : mkColl k es with
    | ok v => exact .inl ⟨es, v, rfl, h2, rfl⟩
    | _ => exact .inr rfl

theorem foldColl_poison (po : Bool) (k : Coll) (c : Expr) :
    foldColl po k c = foldColl false k c ∨ foldColl po k c = .cerr := by
  unfold foldColl
  cases litsOf c with
  | none => exact .inl rfl
  | some es =>
    dsimp only
    cases mkColl k es <;> cases po <;> first | exact .inl rfl | exact .inr rfl

theorem foldColl_head {P : Expr → Prop} (hl : ∀ v, P (.lit v)) (hc : P .cerr) (hk : ∀ k c, P (.coll k c))
    (po : Bool) (k : Coll) (c : Expr) : P (foldColl po k c) := by
  rcases foldColl_poison po k c with h | h <;> rw [h]
  · rcases foldColl_false k c with ⟨_, v, _, _, h⟩ | h <;> rw [h]
    · exact hl v
    · exact hk k c
  · exact hc

theorem compileG_coll_head {P : Expr → Prop} (hl : ∀ v, P (.lit v)) (hc : P .cerr) (hk : ∀ k c, P (.coll k c))
    (fo po : Bool) (k : Coll) (items : Ast) : P (compileG fo po (.coll k items)) := by
  cases fo with
  | false => exact hk _ _
  | true => exact foldColl_head hl hc hk po k _

theorem compileG_coll_true (po : Bool) (k : Coll) (items : Ast) :
    compileG true po (.coll k items) = foldColl po k (compileG true po items) := rfl

theorem compileG_leaf {a : Ast} {v : V} (h : leafLit a = some v) (fo po : Bool) : compileG fo po a = .lit v := by
  cases a <;> cases h <;> rfl

theorem stripParens_foldColl (po : Bool) (k : Coll) (items : Expr) :
    ∀ p b, stripParens (foldColl po k items) ≠ .fn p b :=
  foldColl_head (P := fun e => ∀ p b, stripParens e ≠ .fn p b) (fun _ => nofun) nofun (fun _ _ => nofun) po k items

theorem compileG_opDot_fn {fo po : Bool} {op : ArrOp} {l f : Ast} {p : Pat} {b : Ast} (h : stripA f = .fn p b) :
    compileG fo po (.opDot op l f) = compileG fo po (.opFn op l p b) := by
  have : stripParens (compileG fo po f) = .fn p (compileG fo po b) := by
    induction f with
    | paren e ih => exact ih h
    | fn q c => cases h; rfl
    | _ => cases h
  show Expr.arrow op _ (asFunction (compileG fo po f)).1 (asFunction (compileG fo po f)).2 = _
  unfold asFunction
  rw [this]
  rfl

theorem compileG_opDot_dot {fo po : Bool} {op : ArrOp} {l f : Ast} (h : isFnA f = false) :
    compileG fo po (.opDot op l f) = compileG fo po (.opFn op l (.ident ".") f) := by
  have : ∀ p b, stripParens (compileG fo po f) ≠ .fn p b := by
    induction f with
    | paren e ih => exact ih h
    | fn q c => cases h
    | coll k items =>
      exact compileG_coll_head (P := fun e => ∀ p b, stripParens e ≠ .fn p b)
        (fun _ => nofun) nofun (fun _ _ => nofun) fo po k items
    | _ => exact fun _ _ => Expr.noConfusion
  show Expr.arrow op _ (asFunction (compileG fo po f)).1 (asFunction (compileG fo po f)).2 = _
  unfold asFunction
  split
  · rename_i p b heq; exact absurd heq (this p b)
  · rfl

theorem compileG_cell (fo po : Bool) (a : Ast) : isCell (compileG fo po a) = isCellA a ∧
    isCons (compileG fo po a) = isConsA a ∧ (a ≠ .nil → compileG fo po a ≠ .nil) := by
  cases a with
  | coll k items =>
    exact compileG_coll_head (P := fun e => isCell e = false ∧ isCons e = false ∧ (_ → e ≠ .nil))
      (fun _ => ⟨rfl, rfl, nofun⟩) ⟨rfl, rfl, nofun⟩ (fun _ _ => ⟨rfl, rfl, nofun⟩) fo po k items
  | nil => exact ⟨rfl, rfl, (absurd rfl ·)⟩
  | _ => exact ⟨rfl, rfl, fun _ => Expr.noConfusion⟩

theorem compileG_isUnderscore (fo po : Bool) (a : Ast) : isUnderscore (compileG fo po a) = isUnderscoreA a := by
  induction a with
  | paren e ih => exact ih
  | coll k items _ =>
    exact compileG_coll_head (P := fun e => isUnderscore e = false) (fun _ => rfl) rfl (fun _ _ => rfl) fo po k items
  | _ => rfl

/-! ## compile-time failure (`cerr`) -/

theorem poisoned_stripParens (e : Expr) : poisoned (stripParens e) = poisoned e := by
  induction e with
  | paren e ih => exact ih
  | _ => rfl

theorem poisoned_asFunction (e : Expr) : poisoned (asFunction e).2 = poisoned e := by
  unfold asFunction
  split
  · rename_i p b heq
    rw [← poisoned_stripParens e, heq]
    rfl
  · rfl

theorem litsOf_unpoisoned (c : Expr) : ∀ es, litsOf c = some es → poisoned c = false := by
  induction c with
  | nil => intro es _; rfl
  | cons n key val rest _ _ ihr =>
    intro es h
    obtain ⟨kv, v, r, hk, rfl, hr, rfl⟩ := litsOf_cons h
    rcases hk with ⟨rfl, _⟩ | rfl <;> exact ihr r hr
  | _ => intro es h; cases h

theorem poisoned_foldColl_false (k : Coll) (c : Expr) : poisoned (foldColl false k c) = poisoned c := by
  rcases foldColl_false k c with ⟨es, _, h1, _, h⟩ | h <;> rw [h]
  · exact (litsOf_unpoisoned c es h1).symm
  · rfl

/-- the never-failing compiler produces no `cerr`; where today's compiler produces none either, it produces the
same expression -/
theorem compileG_poison (a : Ast) :
    (∀ fo, poisoned (compileG fo false a) = false) ∧
    (poisoned (compileG true true a) = false → compileG true true a = compileG true false a) := by
  induction a with
  | coll k items ih =>
    refine ⟨fun fo => ?_, fun h => ?_⟩
    · cases fo with
      | false => exact ih.1 false
      | true => rw [compileG_coll_true, poisoned_foldColl_false]; exact ih.1 true
    · rw [compileG_coll_true] at h ⊢
      rw [compileG_coll_true]
      rcases foldColl_poison true k (compileG true true items) with e | e <;> rw [e] at h ⊢
      · rw [poisoned_foldColl_false] at h
        rw [ih.2 h]
      · cases h
  | opDot op l f ihl ihf =>
    refine ⟨fun fo => Bool.or_eq_false_iff.mpr ⟨ihl.1 fo, (poisoned_asFunction _).trans (ihf.1 fo)⟩, fun h => ?_⟩
    have h := Bool.or_eq_false_iff.mp h
    rw [poisoned_asFunction] at h
    show Expr.arrow op _ (asFunction _).1 (asFunction _).2 = Expr.arrow op _ (asFunction _).1 (asFunction _).2
    rw [ihl.2 h.1, ihf.2 h.2]
  | num | str | bytes | tt | ff | ident | nil => exact ⟨fun _ => rfl, fun _ => rfl⟩
  | fn _ _ ih | neg _ ih | un _ _ ih | dot _ _ ih | cond _ ih | paren _ ih =>
    exact ⟨ih.1, fun h => by simp only [compileG, ih.2 h]⟩
  | let_ _ _ _ ih1 ih2 | opFn _ _ _ _ ih1 ih2 | call _ _ ih1 ih2 | bin _ _ _ ih1 ih2 | and_ _ _ ih1 ih2
  | or_ _ _ ih1 ih2 =>
    refine ⟨fun fo => Bool.or_eq_false_iff.mpr ⟨ih1.1 fo, ih2.1 fo⟩, fun h => ?_⟩
    have h := Bool.or_eq_false_iff.mp h
    simp only [compileG, ih1.2 h.1, ih2.2 h.2]
  | cons n _ _ _ ihk ihv ihr =>
    refine ⟨fun fo => Bool.or_eq_false_iff.mpr ⟨Bool.or_eq_false_iff.mpr ⟨ihk.1 fo, ihv.1 fo⟩, ihr.1 fo⟩, fun h => ?_⟩
    have h := Bool.or_eq_false_iff.mp h
    have hkv := Bool.or_eq_false_iff.mp h.1
    simp only [compileG, ihk.2 hkv.1, ihv.2 hkv.2, ihr.2 h.2]

/-! ## the rewrite relation on source terms -/

inductive AR : K → Sub → Ast → Ast → Prop
  -- congruence
  | leaf {σ a v} : leafLit a = some v → AR .expr σ a a
  | ident (σ x) : lookupV x σ = none → AR .expr σ (.ident x) (.ident x)
  | let_ {σ p e e' b b'} : AR .expr σ e e' → AR .expr (σ.erase (patVars p)) b b' →
      AR .expr σ (.let_ p e b) (.let_ p e' b')
  | opFn {σ p l l' b b'} (op) : AR .expr σ l l' → AR .expr (σ.erase (patVars p)) b b' →
      AR .expr σ (.opFn op l p b) (.opFn op l' p b')
  | opDot {σ l l' f f'} (op) : isFnA f = false → isFnA f' = false → AR .expr σ l l' →
      AR .expr (σ.erase ["."]) f f' → AR .expr σ (.opDot op l f) (.opDot op l' f')
  | fn {σ p b b'} : AR .expr (σ.erase (patVars p)) b b' → AR .expr σ (.fn p b) (.fn p b')
  | call {σ f f' a a'} : AR .expr σ f f' → AR .expr σ a a' → AR .expr σ (.call f a) (.call f' a')
  | neg {σ a a'} : AR .expr σ a a' → AR .expr σ (.neg a) (.neg a')
  | dot {σ a a'} (n : String) : AR .expr σ a a' → AR .expr σ (.dot a n) (.dot a' n)
  | un {σ a a'} (op : UnOp) : AR .expr σ a a' → AR .expr σ (.un op a) (.un op a')
  | bin {σ a a' b b'} (op) : AR .expr σ a a' → AR .expr σ b b' → AR .expr σ (.bin op a b) (.bin op a' b')
  | and_ {σ a a' b b'} : AR .expr σ a a' → AR .expr σ b b' → AR .expr σ (.and_ a b) (.and_ a' b')
  | or_ {σ a a' b b'} : AR .expr σ a a' → AR .expr σ b b' → AR .expr σ (.or_ a b) (.or_ a' b')
  | cond {σ a a'} : AR .conds σ a a' → AR .expr σ (.cond a) (.cond a')
  | coll {σ a a'} (k) : AR .items σ a a' → AR .expr σ (.coll k a) (.coll k a')
  -- spines, and ill-formed terms as in `ER`
  | nilE (σ) : AR .expr σ .nil .nil
  | consE (σ n k v r n' k' v' r') : AR .expr σ (.cons n k v r) (.cons n' k' v' r')
  | nilI (σ) : AR .items σ .nil .nil
  | consNil {σ v v' r r'} (n) : AR .expr σ v v' → AR .items σ r r' →
      AR .items σ (.cons n .nil v r) (.cons n .nil v' r')
  | consKey {σ k k' v v' r r'} (n) : k ≠ .nil → k' ≠ .nil → AR .expr σ k k' → AR .expr σ v v' →
      AR .items σ r r' → AR .items σ (.cons n k v r) (.cons n k' v' r')
  | junkI {σ a a'} : isCellA a = false → isCellA a' = false → AR .items σ a a'
  | endC {σ a a'} : isConsA a = false → isConsA a' = false → AR .conds σ a a'
  | consC {σ k k' v v' r r'} (n n') : AR .expr σ k k' → AR .expr σ v v' → AR .conds σ r r' →
      AR .conds σ (.cons n k v r) (.cons n' k' v' r')
  -- redundant parentheses
  | parenL {σ a a'} : AR .expr σ a a' → AR .expr σ (.paren a) a'
  | parenR {σ a a'} : AR .expr σ a a' → AR .expr σ a (.paren a')
  -- `lhs op f` with a (parenthesised) function literal is `lhs op \p b`; otherwise it is `lhs op \. f`
  | dotFnL {σ op l f p b a'} : stripA f = .fn p b → AR .expr σ (.opFn op l p b) a' → AR .expr σ (.opDot op l f) a'
  | dotFnR {σ op l f p b a} : stripA f = .fn p b → AR .expr σ a (.opFn op l p b) → AR .expr σ a (.opDot op l f)
  | dotL {σ op l f a'} : isFnA f = false → AR .expr σ (.opFn op l (.ident ".") f) a' → AR .expr σ (.opDot op l f) a'
  | dotR {σ op l f a} : isFnA f = false → AR .expr σ a (.opFn op l (.ident ".") f) → AR .expr σ a (.opDot op l f)
  -- `let p = e; b` is `e -> \p b` is `(\p b)(e)`
  | letL {σ p e b a'} : AR .expr σ (.opFn .arrow e p b) a' → AR .expr σ (.let_ p e b) a'
  | letR {σ p e b a} : AR .expr σ a (.opFn .arrow e p b) → AR .expr σ a (.let_ p e b)
  | callArrow {σ p e e' b b'} : AR .expr σ e e' → AR .expr (σ.erase (patVars p)) b b' →
      AR .expr σ (.call (.fn p b) e) (.opFn .arrow e' p b')
  | arrowCall {σ p e e' b b'} : AR .expr σ e e' → AR .expr (σ.erase (patVars p)) b b' →
      AR .expr σ (.opFn .arrow e p b) (.call (.fn p b') e')
  -- a let-bound atomic literal written in place of the name (the conditions on `_` are those of `ER`)
  | substVar {σ x lv v} : lookupV x σ = some v → leafLit lv = some v → x ≠ "_" → AR .expr σ (.ident x) lv
  | letSubst {σ x lv v b b'} : leafLit lv = some v → x ≠ "_" → isUnderscoreA b' = false →
      AR .expr ((x, v) :: σ.erase [x]) b b' → AR .expr σ (.let_ (.ident x) lv b) b'
  -- branches that a literal guard never selects
  | andDead {σ g v} (b b') : leafLit g = some v → Impl.isTrue (Val.data v) = false →
      AR .expr σ (.and_ g b) (.and_ g b')
  | orDead {σ g v} (b b') : leafLit g = some v → Impl.isTrue (Val.data v) = true →
      AR .expr σ (.or_ g b) (.or_ g b')
  | condDead {σ g v r r'} (n n' x x') : leafLit g = some v → Impl.isTrue (Val.data v) = false →
      AR .conds σ r r' → AR .conds σ (.cons n g x r) (.cons n' g x' r')
  | condTaken {σ g v x x'} (n n' r r') : leafLit g = some v → Impl.isTrue (Val.data v) = true →
      AR .expr σ x x' → AR .conds σ (.cons n g x r) (.cons n' g x' r')
  | condDefault {σ k k' x x'} (n n' r r') : isUnderscoreA k = true → isUnderscoreA k' = true →
      AR .expr σ x x' → AR .conds σ (.cons n k x r) (.cons n' k' x' r')

theorem ER.foldColl {σ : Sub} {e : Expr} {k : Coll} {c : Expr} :
    (ER .expr σ e (.coll k c) → ER .expr σ e (foldColl false k c)) ∧
    (ER .expr σ (.coll k c) e → ER .expr σ (foldColl false k c) e) := by
  rcases foldColl_false k c with ⟨es, v, h1, h2, h3⟩ | h3 <;> rw [h3]
  · exact ⟨ER.foldR h1 h2, ER.foldL h1 h2⟩
  · exact ⟨id, id⟩

/-- compiling related source terms (the left one with or without folding, the right one with folding,
both without compile-time failure) gives related expressions -/
theorem compileG_rel {k : K} {σ : Sub} {a a' : Ast} (h : AR k σ a a') (fo : Bool) :
    ER k σ (compileG fo false a) (compileG true false a') := by
  induction h with
  | leaf hl => rw [compileG_leaf hl, compileG_leaf hl]; exact ER.lit _ _
  | ident σ x hx => exact ER.ident σ x hx
  | let_ _ _ ihe ihb => exact ER.arrow .arrow ihe ihb
  | opFn op _ _ ihl ihb => exact ER.arrow op ihl ihb
  | opDot op hf hf' _ _ ihl ihf =>
    rw [compileG_opDot_dot hf, compileG_opDot_dot hf']
    exact ER.arrow op ihl ihf
  | fn _ ih => exact ER.fn ih
  | call _ _ ihf iha => exact ER.bin .call ihf iha
  | neg _ ih => exact ER.neg ih
  | dot n _ ih => exact ER.dot n ih
  | un op _ ih => exact ER.un op ih
  | bin op _ _ iha ihb => exact ER.bin op iha ihb
  | and_ _ _ iha ihb => exact ER.and_ iha ihb
  | or_ _ _ iha ihb => exact ER.or_ iha ihb
  | cond _ ih => exact ER.cond ih
  | coll k _ ih =>
    have base := ER.foldColl.1 (ER.coll k ih)
    cases fo with
    | false => exact base
    | true => exact ER.foldColl.2 base
  | nilE σ => exact ER.nilE σ
  | consE => exact ER.consE _ _ _ _ _ _ _ _ _
  | nilI σ => exact ER.nilI σ
  | consNil n _ _ ihv ihr => exact ER.consNil n ihv ihr
  | consKey n hk hk' _ _ _ ihk ihv ihr =>
    exact ER.consKey n ((compileG_cell ..).2.2 hk) ((compileG_cell ..).2.2 hk') ihk ihv ihr
  | junkI h1 h2 => exact ER.junkI ((compileG_cell ..).1.trans h1) ((compileG_cell ..).1.trans h2)
  | endC h1 h2 => exact ER.endC ((compileG_cell ..).2.1.trans h1) ((compileG_cell ..).2.1.trans h2)
  | consC n n' _ _ _ ihk ihv ihr => exact ER.consC n n' ihk ihv ihr
  | parenL _ ih => exact ER.parenL ih
  | parenR _ ih => exact ER.parenR ih
  | dotFnL hs _ ih => rw [compileG_opDot_fn hs]; exact ih
  | dotFnR hs _ ih => rw [compileG_opDot_fn hs]; exact ih
  | dotL hf _ ih => rw [compileG_opDot_dot hf]; exact ih
  | dotR hf _ ih => rw [compileG_opDot_dot hf]; exact ih
  | letL _ ih => exact ih
  | letR _ ih => exact ih
  | callArrow _ _ ihe ihb => exact ER.callArrow ihe ihb
  | arrowCall _ _ ihe ihb => exact ER.arrowCall ihe ihb
  | substVar hx hl hne => rw [compileG_leaf hl]; exact ER.subst _ _ _ hx hne
  | letSubst hl hne hu _ ih =>
    simp only [compileG, compileG_leaf hl]
    exact ER.letLit _ _ hne (by rw [compileG_isUnderscore]; exact hu) ih
  | andDead b b' hl hv => simp only [compileG, compileG_leaf hl]; exact ER.andDead _ _ _ _ hv
  | orDead b b' hl hv => simp only [compileG, compileG_leaf hl]; exact ER.orDead _ _ _ _ hv
  | condDead n n' x x' hl hv _ ih =>
    simp only [compileG, compileG_leaf hl]; exact ER.condDead n n' _ _ _ hv ih
  | condTaken n n' r r' hl hv _ ih =>
    simp only [compileG, compileG_leaf hl]; exact ER.condTaken n n' _ _ _ hv ih
  | condDefault n n' r r' h1 h2 _ ih =>
    exact ER.condDefault n n' _ _ (by rw [compileG_isUnderscore]; exact h1) (by rw [compileG_isUnderscore]; exact h2) ih

/-! ## reflexivity: every program is related to itself -/

/-- What the inductions over `Ast` carry.  `Ast` keeps spine cells and expressions in one type, so a term is related to
its image in all three readings; and the operand `f` of `lhs op f` is looked through its parentheses, so a
(parenthesised) function literal also says `P` of its pattern and body. -/
structure AR.All (σ : Sub) (P : Pat → Ast → Prop) (a a' : Ast) : Prop where
  expr : AR .expr σ a a'
  items : AR .items σ a a'
  conds : AR .conds σ a a'
  fn : ∀ p b, stripA a = .fn p b → P p b

/-- the side conditions compute whenever the heads of `a` and `a'` are constructors, hence the defaults -/
theorem AR.of_expr {σ : Sub} {P : Pat → Ast → Prop} {a a' : Ast} (h : AR .expr σ a a')
    (hc : isCellA a = false := by rfl) (hc' : isCellA a' = false := by rfl) (hf : isFnA a = false := by rfl) :
    AR.All σ P a a' :=
  ⟨h, .junkI hc hc', .endC (isConsA_of_isCellA hc) (isConsA_of_isCellA hc'),
    fun p b hs => absurd hs (stripA_not_fn hf p b)⟩

theorem AR.of_leaf {σ : Sub} {P : Pat → Ast → Prop} {a : Ast} {v : V} (h : leafLit a = some v) : AR.All σ P a a :=
  have ⟨hf, hc, _⟩ := leafLit_head h
  AR.of_expr (.leaf h) hc hc hf

/-- entries are compared with a key (`consKey`) or without (`consNil`), so the keys have to be `nil` together -/
theorem AR.of_cell {σ : Sub} {P Pk Pv Pr : Pat → Ast → Prop} {n : String} {k k' v v' r r' : Ast}
    (hk : AR.All σ Pk k k') (hv : AR.All σ Pv v v') (hr : AR.All σ Pr r r') (hnil : k = .nil ↔ k' = .nil) :
    AR.All σ P (.cons n k v r) (.cons n k' v' r') := by
  refine ⟨.consE .., ?_, .consC n n hk.expr hv.expr hr.conds, nofun⟩
  by_cases h : k = .nil
  · cases h
    cases hnil.mp rfl
    exact .consNil n hv.expr hr.items
  · exact .consKey n h (mt hnil.mpr h) hk.expr hv.expr hr.items

theorem AR.refl (a : Ast) : AR.All [] (fun _ b => AR .expr [] b b) a a := by
  induction a with
  | num _ | str _ | bytes _ | tt | ff => exact AR.of_leaf rfl
  | ident x => exact AR.of_expr (.ident [] x rfl)
  | let_ p e b ihe ihb => exact AR.of_expr (.let_ ihe.expr ihb.expr)
  | opFn op l p b ihl ihb => exact AR.of_expr (.opFn op ihl.expr ihb.expr)
  | opDot op l f ihl ihf =>
    refine AR.of_expr ?_
    cases hf : isFnA f with
    | false => exact .opDot op hf hf ihl.expr ihf.expr
    | true =>
      obtain ⟨p, b, hs⟩ := stripA_of_isFnA hf
      exact .dotFnL hs (.dotFnR hs (.opFn op ihl.expr (ihf.fn p b hs)))
  | fn p b ih => exact ⟨.fn ih.expr, .junkI rfl rfl, .endC rfl rfl, fun _ _ h => by cases h; exact ih.expr⟩
  | call f a ihf iha => exact AR.of_expr (.call ihf.expr iha.expr)
  | neg e ih => exact AR.of_expr (.neg ih.expr)
  | dot e n ih => exact AR.of_expr (.dot n ih.expr)
  | un op e ih => exact AR.of_expr (.un op ih.expr)
  | bin op a b iha ihb => exact AR.of_expr (.bin op iha.expr ihb.expr)
  | and_ a b iha ihb => exact AR.of_expr (.and_ iha.expr ihb.expr)
  | or_ a b iha ihb => exact AR.of_expr (.or_ iha.expr ihb.expr)
  | cond es ih => exact AR.of_expr (.cond ih.conds)
  | coll k es ih => exact AR.of_expr (.coll k ih.items)
  | paren e ih => exact ⟨.parenL (.parenR ih.expr), .junkI rfl rfl, .endC rfl rfl, ih.fn⟩
  | nil => exact ⟨.nilE [], .nilI [], .endC rfl rfl, nofun⟩
  | cons n k v r ihk ihv ihr => exact AR.of_cell ihk ihv ihr Iff.rfl

/-! ## substitution of an atomic literal for a name -/

theorem isFnA_substA (x : String) {lv : Ast} {v : V} (hl : leafLit lv = some v) (g : Ast) :
    isFnA (substA x lv g) = isFnA g := by
  induction g with
  | paren e ih => exact ih
  | ident y =>
    simp only [substA]
    split
    · exact (leafLit_head hl).1
    · rfl
  | _ => rfl

theorem stripA_substA (x : String) (lv : Ast) (g : Ast) :
    ∀ p b, stripA g = .fn p b →
      stripA (substA x lv g) = .fn p (if x ∈ patVars p then b else substA x lv b) := by
  induction g with
  | paren e ih => exact ih
  | fn q c _ => intro p b h; cases h; rfl
  | _ => exact fun _ _ => Ast.noConfusion

theorem substA_rel (x : String) {lv : Ast} {v : V} (hl : leafLit lv = some v) (hx : x ≠ "_") (a : Ast) :
    AR.All [(x, v)]
      (fun p b => AR .expr (Sub.erase [(x, v)] (patVars p)) b (if x ∈ patVars p then b else substA x lv b))
      a (substA x lv a) := by
  -- a body under a binder: shadowed (nothing is substituted, related to itself) or not
  have under : ∀ (vars : List String) (b : Ast), AR .expr [(x, v)] b (substA x lv b) →
      AR .expr (Sub.erase [(x, v)] vars) b (if x ∈ vars then b else substA x lv b) := by
    intro vars b h
    rw [Sub.erase_cons]
    by_cases hm : x ∈ vars
    · simp only [hm, if_true]; exact (AR.refl b).expr
    · simp only [hm, if_false]; exact h
  obtain ⟨_, hcell, hnil⟩ := leafLit_head hl
  induction a with
  | num _ | str _ | bytes _ | tt | ff => exact AR.of_leaf rfl
  | ident y =>
    simp only [substA]
    by_cases hy : y = x
    · simp only [hy, if_true]
      exact AR.of_expr (.substVar (by simp [lookupV]) hl hx) (hc' := hcell)
    · simp only [hy, if_false]
      exact AR.of_expr (.ident _ _ (by simp [lookupV, hy]))
  | let_ p e b ihe ihb => exact AR.of_expr (.let_ ihe.expr (under _ b ihb.expr))
  | opFn op l p b ihl ihb => exact AR.of_expr (.opFn op ihl.expr (under _ b ihb.expr))
  | opDot op l g ihl ihg =>
    refine AR.of_expr ?_
    simp only [substA]
    cases hf : isFnA g with
    | true =>
      obtain ⟨p, b, hs⟩ := stripA_of_isFnA hf
      exact .dotFnL hs (.dotFnR (stripA_substA x lv g p b hs) (.opFn op ihl.expr (ihg.fn p b hs)))
    | false =>
      -- the default binder `.` shadows `x = "."`
      have := under ["."] g ihg.expr
      by_cases hd : x = "."
      · subst hd
        have hg : AR .expr (Sub.erase [(".", v)] ["."]) g g := by simpa using this
        exact .opDot op hf hf ihl.expr hg
      · have hne : (x != ".") = true := by simp [hd]
        simp only [Bool.false_or, hne, if_true]
        have hg : AR .expr (Sub.erase [(x, v)] ["."]) g (substA x lv g) := by simpa [hd] using this
        exact .opDot op hf ((isFnA_substA x hl g).trans hf) ihl.expr hg
  | fn p b ih =>
    exact ⟨.fn (under _ b ih.expr), .junkI rfl rfl, .endC rfl rfl, fun _ _ h => by cases h; exact under _ _ ih.expr⟩
  | call f a ihf iha => exact AR.of_expr (.call ihf.expr iha.expr)
  | neg e ih => exact AR.of_expr (.neg ih.expr)
  | dot e n ih => exact AR.of_expr (.dot n ih.expr)
  | un op e ih => exact AR.of_expr (.un op ih.expr)
  | bin op a b iha ihb => exact AR.of_expr (.bin op iha.expr ihb.expr)
  | and_ a b iha ihb => exact AR.of_expr (.and_ iha.expr ihb.expr)
  | or_ a b iha ihb => exact AR.of_expr (.or_ iha.expr ihb.expr)
  | cond es ih => exact AR.of_expr (.cond ih.conds)
  | coll k es ih => exact AR.of_expr (.coll k ih.items)
  | paren e ih => exact ⟨.parenL (.parenR ih.expr), .junkI rfl rfl, .endC rfl rfl, ih.fn⟩
  | nil => exact ⟨.nilE _, .nilI _, .endC rfl rfl, nofun⟩
  | cons n k val r ihk ihv ihr =>
    refine AR.of_cell ihk ihv ihr ?_
    -- substitution puts a literal or nothing in the place of `k`, never `nil`
    cases k with
    | nil => exact Iff.rfl
    | ident y =>
      simp only [substA]
      split
      · exact ⟨Ast.noConfusion, fun h => absurd h hnil⟩
      · exact ⟨Ast.noConfusion, Ast.noConfusion⟩
    | _ => exact ⟨Ast.noConfusion, Ast.noConfusion⟩

end Arrai.C08
