/-
  C08 layer 2, hand-written expectation: the documented precedence and associativity of arr.ai's
  operators, as the `>`-separated alternatives of rule `expr` in syntax/arrai.wbnf (loosest first).
  Each level: the class the grammar marks it with, then its operator tokens (literals verbatim,
  regular expressions by their body, ARROW/FILTER expanded).  `Arrai.C08.Theorems.precLevels_regenerated`
  (module `Arrai.Proofs.C08`) checks that the table regenerated from the current grammar is this one; the printers in
  `Arrai.C08.Source` take every level number from this table.
-/
namespace Arrai.C08.Expected

def precLevels : List (List String) := [
  ["arrow", "&", ":>|=>|>>|orderby|order|rank|where|sum|max|mean|median|min", "filter", "{", ":", "}", "->", "\\\\", "->"],
  ["binop", ">>>"],
  ["unop", ":>|=>|>>"],
  ["binop", "without", "with"],
  ["binop", "||"],
  ["binop", "&&"],
  ["mergeop", "+>"],
  ["compare", "!?(?:<:|=|<=?|>=?|\\((?:<=?|>=?|<>=?)\\))"],
  ["if", "if", "else"],
  ["binop", "\\+\\+|[+|]|-%?"],
  ["binop", "&~|&|~~?|[-<][-&][->]"],
  ["binop", "//|[*/%]|\\\\"],
  ["rbinop", "^"],
  ["unop", "[-+!*^]"],
  ["postfix", "count|single"],
  ["tail_op", "?", "?", ":"],
  ["atom", "cond", "{", ":", "}", "cond", "{", ":", "}", "{:", ":", ":}", "\\\\\\\\", "\\\\", "//", "[", "]", "{", ".", "}", "(", ")", "let", "\\brec\\b", "=", ";"]
]

/-- index of the first level of class `cls` that lists token `tok` -/
def levelOf (cls tok : String) : Nat :=
  go precLevels 0
where
  go : List (List String) → Nat → Nat
    | [], i => i
    | lv :: r, i => if lv.head? == some cls && lv.tail.contains tok then i else go r (i + 1)

/-- associativity implied by the class: `binop`/`arrow` chains fold to the left, `rbinop` to the right,
`compare` is a chain with its own meaning (`a < b < c` is `a < b && b < c`), so it never nests unparenthesised -/
inductive Assoc | left | right | chain
  deriving DecidableEq, Repr

def assocOf (cls : String) : Assoc :=
  if cls == "rbinop" then .right else if cls == "compare" then .chain else .left

def lvArrow : Nat := levelOf "arrow" "->"
def lvOr : Nat := levelOf "binop" "||"
def lvAnd : Nat := levelOf "binop" "&&"
def lvCompare : Nat := levelOf "compare" "!?(?:<:|=|<=?|>=?|\\((?:<=?|>=?|<>=?)\\))"
def lvAdd : Nat := levelOf "binop" "\\+\\+|[+|]|-%?"
def lvMul : Nat := levelOf "binop" "//|[*/%]|\\\\"
def lvPow : Nat := levelOf "rbinop" "^"
def lvUnary : Nat := levelOf "unop" "[-+!*^]"
def lvTail : Nat := levelOf "tail_op" "?"
def lvAtom : Nat := levelOf "atom" "let"

end Arrai.C08.Expected
