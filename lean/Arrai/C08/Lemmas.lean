/-
  C08 helper lemmas: the relation `ER k σ eL eR` on compiled expressions, which is closed under every constructor and
  contains the documented rewrites, and the simulation theorem `sim`: related expressions evaluated in related
  environments give related results, whatever the two closure-call budgets are.

  `Expr` keeps spine cells (`nil`/`cons`) and expressions in one type, so `ER` is indexed by how a term is read (`K`)
  and has rules for ill-formed terms (nilE/consE, junkI, endC): with them every term, well-formed or not, is related to
  itself (`AR.refl` in `Rewrite`).
  `ER` has no rule for symmetry or transitivity (related results are not transitive: `oof` is related to everything):
  the rewrites come in a left and a right form, except `letLit`/`subst`, which have the binding on the left only.
-/
import Arrai.C08.Equations
import Arrai.Core.Assoc
import Arrai.Core.ListLemmas

namespace Arrai.C08
open Impl

/-! ## substitutions and lookups -/

/-- names (left) that are bound to a data value which the right-hand program has in place of the name -/
abbrev Sub := List (String × V)

def Sub.erase (σ : Sub) (xs : List String) : Sub := σ.filter (fun p => !xs.contains p.1)

theorem Sub.erase_cons (m : String) (v : V) (r : Sub) (xs : List String) :
    Sub.erase ((m, v) :: r) xs = if m ∈ xs then Sub.erase r xs else (m, v) :: Sub.erase r xs := by
  by_cases h : m ∈ xs <;> simp [Sub.erase, List.filter, h]

theorem lookupV_eq_lookup (x : String) : ∀ l : List (String × V), lookupV x l = l.lookup x :=
  eq_lookup_of_first_wins rfl (fun _ _ => if_pos rfl) fun _ _ _ h => if_neg (Ne.symm h)

theorem lookup_eq_lookup (x : String) : ∀ env : Env, lookup x env = List.lookup x env :=
  eq_lookup_of_first_wins rfl (fun _ _ => if_pos rfl) fun _ _ _ h => if_neg (Ne.symm h)

theorem lookupV_erase (σ : Sub) (xs : List String) (x : String) :
    lookupV x (σ.erase xs) = if x ∈ xs then none else lookupV x σ := by
  rw [lookupV_eq_lookup, lookupV_eq_lookup, Sub.erase, lookup_filter_key fun n => !xs.contains n]
  by_cases h : x ∈ xs <;> simp [h]

theorem lookup_append (x : String) (s env : Env) : lookup x (s ++ env) = (lookup x s).or (lookup x env) := by
  simp only [lookup_eq_lookup, List.lookup_append]

/-! ## the relations -/

inductive K | expr | items | conds
  deriving DecidableEq

inductive ER : K → Sub → Expr → Expr → Prop
  -- congruence
  | lit (σ v) : ER .expr σ (.lit v) (.lit v)
  | ident (σ x) : lookupV x σ = none → ER .expr σ (.ident x) (.ident x)
  | fn {σ p bL bR} : ER .expr (σ.erase (patVars p)) bL bR → ER .expr σ (.fn p bL) (.fn p bR)
  | neg {σ a b} : ER .expr σ a b → ER .expr σ (.neg a) (.neg b)
  | dot {σ a b} (n : String) : ER .expr σ a b → ER .expr σ (.dot a n) (.dot b n)
  | un {σ a b} (op : UnOp) : ER .expr σ a b → ER .expr σ (.un op a) (.un op b)
  | bin {σ a b c d} (op) : ER .expr σ a b → ER .expr σ c d → ER .expr σ (.bin op a c) (.bin op b d)
  | and_ {σ a b c d} : ER .expr σ a b → ER .expr σ c d → ER .expr σ (.and_ a c) (.and_ b d)
  | or_ {σ a b c d} : ER .expr σ a b → ER .expr σ c d → ER .expr σ (.or_ a c) (.or_ b d)
  | arrow {σ lL lR p bL bR} (op) : ER .expr σ lL lR → ER .expr (σ.erase (patVars p)) bL bR →
      ER .expr σ (.arrow op lL p bL) (.arrow op lR p bR)
  | cond {σ a b} : ER .conds σ a b → ER .expr σ (.cond a) (.cond b)
  | coll {σ a b} (k) : ER .items σ a b → ER .expr σ (.coll k a) (.coll k b)
  | cerr (σ) : ER .expr σ .cerr .cerr
  | nilE (σ) : ER .expr σ .nil .nil
  | consE (σ n k v r n' k' v' r') : ER .expr σ (.cons n k v r) (.cons n' k' v' r')
  -- spines of element slices
  | nilI (σ) : ER .items σ .nil .nil
  | consNil {σ vL vR rL rR} (n) : ER .expr σ vL vR → ER .items σ rL rR →
      ER .items σ (.cons n .nil vL rL) (.cons n .nil vR rR)
  | consKey {σ kL kR vL vR rL rR} (n) : kL ≠ .nil → kR ≠ .nil → ER .expr σ kL kR → ER .expr σ vL vR →
      ER .items σ rL rR → ER .items σ (.cons n kL vL rL) (.cons n kR vR rR)
  | junkI {σ a b} : isCell a = false → isCell b = false → ER .items σ a b
  -- spines of cond entries
  | endC {σ a b} : isCons a = false → isCons b = false → ER .conds σ a b
  | consC {σ kL kR vL vR rL rR} (n n') : ER .expr σ kL kR → ER .expr σ vL vR → ER .conds σ rL rR →
      ER .conds σ (.cons n kL vL rL) (.cons n' kR vR rR)
  -- the documented rewrites
  | parenL {σ a b} : ER .expr σ a b → ER .expr σ (.paren a) b
  | parenR {σ a b} : ER .expr σ a b → ER .expr σ a (.paren b)
  | foldL {σ k items es v e} : litsOf items = some es → mkColl k es = .ok v → ER .expr σ (.coll k items) e →
      ER .expr σ (.lit v) e
  | foldR {σ k items es v e} : litsOf items = some es → mkColl k es = .ok v → ER .expr σ e (.coll k items) →
      ER .expr σ e (.lit v)
  -- `x ≠ "_"` here and `isUnderscore bR = false` in `letLit`: related expressions agree on being the default
  -- key `_` of a `cond` entry (`ER.isUnderscore_eq`), which `evalCond` tests before evaluating anything
  | subst (σ x v) : lookupV x σ = some v → x ≠ "_" → ER .expr σ (.ident x) (.lit v)
  | letLit {σ bL bR} (x v) : x ≠ "_" → isUnderscore bR = false → ER .expr ((x, v) :: σ.erase [x]) bL bR →
      ER .expr σ (.arrow .arrow (.lit v) (.ident x) bL) bR
  | callArrow {σ p eL eR bL bR} : ER .expr σ eL eR → ER .expr (σ.erase (patVars p)) bL bR →
      ER .expr σ (.bin .call (.fn p bL) eL) (.arrow .arrow eR p bR)
  | arrowCall {σ p eL eR bL bR} : ER .expr σ eL eR → ER .expr (σ.erase (patVars p)) bL bR →
      ER .expr σ (.arrow .arrow eL p bL) (.bin .call (.fn p bR) eR)
  -- branches that a literal guard never selects
  | andDead (σ v b b') : Impl.isTrue (Val.data v) = false → ER .expr σ (.and_ (.lit v) b) (.and_ (.lit v) b')
  | orDead (σ v b b') : Impl.isTrue (Val.data v) = true → ER .expr σ (.or_ (.lit v) b) (.or_ (.lit v) b')
  | condDead {σ rL rR} (n n' v x x') : Impl.isTrue (Val.data v) = false → ER .conds σ rL rR →
      ER .conds σ (.cons n (.lit v) x rL) (.cons n' (.lit v) x' rR)
  | condTaken {σ xL xR} (n n' v r r') : Impl.isTrue (Val.data v) = true → ER .expr σ xL xR →
      ER .conds σ (.cons n (.lit v) xL r) (.cons n' (.lit v) xR r')
  | condDefault {σ kL kR xL xR} (n n' r r') : isUnderscore kL = true → isUnderscore kR = true → ER .expr σ xL xR →
      ER .conds σ (.cons n kL xL r) (.cons n' kR xR r')

theorem ER.isUnderscore_eq {k : K} {σ : Sub} {a b : Expr} (h : ER k σ a b) :
    k = .expr → isUnderscore a = isUnderscore b := by
  induction h with
  | ident => intro _; rfl
  | subst σ x v _ hx => intro _; simp [isUnderscore, hx]
  | parenL _ ih => exact ih
  | parenR _ ih => exact ih
  | foldL _ _ _ ih => exact ih
  | foldR _ _ _ ih => exact ih
  | letLit x v _ hu _ _ => intro _; exact hu.symm
  | _ => intro hk; first | rfl | cases hk

/-- related values: equal data, or closures with related bodies over related captured scopes -/
inductive ValR : Val → Val → Prop
  | data (v) : ValR (.data v) (.data v)
  | clo {envL envR p bL bR} (σ : Sub) :
      (∀ x v, lookupV x σ = some v → lookup x envL = some (.data v)) →
      (∀ x, lookupV x σ = none → (lookup x envL).isSome = (lookup x envR).isSome) →
      (∀ x a b, lookupV x σ = none → lookup x envL = some a → lookup x envR = some b → ValR a b) →
      ER .expr (σ.erase (patVars p)) bL bR →
      ValR (.clo envL p bL) (.clo envR p bR)

/-- `ValR.clo` states the same three conditions of the captured scopes field by field: `EnvR` mentions `ValR` -/
structure EnvR (σ : Sub) (envL envR : Env) : Prop where
  sub : ∀ x v, lookupV x σ = some v → lookup x envL = some (.data v)
  dom : ∀ x, lookupV x σ = none → (lookup x envL).isSome = (lookup x envR).isSome
  val : ∀ x a b, lookupV x σ = none → lookup x envL = some a → lookup x envR = some b → ValR a b

theorem EnvR.nil : EnvR [] [] [] :=
  ⟨by intro x v h; simp [lookupV] at h, by intro x _; simp [lookup], by intro x a b _ h; simp [lookup] at h⟩

/-- related results: `oof` (either side) is related to everything -/
def ResR {α β} (R : α → β → Prop) : Res α → Res β → Prop
  | .oof, _ => True
  | _, .oof => True
  | .ok a, .ok b => R a b
  | .err, .err => True
  | .unsup, .unsup => True
  | _, _ => False

section
variable {α β : Type} {R : α → β → Prop}
@[simp] theorem ResR.oofL (r : Res β) : ResR R .oof r := trivial
@[simp] theorem ResR.oofR (r : Res α) : ResR R r .oof := by cases r <;> trivial
@[simp] theorem ResR.ok_ok (a : α) (b : β) : ResR R (.ok a) (.ok b) ↔ R a b := Iff.rfl
@[simp] theorem ResR.err_err : ResR R (.err : Res α) (.err : Res β) := trivial
@[simp] theorem ResR.unsup_unsup : ResR R (.unsup : Res α) (.unsup : Res β) := trivial
@[simp] theorem ResR.ok_err (a : α) : ResR R (.ok a) (.err : Res β) ↔ False := Iff.rfl
@[simp] theorem ResR.ok_unsup (a : α) : ResR R (.ok a) (.unsup : Res β) ↔ False := Iff.rfl
@[simp] theorem ResR.err_ok (b : β) : ResR R (.err : Res α) (.ok b) ↔ False := Iff.rfl
@[simp] theorem ResR.err_unsup : ResR R (.err : Res α) (.unsup : Res β) ↔ False := Iff.rfl
@[simp] theorem ResR.unsup_ok (b : β) : ResR R (.unsup : Res α) (.ok b) ↔ False := Iff.rfl
@[simp] theorem ResR.unsup_err : ResR R (.unsup : Res α) (.err : Res β) ↔ False := Iff.rfl
end

theorem ResR.bind {α β γ δ} {R : α → β → Prop} {S : γ → δ → Prop} {r1 : Res α} {r2 : Res β}
    {f : α → Res γ} {g : β → Res δ} (h : ResR R r1 r2) (hf : ∀ a b, R a b → ResR S (f a) (g b)) :
    ResR S (r1 >>= f) (r2 >>= g) := by
  cases r1 <;> cases r2 <;> simp_all

theorem ResR.bind_eq {α γ δ} {S : γ → δ → Prop} {r1 r2 : Res α} {f : α → Res γ} {g : α → Res δ}
    (h : ResR Eq r1 r2) (hf : ∀ a, ResR S (f a) (g a)) : ResR S (r1 >>= f) (r2 >>= g) :=
  ResR.bind h fun a _ e => e ▸ hf a

theorem ResR.mapM' {α β : Type} (f g : α → Res β) : ∀ xs : List α, (∀ x, x ∈ xs → ResR Eq (f x) (g x)) →
    ResR Eq (Res.mapM' f xs) (Res.mapM' g xs) := by
  refine forall_mem_rec ?_ fun x r hx ih => ?_
  · simp [Res.mapM']
  · simp only [Res.mapM']
    exact ResR.bind_eq hx fun a => ResR.bind_eq ih fun as => by simp

theorem ResR.refl_eq {α} (r : Res α) : ResR Eq r r := by cases r <;> simp

/-! ## values -/

@[simp] theorem ValR.data_iff {v w : V} : ValR (.data v) (.data w) ↔ v = w :=
  ⟨fun h => by cases h; rfl, fun h => h ▸ .data v⟩

theorem ValR.isTrue {a b : Val} (h : ValR a b) : isTrue a = isTrue b := by
  cases h <;> simp [Impl.isTrue]

theorem ValR.asData {a b : Val} (h : ValR a b) : ResR Eq (asData a) (asData b) := by
  cases h <;> simp [Impl.asData]

/-- the rule for `if isTrue _ then _ else _` beside `ResR.bind`: related values select the same branch -/
theorem ValR.ite {a b : Val} (h : ValR a b) {x y x' y' : Res Val} (hx : ResR ValR x x') (hy : ResR ValR y y') :
    ResR ValR (if Impl.isTrue a then x else y) (if Impl.isTrue b then x' else y') := by
  rw [h.isTrue]
  split <;> assumption

/-! ## Pattern.Bind -/

def ScopeR (vars : List String) (sL sR : Env) : Prop :=
  ∀ x, (x ∈ vars → ∃ a b, lookup x sL = some a ∧ lookup x sR = some b ∧ ValR a b) ∧
    (x ∉ vars → lookup x sL = none ∧ lookup x sR = none)

theorem ScopeR.nil : ScopeR [] [] [] := fun _ => ⟨nofun, fun _ => ⟨rfl, rfl⟩⟩

theorem ScopeR.ident (x : String) {a b : Val} (h : ValR a b) :
    ScopeR (patVars (.ident x)) (if x = "_" then [] else [(x, a)]) (if x = "_" then [] else [(x, b)]) := by
  by_cases hx : x = "_"
  · simp only [patVars, hx, if_true]; exact .nil
  · simp only [patVars, hx, if_false]
    intro y
    by_cases hy : y = x <;> simp [lookup, hy, h]

/-- `MatchedUpdate`: the later scope is looked up first -/
theorem ScopeR.append {a b : List String} {sL sR rL rR : Env} (hs : ScopeR a sL sR) (hr : ScopeR b rL rR) :
    ScopeR (a ++ b) (rL ++ sL) (rR ++ sR) := by
  intro x
  rw [lookup_append, lookup_append, List.mem_append]
  by_cases hb : x ∈ b
  · obtain ⟨u, w, hu, hw, huw⟩ := (hr x).1 hb
    simp [hu, hw, hb, huw]
  · rw [((hr x).2 hb).1, ((hr x).2 hb).2]
    simpa [hb] using hs x

theorem ScopeR.step {a b : List String} {x y : Res Env} {t : Env}
    (h : (x >>= fun s => y >>= fun r => matchedUpdate s r) = .ok t)
    (hx : ∀ s, x = .ok s → ScopeR a s s) (hy : ∀ r, y = .ok r → ScopeR b r r) : ScopeR (a ++ b) t t := by
  obtain ⟨s, h1, h⟩ := Res.bind_ok_inv h
  obtain ⟨r, h2, h⟩ := Res.bind_ok_inv h
  obtain ⟨ok, _, h⟩ := Res.bind_ok_inv h
  cases ok <;> cases h
  exact (hx s h1).append (hy r h2)

theorem bind_data (p : Pat) :
    (∀ u s, Impl.bind p (.data u) = .ok s → ScopeR (patVars p) s s) ∧
    (∀ vs s, bindItems p vs = .ok s → ScopeR (patVars p) s s) ∧
    (∀ rem all s, bindAttrs p rem all = .ok s → ScopeR (patVars p) s s) := by
  induction p with
  | ident x =>
    refine ⟨fun u s h => ?_, nofun, nofun⟩
    cases h
    exact .ident x (.data u)
  | lit w =>
    refine ⟨fun u s h => ?_, nofun, nofun⟩
    simp only [Impl.bind] at h
    split at h <;> cases h
    exact .nil
  | arr items ih =>
    refine ⟨fun u s h => ?_, nofun, nofun⟩
    simp only [Impl.bind] at h
    split at h
    · split at h
      · split at h
        · exact ih.2.1 _ _ h
        · cases h
      · split at h <;> cases h
    · cases h
  | tup items ih =>
    refine ⟨fun u s h => ?_, nofun, nofun⟩
    simp only [Impl.bind] at h
    split at h
    · exact ih.2.2 _ _ _ h
    · cases h
  | pnil =>
    refine ⟨nofun, fun vs s h => ?_, fun rem all s h => ?_⟩
    · cases vs <;> cases h
      exact .nil
    · simp only [bindAttrs] at h
      split at h <;> cases h
      exact .nil
  | pcons n p rest ihp ihr =>
    refine ⟨nofun, fun vs s h => ?_, fun rem all s h => ?_⟩
    · cases vs with
      | nil => cases h
      | cons v vs =>
        exact ScopeR.step h (ihp.1 _) (ihr.2.1 _)
    · simp only [bindAttrs] at h
      split at h
      · cases h
      · split at h
        · cases h
        · exact ScopeR.step h (ihp.1 _) (ihr.2.2 _ _)

theorem bind_rel (p : Pat) {vL vR : Val} (h : ValR vL vR) :
    ResR (ScopeR (patVars p)) (Impl.bind p vL) (Impl.bind p vR) := by
  cases h with
  | data v =>
    cases hb : Impl.bind p (.data v) with
    | ok s => exact (bind_data p).1 _ _ hb
    | _ => trivial
  | clo σ hs hd hv hb =>
    cases p with
    | ident x => exact ScopeR.ident x (.clo σ hs hd hv hb)
    | _ => exact ResR.err_err

/-! ## related scopes -/

theorem EnvR.letLit {σ : Sub} {envL envR : Env} (x : String) (v : V) (he : EnvR σ envL envR) :
    EnvR ((x, v) :: σ.erase [x]) ((x, .data v) :: envL) envR := by
  have hx : lookupV x ((x, v) :: σ.erase [x]) = some v := by simp [lookupV]
  have key (y : String) (hy : y ≠ x) : lookupV y ((x, v) :: σ.erase [x]) = lookupV y σ ∧
      lookup y ((x, .data v) :: envL) = lookup y envL := by
    simp [lookupV, lookup, hy, lookupV_erase]
  refine ⟨fun y w h => ?_, fun y h => ?_, fun y a b h ha hb => ?_⟩ <;> by_cases hy : y = x
  · subst hy
    cases hx.symm.trans h
    simp [lookup]
  · rw [(key y hy).1] at h; rw [(key y hy).2]; exact he.sub y w h
  · subst hy; cases hx.symm.trans h
  · rw [(key y hy).1] at h; rw [(key y hy).2]; exact he.dom y h
  · subst hy; cases hx.symm.trans h
  · rw [(key y hy).1] at h; rw [(key y hy).2] at ha; exact he.val y a b h ha hb

theorem EnvR.extend {σ : Sub} {envL envR sL sR : Env} {vars : List String}
    (he : EnvR σ envL envR) (hs : ScopeR vars sL sR) : EnvR (σ.erase vars) (sL ++ envL) (sR ++ envR) := by
  -- a name of `vars` is found in the new scopes and is not substituted; any other name is looked up as before
  have key (x : String) :
      (lookupV x (σ.erase vars) = none ∧
        ∃ a b, lookup x (sL ++ envL) = some a ∧ lookup x (sR ++ envR) = some b ∧ ValR a b) ∨
      (lookupV x (σ.erase vars) = lookupV x σ ∧ lookup x (sL ++ envL) = lookup x envL ∧
        lookup x (sR ++ envR) = lookup x envR) := by
    rw [lookupV_erase, lookup_append, lookup_append]
    by_cases hx : x ∈ vars
    · obtain ⟨a, b, ha, hb, hab⟩ := (hs x).1 hx
      exact .inl ⟨if_pos hx, a, b, by rw [ha, Option.some_or], by rw [hb, Option.some_or], hab⟩
    · rw [((hs x).2 hx).1, ((hs x).2 hx).2]
      exact .inr ⟨if_neg hx, rfl, rfl⟩
  refine ⟨fun x v h => ?_, fun x h => ?_, fun x a b h ha hb => ?_⟩ <;>
    rcases key x with ⟨hn, a', b', hl, hr, hab⟩ | ⟨e1, e2, e3⟩
  · rw [hn] at h; cases h
  · rw [e2]; exact he.sub x v (e1 ▸ h)
  · rw [hl, hr]; rfl
  · rw [e2, e3]; exact he.dom x (e1 ▸ h)
  · rw [hl] at ha; rw [hr] at hb; cases ha; cases hb; exact hab
  · exact he.val x a b (e1 ▸ h) (e2 ▸ ha) (e3 ▸ hb)

/-! ## operators -/

theorem mkNum_rel (n : Int) : ResR ValR (mkNum n) (mkNum n) := by
  unfold mkNum; split <;> simp

theorem getAttr_rel (n : String) (as : List (String × V)) : ResR ValR (getAttr n as) (getAttr n as) := by
  unfold getAttr
  split
  · simp
  · split <;> simp

theorem ValR.dotV (n : String) {a b : Val} (h : ValR a b) : ResR ValR (dotV n a) (dotV n b) := by
  cases h with
  | clo => exact ResR.err_err
  | data v => unfold Impl.dotV; split <;> first | exact getAttr_rel n _ | exact ResR.err_err

theorem ValR.negV {a b : Val} (h : ValR a b) : ResR ValR (negV a) (negV b) := by
  cases h with
  | clo => exact ResR.unsup_unsup
  | data v =>
    -- every branch of `negV` is `mkNum`, a data value or no value
    unfold Impl.negV
    split
    · exact mkNum_rel _
    · simp
    · simp
    · split <;> simp
    · simp
    · simp

theorem ValR.unV (op : UnOp) {a b : Val} (h : ValR a b) : ResR ValR (unV op a) (unV op b) := by
  cases op with
  | pos => simpa [Impl.unV] using h
  | not => simp [Impl.unV, h.isTrue]
  | pset =>
    cases h with
    | data v =>
      cases v with
      | set xs => simp only [Impl.unV]; split <;> simp
      | _ => simp [Impl.unV]
    | clo => simp [Impl.unV]

/-- the operators see of a closure only that it is one -/
theorem applyData_congr (op : BinOp) {a a' b b' : Val} (ha : ValR a a') (hb : ValR b b') :
    applyData op a b = applyData op a' b' := by
  cases ha with
  | data x =>
    cases hb with
    | data y => rfl
    | clo => cases op <;> cases x <;> rfl
  | clo =>
    cases hb with
    | data y => cases op <;> cases y <;> rfl
    | clo => cases op <;> rfl

theorem applyData_rel (op : BinOp) {a a' b b' : Val} (ha : ValR a a') (hb : ValR b b') :
    ResR ValR (applyData op a b) (applyData op a' b') := by
  rw [applyData_congr op ha hb]
  -- every branch of `applyData` is `mkNum`, a data value or no value
  unfold applyData
  split <;> (try split) <;> simp [mkNum_rel]
  -- left: `.pow` on two numbers, `mkNum` under its two guards on the exponent
  split
  · simp
  · split <;> simp [mkNum_rel]

/-! ## evaluation of spines -/

theorem isNil_of_ne {k : Expr} (h : k ≠ .nil) : isNil k = false := by
  cases k <;> first | rfl | exact absurd rfl h

theorem litsOf_cons {n : String} {key val rest : Expr} {es : List (String × V × V)}
    (h : litsOf (.cons n key val rest) = some es) :
    ∃ kv v r, (key = .nil ∧ kv = V.none ∨ key = .lit kv) ∧ val = .lit v ∧ litsOf rest = some r ∧
      es = (n, kv, v) :: r := by
  unfold litsOf at h
  split at h
  · rename_i heq; cases heq
  · rename_i heq
    cases heq
    obtain ⟨r, hr, rfl⟩ := Option.map_eq_some_iff.mp h
    exact ⟨_, _, r, .inl ⟨rfl, rfl⟩, rfl, hr, rfl⟩
  · rename_i heq
    cases heq
    obtain ⟨r, hr, rfl⟩ := Option.map_eq_some_iff.mp h
    exact ⟨_, _, r, .inr rfl, rfl, hr, rfl⟩
  · cases h

theorem evalItems_lits (call : Caller) (env : Env) (items : Expr) :
    ∀ es, litsOf items = some es → evalItems call items env = .ok es := by
  induction items with
  | nil => rintro _ ⟨⟩; rfl
  | cons n key val rest _ _ ihr =>
    intro es h
    obtain ⟨kv, v, r, hk, rfl, hr, rfl⟩ := litsOf_cons h
    rw [evalItems_cons, ihr r hr]
    rcases hk with ⟨rfl, rfl⟩ | rfl <;> rfl
  | _ => intro es h; cases h

theorem evalE_fold (call : Caller) (env : Env) {k : Coll} {items : Expr} {es : List (String × V × V)} {v : V}
    (h1 : litsOf items = some es) (h2 : mkColl k es = .ok v) :
    evalE call (.lit v) env = evalE call (.coll k items) env := by
  rw [evalE_lit, evalE_coll, evalItems_lits call env items es h1, Res.bind_ok, h2]

/-! ## the simulation theorem -/

/-- `sim` at the left budget `nL`, for every right budget: the induction is on `nL` alone and, inside it, on the
derivation of `ER`.  A call on the right either faces a call on the left, which lowers `nL` (`call_rel`; also under
`callArrow`), or an arrow (`arrowCall`), whose body is a premise of the derivation and is evaluated with `nR - 1`. -/
def SimAt (nL : Nat) : Prop :=
  ∀ {k : K} {σ : Sub} {eL eR : Expr}, ER k σ eL eR → ∀ (nR : Nat) {envL envR : Env}, EnvR σ envL envR →
    match k with
    | .expr => ResR ValR (evalE (callAt nL) eL envL) (evalE (callAt nR) eR envR)
    | .items => ResR Eq (evalItems (callAt nL) eL envL) (evalItems (callAt nR) eR envR)
    | .conds => ResR ValR (evalCond (callAt nL) eL envL) (evalCond (callAt nR) eR envR)

theorem call_rel (nL : Nat) (IH : ∀ m, m < nL → SimAt m) (nR : Nat) {σ : Sub} {cL cR : Env} {p : Pat} {bL bR : Expr}
    {aL aR : Val} (henv : EnvR σ cL cR) (hb : ER .expr (σ.erase (patVars p)) bL bR) (ha : ValR aL aR) :
    ResR ValR (callAt nL cL p bL aL) (callAt nR cR p bR aR) := by
  cases nL with
  | zero => exact ResR.oofL _
  | succ k =>
    cases nR with
    | zero => exact ResR.oofR _
    | succ m =>
      exact ResR.bind (bind_rel p ha) fun sL sR hsc => IH k (Nat.lt_succ_self k) hb m (henv.extend hsc)

theorem onSet_rel {v v' : Val} (hv : ValR v v') {f g : List V → Res Val} (h : ∀ xs, ResR ValR (f xs) (g xs)) :
    ResR ValR (onSet v f) (onSet v' g) := by
  cases hv with
  | clo => exact ResR.unsup_unsup
  | data u =>
    cases u with
    | set xs => exact h xs
    | _ => exact ResR.err_err

theorem arrowV_rel (op : ArrOp) {S : Env → Env → Prop} {bL bR : Val → Res Env} {eL eR : Env → Res Val}
    (hb : ∀ a a', ValR a a' → ResR S (bL a) (bR a')) (he : ∀ s s', S s s' → ResR ValR (eL s) (eR s'))
    {v v' : Val} (hv : ValR v v') : ResR ValR (arrowV op bL eL v) (arrowV op bR eR v') := by
  have mapBody_rel {γ : Type} (post : V → Val → Res γ) (hpost : ∀ x a b, ValR a b → ResR Eq (post x a) (post x b))
      (xs : List V) : ResR Eq (mapBody bL eL post xs) (mapBody bR eR post xs) :=
    ResR.mapM' _ _ xs fun x _ => ResR.bind (hb _ _ (.data x)) fun s s' hs => ResR.bind (he s s' hs) (hpost x)
  have asD := mapBody_rel (fun _ => asData) fun _ _ _ h => h.asData
  have key := mapBody_rel (fun _ => keyOf) fun _ a b h => by cases h <;> exact ResR.refl_eq _
  cases op with
  | arrow => exact ResR.bind (hb _ _ hv) he
  | darrow => exact onSet_rel hv fun xs => ResR.bind_eq (asD xs) fun _ => by simp
  | seq =>
    refine onSet_rel hv fun xs => ?_
    cases arrItems xs 0 with
    | some vs => exact ResR.bind_eq (asD vs) fun _ => by simp
    | none => exact ResR.unsup_unsup
  | where_ =>
    exact onSet_rel hv fun xs =>
      ResR.bind_eq (mapBody_rel (fun x r => .ok (x, Impl.isTrue r)) (fun _ _ _ h => by simp [h.isTrue]) xs) fun _ => by simp
  | orderby =>
    refine onSet_rel hv fun xs => ResR.bind_eq (mapBody_rel (fun x r => keyOf r >>= fun k => .ok (k, x))
      (fun _ a b h => by cases h <;> exact ResR.refl_eq _) xs) fun ks => ?_
    cases sortByKey ks <;> simp
  | tupmap =>
    cases hv with
    | clo => exact ResR.unsup_unsup
    | data u =>
      cases u with
      | tup as => exact ResR.bind_eq (asD (as.map (·.2))) fun _ => by simp
      | _ => exact ResR.unsup_unsup
  | sum =>
    exact onSet_rel hv fun xs =>
      ResR.bind_eq (mapBody_rel (fun _ => numOf) (fun _ a b h => by cases h <;> exact ResR.refl_eq _) xs) fun _ => mkNum_rel _
  | max | min =>
    refine onSet_rel hv fun xs => ?_
    cases xs.isEmpty
    · exact ResR.bind_eq (key xs) fun _ => by simp
    · exact ResR.err_err

theorem sim (nL : Nat) : SimAt nL := by
  induction nL using Nat.strongRecOn with | _ nL IH => ?_
  intro k σ eL eR h
  induction h
  all_goals intro nR envL envR henv; dsimp only
  case lit σ v => simp [evalE_lit]
  case ident σ x hx =>
    simp only [evalE_ident]
    have hd := henv.dom x hx
    cases hl : lookup x envL <;> cases hr : lookup x envR <;> simp only [hl, hr] at hd ⊢
    · exact ResR.err_err
    · cases hd
    · cases hd
    · exact henv.val x _ _ hx hl hr
  case fn hb _ =>
    simp only [evalE_fn, ResR.ok_ok]
    exact ValR.clo _ henv.sub henv.dom henv.val hb
  case neg _ ih =>
    simp only [evalE_neg]
    exact ResR.bind (ih nR henv) fun _ _ h => h.negV
  case dot n _ ih =>
    simp only [evalE_dot]
    exact ResR.bind (ih nR henv) fun _ _ h => h.dotV n
  case un op _ ih =>
    simp only [evalE_un]
    exact ResR.bind (ih nR henv) fun _ _ h => h.unV op
  case bin op _ _ iha ihc =>
    by_cases hop : op = .call
    · subst hop
      simp only [evalE_call]
      refine ResR.bind (iha nR henv) fun va va' hva => ResR.bind (ihc nR henv) fun vb vb' hvb => ?_
      cases hva with
      | data v => cases v <;> simp
      | clo σ' hs hd hv hb => exact call_rel nL IH nR ⟨hs, hd, hv⟩ hb hvb
    · simp only [evalE_bin _ _ hop]
      exact ResR.bind (iha nR henv) fun _ _ hva => ResR.bind (ihc nR henv) fun _ _ hvb =>
        applyData_rel op hva hvb
  case and_ _ _ iha ihc =>
    simp only [evalE_and]
    exact ResR.bind (iha nR henv) fun _ _ hva => hva.ite (ihc nR henv) hva
  case or_ _ _ iha ihc =>
    simp only [evalE_or]
    exact ResR.bind (iha nR henv) fun _ _ hva => hva.ite hva (ihc nR henv)
  case arrow op _ _ ihl ihb =>
    simp only [evalE_arrow]
    exact ResR.bind (ihl nR henv) fun _ _ hv =>
      arrowV_rel op (fun _ _ h => bind_rel _ h) (fun _ _ hsc => ihb nR (EnvR.extend henv hsc)) hv
  case cond _ ih => exact ih nR henv
  case coll k _ ih =>
    simp only [evalE_coll]
    refine ResR.bind_eq (ih nR henv) fun es => ?_
    cases mkColl k es <;> simp
  case cerr => exact ResR.err_err
  case nilE => exact ResR.err_err
  case consE => exact ResR.err_err
  case nilI => exact (ResR.ok_ok _ _).mpr rfl
  case consNil n _ _ ihv ihr =>
    simp only [evalItems_cons, isNil, if_true, Res.bind_ok]
    refine ResR.bind_eq (ResR.bind (ihv nR henv) fun _ _ h => h.asData) fun _ => ?_
    exact ResR.bind_eq (ihr nR henv) fun _ => by simp
  case consKey n hkL hkR _ _ _ ihk ihv ihr =>
    simp only [evalItems_cons, isNil_of_ne hkL, isNil_of_ne hkR]
    refine ResR.bind_eq (ResR.bind (ihk nR henv) fun _ _ h => h.asData) fun _ => ?_
    refine ResR.bind_eq (ResR.bind (ihv nR henv) fun _ _ h => h.asData) fun _ => ?_
    exact ResR.bind_eq (ihr nR henv) fun _ => by simp
  case junkI h1 h2 =>
    simp [evalItems_junk _ _ h1, evalItems_junk _ _ h2]
  case endC h1 h2 =>
    simp [evalCond_end _ _ h1, evalCond_end _ _ h2]
  case consC n n' hk _ _ ihk ihv ihr =>
    simp only [evalCond_cons]
    rw [hk.isUnderscore_eq rfl]
    cases isUnderscore _
    · exact ResR.bind (ihk nR henv) fun _ _ hc => hc.ite (ihv nR henv) (ihr nR henv)
    · exact ihv nR henv
  case parenL _ ih => exact ih nR henv
  case parenR _ ih => exact ih nR henv
  case foldL h1 h2 _ ih =>
    rw [evalE_fold (callAt nL) envL h1 h2]
    exact ih nR henv
  case foldR h1 h2 _ ih =>
    rw [evalE_fold (callAt nR) envR h1 h2]
    exact ih nR henv
  case subst σ x v hx _ =>
    simp [evalE_ident, evalE_lit, henv.sub x v hx]
  case letLit x v hx _ _ ih =>
    simp only [evalE_arrow, evalE_lit, Res.bind_ok, arrowV_arrow, bind_ident, if_neg hx]
    exact ih nR (EnvR.letLit x v henv)
  case callArrow _ hb ihe _ =>
    -- `e -> \p b` is the call of `\p b` with one more unit of budget
    simp only [evalE_call, evalE_fn, evalE_arrow, Res.bind_ok]
    exact ResR.bind (ihe nR henv) fun _ _ hv =>
      call_rel nL IH (nR + 1) henv hb hv
  case arrowCall _ _ ihe ihb =>
    simp only [evalE_call, evalE_fn, evalE_arrow, Res.bind_ok]
    refine ResR.bind (ihe nR henv) fun v vb hv => ?_
    cases nR with
    | zero => exact ResR.oofR _
    | succ m => exact ResR.bind (bind_rel _ hv) fun sL sR hsc => ihb m (EnvR.extend henv hsc)
  case andDead σ v b b' hv =>
    simp [evalE_and, evalE_lit, hv]
  case orDead σ v b b' hv =>
    simp [evalE_or, evalE_lit, hv]
  case condDead n n' v x x' hv _ ih =>
    simp only [evalCond_cons, isUnderscore, evalE_lit, Res.bind_ok, hv]
    exact ih nR henv
  case condTaken n n' v r r' hv _ ih =>
    simp only [evalCond_cons, isUnderscore, evalE_lit, Res.bind_ok, hv]
    exact ih nR henv
  case condDefault n n' r r' h1 h2 _ ih =>
    simp only [evalCond_cons, h1, h2, if_true]
    exact ih nR henv

end Arrai.C08
