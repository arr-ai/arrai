/-
  C09 helper lemmas: `Spec.bind` is sound and, on deterministic patterns, complete for `Matches` (`bind_sound`,
  `bind_complete`); before them scopes (`Agree`, `Ext`), the array / dict / set views, induction on patterns
  (`Pat.induct`) and monotonicity of `Rebuilds`.
  A loop lemma (`…_of`) takes the fact about the component patterns (`MonoAt`, `SoundAt`, `CompleteAt`) as a hypothesis
  and is an induction on the list of components alone; the theorem about patterns is then one induction.
  Tuple and dict patterns differ in the type of the keys only, but the model has a list type, a relation and a loop for
  each: every lemma about attributes is followed by the same text about entries.
-/
import Arrai.C09.Equations
import Arrai.Core.Assoc
import Arrai.Core.ListLemmas

namespace Arrai.C09
open Arrai

/-! ## scopes -/

theorem Env.le_trans {a b c : Env} (h₁ : Env.le a b) (h₂ : Env.le b c) : Env.le a c :=
  fun x w h => h₂ x w (h₁ x w h)
theorem Env.nil_le (s : Env) : Env.le [] s := by intro x w h; simp at h

theorem mem_lookup_isSome {s : Env} {x : String} {v : V} (h : (x, v) ∈ s) : ∃ w, s.lookup x = some w :=
  Option.isSome_iff_exists.1 (List.lookup_isSome_iff.2 ⟨(x, v), h, beq_self_eq_true x⟩)

/-- `w = v` in the order of `matchedUpdate`'s test -/
def Agree (s t : Env) : Prop := ∀ x v w, s.lookup x = some v → t.lookup x = some w → w = v

theorem all_agree_iff (s t : Env) :
    (s.all (fun nv => match t.lookup nv.1, s.lookup nv.1 with
      | some w, some v => decide (w = v)
      | _, _ => true) = true) ↔ Agree s t := by
  rw [List.all_eq_true]
  constructor
  · intro h x v w hs ht
    have := h (x, v) (mem_of_lookup hs)
    simpa [hs, ht] using this
  · intro h nv hnv
    obtain ⟨n, v'⟩ := nv
    cases ht : t.lookup n with
    | none => simp
    | some w =>
      cases hs : s.lookup n with
      | none => simp
      | some v => simp [h n v w hs ht]

theorem matchedUpdate_some_iff (s t u : Env) : matchedUpdate s t = some u ↔ (Agree s t ∧ u = t ++ s) := by
  unfold matchedUpdate
  split
  · next h => rw [Option.some.injEq, eq_comm]; exact (and_iff_right ((all_agree_iff s t).1 h)).symm
  · next h => exact ⟨nofun, fun e => absurd ((all_agree_iff s t).2 e.1) h⟩

theorem matchedUpdate_eq {s t u : Env} (h : matchedUpdate s t = some u) : u = t ++ s :=
  ((matchedUpdate_some_iff s t u).1 h).2

theorem matchedUpdate_none_iff (s t : Env) : matchedUpdate s t = none ↔ ¬ Agree s t := by
  rw [← Option.not_isSome_iff_eq_none, Option.isSome_iff_exists]
  exact not_congr ⟨fun ⟨u, h⟩ => ((matchedUpdate_some_iff s t u).1 h).1,
    fun h => ⟨_, (matchedUpdate_some_iff s t _).2 ⟨h, rfl⟩⟩⟩

theorem matchedUpdate_le_right {s t u : Env} (h : matchedUpdate s t = some u) : Env.le t u := by
  obtain ⟨_, rfl⟩ := (matchedUpdate_some_iff s t _).1 h
  intro x v ht
  rw [List.lookup_append, ht]; rfl

/-- two sub-scopes of one scope can be merged, and the merge is a sub-scope -/
theorem matchedUpdate_complete {s t σ : Env} (hs : Env.le s σ) (ht : Env.le t σ) :
    ∃ u, matchedUpdate s t = some u ∧ Env.le u σ := by
  refine ⟨t ++ s, (matchedUpdate_some_iff s t _).2 ⟨?_, rfl⟩, ?_⟩
  · intro x v w h1 h2
    exact (Option.some.inj ((hs x v h1).symm.trans (ht x w h2))).symm
  · intro x v h
    rw [List.lookup_append] at h
    cases h2 : t.lookup x with
    | none => rw [h2] at h; exact hs x v h
    | some w => rw [h2] at h; exact Option.some.inj h ▸ ht x w h2

theorem matchedUpdate_nil (s : Env) : matchedUpdate [] s = some s :=
  (matchedUpdate_some_iff [] s _).2 ⟨fun _ _ _ => nofun, (List.append_nil s).symm⟩

theorem lookup_single (x y : String) (v : V) :
    (single x v).lookup y = if x = "_" then none else if y = x then some v else none := by
  unfold single
  split
  · rfl
  · by_cases h : y = x
    · simp [List.lookup, h]
    · simp [List.lookup, h, beq_false_of_ne h]

theorem lookup_singleRest (x y : String) (v : V) :
    (singleRest x v).lookup y = if bindable x then (if y = x then some v else none) else none := by
  unfold singleRest bindable
  by_cases h : x = ""
  · simp [h]
  · rw [if_neg h, lookup_single]
    by_cases h2 : x = "_" <;> simp [h, h2]

/-! The scope a leaf binder returns lies below `σ` exactly when `σ` rebuilds the leaf (`Rebuilds` at `.name x`, `.rest t`). -/

theorem single_le {x : String} {v : V} {σ : Env} : Env.le (single x v) σ ↔ (x = "_" ∨ σ.lookup x = some v) := by
  simp only [Env.le, lookup_single]
  by_cases hx : x = "_"
  · simp [hx]
  · simp only [hx, if_false, false_or]
    refine ⟨fun h => h x v (if_pos rfl), fun h y w hy => ?_⟩
    split at hy
    · next hyx => cases hy; exact hyx ▸ h
    · cases hy

theorem singleRest_le {t : String} {v : V} {σ : Env} : Env.le (singleRest t v) σ ↔ restHolds σ t v := by
  unfold singleRest restHolds bindable
  by_cases ht : t = ""
  · simp [ht, Env.nil_le]
  · rw [if_neg ht, single_le]; simp [ht]

/-- the shape shared by all loop invariants: `σ` extends `acc` by exactly the names in `N` -/
def Ext (acc σ : Env) (N : String → Prop) : Prop :=
  Env.le acc σ ∧ ∀ y, (σ.lookup y).isSome = true ↔ ((acc.lookup y).isSome = true ∨ N y)

theorem Ext.refl (acc : Env) {N : String → Prop} (hN : ∀ y, ¬ N y) : Ext acc acc N :=
  ⟨fun _ _ h => h, fun y => ⟨Or.inl, fun h => h.resolve_right (hN y)⟩⟩

theorem Ext.trans {a b c : Env} {N M : String → Prop} (h₁ : Ext a b N) (h₂ : Ext b c M) :
    Ext a c (fun y => N y ∨ M y) :=
  ⟨Env.le_trans h₁.1 h₂.1, fun y => by rw [h₂.2 y, h₁.2 y, or_assoc]⟩

theorem Ext.congr {a b : Env} {N M : String → Prop} (h : Ext a b N) (hNM : ∀ y, N y ↔ M y) : Ext a b M :=
  ⟨h.1, fun y => by rw [h.2 y, hNM y]⟩

theorem Ext.nil_dom {σ : Env} {N : String → Prop} (h : Ext [] σ N) (y : String) :
    (σ.lookup y).isSome = true ↔ N y :=
  (h.2 y).trans ⟨fun h' => h'.resolve_left nofun, Or.inr⟩

theorem Ext.of_matchedUpdate {acc s acc' : Env} {N : String → Prop} (hm : matchedUpdate acc s = some acc')
    (hs : ∀ y, (s.lookup y).isSome = true ↔ N y) : Ext acc acc' N := by
  obtain ⟨ha, rfl⟩ := (matchedUpdate_some_iff acc s _).1 hm
  refine ⟨fun x v hx => ?_, fun y => by rw [List.lookup_append, Option.isSome_or, Bool.or_eq_true, or_comm, hs y]⟩
  rw [List.lookup_append]
  cases ht : s.lookup x with
  | none => exact hx
  | some w => rw [ha x v w hx ht]; rfl

/-! ## the array, dict and set views invert construction -/

theorem asArrFrom_iff (ms : List V) : ∀ (i : Int) (xs : List V), asArrFrom i ms = some xs ↔ ms = mkArrFrom i xs := by
  induction ms with
  | nil =>
    intro i xs
    cases xs <;> simp [asArrFrom, mkArrFrom]
  | cons m r ih =>
    intro i xs
    unfold asArrFrom
    by_cases hm : m = itemTup i (attr2 m).2
    · rw [if_pos hm]
      cases xs with
      | nil => simp [mkArrFrom]
      | cons x xs' =>
        simp only [mkArrFrom, Option.map_eq_some_iff, List.cons.injEq]
        constructor
        · rintro ⟨ys, hys, hx, rfl⟩
          refine ⟨?_, (ih _ _).1 hys⟩
          rw [← hx]; exact hm
        · rintro ⟨h1, h2⟩
          refine ⟨xs', (ih _ _).2 h2, ?_, rfl⟩
          rw [h1]; rfl
    · rw [if_neg hm]
      cases xs with
      | nil => simp [mkArrFrom]
      | cons x xs' =>
        simp only [mkArrFrom, List.cons.injEq]
        constructor
        · intro h; cases h
        · rintro ⟨h1, _⟩
          exfalso; apply hm
          rw [h1]; rfl

theorem asArr_iff (v : V) (xs : List V) : asArr v = some xs ↔ v = mkArr xs := by
  cases v with
  | set ms => simp [asArr, mkArr, asArrFrom_iff]
  | num _ => simp [asArr, mkArr]
  | tup _ => simp [asArr, mkArr]

theorem asArr_mkArr (xs : List V) : asArr (mkArr xs) = some xs := (asArr_iff _ _).2 rfl

theorem mkArr_inj {xs ys : List V} (h : mkArr xs = mkArr ys) : xs = ys :=
  Option.some.inj ((asArr_mkArr xs).symm.trans ((asArr_iff _ ys).2 h))

theorem asEntries_iff (ms : List V) : ∀ (kvs : List (V × V)),
    asEntries ms = some kvs ↔ ms = kvs.map (fun kv => entryTup kv.1 kv.2) := by
  induction ms with
  | nil =>
    intro kvs
    cases kvs <;> simp [asEntries]
  | cons m r ih =>
    intro kvs
    unfold asEntries
    by_cases hm : m = entryTup (attr2 m).1 (attr2 m).2
    · rw [if_pos hm]
      cases kvs with
      | nil => simp
      | cons kv kvs' =>
        simp only [List.map_cons, Option.map_eq_some_iff, List.cons.injEq]
        constructor
        · rintro ⟨ys, hys, hx, rfl⟩
          refine ⟨?_, (ih _).1 hys⟩
          rw [← hx]; exact hm
        · rintro ⟨h1, h2⟩
          refine ⟨kvs', (ih _).2 h2, ?_, rfl⟩
          rw [h1]; rfl
    · rw [if_neg hm]
      cases kvs with
      | nil => simp
      | cons kv kvs' =>
        simp only [List.map_cons, List.cons.injEq]
        constructor
        · intro h; cases h
        · rintro ⟨h1, _⟩
          exfalso; apply hm
          rw [h1]; rfl

theorem asDict_iff (v : V) (kvs : List (V × V)) :
    asDict v = some kvs ↔ (v = mkDict kvs ∧ (kvs.map (·.1)).Nodup) := by
  cases v with
  | set ms =>
    have key : V.set ms = mkDict kvs ↔ asEntries ms = some kvs :=
      ⟨fun e => (asEntries_iff ms kvs).2 (V.set.inj e), fun e => congrArg V.set ((asEntries_iff ms kvs).1 e)⟩
    rw [key, asDict]
    cases asEntries ms with
    | none => exact ⟨nofun, fun h => nomatch h.1⟩
    | some kvs' =>
      simp only [Option.some.injEq]
      split
      · next hn => exact ⟨fun e => ⟨Option.some.inj e, Option.some.inj e ▸ hn⟩, fun h => congrArg some h.1⟩
      · next hn => exact ⟨nofun, fun h => absurd (h.1 ▸ h.2) hn⟩
  | num _ => exact ⟨nofun, fun h => nomatch h.1⟩
  | tup _ => exact ⟨nofun, fun h => nomatch h.1⟩

theorem asSet_iff (v : V) (ms : List V) : asSet v = some ms ↔ (v = .set ms ∧ ms.Nodup) := by
  cases v with
  | set ms' =>
    rw [asSet, V.set.injEq]
    split
    · next h => exact ⟨fun e => ⟨Option.some.inj e, Option.some.inj e ▸ h⟩, fun e => congrArg some e.1⟩
    · next h => exact ⟨nofun, fun e => absurd (e.1 ▸ e.2) h⟩
  | num _ => exact ⟨nofun, fun h => nomatch h.1⟩
  | tup _ => exact ⟨nofun, fun h => nomatch h.1⟩

theorem mkDict_inj {a b : List (V × V)} (h : mkDict a = mkDict b) : a = b := by
  unfold mkDict at h
  have h1 := (asEntries_iff _ b).2 (V.set.inj h)
  rw [(asEntries_iff _ a).2 rfl] at h1
  exact Option.some.inj h1

/-! ## induction on patterns -/

section
variable {P : Pat → Prop} (lit : ∀ l, P (.lit l)) (name : ∀ x, P (.name x)) (exprs : ∀ es, P (.exprs es))
  (rest : ∀ x, P (.rest x)) (arr : ∀ items, (∀ q, q ∈ items → P q.1) → P (.arr items))
  (tup : ∀ attrs, (∀ q, q ∈ attrs → P q.2.1) → P (.tup attrs))
  (dict : ∀ ents, (∀ q, q ∈ ents → P q.2.1) → P (.dict ents)) (set : ∀ elts, (∀ q, q ∈ elts → P q) → P (.set elts))
include lit name exprs rest arr tup dict set

theorem Pat.induct : ∀ p, P p
  | .lit l => lit l
  | .name x => name x
  | .exprs es => exprs es
  | .rest x => rest x
  | .arr items => arr items fun q _ => Pat.induct q.1
  | .tup attrs => tup attrs fun q _ => Pat.induct q.2.1
  | .dict ents => dict ents fun q _ => Pat.induct q.2.1
  | .set elts => set elts fun q _ => Pat.induct q
termination_by p => sizeOf p
decreasing_by
  all_goals (rename_i hq; have := List.sizeOf_lt_of_mem hq)
  · obtain ⟨a, b⟩ := q; simp only [Prod.mk.sizeOf_spec, Pat.arr.sizeOf_spec] at this ⊢; omega
  · obtain ⟨a, b, c⟩ := q; simp only [Prod.mk.sizeOf_spec, Pat.tup.sizeOf_spec] at this ⊢; omega
  · obtain ⟨a, b, c⟩ := q; simp only [Prod.mk.sizeOf_spec, Pat.dict.sizeOf_spec] at this ⊢; omega
  · simp only [Pat.set.sizeOf_spec]; omega
end

/-! ## `Rebuilds` only grows with the scope -/

theorem restHolds_mono {s t : Env} (h : Env.le s t) {x : String} {w : V} (hr : restHolds s x w) : restHolds t x w :=
  hr.imp_right (h _ _)

abbrev MonoAt (ρ s t : Env) (p : Pat) : Prop := ∀ v, Rebuilds ρ s p v → Rebuilds ρ t p v

theorem RItems_mono_of {ρ s t : Env} (h : Env.le s t) : ∀ (items : List (Pat × Option FExpr)),
    (∀ q, q ∈ items → MonoAt ρ s t q.1) → ∀ xs, RItems ρ s items xs → RItems ρ t items xs := by
  refine forall_mem_rec (fun _ h => h) ?_
  rintro ⟨p, fb⟩ r hp ih xs
  simp only [RItems]
  cases restName p with
  | some tn =>
    rintro ⟨seg, tail, hx, hr, hi⟩
    exact ⟨seg, tail, hx, restHolds_mono h hr, ih tail hi⟩
  | none =>
    rintro (⟨x, tail, hx, hp', hi⟩ | ⟨d, hd, hx, hp', hi⟩)
    · exact Or.inl ⟨x, tail, hx, hp x hp', ih tail hi⟩
    · exact Or.inr ⟨d, hd, hx, hp d hp', ih [] hi⟩

theorem RAttrs_mono_of {ρ s t : Env} : ∀ (attrs : List (String × Pat × Option FExpr)),
    (∀ q, q ∈ attrs → MonoAt ρ s t q.2.1) → ∀ kvs, RAttrs ρ s attrs kvs → RAttrs ρ t attrs kvs := by
  refine forall_mem_rec (fun _ _ => trivial) ?_
  rintro ⟨n, p, fb⟩ r hp ih kvs
  simp only [RAttrs]
  refine And.imp ?_ (ih kvs)
  cases restName p with
  | some tn => exact id
  | none => exact fun ⟨w, hw, hr⟩ => ⟨w, hw, hp w hr⟩

theorem REnts_mono_of {ρ s t : Env} : ∀ (ents : List (Lit × Pat × Option FExpr)),
    (∀ q, q ∈ ents → MonoAt ρ s t q.2.1) → ∀ kvs, REnts ρ s ents kvs → REnts ρ t ents kvs := by
  refine forall_mem_rec (fun _ _ => trivial) ?_
  rintro ⟨k, p, fb⟩ r hp ih kvs
  simp only [REnts]
  refine And.imp ?_ (ih kvs)
  cases restName p with
  | some tn => exact id
  | none => exact fun ⟨w, hw, hr⟩ => ⟨w, hw, hp w hr⟩

theorem RElts_mono_of {ρ s t : Env} : ∀ (elts : List Pat),
    (∀ q, q ∈ elts → MonoAt ρ s t q) → ∀ ws, RElts ρ s elts ws → RElts ρ t elts ws := by
  refine forall_mem_rec (fun _ h => h) fun p r hp ih ws => ?_
  simp only [RElts]
  cases restName p with
  | some tn => exact ih ws
  | none => exact fun ⟨w, tail, hw, hp', hi⟩ => ⟨w, tail, hw, hp w hp', ih tail hi⟩

theorem Rebuilds_mono {ρ s t : Env} (h : Env.le s t) (p : Pat) : MonoAt ρ s t p := by
  induction p using Pat.induct with
  | lit l => intro v; simp only [Rebuilds]; exact id
  | name x => intro v; simp only [Rebuilds]; exact Or.imp_right (h _ _)
  | exprs es => intro v; simp only [Rebuilds]; exact id
  | rest x => intro v; simp only [Rebuilds]; exact restHolds_mono h
  | arr items ih =>
    intro v
    simp only [Rebuilds]
    rintro ⟨xs, hv, hi⟩
    exact ⟨xs, hv, RItems_mono_of h items ih xs hi⟩
  | tup attrs ih =>
    intro v
    simp only [Rebuilds]
    rintro ⟨kvs, hv, hnd, ha, hr, hc⟩
    exact ⟨kvs, hv, hnd, RAttrs_mono_of attrs ih kvs ha, fun t ht => restHolds_mono h (hr t ht), hc⟩
  | dict ents ih =>
    intro v
    simp only [Rebuilds]
    rintro ⟨kvs, hv, hn, hnd, ha, hr, hc⟩
    exact ⟨kvs, hv, hn, hnd, REnts_mono_of ents ih kvs ha, fun t ht => restHolds_mono h (hr t ht), hc⟩
  | set elts ih =>
    intro v
    simp only [Rebuilds]
    rintro ⟨ms, ws, hv, hmn, hn, hsub, he, hr, hc⟩
    exact ⟨ms, ws, hv, hmn, hn, hsub, RElts_mono_of elts ih ws he, fun t ht => restHolds_mono h (hr t ht), hc⟩

theorem RItems_mono {ρ s t : Env} (h : Env.le s t) :
    ∀ (items : List (Pat × Option FExpr)) (xs : List V), RItems ρ s items xs → RItems ρ t items xs :=
  fun items => RItems_mono_of h items (fun q _ => Rebuilds_mono h q.1)

/-! ## soundness of `Spec.bind` -/

/-! NR: not rest.  The `...t` parts of a tuple / dict / set pattern are bound after the loop, by `bindLeft`; in an array
pattern `...t` is bound inside the loop, so arrays need no such function. -/
def namesAttrsNR : List (String × Pat × Option FExpr) → List String
  | [] => []
  | (_, p, _) :: r => (match restName p with | some _ => [] | none => names p) ++ namesAttrsNR r
def namesEntsNR : List (Lit × Pat × Option FExpr) → List String
  | [] => []
  | (_, p, _) :: r => (match restName p with | some _ => [] | none => names p) ++ namesEntsNR r
def namesEltsNR : List Pat → List String
  | [] => []
  | p :: r => (match restName p with | some _ => [] | none => names p) ++ namesEltsNR r

/-- the cons step of the three lemmas below (`nr`, `rr`: `x` is among the tail's names of either sort) -/
theorem mem_names_cons (x : String) (p : Pat) {nr rr : Prop} :
    (x ∈ names p ∨ (nr ∨ (rr ∧ bindable x = true))) ↔
      ((x ∈ (match restName p with | some _ => [] | none => names p) ∨ nr) ∨
        ((x ∈ (match restName p with | some t => [t] | none => []) ∨ rr) ∧ bindable x = true)) := by
  cases hp : restName p with
  | none => simp only [List.not_mem_nil, false_or, or_assoc]
  | some t =>
    rw [restName_some hp]
    simp only [mem_names_rest, List.mem_singleton, List.not_mem_nil, false_or]
    constructor
    · rintro (⟨h, hb⟩ | h | ⟨h, hb⟩)
      · exact Or.inr ⟨Or.inl h, hb⟩
      · exact Or.inl h
      · exact Or.inr ⟨Or.inr h, hb⟩
    · rintro (h | ⟨h | h, hb⟩)
      · exact Or.inr (Or.inl h)
      · exact Or.inl ⟨h, hb⟩
      · exact Or.inr (Or.inr ⟨h, hb⟩)

theorem mem_namesAttrs (x : String) : ∀ attrs : List (String × Pat × Option FExpr),
    x ∈ namesAttrs attrs ↔ (x ∈ namesAttrsNR attrs ∨ (x ∈ restsAttrs attrs ∧ bindable x = true))
  | [] => by simp [namesAttrs, namesAttrsNR, restsAttrs]
  | (n, p, fb) :: r => by
    simp only [namesAttrs, namesAttrsNR, restsAttrs, List.mem_append, mem_namesAttrs x r]
    exact mem_names_cons x p

theorem mem_namesEnts (x : String) : ∀ ents : List (Lit × Pat × Option FExpr),
    x ∈ namesEnts ents ↔ (x ∈ namesEntsNR ents ∨ (x ∈ restsEnts ents ∧ bindable x = true))
  | [] => by simp [namesEnts, namesEntsNR, restsEnts]
  | (n, p, fb) :: r => by
    simp only [namesEnts, namesEntsNR, restsEnts, List.mem_append, mem_namesEnts x r]
    exact mem_names_cons x p

theorem mem_namesElts (x : String) : ∀ elts : List Pat,
    x ∈ namesElts elts ↔ (x ∈ namesEltsNR elts ∨ (x ∈ restsElts elts ∧ bindable x = true))
  | [] => by simp [namesElts, namesEltsNR, restsElts]
  | p :: r => by
    simp only [namesElts, namesEltsNR, restsElts, List.mem_append, mem_namesElts x r]
    exact mem_names_cons x p

abbrev SoundAt (ρ : Env) (p : Pat) : Prop := ∀ v s, Spec.bind ρ p v = some s → Matches ρ p v s

/-- one step of a loop whose rest is known (`ih`) to reach `σ` from the scope the step hands on, establishing `Q` -/
theorem step_sound {α : Type} {ρ acc σ : Env} {p : Pat} {ow : Option V} {k : Env → Option α} {a : α}
    {N : String → Prop} {Q : Prop} (hp : SoundAt ρ p) (h : Spec.step ρ acc p ow k = some a)
    (ih : ∀ acc', k acc' = some a → Q ∧ Ext acc' σ N) :
    ∃ w, ow = some w ∧ Rebuilds ρ σ p w ∧ Q ∧ Ext acc σ (fun y => y ∈ names p ∨ N y) := by
  cases ow with
  | none => cases h
  | some w =>
    cases hb : Spec.bind ρ p w with
    | none => simp only [Spec.step, hb] at h; cases h
    | some s =>
      cases hm : matchedUpdate acc s with
      | none => simp only [Spec.step, hb, hm] at h; cases h
      | some acc' =>
        have hs := hp w s hb
        obtain ⟨hq, hext⟩ := ih acc' (by simpa only [Spec.step, hb, hm] using h)
        exact ⟨w, rfl, Rebuilds_mono (Env.le_trans (matchedUpdate_le_right hm) hext.1) p w hs.1, hq,
          (Ext.of_matchedUpdate hm hs.2).trans hext⟩

theorem rest_sound (ρ : Env) (t : String) : SoundAt ρ (.rest t) := by
  intro v s h
  rw [Spec.bind_rest] at h
  cases h
  constructor
  · simp only [Rebuilds]
    exact singleRest_le.1 fun _ _ h => h
  · intro y
    rw [lookup_singleRest, names_rest]
    by_cases hb : bindable t = true
    · simp only [hb, if_true]
      by_cases hy : y = t <;> simp [hy]
    · simp [hb]

theorem bindRests_sound {w : V} : ∀ (ts : List String) (acc σ : Env), bindRests acc w ts = some σ →
    (∀ t, t ∈ ts → restHolds σ t w) ∧ Ext acc σ (fun y => y ∈ ts ∧ bindable y = true)
  | [], acc, σ, h => by
    cases h
    exact ⟨nofun, Ext.refl _ (fun y h => nomatch h.1)⟩
  | t :: r, acc, σ, h => by
    rw [bindRests_cons []] at h
    obtain ⟨_, hw, h1, h2, h4⟩ := step_sound (rest_sound [] t) h fun acc' => bindRests_sound r acc' σ
    cases hw
    refine ⟨?_, h4.congr fun y => ?_⟩
    · intro t' ht'
      rcases List.mem_cons.1 ht' with rfl | ht'
      · exact h1
      · exact h2 t' ht'
    · rw [mem_names_rest, List.mem_cons, or_and_right]

theorem bindLeft_sound {acc σ : Env} {rests : List String} {nl : Prop} [Decidable nl] {left : V}
    (h : bindLeft acc rests nl left = some σ) :
    (∀ t, t ∈ rests → restHolds σ t left) ∧ (rests = [] → nl) ∧ Ext acc σ (fun y => y ∈ rests ∧ bindable y = true) := by
  cases rests with
  | nil =>
    rw [bindLeft_nil] at h
    split at h
    · next hnl => cases h; exact ⟨nofun, fun _ => hnl, Ext.refl _ (fun y h => nomatch h.1)⟩
    · cases h
  | cons t r =>
    rw [bindLeft_cons] at h
    obtain ⟨h1, h2⟩ := bindRests_sound _ _ _ h
    exact ⟨h1, nofun, h2⟩

theorem bindItems_sound_of (ρ : Env) : ∀ (items : List (Pat × Option FExpr)), (∀ q, q ∈ items → SoundAt ρ q.1) →
    ∀ acc xs σ, Spec.bindItems ρ acc items xs = some σ →
    RItems ρ σ items xs ∧ Ext acc σ (fun y => y ∈ namesItems items) := by
  refine forall_mem_rec ?_ ?_
  · intro acc xs σ h
    rw [Spec.bindItems_nil] at h
    split at h
    · next hx => cases h; exact ⟨hx, Ext.refl _ (fun y h => nomatch h)⟩
    · cases h
  rintro ⟨p, fb⟩ r hp ih acc xs σ h
  cases hrn : restName p with
  | some t =>
    obtain rfl := restName_some hrn
    rw [Spec.bindItems_rest] at h
    split at h
    · obtain ⟨_, hw, h1, h2, h4⟩ := step_sound hp h fun acc' => ih acc' _ σ
      cases hw
      refine ⟨?_, h4.congr fun y => by simp only [namesItems, List.mem_append]⟩
      simp only [RItems, restName]
      exact ⟨_, _, (List.take_append_drop _ _).symm, h1, h2⟩
    · cases h
  | none =>
    rw [Spec.bindItems_cons hrn] at h
    obtain ⟨w, hw, h1, h2, h4⟩ := step_sound hp h fun acc' => ih acc' _ σ
    refine ⟨?_, h4.congr fun y => by simp only [namesItems, List.mem_append]⟩
    simp only [RItems, hrn]
    cases xs with
    | nil => exact Or.inr ⟨w, hw, rfl, h1, h2⟩
    | cons x tail => cases hw; exact Or.inl ⟨_, tail, rfl, h1, h2⟩

theorem bindAttrs_sound_of (ρ : Env) (kvs : List (String × V)) : ∀ (attrs : List (String × Pat × Option FExpr)),
    (∀ q, q ∈ attrs → SoundAt ρ q.2.1) → ∀ acc σ, Spec.bindAttrs ρ acc attrs kvs = some σ →
    RAttrs ρ σ attrs kvs ∧ Ext acc σ (fun y => y ∈ namesAttrsNR attrs) := by
  refine forall_mem_rec ?_ ?_
  · intro acc σ h
    cases h
    exact ⟨trivial, Ext.refl _ (fun y h => nomatch h)⟩
  rintro ⟨n, p, fb⟩ r hp ih acc σ h
  cases hrn : restName p with
  | some t =>
    rw [Spec.bindAttrs_rest hrn] at h
    obtain ⟨h2, h3⟩ := ih acc σ h
    exact ⟨by simp only [RAttrs, hrn]; exact ⟨trivial, h2⟩,
      h3.congr fun y => by simp only [namesAttrsNR, hrn, List.nil_append]⟩
  | none =>
    rw [Spec.bindAttrs_cons hrn] at h
    obtain ⟨w, hw, h1, h2, h4⟩ := step_sound hp h fun acc' => ih acc' σ
    exact ⟨by simp only [RAttrs, hrn]; exact ⟨⟨w, hw, h1⟩, h2⟩,
      h4.congr fun y => by simp only [namesAttrsNR, hrn, List.mem_append]⟩

theorem bindEnts_sound_of (ρ : Env) (kvs : List (V × V)) : ∀ (ents : List (Lit × Pat × Option FExpr)),
    (∀ q, q ∈ ents → SoundAt ρ q.2.1) → ∀ acc σ, Spec.bindEnts ρ acc ents kvs = some σ →
    REnts ρ σ ents kvs ∧ Ext acc σ (fun y => y ∈ namesEntsNR ents) := by
  refine forall_mem_rec ?_ ?_
  · intro acc σ h
    cases h
    exact ⟨trivial, Ext.refl _ (fun y h => nomatch h)⟩
  rintro ⟨k, p, fb⟩ r hp ih acc σ h
  cases hrn : restName p with
  | some t =>
    rw [Spec.bindEnts_rest hrn] at h
    obtain ⟨h2, h3⟩ := ih acc σ h
    exact ⟨by simp only [REnts, hrn]; exact ⟨trivial, h2⟩,
      h3.congr fun y => by simp only [namesEntsNR, hrn, List.nil_append]⟩
  | none =>
    rw [Spec.bindEnts_cons hrn] at h
    obtain ⟨w, hw, h1, h2, h4⟩ := step_sound hp h fun acc' => ih acc' σ
    exact ⟨by simp only [REnts, hrn]; exact ⟨⟨w, hw, h1⟩, h2⟩,
      h4.congr fun y => by simp only [namesEntsNR, hrn, List.mem_append]⟩

/-- `ws`: the members chosen for the elements; a free element takes the single member handed in -/
theorem bindElts_sound_of (ρ : Env) : ∀ (elts : List Pat), (∀ q, q ∈ elts → SoundAt ρ q) →
    ∀ acc left σ left' fws, Spec.bindElts ρ acc elts left = some (σ, left') → fixedValues ρ elts = some fws →
    (∃ ws, RElts ρ σ elts ws ∧ ((left' = left ∧ ws = fws) ∨ (∃ w, left = [w] ∧ left' = [] ∧ ws.Perm (w :: fws)))) ∧
    Ext acc σ (fun y => y ∈ namesEltsNR elts) := by
  refine forall_mem_rec ?_ fun p r hp ih acc left σ left' fws h hf => ?_
  · intro acc left σ left' fws h hf
    cases h; cases hf
    exact ⟨⟨[], rfl, Or.inl ⟨rfl, rfl⟩⟩, Ext.refl _ (fun y h => nomatch h)⟩
  cases hk : eltKind p with
  | rest =>
    obtain ⟨t, rfl⟩ := eltKind_rest hk
    rw [Spec.bindElts_cons_skip hk] at h
    rw [fixedValues_skip hk] at hf
    obtain ⟨⟨ws, hws, hc⟩, h3⟩ := ih acc left σ left' fws h hf
    exact ⟨⟨ws, by simp only [RElts, restName]; exact hws, hc⟩,
      h3.congr fun y => by simp only [namesEltsNR, restName, List.nil_append]⟩
  | fixed =>
    have hrn := eltKind_ne_rest hk
    obtain ⟨hnames, hfix⟩ := eltKind_fixed (ρ := ρ) hk
    rw [Spec.bindElts_cons_skip hk] at h
    obtain ⟨w, fws', hfv, hf', rfl⟩ := (fixedValues_fixed hk).1 hf
    obtain ⟨⟨ws, hws, hc⟩, h3⟩ := ih acc left σ left' fws' h hf'
    refine ⟨⟨w :: ws, ?_, ?_⟩, h3.congr fun y => by simp only [namesEltsNR, hrn, hnames, List.nil_append]⟩
    · simp only [RElts, hrn]; exact ⟨w, ws, rfl, (hfix σ w).1 hfv, hws⟩
    · rcases hc with ⟨hl, hw⟩ | ⟨w0, hl, hl', hperm⟩
      · exact Or.inl ⟨hl, by rw [hw]⟩
      · exact Or.inr ⟨w0, hl, hl', (List.Perm.cons w hperm).trans (List.Perm.swap w0 w fws')⟩
  | free =>
    have hrn := eltKind_ne_rest hk
    obtain ⟨w, rfl⟩ := Spec.bindElts_cons_free_some hk h
    rw [Spec.bindElts_cons_free hk] at h
    rw [fixedValues_skip hk] at hf
    obtain ⟨_, hw, h1, ⟨ws, hws, hc⟩, h4⟩ := step_sound hp h fun acc' hk' => ih acc' [] σ left' fws hk' hf
    cases hw
    -- after the free element nothing is left, so the remaining elements are determined ones
    obtain ⟨rfl, rfl⟩ : left' = [] ∧ ws = fws := by
      rcases hc with ⟨hl, hw⟩ | ⟨w0, hl, _, _⟩
      · exact ⟨hl, hw⟩
      · cases hl
    refine ⟨⟨w :: ws, ?_, Or.inr ⟨w, rfl, rfl, List.Perm.refl _⟩⟩,
      h4.congr fun y => by simp only [namesEltsNR, hrn, List.mem_append]⟩
    simp only [RElts, hrn]; exact ⟨w, ws, rfl, h1, hws⟩

theorem arr_sound {ρ : Env} {items : List (Pat × Option FExpr)} (hsub : ∀ q, q ∈ items → SoundAt ρ q.1) :
    SoundAt ρ (.arr items) := by
  intro v s h
  rw [Spec.bind_arr] at h
  obtain ⟨xs, ha, hb⟩ := Option.bind_eq_some_iff.1 h
  obtain ⟨h2, h3⟩ := bindItems_sound_of ρ items hsub [] xs s hb
  exact ⟨by simp only [Rebuilds]; exact ⟨xs, (asArr_iff v xs).1 ha, h2⟩, fun y => by rw [h3.nil_dom y, names]⟩

theorem tup_sound {ρ : Env} {attrs : List (String × Pat × Option FExpr)} (hsub : ∀ q, q ∈ attrs → SoundAt ρ q.2.1) :
    SoundAt ρ (.tup attrs) := by
  intro v s h
  obtain ⟨kvs, rfl⟩ := Spec.bind_tup_some h
  rw [Spec.bind_tup] at h
  split at h
  · next hnd =>
    obtain ⟨acc, hb, hl⟩ := Option.bind_eq_some_iff.1 h
    obtain ⟨h2, h3⟩ := bindAttrs_sound_of ρ kvs attrs hsub [] acc hb
    obtain ⟨g1, g2, g3⟩ := bindLeft_sound hl
    refine ⟨?_, fun y => ((h3.trans g3).nil_dom y).trans (by rw [names]; exact (mem_namesAttrs y attrs).symm)⟩
    simp only [Rebuilds]
    exact ⟨kvs, rfl, hnd, RAttrs_mono_of attrs (fun q _ => Rebuilds_mono g3.1 q.2.1) kvs h2, g1,
      fun hr kv hkv => by simpa using List.all_eq_true.1 (g2 hr) kv hkv⟩
  · cases h

theorem dict_sound {ρ : Env} {ents : List (Lit × Pat × Option FExpr)} (hsub : ∀ q, q ∈ ents → SoundAt ρ q.2.1) :
    SoundAt ρ (.dict ents) := by
  intro v s h
  rw [Spec.bind_dict] at h
  obtain ⟨kvs, ha, h⟩ := Option.bind_eq_some_iff.1 h
  obtain ⟨hv, hkn⟩ := (asDict_iff v kvs).1 ha
  split at h
  · next hnd =>
    obtain ⟨acc, hb, hl⟩ := Option.bind_eq_some_iff.1 h
    obtain ⟨h2, h3⟩ := bindEnts_sound_of ρ kvs ents hsub [] acc hb
    obtain ⟨g1, g2, g3⟩ := bindLeft_sound hl
    refine ⟨?_, fun y => ((h3.trans g3).nil_dom y).trans (by rw [names]; exact (mem_namesEnts y ents).symm)⟩
    simp only [Rebuilds]
    exact ⟨kvs, hv, hkn, hnd, REnts_mono_of ents (fun q _ => Rebuilds_mono g3.1 q.2.1) kvs h2, g1,
      fun hr kv hkv => by simpa using List.all_eq_true.1 (g2 hr) kv hkv⟩
  · cases h

/-- `hc`: what `bindElts_sound_of` concludes -/
theorem members_of_bindElts {ms fws ws left' : List V} (hfnd : fws.Nodup) (hfall : ∀ w, w ∈ fws → w ∈ ms)
    (hc : (left' = ms.filter (fun m => !decide (m ∈ fws)) ∧ ws = fws) ∨
      ∃ w, ms.filter (fun m => !decide (m ∈ fws)) = [w] ∧ left' = [] ∧ ws.Perm (w :: fws)) :
    ws.Nodup ∧ (∀ w, w ∈ ws → w ∈ ms) ∧ ms.filter (fun m => !decide (m ∈ ws)) = left' := by
  rcases hc with ⟨rfl, rfl⟩ | ⟨w, hl, rfl, hperm⟩
  · exact ⟨hfnd, hfall, rfl⟩
  · have hmem : ∀ m, m ∈ ms ∧ m ∉ fws ↔ m = w := fun m => by
      rw [← List.mem_singleton, ← hl, List.mem_filter, Bool.not_eq_true', decide_eq_false_iff_not]
    have hw := (hmem w).2 rfl
    refine ⟨hperm.nodup_iff.2 (List.nodup_cons.2 ⟨hw.2, hfnd⟩), fun w' hw' => ?_, ?_⟩
    · rcases List.mem_cons.1 (hperm.mem_iff.1 hw') with rfl | hw'
      · exact hw.1
      · exact hfall w' hw'
    · rw [List.filter_eq_nil_iff]
      intro m hm
      simp only [Bool.not_eq_true', decide_eq_false_iff_not, Decidable.not_not]
      by_cases hmf : m ∈ fws
      · exact hperm.mem_iff.2 (List.mem_cons_of_mem _ hmf)
      · exact hperm.mem_iff.2 ((hmem m).1 ⟨hm, hmf⟩ ▸ List.mem_cons_self ..)

theorem set_sound {ρ : Env} {elts : List Pat} (hsub : ∀ q, q ∈ elts → SoundAt ρ q) : SoundAt ρ (.set elts) := by
  intro v s h
  rw [Spec.bind_set] at h
  obtain ⟨ms, hset, h⟩ := Option.bind_eq_some_iff.1 h
  obtain ⟨fws, hf, h⟩ := Option.bind_eq_some_iff.1 h
  obtain ⟨hv, hmnd⟩ := (asSet_iff v ms).1 hset
  split at h
  · next hfw =>
    obtain ⟨⟨acc, left⟩, hb, hl⟩ := Option.bind_eq_some_iff.1 h
    obtain ⟨⟨ws, hws, hcase⟩, h3⟩ := bindElts_sound_of ρ elts hsub [] _ acc left fws hb hf
    obtain ⟨g1, g2, g3⟩ := bindLeft_sound hl
    obtain ⟨hnd, hsub', hfilt⟩ :=
      members_of_bindElts hfw.1 (fun w hw => by simpa using List.all_eq_true.1 hfw.2 w hw) hcase
    refine ⟨?_, fun y => ((h3.trans g3).nil_dom y).trans (by rw [names]; exact (mem_namesElts y elts).symm)⟩
    simp only [Rebuilds]
    refine ⟨ms, ws, hv, hmnd, hnd, hsub', RElts_mono_of elts (fun q _ => Rebuilds_mono g3.1 q) ws hws, hfilt ▸ g1,
      fun hr m hm => ?_⟩
    have := hfilt.trans (g2 hr)
    rw [List.filter_eq_nil_iff] at this
    simpa using this m hm
  · cases h

theorem bind_sound (ρ : Env) : ∀ (p : Pat) (v : V) (s : Env), Spec.bind ρ p v = some s →
    Rebuilds ρ s p v ∧ ∀ y, (s.lookup y).isSome = true ↔ y ∈ names p := by
  intro p
  induction p using Pat.induct with
  | lit l =>
    intro v s h
    rw [Spec.bind] at h
    split at h
    · next hv => cases h; exact ⟨by simp only [Rebuilds]; exact hv, by simp [names]⟩
    · cases h
  | name x =>
    intro v s h
    rw [Spec.bind] at h
    cases h
    refine ⟨?_, fun y => ?_⟩
    · simp only [Rebuilds]
      exact single_le.1 fun _ _ h => h
    · rw [lookup_single, names]
      by_cases hx : x = "_"
      · simp [hx]
      · by_cases hy : y = x <;> simp [hx, hy]
  | exprs es =>
    intro v s h
    rw [Spec.bind] at h
    split at h
    · next he =>
      cases h
      obtain ⟨e, he, hd⟩ := List.any_eq_true.1 he
      exact ⟨by simp only [Rebuilds]; exact ⟨e, he, by simpa using hd⟩, by simp [names]⟩
    · cases h
  | rest x => exact rest_sound ρ x
  | arr items ih => exact arr_sound ih
  | tup attrs ih => exact tup_sound ih
  | dict ents ih => exact dict_sound ih
  | set elts ih => exact set_sound ih

theorem bindItems_sound (ρ : Env) : ∀ (items : List (Pat × Option FExpr)) (acc : Env) (xs : List V) (σ : Env),
    Spec.bindItems ρ acc items xs = some σ → RItems ρ σ items xs ∧ Ext acc σ (fun y => y ∈ namesItems items) :=
  fun items => bindItems_sound_of ρ items (fun q _ => bind_sound ρ q.1)

theorem bindAttrs_sound (ρ : Env) : ∀ (attrs : List (String × Pat × Option FExpr)) (acc : Env)
    (kvs : List (String × V)) (σ : Env), Spec.bindAttrs ρ acc attrs kvs = some σ →
    RAttrs ρ σ attrs kvs ∧ Ext acc σ (fun y => y ∈ namesAttrsNR attrs) :=
  fun attrs acc kvs σ => bindAttrs_sound_of ρ kvs attrs (fun q _ => bind_sound ρ q.2.1) acc σ

theorem bindEnts_sound (ρ : Env) : ∀ (ents : List (Lit × Pat × Option FExpr)) (acc : Env)
    (kvs : List (V × V)) (σ : Env), Spec.bindEnts ρ acc ents kvs = some σ →
    REnts ρ σ ents kvs ∧ Ext acc σ (fun y => y ∈ namesEntsNR ents) :=
  fun ents acc kvs σ => bindEnts_sound_of ρ kvs ents (fun q _ => bind_sound ρ q.2.1) acc σ

theorem bindElts_sound (ρ : Env) : ∀ (elts : List Pat) (acc : Env) (left : List V) (σ : Env) (left' fws : List V),
    Spec.bindElts ρ acc elts left = some (σ, left') → fixedValues ρ elts = some fws →
    Env.le acc σ ∧ (∀ y, (σ.lookup y).isSome = true ↔ ((acc.lookup y).isSome = true ∨ y ∈ namesEltsNR elts)) ∧
    ∃ ws, RElts ρ σ elts ws ∧
      ((left' = left ∧ ws = fws) ∨ (∃ w, left = [w] ∧ left' = [] ∧ ws.Perm (w :: fws))) :=
  fun elts acc left σ left' fws h hf =>
    have ⟨h2, h1⟩ := bindElts_sound_of ρ elts (fun q _ => bind_sound ρ q) acc left σ left' fws h hf
    ⟨h1.1, h1.2, h2⟩

/-! ## completeness of `Spec.bind` on deterministic patterns -/

abbrev CompleteAt (ρ σ : Env) (p : Pat) : Prop :=
  ∀ v, Rebuilds ρ σ p v → ∃ s, Spec.bind ρ p v = some s ∧ Env.le s σ

theorem step_complete {ρ σ acc : Env} {p : Pat} {w : V} (hp : CompleteAt ρ σ p) (hw : Rebuilds ρ σ p w)
    (hacc : Env.le acc σ) :
    ∃ acc', (∀ {α : Type} (k : Env → Option α), Spec.step ρ acc p (some w) k = k acc') ∧ Env.le acc' σ := by
  obtain ⟨s, hb, hs⟩ := hp w hw
  obtain ⟨acc', hm, hle⟩ := matchedUpdate_complete hacc hs
  exact ⟨acc', fun k => by simp only [Spec.step, hb, hm], hle⟩

theorem rest_complete (ρ σ : Env) (t : String) : CompleteAt ρ σ (.rest t) := by
  intro v h
  simp only [Rebuilds] at h
  exact ⟨_, Spec.bind_rest ρ t v, singleRest_le.2 h⟩

theorem bindRests_complete {σ : Env} {w : V} : ∀ (ts : List String), (∀ t, t ∈ ts → restHolds σ t w) →
    ∀ acc, Env.le acc σ → ∃ σ', bindRests acc w ts = some σ' ∧ Env.le σ' σ := by
  refine forall_mem_rec (fun acc hacc => ⟨acc, rfl, hacc⟩) fun t r ht ih acc hacc => ?_
  obtain ⟨acc', he, hle⟩ := step_complete (rest_complete [] σ t) ht hacc
  rw [bindRests_cons [], he]
  exact ih acc' hle

theorem bindLeft_complete {acc σ : Env} {rests : List String} {nl : Prop} [Decidable nl] {left : V}
    (hr : ∀ t, t ∈ rests → restHolds σ t left) (hnl : rests = [] → nl) (hacc : Env.le acc σ) :
    ∃ σ', bindLeft acc rests nl left = some σ' ∧ Env.le σ' σ := by
  cases rests with
  | nil => exact ⟨acc, by rw [bindLeft_nil, if_pos (hnl rfl)], hacc⟩
  | cons t r => rw [bindLeft_cons]; exact bindRests_complete _ hr acc hacc

/-- items without `...` and without fallbacks consume exactly one item each -/
theorem RItems_plain_length {ρ σ : Env} : ∀ (r : List (Pat × Option FExpr)) (xs : List V),
    r.all (fun q => !q.1.isRest && q.2.isNone) = true → RItems ρ σ r xs → xs.length = r.length
  | [], xs, _, h => by simp only [RItems] at h; simp [h]
  | (p, fb) :: r, xs, hall, h => by
    simp only [List.all_cons, Bool.and_eq_true, Bool.not_eq_true', Option.isNone_iff_eq_none] at hall
    obtain ⟨⟨hp, hfb⟩, hr⟩ := hall
    have hrn := restName_none_of_not_isRest hp
    simp only [RItems, hrn] at h
    rcases h with ⟨x, tail, rfl, _, hi⟩ | ⟨d, hd, _, _, _⟩
    · simp [RItems_plain_length r tail hr hi]
    · rw [hfb] at hd; simp [fbVal] at hd

theorem detItemsShape_of_plain : ∀ (r : List (Pat × Option FExpr)),
    r.all (fun q => !q.1.isRest && q.2.isNone) = true → detItemsShape r = true
  | [], _ => rfl
  | (p, fb) :: r, h => by
    simp only [List.all_cons, Bool.and_eq_true, Bool.not_eq_true'] at h
    simp only [detItemsShape, h.1.1]
    exact detItemsShape_of_plain r h.2

theorem bindItems_complete_of (ρ σ : Env) : ∀ (items : List (Pat × Option FExpr)),
    (∀ q, q ∈ items → CompleteAt ρ σ q.1) → ∀ acc xs, detItemsShape items = true → RItems ρ σ items xs →
    Env.le acc σ → ∃ σ', Spec.bindItems ρ acc items xs = some σ' ∧ Env.le σ' σ := by
  refine forall_mem_rec ?_ ?_
  · intro acc xs _ h hacc
    simp only [RItems] at h
    exact ⟨acc, by rw [Spec.bindItems_nil, if_pos h], hacc⟩
  rintro ⟨p, fb⟩ r hp ih acc xs hsh h hacc
  cases hrn : restName p with
  | some t =>
    obtain rfl := restName_some hrn
    rw [detItemsShape, if_pos (isRest_of hrn)] at hsh
    simp only [RItems, restName] at h
    obtain ⟨seg, tail, rfl, hrest, hi⟩ := h
    -- the later items take one item each, so `...` gets exactly `seg`
    have hlen := RItems_plain_length r tail hsh hi
    have hk : (seg ++ tail).length - r.length = seg.length := by simp [hlen]
    obtain ⟨acc', he, hle⟩ := step_complete hp hrest hacc
    rw [Spec.bindItems_rest, if_pos (by simp [hlen]), hk, List.take_left' rfl, List.drop_left' rfl, he]
    exact ih acc' tail (detItemsShape_of_plain r hsh) hi hle
  | none =>
    rw [detItemsShape, isRest_false_of hrn] at hsh
    simp only [RItems, hrn] at h
    rw [Spec.bindItems_cons hrn]
    rcases h with ⟨x, tail, rfl, hpx, hi⟩ | ⟨d, hfv, rfl, hpd, hi⟩
    · obtain ⟨acc', he, hle⟩ := step_complete hp hpx hacc
      rw [List.head?_cons, Option.some_or, he]
      exact ih acc' tail hsh hi hle
    · obtain ⟨acc', he, hle⟩ := step_complete hp hpd hacc
      rw [List.head?_nil, Option.none_or, hfv, he]
      exact ih acc' [] hsh hi hle

theorem bindAttrs_complete_of (ρ σ : Env) (kvs : List (String × V)) : ∀ (attrs : List (String × Pat × Option FExpr)),
    (∀ q, q ∈ attrs → CompleteAt ρ σ q.2.1) → ∀ acc, RAttrs ρ σ attrs kvs → Env.le acc σ →
    ∃ σ', Spec.bindAttrs ρ acc attrs kvs = some σ' ∧ Env.le σ' σ := by
  refine forall_mem_rec (fun acc _ hacc => ⟨acc, rfl, hacc⟩) ?_
  rintro ⟨n, p, fb⟩ r hp ih acc h hacc
  simp only [RAttrs] at h
  cases hrn : restName p with
  | some t => rw [Spec.bindAttrs_rest hrn]; exact ih acc h.2 hacc
  | none =>
    rw [hrn] at h
    obtain ⟨⟨w, hw, hpw⟩, hr⟩ := h
    obtain ⟨acc', he, hle⟩ := step_complete hp hpw hacc
    rw [Spec.bindAttrs_cons hrn, hw, he]
    exact ih acc' hr hle

theorem bindEnts_complete_of (ρ σ : Env) (kvs : List (V × V)) : ∀ (ents : List (Lit × Pat × Option FExpr)),
    (∀ q, q ∈ ents → CompleteAt ρ σ q.2.1) → ∀ acc, REnts ρ σ ents kvs → Env.le acc σ →
    ∃ σ', Spec.bindEnts ρ acc ents kvs = some σ' ∧ Env.le σ' σ := by
  refine forall_mem_rec (fun acc _ hacc => ⟨acc, rfl, hacc⟩) ?_
  rintro ⟨k, p, fb⟩ r hp ih acc h hacc
  simp only [REnts] at h
  cases hrn : restName p with
  | some t => rw [Spec.bindEnts_rest hrn]; exact ih acc h.2 hacc
  | none =>
    rw [hrn] at h
    obtain ⟨⟨w, hw, hpw⟩, hr⟩ := h
    obtain ⟨acc', he, hle⟩ := step_complete hp hpw hacc
    rw [Spec.bindEnts_cons hrn, hw, he]
    exact ih acc' hr hle

/-- a nodup list whose only possible member is `w`, and which has `w` -/
theorem nodup_singleton {α : Type} {l : List α} {w : α} (hn : l.Nodup) (hm : ∀ m, m ∈ l ↔ m = w) : l = [w] :=
  eq_singleton_of_all_eq (List.ne_nil_of_mem ((hm w).2 rfl)) hn fun m h => (hm m).1 h

theorem restsElts_nil_of_count {elts : List Pat} (h : countKind .rest elts = 0) : restsElts elts = [] := by
  induction elts with
  | nil => rfl
  | cons p r ih =>
    rw [countKind_cons] at h
    by_cases hk : eltKind p = .rest
    · simp [hk] at h
    · simp only [hk, if_false, Nat.zero_add] at h
      simp only [restsElts, eltKind_ne_rest rfl hk, List.nil_append]
      exact ih h

theorem fixedValues_nofree {ρ σ : Env} : ∀ (elts : List Pat) (ws : List V),
    countKind .free elts = 0 → RElts ρ σ elts ws → fixedValues ρ elts = some ws
  | [], ws, _, h => by
    simp only [RElts] at h
    subst h
    rfl
  | p :: r, ws, hc, h => by
    rw [countKind_cons] at hc
    have hc' : countKind .free r = 0 := by omega
    cases hrn : restName p with
    | some t =>
      obtain rfl := restName_some hrn
      simp only [RElts, restName] at h
      rw [fixedValues_skip rfl]
      exact fixedValues_nofree r ws hc' h
    | none =>
      have hkf : eltKind p = .fixed := by
        cases hk' : eltKind p with
        | fixed => rfl
        | free => simp [hk'] at hc
        | rest => obtain ⟨t, rfl⟩ := eltKind_rest hk'; cases hrn
      simp only [RElts, hrn] at h
      obtain ⟨w, tail, rfl, hp, hr⟩ := h
      exact (fixedValues_fixed hkf).2 ⟨w, tail, ((eltKind_fixed hkf).2 σ w).2 hp, fixedValues_nofree r tail hc' hr, rfl⟩

/-- elements with exactly one free element: it takes the one member handed to the loop -/
theorem bindElts_free_of (ρ σ : Env) : ∀ (elts : List Pat), (∀ q, q ∈ elts → CompleteAt ρ σ q) →
    ∀ ws acc, countKind .free elts = 1 → RElts ρ σ elts ws → Env.le acc σ →
    ∃ fws w σ', fixedValues ρ elts = some fws ∧ ws.Perm (w :: fws) ∧
      Spec.bindElts ρ acc elts [w] = some (σ', []) ∧ Env.le σ' σ := by
  refine forall_mem_rec (fun _ _ hc => by simp [countKind] at hc) fun p r hp ih ws acc hc h hacc => ?_
  rw [countKind_cons] at hc
  cases hk : eltKind p with
  | rest =>
    obtain ⟨t, rfl⟩ := eltKind_rest hk
    simp only [RElts, restName] at h
    obtain ⟨fws, w, σ', h1, h2, h3, h4⟩ := ih ws acc (by simpa [hk] using hc) h hacc
    exact ⟨fws, w, σ', by rw [fixedValues_skip hk]; exact h1, h2,
      by rw [Spec.bindElts_cons_skip hk]; exact h3, h4⟩
  | fixed =>
    have hrn := eltKind_ne_rest hk
    simp only [RElts, hrn] at h
    obtain ⟨w1, tail, rfl, hpw, hr⟩ := h
    obtain ⟨fws, w, σ', h1, h2, h3, h4⟩ := ih tail acc (by simpa [hk] using hc) hr hacc
    exact ⟨w1 :: fws, w, σ', (fixedValues_fixed hk).2 ⟨w1, fws, ((eltKind_fixed hk).2 σ w1).2 hpw, h1, rfl⟩,
      (List.Perm.cons w1 h2).trans (List.Perm.swap w w1 fws),
      by rw [Spec.bindElts_cons_skip hk]; exact h3, h4⟩
  | free =>
    have hrn := eltKind_ne_rest hk
    simp only [RElts, hrn] at h
    obtain ⟨w, tail, rfl, hpw, hr⟩ := h
    have hc' : countKind .free r = 0 := by simpa [hk] using hc
    obtain ⟨acc', he, hle⟩ := step_complete hp hpw hacc
    exact ⟨tail, w, acc', by rw [fixedValues_skip hk]; exact fixedValues_nofree r tail hc' hr, List.Perm.refl _,
      by rw [Spec.bindElts_cons_free hk, he]; exact Spec.bindElts_nofree ρ r hc' acc' [], hle⟩

theorem arr_complete {ρ σ : Env} {items : List (Pat × Option FExpr)} (hsub : ∀ q, q ∈ items → CompleteAt ρ σ q.1)
    (hsh : detItemsShape items = true) : CompleteAt ρ σ (.arr items) := by
  intro v h
  simp only [Rebuilds] at h
  obtain ⟨xs, rfl, hi⟩ := h
  rw [Spec.bind_arr, asArr_mkArr]
  exact bindItems_complete_of ρ σ items hsub [] xs hsh hi (Env.nil_le _)

theorem tup_complete {ρ σ : Env} {attrs : List (String × Pat × Option FExpr)}
    (hsub : ∀ q, q ∈ attrs → CompleteAt ρ σ q.2.1) : CompleteAt ρ σ (.tup attrs) := by
  intro v h
  simp only [Rebuilds] at h
  obtain ⟨kvs, rfl, hnd, ha, hr, hc⟩ := h
  obtain ⟨acc, h1, h2⟩ := bindAttrs_complete_of ρ σ kvs attrs hsub [] ha (Env.nil_le _)
  rw [Spec.bind_tup, if_pos hnd, h1]
  exact bindLeft_complete hr (fun e => List.all_eq_true.2 fun kv hkv => by simpa using hc e kv hkv) h2

theorem dict_complete {ρ σ : Env} {ents : List (Lit × Pat × Option FExpr)}
    (hsub : ∀ q, q ∈ ents → CompleteAt ρ σ q.2.1) : CompleteAt ρ σ (.dict ents) := by
  intro v h
  simp only [Rebuilds] at h
  obtain ⟨kvs, rfl, hkn, hnd, ha, hr, hc⟩ := h
  obtain ⟨acc, h1, h2⟩ := bindEnts_complete_of ρ σ kvs ents hsub [] ha (Env.nil_le _)
  rw [Spec.bind_dict, (asDict_iff _ _).2 ⟨rfl, hkn⟩, Option.bind_some, if_pos hnd, h1]
  exact bindLeft_complete hr (fun e => List.all_eq_true.2 fun kv hkv => by simpa using hc e kv hkv) h2

theorem set_complete {ρ σ : Env} {elts : List Pat} (hsub : ∀ q, q ∈ elts → CompleteAt ρ σ q)
    (hcount : countKind .free elts + countKind .rest elts ≤ 1) : CompleteAt ρ σ (.set elts) := by
  intro v h
  simp only [Rebuilds] at h
  obtain ⟨ms, ws, rfl, hmnd, hwnd, hsub', he, hr, hc⟩ := h
  rw [Spec.bind_set, (asSet_iff _ _).2 ⟨rfl, hmnd⟩, Option.bind_some]
  by_cases hfree : countKind .free elts = 0
  · have hok : ws.Nodup ∧ ws.all (fun w => decide (w ∈ ms)) = true :=
      ⟨hwnd, List.all_eq_true.2 (fun w hw => by simpa using hsub' w hw)⟩
    rw [fixedValues_nofree elts ws hfree he, Option.bind_some, if_pos hok, Spec.bindElts_nofree ρ elts hfree,
      Option.bind_some]
    exact bindLeft_complete hr (fun e => List.filter_eq_nil_iff.2 fun m hm => by simpa using hc e m hm)
      (Env.nil_le _)
  · have hrests := restsElts_nil_of_count (by omega : countKind .rest elts = 0)
    obtain ⟨fws, w, σ', hf, hperm, hloop, hle⟩ := bindElts_free_of ρ σ elts hsub ws [] (by omega) he (Env.nil_le _)
    have hnd' : (w :: fws).Nodup := hperm.nodup_iff.1 hwnd
    have hok : fws.Nodup ∧ fws.all (fun w => decide (w ∈ ms)) = true :=
      ⟨(List.nodup_cons.1 hnd').2, List.all_eq_true.2 (fun w' hw' => by
        simpa using hsub' w' (hperm.mem_iff.2 (List.mem_cons_of_mem _ hw')))⟩
    -- the one member left by the determined elements is the free element's
    have hleft : ms.filter (fun m => !decide (m ∈ fws)) = [w] := by
      apply nodup_singleton (List.Nodup.sublist List.filter_sublist hmnd)
      intro m
      simp only [List.mem_filter, Bool.not_eq_true', decide_eq_false_iff_not]
      constructor
      · rintro ⟨hm, hmf⟩
        exact (List.mem_cons.1 (hperm.mem_iff.1 (hc hrests m hm))).resolve_right hmf
      · rintro rfl
        exact ⟨hsub' _ (hperm.mem_iff.2 (List.mem_cons_self ..)), (List.nodup_cons.1 hnd').1⟩
    rw [hf, Option.bind_some, if_pos hok, hleft, hloop, Option.bind_some]
    exact ⟨σ', by rw [hrests, bindLeft_nil, if_pos rfl], hle⟩

/-- Of `det p` the proof uses, besides `det` of the components, only the shape of an array pattern (`detItemsShape`)
and the count of free and `...` elements of a set pattern; at most one `...` in a tuple or dict pattern and no
alternatives in a set pattern are not needed (those the code rejects as non-deterministic). -/
theorem bind_complete (ρ σ : Env) : ∀ (p : Pat) (v : V), det p = true → Rebuilds ρ σ p v →
    ∃ s, Spec.bind ρ p v = some s ∧ Env.le s σ := by
  intro p
  induction p using Pat.induct with
  | lit l =>
    intro v _ h
    simp only [Rebuilds] at h
    exact ⟨[], by rw [Spec.bind, if_pos h], Env.nil_le _⟩
  | name x =>
    intro v _ h
    simp only [Rebuilds] at h
    exact ⟨single x v, by rw [Spec.bind], single_le.2 h⟩
  | exprs es =>
    intro v _ h
    simp only [Rebuilds] at h
    obtain ⟨e, he, hv⟩ := h
    exact ⟨[], by rw [Spec.bind, if_pos (List.any_eq_true.2 ⟨e, he, by simpa using hv⟩)], Env.nil_le _⟩
  | rest x => exact fun v _ => rest_complete ρ σ x v
  | arr items ih =>
    intro v hd
    simp only [det, Bool.and_eq_true] at hd
    exact arr_complete (fun q hq v => ih q hq v ((detItems_iff _).1 hd.2 q hq)) hd.1 v
  | tup attrs ih =>
    intro v hd
    simp only [det, Bool.and_eq_true] at hd
    exact tup_complete (fun q hq v => ih q hq v ((detAttrs_iff _).1 hd.2 q hq)) v
  | dict ents ih =>
    intro v hd
    simp only [det, Bool.and_eq_true] at hd
    exact dict_complete (fun q hq v => ih q hq v ((detEnts_iff _).1 hd.2 q hq)) v
  | set elts ih =>
    intro v hd
    simp only [det, Bool.and_eq_true, decide_eq_true_eq] at hd
    exact set_complete (fun q hq v => ih q hq v ((detElts_iff _).1 hd.2 q hq)) hd.1.1 v

theorem bindItems_complete (ρ σ : Env) : ∀ (items : List (Pat × Option FExpr)) (acc : Env) (xs : List V),
    detItemsShape items = true → detItems items = true → RItems ρ σ items xs → Env.le acc σ →
    ∃ σ', Spec.bindItems ρ acc items xs = some σ' ∧ Env.le σ' σ :=
  fun items acc xs hsh hd => bindItems_complete_of ρ σ items
    (fun q hq v => bind_complete ρ σ q.1 v ((detItems_iff _).1 hd q hq)) acc xs hsh

theorem bindAttrs_complete (ρ σ : Env) : ∀ (attrs : List (String × Pat × Option FExpr)) (acc : Env)
    (kvs : List (String × V)), detAttrs attrs = true → RAttrs ρ σ attrs kvs → Env.le acc σ →
    ∃ σ', Spec.bindAttrs ρ acc attrs kvs = some σ' ∧ Env.le σ' σ :=
  fun attrs acc kvs hd => bindAttrs_complete_of ρ σ kvs attrs
    (fun q hq v => bind_complete ρ σ q.2.1 v ((detAttrs_iff _).1 hd q hq)) acc

theorem bindEnts_complete (ρ σ : Env) : ∀ (ents : List (Lit × Pat × Option FExpr)) (acc : Env)
    (kvs : List (V × V)), detEnts ents = true → REnts ρ σ ents kvs → Env.le acc σ →
    ∃ σ', Spec.bindEnts ρ acc ents kvs = some σ' ∧ Env.le σ' σ :=
  fun ents acc kvs hd => bindEnts_complete_of ρ σ kvs ents
    (fun q hq v => bind_complete ρ σ q.2.1 v ((detEnts_iff _).1 hd q hq)) acc

theorem bindElts_free (ρ σ : Env) : ∀ (elts : List Pat) (ws : List V) (acc : Env),
    detElts elts = true → countKind .free elts = 1 → RElts ρ σ elts ws → Env.le acc σ →
    ∃ fws w σ', fixedValues ρ elts = some fws ∧ ws.Perm (w :: fws) ∧
      Spec.bindElts ρ acc elts [w] = some (σ', []) ∧ Env.le σ' σ :=
  fun elts ws acc hd => bindElts_free_of ρ σ elts
    (fun q hq v => bind_complete ρ σ q v ((detElts_iff _).1 hd q hq)) ws acc

end Arrai.C09
