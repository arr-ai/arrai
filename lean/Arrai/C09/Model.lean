/-
  C09 — pattern matching binds exactly what construction would produce.

  `Pat`      patterns as written (literals, names, `_`, `(expr)`, array / tuple / dict / set patterns,
             `...rest`, `?:` fallbacks, nested to any depth) with `Pat.src`.
  `Rebuilds` the specification: the pattern read as an expression with holes; `Rebuilds ρ σ p v` says that
             under the bindings `σ` (and the enclosing scope `ρ` for `(x)`) the pattern can evaluate to `v`.
  `Spec.bind` a decision procedure for it (deterministic patterns).
  `Impl.bind` transliteration of rel/pattern_*.go + Scope.MatchedUpdate (as repaired).

  Values are `Arrai.V`; the Go type switches (`value.(Array)`, `.(Dict)`, `.(Tuple)`, `.(Set)`) are the
  views `asArr`, `asDict`, `.tup`, `asSet` of the denotation.  Core-only.
-/
import Arrai.Core.Lit

namespace Arrai.C09
open Arrai

/-! ## Values: array and dict views -/

def itemTup (i : Int) (x : V) : V := .tup [("@", .num i), ("@item", x)]
def entryTup (k x : V) : V := .tup [("@", k), ("@value", x)]

/-- values of the first two attributes of a tuple (arbitrary for anything else) -/
def attr2 : V → V × V
  | .tup ((_, a) :: (_, b) :: _) => (a, b)
  | _ => (.num 0, .num 0)

def mkArrFrom (i : Int) : List V → List V
  | [] => []
  | x :: r => itemTup i x :: mkArrFrom (i + 1) r

/-- `[x₀, x₁, …]` as a value: `{(@: 0, @item: x₀), (@: 1, @item: x₁), …}` (`[]` is `{}`) -/
def mkArr (xs : List V) : V := .set (mkArrFrom 0 xs)

def asArrFrom (i : Int) : List V → Option (List V)
  | [] => some []
  | m :: r =>
    if m = itemTup i (attr2 m).2 then (asArrFrom (i + 1) r).map ((attr2 m).2 :: ·) else none

/-- the items of a dense array starting at index 0 (Go: `value.(Array)` with offset 0 and no holes, or `EmptySet`) -/
def asArr : V → Option (List V)
  | .set ms => asArrFrom 0 ms
  | _ => none

/-- `{k₀: x₀, …}` as a value -/
def mkDict (kvs : List (V × V)) : V := .set (kvs.map (fun kv => entryTup kv.1 kv.2))

def asEntries : List V → Option (List (V × V))
  | [] => some []
  | m :: r => if m = entryTup (attr2 m).1 (attr2 m).2 then (asEntries r).map (attr2 m :: ·) else none

/-- the entries of a dict with single-valued keys (Go: `value.(Dict)`, or `EmptySet`) -/
def asDict : V → Option (List (V × V))
  | .set ms =>
    match asEntries ms with
    | some kvs => if (kvs.map (·.1)).Nodup then some kvs else none
    | none => none
  | _ => none

/-- the members of a set (any set-like value; Go: `value.(Set)`); member lists never repeat a member -/
def asSet : V → Option (List V)
  | .set ms => if ms.Nodup then some ms else none
  | _ => none

/-! ## Scopes -/

abbrev Env := List (String × V)

/-- `Scope{}.With(name, value)`: the name `_` is never bound -/
def single (x : String) (v : V) : Env := if x = "_" then [] else [(x, v)]

/-- `ExtraElementPattern.Bind`: `...` binds nothing, `...x` binds `x` -/
def singleRest (x : String) (v : V) : Env := if x = "" then [] else single x v

/-- `Scope.MatchedUpdate` (as repaired: bindings of a name in both scopes must be equal values) -/
def matchedUpdate (s t : Env) : Option Env :=
  -- for each name of s: if t binds it too, to a different value: error; otherwise s.Update(t)
  if s.all (fun nv => match t.lookup nv.1, s.lookup nv.1 with
      | some w, some v => decide (w = v)
      | _, _ => true)
  then some (t ++ s) else none

/-- `Scope.MatchedUpdate` BEFORE the repair: two bindings of a name were compared by their printed form
(`str` stands for Go's `String()`) -/
def matchedUpdateOld (str : V → String) (s t : Env) : Option Env :=
  if s.all (fun nv => match t.lookup nv.1, s.lookup nv.1 with
      | some w, some v => str w == str v
      | _, _ => true)
  then some (t ++ s) else none

/-- sub-scope: every binding of `s` is a binding of `t` -/
def Env.le (s t : Env) : Prop := ∀ x w, s.lookup x = some w → t.lookup x = some w
/-- same bindings -/
def Env.equiv (s t : Env) : Prop := ∀ x, s.lookup x = t.lookup x

/-! ## Patterns -/

/-- the expressions allowed as `?:` fallbacks: closed literals, names of the enclosing scope, and `name + k`
(FallbackPattern's `fallback.Eval(ctx, local)`: evaluated in the scope that ENCLOSES the whole pattern) -/
inductive FExpr where
  | lit (l : Lit)
  | var (x : String)
  | add (x : String) (k : Int)
  deriving Inhabited

def FExpr.eval (ρ : Env) : FExpr → Option V
  | .lit l => some l.den
  | .var x => ρ.lookup x
  | .add x k =>
    match ρ.lookup x with
    | some (.num n) => some (.num (n + k))
    | _ => none

/-- the value of a `?:` fallback in the enclosing scope (none: no fallback, or it cannot be evaluated) -/
def fbVal (ρ : Env) (fb : Option FExpr) : Option V :=
  match fb with
  | some d => d.eval ρ
  | none => none

/-- the expressions allowed inside `( … )`: closed literals and names of the enclosing scope -/
inductive PExpr where
  | lit (l : Lit)
  | var (x : String)
  deriving Inhabited

def PExpr.eval (ρ : Env) : PExpr → Option V
  | .lit l => some l.den
  | .var x => ρ.lookup x

inductive Pat where
  | lit (l : Lit)                                   -- NUM, true, false   (rel.ExprPattern holding a value)
  | name (x : String)                               -- IDENT, `_` included (rel.IdentPattern)
  | exprs (es : List PExpr)                         -- `(e₁, …)` or a string (rel.ExprsPattern)
  | rest (x : String)                               -- `...x`, `...` is `rest ""` (rel.ExtraElementPattern)
  | arr (items : List (Pat × Option FExpr))           -- `[p, ?p:d, ...t]`
  | tup (attrs : List (String × Pat × Option FExpr))  -- `(a: p, b?: p:d, ...t)`; for `...t` the name is ""
  | dict (ents : List (Lit × Pat × Option FExpr))     -- `{k: p, k?: p:d, ...t}`; for `...t` the key is unused
  | set (elts : List Pat)                           -- `{p, q, ...t}`
  deriving Inhabited

def restName : Pat → Option String
  | .rest x => some x
  | _ => none

def Pat.isRest (p : Pat) : Bool := (restName p).isSome

/-- `...x` binds `x` (`...` and `..._` bind nothing) -/
def bindable (x : String) : Bool := x != "_" && x != ""

/-! the names a pattern binds -/
mutual
def names : Pat → List String
  | .lit _ => []
  | .name x => if x = "_" then [] else [x]
  | .exprs _ => []
  | .rest x => if bindable x then [x] else []
  | .arr items => namesItems items
  | .tup attrs => namesAttrs attrs
  | .dict ents => namesEnts ents
  | .set elts => namesElts elts
def namesItems : List (Pat × Option FExpr) → List String
  | [] => []
  | (p, _) :: r => names p ++ namesItems r
def namesAttrs : List (String × Pat × Option FExpr) → List String
  | [] => []
  | (_, p, _) :: r => names p ++ namesAttrs r
def namesEnts : List (Lit × Pat × Option FExpr) → List String
  | [] => []
  | (_, p, _) :: r => names p ++ namesEnts r
def namesElts : List Pat → List String
  | [] => []
  | p :: r => names p ++ namesElts r
end

/-- attribute names / keys written in a tuple / dict pattern (the `...` entries excluded) -/
def attrNames : List (String × Pat × Option FExpr) → List String
  | [] => []
  | (n, p, _) :: r => if p.isRest then attrNames r else n :: attrNames r
def entKeys : List (Lit × Pat × Option FExpr) → List V
  | [] => []
  | (k, p, _) :: r => if p.isRest then entKeys r else k.den :: entKeys r
/-- the identifiers of the `...` parts of a container pattern -/
def restsItems : List (Pat × Option FExpr) → List String
  | [] => []
  | (p, _) :: r => (match restName p with | some t => [t] | none => []) ++ restsItems r
def restsAttrs : List (String × Pat × Option FExpr) → List String
  | [] => []
  | (_, p, _) :: r => (match restName p with | some t => [t] | none => []) ++ restsAttrs r
def restsEnts : List (Lit × Pat × Option FExpr) → List String
  | [] => []
  | (_, p, _) :: r => (match restName p with | some t => [t] | none => []) ++ restsEnts r
def restsElts : List Pat → List String
  | [] => []
  | p :: r => (match restName p with | some t => [t] | none => []) ++ restsElts r

/-- the value a keyed component is matched against: the attribute / entry when present, else the `?:` fallback -/
def compValue (ρ : Env) (found : Option V) (fb : Option FExpr) : Option V :=
  match found with
  | some w => some w
  | none => fbVal ρ fb

/-- `σ` gives the name of a `...t` the value `w` (`...` and `..._` bind nothing) -/
def restHolds (σ : Env) (t : String) (w : V) : Prop := bindable t = false ∨ σ.lookup t = some w

/-! ## Specification: the pattern read as an expression with holes

`Rebuilds ρ σ p v`: with the pattern's names bound as in `σ` (and `(x)` read in the enclosing scope `ρ`), the
pattern — read as the expression that would construct a value — can evaluate to `v`.  `_` and `...` are holes
(any value / any remaining part); `...t` stands for exactly the part of the value not named by the other
components; a `?:` fallback is used only for a component that is absent; the attribute names / keys / set
members named by one pattern are distinct (the expression would otherwise be an error). -/
mutual
def Rebuilds (ρ σ : Env) : Pat → V → Prop
  | .lit l, v => v = l.den
  | .name x, v => x = "_" ∨ σ.lookup x = some v
  | .exprs es, v => ∃ e, e ∈ es ∧ e.eval ρ = some v
  | .rest x, v => restHolds σ x v
  | .arr items, v => ∃ xs, v = mkArr xs ∧ RItems ρ σ items xs
  | .tup attrs, v => ∃ kvs, v = .tup kvs ∧ (attrNames attrs).Nodup ∧ RAttrs ρ σ attrs kvs ∧
      (∀ t, t ∈ restsAttrs attrs → restHolds σ t (.tup (kvs.filter (fun kv => !(attrNames attrs).contains kv.1)))) ∧
      (restsAttrs attrs = [] → ∀ kv, kv ∈ kvs → kv.1 ∈ attrNames attrs)
  | .dict ents, v => ∃ kvs, v = mkDict kvs ∧ (kvs.map (·.1)).Nodup ∧ (entKeys ents).Nodup ∧ REnts ρ σ ents kvs ∧
      (∀ t, t ∈ restsEnts ents → restHolds σ t (mkDict (kvs.filter (fun kv => !decide (kv.1 ∈ entKeys ents))))) ∧
      (restsEnts ents = [] → ∀ kv, kv ∈ kvs → kv.1 ∈ entKeys ents)
  | .set elts, v => ∃ ms ws, v = .set ms ∧ ms.Nodup ∧ ws.Nodup ∧ (∀ w, w ∈ ws → w ∈ ms) ∧ RElts ρ σ elts ws ∧
      (∀ t, t ∈ restsElts elts → restHolds σ t (.set (ms.filter (fun m => !decide (m ∈ ws))))) ∧
      (restsElts elts = [] → ∀ m, m ∈ ms → m ∈ ws)
/-- array items against the items still to be matched; `...` takes any segment -/
def RItems (ρ σ : Env) : List (Pat × Option FExpr) → List V → Prop
  | [], xs => xs = []
  | (p, fb) :: r, xs =>
    match restName p with
    | some t => ∃ seg tail, xs = seg ++ tail ∧ restHolds σ t (mkArr seg) ∧ RItems ρ σ r tail
    | none =>
      (∃ x tail, xs = x :: tail ∧ Rebuilds ρ σ p x ∧ RItems ρ σ r tail) ∨
      (∃ w, fbVal ρ fb = some w ∧ xs = [] ∧ Rebuilds ρ σ p w ∧ RItems ρ σ r [])
/-- every named attribute matches (the attribute itself, or its fallback when it is absent) -/
def RAttrs (ρ σ : Env) : List (String × Pat × Option FExpr) → List (String × V) → Prop
  | [], _ => True
  | (n, p, fb) :: r, kvs =>
    (match restName p with
     | some _ => True
     | none => ∃ w, compValue ρ (kvs.lookup n) fb = some w ∧ Rebuilds ρ σ p w) ∧ RAttrs ρ σ r kvs
def REnts (ρ σ : Env) : List (Lit × Pat × Option FExpr) → List (V × V) → Prop
  | [], _ => True
  | (k, p, fb) :: r, kvs =>
    (match restName p with
     | some _ => True
     | none => ∃ w, compValue ρ (kvs.lookup k.den) fb = some w ∧ Rebuilds ρ σ p w) ∧ REnts ρ σ r kvs
/-- the element patterns other than `...`, in order, against the distinct members chosen for them -/
def RElts (ρ σ : Env) : List Pat → List V → Prop
  | [], ws => ws = []
  | p :: r, ws =>
    match restName p with
    | some _ => RElts ρ σ r ws
    | none => ∃ w tail, ws = w :: tail ∧ Rebuilds ρ σ p w ∧ RElts ρ σ r tail
end

/-- `p` matches `v` with exactly the bindings `σ` -/
def Matches (ρ : Env) (p : Pat) (v : V) (σ : Env) : Prop :=
  Rebuilds ρ σ p v ∧ ∀ x, (σ.lookup x).isSome = true ↔ x ∈ names p

/-! ## Spec.bind: a decision procedure for `Matches` (deterministic patterns) -/

/-- the value a set-pattern element must be equal to, when the element alone determines it -/
def fixedValue (ρ : Env) : Pat → Option (Option V)
  | .lit l => some (some l.den)
  | .exprs [e] => some (e.eval ρ)
  | _ => none

/-- set-pattern elements: `...`, determined (a literal or one parenthesised expression), or free -/
inductive EltKind | rest | fixed | free
  deriving DecidableEq

def eltKind : Pat → EltKind
  | .rest _ => .rest
  | .lit _ => .fixed
  | .exprs [_] => .fixed
  | _ => .free

def bindRests (acc : Env) (w : V) : List String → Option Env
  | [] => some acc
  | t :: r => match matchedUpdate acc (singleRest t w) with
    | some acc' => bindRests acc' w r
    | none => none

/-- the members a set pattern's determined elements name, in order (none: some `(x)` is unbound) -/
def fixedValues (ρ : Env) : List Pat → Option (List V)
  | [] => some []
  | p :: r =>
    match eltKind p, fixedValue ρ p with
    | .fixed, some (some w) => (fixedValues ρ r).map (w :: ·)
    | .fixed, _ => none
    | _, _ => fixedValues ρ r

namespace Spec

mutual
def bind (ρ : Env) : Pat → V → Option Env
  | .lit l, v => if v = l.den then some [] else none
  | .name x, v => some (single x v)
  | .exprs es, v => if es.any (fun e => decide (e.eval ρ = some v)) then some [] else none
  | .rest x, v => some (singleRest x v)
  | .arr items, v =>
    match asArr v with
    | some xs => bindItems ρ [] items xs
    | none => none
  | .tup attrs, v =>
    match v with
    | .tup kvs =>
      if (attrNames attrs).Nodup then
        match bindAttrs ρ [] attrs kvs with
        | some acc =>
          if restsAttrs attrs = [] then
            (if kvs.all (fun kv => (attrNames attrs).contains kv.1) then some acc else none)
          else bindRests acc (.tup (kvs.filter (fun kv => !(attrNames attrs).contains kv.1))) (restsAttrs attrs)
        | none => none
      else none
    | _ => none
  | .dict ents, v =>
    match asDict v with
    | some kvs =>
      if (entKeys ents).Nodup then
        match bindEnts ρ [] ents kvs with
        | some acc =>
          if restsEnts ents = [] then
            (if kvs.all (fun kv => decide (kv.1 ∈ entKeys ents)) then some acc else none)
          else bindRests acc (mkDict (kvs.filter (fun kv => !decide (kv.1 ∈ entKeys ents)))) (restsEnts ents)
        | none => none
      else none
    | none => none
  | .set elts, v =>
    match asSet v with
    | some ms =>
      match fixedValues ρ elts with
      | some ws =>
        if ws.Nodup ∧ ws.all (fun w => decide (w ∈ ms)) then
          match bindElts ρ [] elts (ms.filter (fun m => !decide (m ∈ ws))) with
          | some (acc, left) =>
            if restsElts elts = [] then (if left = [] then some acc else none)
            else bindRests acc (.set left) (restsElts elts)
          | none => none
        else none
      | none => none
    | none => none
/-- items left to right against the items still to be matched; `...t` takes all but one item per later part -/
def bindItems (ρ : Env) : Env → List (Pat × Option FExpr) → List V → Option Env
  | acc, [], xs => if xs = [] then some acc else none
  | acc, (p, fb) :: r, xs =>
    match restName p with
    | some t =>
      if r.length ≤ xs.length then
        match matchedUpdate acc (singleRest t (mkArr (xs.take (xs.length - r.length)))) with
        | some acc' => bindItems ρ acc' r (xs.drop (xs.length - r.length))
        | none => none
      else none
    | none =>
      match xs, fbVal ρ fb with
      | x :: tail, _ =>
        match bind ρ p x with
        | some s => match matchedUpdate acc s with
          | some acc' => bindItems ρ acc' r tail
          | none => none
        | none => none
      | [], some w =>
        match bind ρ p w with
        | some s => match matchedUpdate acc s with
          | some acc' => bindItems ρ acc' r []
          | none => none
        | none => none
      | [], none => none
def bindAttrs (ρ : Env) : Env → List (String × Pat × Option FExpr) → List (String × V) → Option Env
  | acc, [], _ => some acc
  | acc, (n, p, fb) :: r, kvs =>
    match restName p with
    | some _ => bindAttrs ρ acc r kvs
    | none =>
      match compValue ρ (kvs.lookup n) fb with
      | some w =>
        match bind ρ p w with
        | some s => match matchedUpdate acc s with
          | some acc' => bindAttrs ρ acc' r kvs
          | none => none
        | none => none
      | none => none
def bindEnts (ρ : Env) : Env → List (Lit × Pat × Option FExpr) → List (V × V) → Option Env
  | acc, [], _ => some acc
  | acc, (k, p, fb) :: r, kvs =>
    match restName p with
    | some _ => bindEnts ρ acc r kvs
    | none =>
      match compValue ρ (kvs.lookup k.den) fb with
      | some w =>
        match bind ρ p w with
        | some s => match matchedUpdate acc s with
          | some acc' => bindEnts ρ acc' r kvs
          | none => none
        | none => none
      | none => none
/-- the free element (a name or a nested pattern) takes the one member the determined elements leave;
returns the bindings and the members still unmatched -/
def bindElts (ρ : Env) : Env → List Pat → List V → Option (Env × List V)
  | acc, [], left => some (acc, left)
  | acc, p :: r, left =>
    match eltKind p with
    | .free =>
      match left with
      | [w] =>
        match bind ρ p w with
        | some s => match matchedUpdate acc s with
          | some acc' => bindElts ρ acc' r []
          | none => none
        | none => none
      | _ => none
    | _ => bindElts ρ acc r left
end

end Spec

/-! ### deterministic patterns (the domain of `Spec.bind`) -/

/-- no `?:` item after a `...` (it could be either absent or the last item), at most one `...` -/
def detItemsShape : List (Pat × Option FExpr) → Bool
  | [] => true
  | (p, _) :: r => if p.isRest then r.all (fun q => !q.1.isRest && q.2.isNone) else detItemsShape r

/-- `(e₁, e₂, …)`: alternatives (a `cond` feature; not an element of a set pattern) -/
def isAlternatives : Pat → Bool
  | .exprs [_] => false
  | .exprs _ => true
  | _ => false

def countKind (k : EltKind) (elts : List Pat) : Nat := (elts.filter (fun p => decide (eltKind p = k))).length

mutual
def det : Pat → Bool
  | .arr items => detItemsShape items && detItems items
  | .tup attrs => decide ((restsAttrs attrs).length ≤ 1) && detAttrs attrs
  | .dict ents => decide ((restsEnts ents).length ≤ 1) && detEnts ents
  | .set elts => decide (countKind .free elts + countKind .rest elts ≤ 1) && !elts.any isAlternatives && detElts elts
  | _ => true
def detItems : List (Pat × Option FExpr) → Bool
  | [] => true
  | (p, _) :: r => det p && detItems r
def detAttrs : List (String × Pat × Option FExpr) → Bool
  | [] => true
  | (_, p, _) :: r => det p && detAttrs r
def detEnts : List (Lit × Pat × Option FExpr) → Bool
  | [] => true
  | (_, p, _) :: r => det p && detEnts r
def detElts : List Pat → Bool
  | [] => true
  | p :: r => det p && detElts r
end

/-! ## Impl: transliteration of rel/pattern_*.go (with the `fix:` commits of C09) -/

inductive Res (α : Type) where
  | ok (a : α)
  | err          -- Bind returned an error
  | panic        -- a Go panic
  deriving Inhabited, DecidableEq

def Res.ofOption {α} : Option α → Res α
  | some a => .ok a
  | none => .err

/-- the first loop of ArrayPattern/DictPattern/SetPattern.Bind: `len(extraElements)` after visiting the parts
(`(is ...-like, has a fallback)` per part), or none for "non-deterministic pattern is not supported yet" -/
def scanMarks : List (Bool × Bool) → Nat → Option Nat
  | [], cnt => some cnt
  | (isExtra, hasFb) :: r, cnt =>
    match (if isExtra then (if cnt = 1 then none else some (cnt + 1)) else some cnt) with
    | none => none
    | some cnt =>
      match (if hasFb then (if cnt = 1 then none else some (cnt + 1)) else some cnt) with
      | none => none
      | some cnt => scanMarks r cnt

def itemMarks (items : List (Pat × Option FExpr)) : List (Bool × Bool) := items.map (fun q => (q.1.isRest, q.2.isSome))
def entMarks (ents : List (Lit × Pat × Option FExpr)) : List (Bool × Bool) :=
  ents.map (fun q => (q.2.1.isRest, q.2.2.isSome))
def isIdent : Pat → Bool
  | .name _ => true
  | _ => false
def eltMarks (elts : List Pat) : List (Bool × Bool) := elts.map (fun p => (p.isRest || isIdent p, false))

/-- ArrayPattern.Bind, main loop: the value handed to item `i` and the new `offset`
(`xs` = `array.Values()`, `n` = `len(p.items)`) -/
def arrValue (ρ : Env) (xs : List V) (n i : Nat) (off : Int) (p : Pat) (fb : Option FExpr) : Res (Int × V) :=
  if p.isRest then
    let off' : Int := (xs.length : Int) - (n : Int)          -- offset = extraElements[i]
    if off' ≥ 0 then .ok (off', mkArr ((xs.drop i).take (off' + 1).toNat))   -- array.Values()[i : i+offset+1]
    else .ok (off', mkArr [])
  else if (xs.length : Int) ≤ (i : Int) + off then          -- array.Count() <= i+offset
    match fbVal ρ fb with                                   -- no fallback, or fallback.Eval(ctx, local) fails
    | none => .err
    | some w => .ok (off, w)
  else
    match xs[((i : Int) + off).toNat]? with                  -- array.Values()[i+offset]
    | some x => .ok (off, x)
    | none => .panic

/-- the result of SetPattern.Bind's main loop: go on with the remaining members, or return at once -/
inductive SetStep where
  | cont (s : List V)
  | ret (r : Res Env)

/-- validTuplePattern -/
def validTupleLoop : List (String × Pat × Option FExpr) → List String → Bool
  | [], _ => true
  | (n, p, _) :: r, seen =>
    if seen.contains n then
      (if p.isRest && n == "" then validTupleLoop r seen else false)
    else if !p.isRest then validTupleLoop r (n :: seen) else validTupleLoop r seen

namespace Impl

mutual
def bind (ρ : Env) : Pat → V → Res Env
  -- ExprPattern.Bind (the expression is a value)
  | .lit l, v => if l.den = v then .ok [] else .err
  -- IdentPattern.Bind
  | .name x, v => .ok (single x v)
  -- ExprsPattern.Bind
  | .exprs es, v => if es.isEmpty then .err else exprsLoop ρ v es
  -- ExtraElementPattern.Bind
  | .rest x, v => .ok (singleRest x v)
  -- ArrayPattern.Bind
  | .arr items, v =>
    match asArr v with                                      -- EmptySet | Array (dense, offset 0) | anything else
    | none => .err
    | some xs =>
      match scanMarks (itemMarks items) 0 with
      | none => .err                                         -- non-deterministic pattern is not supported yet
      | some cnt =>
        if items.length > xs.length + cnt then .err          -- shorter than the pattern
        else if !(items.any (fun q => q.1.isRest)) && items.length < xs.length then .err   -- longer (as repaired)
        else bindItems ρ xs items.length 0 0 [] items
  -- TuplePattern.Bind
  | .tup attrs, v =>
    match v with
    | .tup kvs =>
      match bindAttrs ρ kvs [] (kvs.map (·.1)) none attrs with
      | .ok (acc, nms, extra) =>
        match extra with
        | some t =>
          -- tuple.Project(names), bound by the ... attribute; names = EmptyNames
          match matchedUpdate acc (singleRest t (.tup (kvs.filter (fun kv => nms.contains kv.1)))) with
          | some acc' => .ok acc'
          | none => .err
        | none => if nms.isEmpty then .ok acc else .err       -- longer than the pattern
      | .err => .err
      | .panic => .panic
    | _ => .err
  -- DictPattern.Bind
  | .dict ents, v =>
    match asDict v with                                     -- EmptySet | Dict | anything else
    | none => .err
    | some kvs =>
      match scanMarks (entMarks ents) 0 with
      | none => .err
      | some cnt =>
        if ents.length > kvs.length + cnt then .err
        else if cnt = 0 && ents.length < kvs.length then .err
        else
          match bindEnts ρ [] kvs [] ents with
          | .ok (acc, m, extras) => Res.ofOption (bindRests acc (mkDict m) extras)   -- ... is bound last
          | .err => .err
          | .panic => .panic
  -- SetPattern.Bind
  | .set elts, v =>
    match asSet v with
    | some ms =>
      match scanMarks (eltMarks elts) 0 with
      | none => .err
      | some cnt =>
        if elts.length > ms.length + cnt then .err
        else if cnt = 0 && elts.length < ms.length then .err
        else
          match bindElts ρ elts.length ms elts with
          | .ret r => r
          | .cont s =>
            -- for i := range extraElements (at most one)
            match elts.find? (fun p => p.isRest || isIdent p) with
            | some (.rest t) => Res.ofOption (matchedUpdate [] (singleRest t (.set s)))
            | some (.name x) =>
              (match s with
               | [w] => Res.ofOption (matchedUpdate [] (single x w))
               | _ => .err)                                  -- the length of set is wrong
            | _ => .ok []
    | none => .err
def exprsLoop (ρ : Env) (v : V) : List PExpr → Res Env
  | [] => .err                                               -- didn't find matched value
  | e :: r =>
    match e.eval ρ with
    | none => .err
    | some w => if v = w then .ok [] else exprsLoop ρ v r
def bindItems (ρ : Env) (xs : List V) (n : Nat) : Nat → Int → Env → List (Pat × Option FExpr) → Res Env
  | _, _, acc, [] => .ok acc
  | i, off, acc, (p, fb) :: r =>
    match arrValue ρ xs n i off p fb with
    | .ok (off', value) =>
      match bind ρ p value with
      | .ok scope =>
        match matchedUpdate acc scope with
        | some acc' => bindItems ρ xs n (i + 1) off' acc' r
        | none => .err
      | .err => .err
      | .panic => .panic
    | .err => .err
    | .panic => .panic
def bindAttrs (ρ : Env) (kvs : List (String × V)) :
    Env → List String → Option String → List (String × Pat × Option FExpr) → Res (Env × List String × Option String)
  | acc, nms, extra, [] => .ok (acc, nms, extra)
  | acc, nms, extra, (n, p, fb) :: r =>
    match restName p with
    | some t => if extra.isSome then .err else bindAttrs ρ kvs acc nms (some t) r   -- a second ... is an error
    | none =>
      if fb.isNone && nms.isEmpty then .err                  -- shorter than the pattern
      else
        match compValue ρ (kvs.lookup n) fb with
        | none => .err                                       -- couldn't find the attribute
        | some value =>
          match bind ρ p value with
          | .ok scope =>
            match matchedUpdate acc scope with
            | some acc' => bindAttrs ρ kvs acc' (nms.filter (fun m => m != n)) extra r
            | none => .err
          | .err => .err
          | .panic => .panic
def bindEnts (ρ : Env) :
    Env → List (V × V) → List String → List (Lit × Pat × Option FExpr) → Res (Env × List (V × V) × List String)
  | acc, m, extras, [] => .ok (acc, m, extras)
  | acc, m, extras, (k, p, fb) :: r =>
    match restName p with
    | some t => bindEnts ρ acc m (extras ++ [t]) r
    | none =>
      match m.lookup k.den with
      | some w =>
        match bind ρ p w with
        | .ok scope =>
          match matchedUpdate acc scope with
          | some acc' => bindEnts ρ acc' (m.filter (fun kv => !decide (kv.1 = k.den))) extras r
          | none => .err
        | .err => .err
        | .panic => .panic
      | none =>
        match fbVal ρ fb with
        | none => .err
        | some w =>
          match bind ρ p w with
          | .ok scope =>
            match matchedUpdate acc scope with
            | some acc' => bindEnts ρ acc' m extras r
            | none => .err
          | .err => .err
          | .panic => .panic
def bindElts (ρ : Env) (n : Nat) : List V → List Pat → SetStep
  | s, [] => .cont s
  | s, p :: r =>
    match p with
    | .rest _ => bindElts ρ n s r
    | .name _ => bindElts ρ n s r
    | .lit l =>
      if l.den ∈ s then bindElts ρ n (s.filter (fun m => !decide (m = l.den))) r else .ret .err
    | .exprs es =>
      (match es with
       | [] => .ret .panic
       | e :: _ =>
         match e.eval ρ with
         | none => .ret .err
         | some w => if w ∈ s then bindElts ρ n (s.filter (fun m => !decide (m = w))) r else .ret .err)
    | _ =>
      if n = 1 then
        (match s with
         | e :: _ => .ret (bind ρ p e)
         | [] => .ret .panic)
      else .ret .panic                                       -- pattern type %T not supported yet
end

end Impl

/-! ### supported patterns: what today's (repaired) code handles as the specification demands -/

/-- an element of a set pattern of `n` elements that SetPattern.Bind handles -/
def eltOK (n : Nat) : Pat → Bool
  | .rest _ | .name _ | .lit _ => true
  | .exprs [_] => true
  | .exprs _ => false
  | _ => n == 1

mutual
def supported (ρ : Env) : Pat → Bool
  | .lit _ => true
  | .name _ => true
  | .rest _ => true
  -- every parenthesised expression can be evaluated
  | .exprs es => es.all (fun e => (e.eval ρ).isSome)
  -- at most one optional part (`?:` or `...`)
  | .arr items => (scanMarks (itemMarks items) 0).isSome && supportedItems ρ items
  -- at most one `...`, distinct attribute names
  | .tup attrs => decide ((restsAttrs attrs).length ≤ 1) && decide ((attrNames attrs).Nodup) && supportedAttrs ρ attrs
  -- at most one `...`, no `?:` entries, distinct keys
  | .dict ents => decide ((restsEnts ents).length ≤ 1) && ents.all (fun e => e.2.2.isNone) &&
      decide ((entKeys ents).Nodup) && supportedEnts ρ ents
  -- at most one name or `...`; nested patterns only as the single element
  | .set elts => (scanMarks (eltMarks elts) 0).isSome && elts.all (eltOK elts.length) && supportedElts ρ elts
def supportedItems (ρ : Env) : List (Pat × Option FExpr) → Bool
  | [] => true
  | (p, _) :: r => supported ρ p && supportedItems ρ r
def supportedAttrs (ρ : Env) : List (String × Pat × Option FExpr) → Bool
  | [] => true
  | (_, p, _) :: r => supported ρ p && supportedAttrs ρ r
def supportedEnts (ρ : Env) : List (Lit × Pat × Option FExpr) → Bool
  | [] => true
  | (_, p, _) :: r => supported ρ p && supportedEnts ρ r
def supportedElts (ρ : Env) : List Pat → Bool
  | [] => true
  | p :: r => supported ρ p && supportedElts ρ r
end

/-! ## let / function call / cond -/

/-! does some sub-pattern (the pattern itself included) satisfy `f`? -/
mutual
def anySub (f : Pat → Bool) : Pat → Bool
  | .arr items => f (.arr items) || anySubItems f items
  | .tup attrs => f (.tup attrs) || anySubAttrs f attrs
  | .dict ents => f (.dict ents) || anySubEnts f ents
  | .set elts => f (.set elts) || anySubElts f elts
  | p => f p
def anySubItems (f : Pat → Bool) : List (Pat × Option FExpr) → Bool
  | [] => false
  | (p, _) :: r => anySub f p || anySubItems f r
def anySubAttrs (f : Pat → Bool) : List (String × Pat × Option FExpr) → Bool
  | [] => false
  | (_, p, _) :: r => anySub f p || anySubAttrs f r
def anySubEnts (f : Pat → Bool) : List (Lit × Pat × Option FExpr) → Bool
  | [] => false
  | (_, p, _) :: r => anySub f p || anySubEnts f r
def anySubElts (f : Pat → Bool) : List Pat → Bool
  | [] => false
  | p :: r => anySub f p || anySubElts f r
end

/-- every `(x)` names something in the enclosing scope -/
def closed (ρ : Env) (p : Pat) : Bool :=
  !anySub (fun q => match q with
    | .exprs es => es.any (fun e => match e with | .var x => (ρ.lookup x).isNone | _ => false)
    | _ => false) p

/-- NewTuplePattern fails (a compile error) -/
def badTuple (p : Pat) : Bool :=
  anySub (fun q => match q with | .tup attrs => !validTupleLoop attrs [] | _ => false) p

/-- the value of the body `(n₁: n₁, …)` in `ρ.Update(σ)` -/
def bodyVal (ρ σ : Env) (ns : List String) : Option V :=
  (ns.mapM (fun n => ((σ ++ ρ).lookup n).map (fun v => (n, v)))).map V.mkTup

def bodyNames (p : Pat) : List String := (names p).eraseDups

namespace Impl
/-- ArrowExpr.Eval / Closure.CallAll: `let p = v; body`, `(\p body)(v)` -/
def evalLet (ρ : Env) (p : Pat) (v : V) : Res V :=
  match bind ρ p v with
  | .ok σ => Res.ofOption (bodyVal ρ σ (bodyNames p))
  | .err => .err
  | .panic => .panic
/-- CondPatternControlVarExpr.Eval: the first arm whose Bind returns no error (any error is "no match") -/
def evalCond (ρ : Env) (v : V) : List Pat → Nat → Res (Option (Nat × Env))
  | [], _ => .ok none
  | p :: r, i =>
    match bind ρ p v with
    | .ok σ => .ok (some (i, σ))
    | .err => evalCond ρ v r (i + 1)
    | .panic => .panic
end Impl

namespace Spec
def evalLet (ρ : Env) (p : Pat) (v : V) : Option V :=
  if closed ρ p then (bind ρ p v).bind (fun σ => bodyVal ρ σ (bodyNames p)) else none
/-- the first arm that matches; an arm that cannot be evaluated (unbound `(x)`) is an error, not "no match" -/
def evalCond (ρ : Env) (v : V) : List Pat → Nat → Res (Option (Nat × Env))
  | [], _ => .ok none
  | p :: r, i =>
    if closed ρ p then
      match bind ρ p v with
      | some σ => .ok (some (i, σ))
      | none => evalCond ρ v r (i + 1)
    else .err
end Spec

/-! ## Source text -/

def FExpr.src : FExpr → String
  | .lit l => l.src
  | .var x => x
  | .add x k => "(" ++ x ++ " + " ++ toString k ++ ")"

def PExpr.src : PExpr → String
  | .lit l => l.src
  | .var x => x

mutual
def Pat.src : Pat → String
  | .lit l => l.src
  | .name x => x
  | .exprs es => "(" ++ ", ".intercalate (es.map PExpr.src) ++ ")"
  | .rest x => "..." ++ x
  | .arr items => "[" ++ ", ".intercalate (srcItems items) ++ "]"
  | .tup attrs => "(" ++ ", ".intercalate (srcAttrs attrs) ++ ")"
  | .dict ents => "{" ++ ", ".intercalate (srcEnts ents) ++ "}"
  | .set elts => "{" ++ ", ".intercalate (srcElts elts) ++ "}"
def srcItems : List (Pat × Option FExpr) → List String
  | [] => []
  | (p, none) :: r => p.src :: srcItems r
  | (p, some d) :: r => ("?" ++ p.src ++ ":" ++ d.src) :: srcItems r
def srcAttrs : List (String × Pat × Option FExpr) → List String
  | [] => []
  | (n, p, fb) :: r =>
    (if p.isRest then p.src
     else match fb with
       | none => Lit.nameSrc n ++ ": " ++ p.src
       | some d => Lit.nameSrc n ++ "?: " ++ p.src ++ ":" ++ d.src) :: srcAttrs r
def srcEnts : List (Lit × Pat × Option FExpr) → List String
  | [] => []
  | (k, p, fb) :: r =>
    (if p.isRest then p.src
     else match fb with
       | none => k.src ++ ": " ++ p.src
       | some d => k.src ++ "?: " ++ p.src ++ ":" ++ d.src) :: srcEnts r
def srcElts : List Pat → List String
  | [] => []
  | p :: r => p.src :: srcElts r
end

/-! ## Classes of patterns on which today's code departs from the specification -/

/-- an array or dict pattern with more than one optional part (`?:` or `...`): rejected as "non-deterministic" -/
def hasMultiOptional (p : Pat) : Bool :=
  anySub (fun q => match q with
    | .arr items => (scanMarks (itemMarks items) 0).isNone
    | .dict ents => (scanMarks (entMarks ents) 0).isNone
    | _ => false) p

/-- a dict pattern with a `?:` entry and no `...`: additional keys of the value are ignored (pinned by the suite) -/
def hasOpenDict (p : Pat) : Bool :=
  anySub (fun q => match q with
    | .dict ents => ents.any (fun e => e.2.2.isSome) && !(ents.any (fun e => e.2.1.isRest))
    | _ => false) p

def isComplex : Pat → Bool
  | .arr _ | .tup _ | .dict _ | .set _ => true
  | _ => false

/-- the text NewSetPattern compares to find duplicated items (`Pattern.String()`), up to injective renaming -/
def litKey : Lit → String
  | .str 0 (c :: cs) => String.ofList ((c :: cs).map Char.ofNat)   -- a string prints without quotes
  | l => "=" ++ l.den.canon

def dupKey : Pat → String
  | .name x => x
  | .rest x => "..." ++ x
  | .lit l => litKey l
  | .exprs [.lit l] => litKey l
  | .exprs [.var x] => x
  | p => p.src

/-- NewSetPattern panics: two items of a set pattern print alike -/
def hasSetDup (p : Pat) : Bool :=
  anySub (fun q => match q with
    | .set elts => decide ((elts.map dupKey).eraseDups.length < elts.length)
    | _ => false) p

/-- a set pattern with a nested array/tuple/dict/set pattern next to other elements (SetPattern.Bind panics),
or with duplicated items (NewSetPattern panics) -/
def hasSetPanic (p : Pat) : Bool :=
  hasSetDup p || anySub (fun q => match q with
    | .set elts => elts.any isComplex && decide (elts.length > 1)
    | _ => false) p

end Arrai.C09
