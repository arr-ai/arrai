/-
  C09: what the recursive definitions of the model say on each form of input, stated once, with the loops of
  `Spec.bind` in terms of one step (`Spec.step`) and of the common end of tuple / dict / set patterns (`bindLeft`),
  both defined here.
-/
import Arrai.C09.Model

namespace Arrai.C09
open Arrai

theorem names_rest (t : String) : names (.rest t) = if bindable t then [t] else [] := by simp only [names]

theorem restName_some {p : Pat} {t : String} (h : restName p = some t) : p = .rest t := by
  cases p <;> simp [restName] at h
  subst h; rfl

theorem isRest_of {p : Pat} {t : String} (hp : restName p = some t) : p.isRest = true := by
  unfold Pat.isRest; rw [hp]; rfl

theorem isRest_false_of {p : Pat} (hp : restName p = none) : p.isRest = false := by
  unfold Pat.isRest; rw [hp]; rfl

theorem restName_none_of_not_isRest {p : Pat} (h : p.isRest = false) : restName p = none :=
  Option.not_isSome_iff_eq_none.1 (by rw [← Pat.isRest, h]; decide)

theorem mem_names_rest (x t : String) : x ∈ names (.rest t) ↔ (x = t ∧ bindable x = true) := by
  rw [names_rest]
  by_cases hb : bindable t = true
  · simp only [hb, if_true, List.mem_singleton]
    constructor
    · intro h; subst h; exact ⟨rfl, hb⟩
    · intro h; exact h.1
  · have hb' : bindable t = false := by simpa using hb
    simp only [hb', Bool.false_eq_true, if_false, List.not_mem_nil, false_iff]
    rintro ⟨h, hx⟩; subst h; rw [hb'] at hx; cases hx

section
variable {p : Pat} {t : String} {fb : Option FExpr}

theorem restsItems_cons_some {ri : List (Pat × Option FExpr)} (hp : restName p = some t) :
    restsItems ((p, fb) :: ri) = t :: restsItems ri := by
  simp [restsItems, hp]
theorem restsItems_cons_none {ri : List (Pat × Option FExpr)} (hp : restName p = none) :
    restsItems ((p, fb) :: ri) = restsItems ri := by
  simp [restsItems, hp]

variable {n : String} {ra : List (String × Pat × Option FExpr)}

theorem attrNames_cons_some (hp : restName p = some t) : attrNames ((n, p, fb) :: ra) = attrNames ra := by
  simp [attrNames, isRest_of hp]
theorem attrNames_cons_none (hp : restName p = none) : attrNames ((n, p, fb) :: ra) = n :: attrNames ra := by
  simp [attrNames, isRest_false_of hp]
theorem restsAttrs_cons_some (hp : restName p = some t) : restsAttrs ((n, p, fb) :: ra) = t :: restsAttrs ra := by
  simp [restsAttrs, hp]
theorem restsAttrs_cons_none (hp : restName p = none) : restsAttrs ((n, p, fb) :: ra) = restsAttrs ra := by
  simp [restsAttrs, hp]

variable {k : Lit} {re : List (Lit × Pat × Option FExpr)}

theorem entKeys_cons_some (hp : restName p = some t) : entKeys ((k, p, fb) :: re) = entKeys re := by
  simp [entKeys, isRest_of hp]
theorem entKeys_cons_none (hp : restName p = none) : entKeys ((k, p, fb) :: re) = k.den :: entKeys re := by
  simp [entKeys, isRest_false_of hp]
theorem restsEnts_cons_some (hp : restName p = some t) : restsEnts ((k, p, fb) :: re) = t :: restsEnts re := by
  simp [restsEnts, hp]
theorem restsEnts_cons_none (hp : restName p = none) : restsEnts ((k, p, fb) :: re) = restsEnts re := by
  simp [restsEnts, hp]

end

theorem itemMarks_cons (p : Pat) (fb : Option FExpr) (r : List (Pat × Option FExpr)) :
    itemMarks ((p, fb) :: r) = (p.isRest, fb.isSome) :: itemMarks r := rfl

theorem eltKind_rest {p : Pat} (h : eltKind p = .rest) : ∃ t, p = .rest t := by
  cases p with
  | rest t => exact ⟨t, rfl⟩
  | exprs es =>
    cases es with
    | nil => simp [eltKind] at h
    | cons e r => cases r <;> simp [eltKind] at h
  | _ => simp [eltKind] at h

/-! A side condition `eltKind p ≠ …` is taken as users have it: the kind `k` of `p`, and `k ≠ …`, which holds by
computation. -/

theorem eltKind_ne_rest {p : Pat} {k : EltKind} (hk : eltKind p = k) (hne : k ≠ .rest := by exact nofun) :
    restName p = none := by
  cases p with
  | rest t => exact absurd hk.symm hne
  | _ => rfl

/-- only the second part mentions `ρ`: a user of the first alone has to name it -/
theorem eltKind_fixed {ρ : Env} {p : Pat} (h : eltKind p = .fixed) :
    names p = [] ∧ ∀ σ w, fixedValue ρ p = some (some w) ↔ Rebuilds ρ σ p w := by
  cases p with
  | lit l =>
    refine ⟨by simp [names], fun σ w => ?_⟩
    simp only [fixedValue, Rebuilds, Option.some.injEq]
    exact eq_comm
  | exprs es =>
    cases es with
    | nil => simp [eltKind] at h
    | cons e r =>
      cases r with
      | nil =>
        refine ⟨by simp [names], fun σ w => ?_⟩
        simp only [fixedValue, Rebuilds, Option.some.injEq, List.mem_singleton, exists_eq_left]
      | cons _ _ => simp [eltKind] at h
  | _ => simp [eltKind] at h

theorem fixedValues_skip {p : Pat} {k : EltKind} (hk : eltKind p = k) (hne : k ≠ .fixed := by exact nofun) {ρ : Env}
    {r : List Pat} : fixedValues ρ (p :: r) = fixedValues ρ r := by
  rw [fixedValues, hk]
  cases k with
  | fixed => exact absurd rfl hne
  | _ => rfl

theorem fixedValues_fixed {p : Pat} (hk : eltKind p = .fixed) {ρ : Env} {r : List Pat} {fws : List V} :
    fixedValues ρ (p :: r) = some fws ↔
      ∃ w fws', fixedValue ρ p = some (some w) ∧ fixedValues ρ r = some fws' ∧ fws = w :: fws' := by
  rw [fixedValues]; simp only [hk]
  cases fixedValue ρ p with
  | none => simp
  | some ow => cases ow <;> simp [@eq_comm _ fws]

theorem countKind_cons (k : EltKind) (p : Pat) (r : List Pat) :
    countKind k (p :: r) = (if eltKind p = k then 1 else 0) + countKind k r := by
  unfold countKind
  by_cases h : eltKind p = k
  · simp [h]; omega
  · simp [h]

/-! ## the equations of `Spec.bind` and its loops

`...t` in an array pattern, and each `...t` bound at the end of a tuple / dict / set pattern, is the step for the
pattern `.rest t`. -/

def Spec.step {α : Type} (ρ acc : Env) (p : Pat) (ow : Option V) (k : Env → Option α) : Option α :=
  match ow with
  | some w =>
    match Spec.bind ρ p w with
    | some s =>
      match matchedUpdate acc s with
      | some acc' => k acc'
      | none => none
    | none => none
  | none => none

theorem Spec.bind_rest (ρ : Env) (t : String) (w : V) : Spec.bind ρ (.rest t) w = some (singleRest t w) := by
  simp only [Spec.bind]
theorem Spec.bindItems_nil (ρ acc : Env) (xs : List V) :
    Spec.bindItems ρ acc [] xs = if xs = [] then some acc else none := by simp only [Spec.bindItems]

/-- `ρ` plays no part in binding `.rest t`: users pass any scope -/
theorem bindRests_cons (ρ acc : Env) (w : V) (t : String) (r : List String) :
    bindRests acc w (t :: r) = Spec.step ρ acc (.rest t) (some w) (fun acc' => bindRests acc' w r) := by
  rw [bindRests, Spec.step, Spec.bind_rest]; rfl

section
variable {ρ acc : Env} {p : Pat} {fb : Option FExpr}

theorem Spec.bindItems_rest (t : String) (r : List (Pat × Option FExpr)) (xs : List V) :
    Spec.bindItems ρ acc ((.rest t, fb) :: r) xs =
      if r.length ≤ xs.length then
        Spec.step ρ acc (.rest t) (some (mkArr (xs.take (xs.length - r.length))))
          (fun acc' => Spec.bindItems ρ acc' r (xs.drop (xs.length - r.length)))
      else none := by
  rw [Spec.bindItems.eq_def, Spec.step, Spec.bind_rest]; rfl

theorem Spec.bindItems_cons (hp : restName p = none) (r : List (Pat × Option FExpr)) (xs : List V) :
    Spec.bindItems ρ acc ((p, fb) :: r) xs =
      Spec.step ρ acc p (xs.head?.or (fbVal ρ fb)) (fun acc' => Spec.bindItems ρ acc' r xs.tail) := by
  rw [Spec.bindItems.eq_def]; simp only [hp]
  cases xs with
  | cons x tail => rfl
  | nil => cases fbVal ρ fb <;> rfl

theorem Spec.bindAttrs_cons (hp : restName p = none) (n : String)
    (r : List (String × Pat × Option FExpr)) (kvs : List (String × V)) :
    Spec.bindAttrs ρ acc ((n, p, fb) :: r) kvs =
      Spec.step ρ acc p (compValue ρ (kvs.lookup n) fb) (fun acc' => Spec.bindAttrs ρ acc' r kvs) := by
  rw [Spec.bindAttrs]; simp only [hp]; rfl

theorem Spec.bindAttrs_rest {t : String} (hp : restName p = some t) (n : String)
    (r : List (String × Pat × Option FExpr)) (kvs : List (String × V)) :
    Spec.bindAttrs ρ acc ((n, p, fb) :: r) kvs = Spec.bindAttrs ρ acc r kvs := by
  rw [Spec.bindAttrs]; simp only [hp]

theorem Spec.bindEnts_cons (hp : restName p = none) (k : Lit)
    (r : List (Lit × Pat × Option FExpr)) (kvs : List (V × V)) :
    Spec.bindEnts ρ acc ((k, p, fb) :: r) kvs =
      Spec.step ρ acc p (compValue ρ (kvs.lookup k.den) fb) (fun acc' => Spec.bindEnts ρ acc' r kvs) := by
  rw [Spec.bindEnts]; simp only [hp]; rfl

theorem Spec.bindEnts_rest {t : String} (hp : restName p = some t) (k : Lit)
    (r : List (Lit × Pat × Option FExpr)) (kvs : List (V × V)) :
    Spec.bindEnts ρ acc ((k, p, fb) :: r) kvs = Spec.bindEnts ρ acc r kvs := by
  rw [Spec.bindEnts]; simp only [hp]

theorem Spec.bindElts_cons_skip {k : EltKind} (hk : eltKind p = k) (hne : k ≠ .free := by exact nofun) {r : List Pat}
    {left : List V} : Spec.bindElts ρ acc (p :: r) left = Spec.bindElts ρ acc r left := by
  rw [Spec.bindElts.eq_def]; dsimp only
  rw [hk]
  cases k with
  | free => exact absurd rfl hne
  | _ => rfl

theorem Spec.bindElts_cons_free (hk : eltKind p = .free) (r : List Pat) (w : V) :
    Spec.bindElts ρ acc (p :: r) [w] = Spec.step ρ acc p (some w) (fun acc' => Spec.bindElts ρ acc' r []) := by
  rw [Spec.bindElts.eq_def]; simp only [hk]; rfl

theorem Spec.bindElts_cons_free_some (hk : eltKind p = .free) {r : List Pat} {left : List V}
    {res : Env × List V} (h : Spec.bindElts ρ acc (p :: r) left = some res) : ∃ w, left = [w] := by
  rw [Spec.bindElts.eq_def] at h; simp only [hk] at h
  split at h
  · exact ⟨_, rfl⟩
  · cases h

end

theorem Spec.bindElts_nofree (ρ : Env) : ∀ (elts : List Pat), countKind .free elts = 0 →
    ∀ acc left, Spec.bindElts ρ acc elts left = some (acc, left)
  | [], _, _, _ => rfl
  | p :: r, hc, acc, left => by
    rw [countKind_cons] at hc
    rw [Spec.bindElts_cons_skip rfl fun e => by simp [e] at hc]
    exact Spec.bindElts_nofree ρ r (by omega) acc left

def bindLeft (acc : Env) (rests : List String) (nothingLeft : Prop) [Decidable nothingLeft] (left : V) : Option Env :=
  if rests = [] then (if nothingLeft then some acc else none) else bindRests acc left rests

theorem bindLeft_nil (acc : Env) (nothingLeft : Prop) [Decidable nothingLeft] (left : V) :
    bindLeft acc [] nothingLeft left = if nothingLeft then some acc else none := if_pos rfl

theorem bindLeft_cons (acc : Env) (t : String) (r : List String) (nothingLeft : Prop) [Decidable nothingLeft] (left : V) :
    bindLeft acc (t :: r) nothingLeft left = bindRests acc left (t :: r) := if_neg (List.cons_ne_nil t r)

theorem Spec.bind_arr (ρ : Env) (items : List (Pat × Option FExpr)) (v : V) :
    Spec.bind ρ (.arr items) v = (asArr v).bind (Spec.bindItems ρ [] items) := by
  rw [Spec.bind]; cases asArr v <;> rfl

theorem Spec.bind_tup (ρ : Env) (attrs : List (String × Pat × Option FExpr)) (kvs : List (String × V)) :
    Spec.bind ρ (.tup attrs) (.tup kvs) =
      if (attrNames attrs).Nodup then
        (Spec.bindAttrs ρ [] attrs kvs).bind fun acc =>
          bindLeft acc (restsAttrs attrs) (kvs.all (fun kv => (attrNames attrs).contains kv.1) = true)
            (.tup (kvs.filter (fun kv => !(attrNames attrs).contains kv.1)))
      else none := by
  rw [Spec.bind]; cases Spec.bindAttrs ρ [] attrs kvs <;> rfl

theorem Spec.bind_tup_some {ρ : Env} {attrs : List (String × Pat × Option FExpr)} {v : V} {s : Env}
    (h : Spec.bind ρ (.tup attrs) v = some s) : ∃ kvs, v = .tup kvs := by
  cases v with
  | tup kvs => exact ⟨kvs, rfl⟩
  | _ => rw [Spec.bind.eq_def] at h; cases h

theorem Spec.bind_dict (ρ : Env) (ents : List (Lit × Pat × Option FExpr)) (v : V) :
    Spec.bind ρ (.dict ents) v =
      (asDict v).bind fun kvs =>
        if (entKeys ents).Nodup then
          (Spec.bindEnts ρ [] ents kvs).bind fun acc =>
            bindLeft acc (restsEnts ents) (kvs.all (fun kv => decide (kv.1 ∈ entKeys ents)) = true)
              (mkDict (kvs.filter (fun kv => !decide (kv.1 ∈ entKeys ents))))
        else none := by
  rw [Spec.bind]; cases asDict v with
  | none => rfl
  | some kvs => simp only [Option.bind_some]; cases Spec.bindEnts ρ [] ents kvs <;> rfl

theorem Spec.bind_set (ρ : Env) (elts : List Pat) (v : V) :
    Spec.bind ρ (.set elts) v =
      (asSet v).bind fun ms => (fixedValues ρ elts).bind fun ws =>
        if ws.Nodup ∧ ws.all (fun w => decide (w ∈ ms)) then
          (Spec.bindElts ρ [] elts (ms.filter (fun m => !decide (m ∈ ws)))).bind fun r =>
            bindLeft r.1 (restsElts elts) (r.2 = []) (.set r.2)
        else none := by
  rw [Spec.bind]; cases asSet v with
  | none => rfl
  | some ms =>
    cases fixedValues ρ elts with
    | none => rfl
    | some ws =>
      simp only [Option.bind_some]
      cases Spec.bindElts ρ [] elts (ms.filter (fun m => !decide (m ∈ ws))) <;> rfl

/-! ## the list-level functions, by membership -/

theorem detItems_iff : ∀ items : List (Pat × Option FExpr), detItems items = true ↔ ∀ q, q ∈ items → det q.1 = true
  | [] => ⟨fun _ _ => nofun, fun _ => by rw [detItems]⟩
  | (p, fb) :: r => by rw [detItems, Bool.and_eq_true, detItems_iff r, List.forall_mem_cons]
theorem detAttrs_iff : ∀ attrs : List (String × Pat × Option FExpr),
    detAttrs attrs = true ↔ ∀ q, q ∈ attrs → det q.2.1 = true
  | [] => ⟨fun _ _ => nofun, fun _ => by rw [detAttrs]⟩
  | (n, p, fb) :: r => by rw [detAttrs, Bool.and_eq_true, detAttrs_iff r, List.forall_mem_cons]
theorem detEnts_iff : ∀ ents : List (Lit × Pat × Option FExpr),
    detEnts ents = true ↔ ∀ q, q ∈ ents → det q.2.1 = true
  | [] => ⟨fun _ _ => nofun, fun _ => by rw [detEnts]⟩
  | (k, p, fb) :: r => by rw [detEnts, Bool.and_eq_true, detEnts_iff r, List.forall_mem_cons]
theorem detElts_iff : ∀ elts : List Pat, detElts elts = true ↔ ∀ q, q ∈ elts → det q = true
  | [] => ⟨fun _ _ => nofun, fun _ => by rw [detElts]⟩
  | p :: r => by rw [detElts, Bool.and_eq_true, detElts_iff r, List.forall_mem_cons]

theorem supportedItems_iff (ρ : Env) : ∀ items : List (Pat × Option FExpr),
    supportedItems ρ items = true ↔ ∀ q, q ∈ items → supported ρ q.1 = true
  | [] => ⟨fun _ _ => nofun, fun _ => by rw [supportedItems]⟩
  | (p, fb) :: r => by rw [supportedItems, Bool.and_eq_true, supportedItems_iff ρ r, List.forall_mem_cons]
theorem supportedAttrs_iff (ρ : Env) : ∀ attrs : List (String × Pat × Option FExpr),
    supportedAttrs ρ attrs = true ↔ ∀ q, q ∈ attrs → supported ρ q.2.1 = true
  | [] => ⟨fun _ _ => nofun, fun _ => by rw [supportedAttrs]⟩
  | (n, p, fb) :: r => by rw [supportedAttrs, Bool.and_eq_true, supportedAttrs_iff ρ r, List.forall_mem_cons]
theorem supportedEnts_iff (ρ : Env) : ∀ ents : List (Lit × Pat × Option FExpr),
    supportedEnts ρ ents = true ↔ ∀ q, q ∈ ents → supported ρ q.2.1 = true
  | [] => ⟨fun _ _ => nofun, fun _ => by rw [supportedEnts]⟩
  | (k, p, fb) :: r => by rw [supportedEnts, Bool.and_eq_true, supportedEnts_iff ρ r, List.forall_mem_cons]
theorem supportedElts_iff (ρ : Env) : ∀ elts : List Pat,
    supportedElts ρ elts = true ↔ ∀ q, q ∈ elts → supported ρ q = true
  | [] => ⟨fun _ _ => nofun, fun _ => by rw [supportedElts]⟩
  | p :: r => by rw [supportedElts, Bool.and_eq_true, supportedElts_iff ρ r, List.forall_mem_cons]

/-! ## `Impl.bind` at a `...` leaf and at the ends of its loops -/

theorem scanMarks_nil (cnt : Nat) : scanMarks [] cnt = some cnt := by simp only [scanMarks]
theorem Impl.bind_rest (ρ : Env) (t : String) (v : V) : Impl.bind ρ (.rest t) v = .ok (singleRest t v) := by
  simp only [Impl.bind]
theorem Impl.bindItems_nil (ρ : Env) (xs : List V) (n i : Nat) (off : Int) (acc : Env) :
    Impl.bindItems ρ xs n i off acc [] = .ok acc := by simp only [Impl.bindItems]
theorem Impl.bindAttrs_nil (ρ : Env) (kvs : List (String × V)) (acc : Env) (nms : List String) (extra : Option String) :
    Impl.bindAttrs ρ kvs acc nms extra [] = .ok (acc, nms, extra) := by simp only [Impl.bindAttrs]
theorem Impl.bindEnts_nil (ρ acc : Env) (m : List (V × V)) (extras : List String) :
    Impl.bindEnts ρ acc m extras [] = .ok (acc, m, extras) := by simp only [Impl.bindEnts]
theorem Impl.bindElts_nil (ρ : Env) (n : Nat) (s : List V) : Impl.bindElts ρ n s [] = .cont s := by
  simp only [Impl.bindElts]
theorem Impl.exprsLoop_nil (ρ : Env) (v : V) : Impl.exprsLoop ρ v [] = .err := by simp only [Impl.exprsLoop]

end Arrai.C09
