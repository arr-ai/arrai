/-
  C09: the transliterated Go matcher (`Impl.bind`) computes `Spec.bind` on supported patterns (`impl_eq`; hence one arm
  of `Impl.evalCond`, `Impl.evalCond_cons`), and supported patterns are deterministic (`supported_det`).
  The loop lemmas take the agreement on the component patterns (`SubOK`) as a hypothesis: a loop of the Go matcher does
  with a component what the specification's loop does (`Impl.step_eq`), and the rest of each is the loop's own
  bookkeeping.  Set patterns have no such loop lemma: `supported` leaves all elements simple (`simpleElt`), where
  SetPattern.Bind's main loop calls no `Bind`, or one nested pattern alone.
-/
import Arrai.C09.Lemmas
import Arrai.Core.ListLemmas

namespace Arrai.C09
open Arrai

def SubOK (ρ : Env) (p : Pat) : Prop := ∀ w, Impl.bind ρ p w = Res.ofOption (Spec.bind ρ p w)

@[simp] theorem ofOption_some {α} (a : α) : Res.ofOption (some a) = .ok a := rfl
@[simp] theorem ofOption_none {α} : (Res.ofOption (none : Option α)) = .err := rfl

/-- what every loop of the Go matcher does with a component: `Bind`, `MatchedUpdate`, go on -/
def Impl.step {α : Type} (ρ acc : Env) (p : Pat) (w : V) (k : Env → Res α) : Res α :=
  match Impl.bind ρ p w with
  | .ok scope =>
    match matchedUpdate acc scope with
    | some acc' => k acc'
    | none => .err
  | .err => .err
  | .panic => .panic

section
variable {ρ acc : Env} {p : Pat} {fb : Option FExpr}

theorem Impl.bindItems_cons (xs : List V) (n i : Nat) (off : Int) (r : List (Pat × Option FExpr)) :
    Impl.bindItems ρ xs n i off acc ((p, fb) :: r) =
      match arrValue ρ xs n i off p fb with
      | .ok (off', w) => Impl.step ρ acc p w (fun acc' => Impl.bindItems ρ xs n (i + 1) off' acc' r)
      | .err => .err
      | .panic => .panic := by
  rw [Impl.bindItems]; rfl

variable {kvs : List (String × V)} {nms : List String} {extra : Option String} {n : String}
  {ra : List (String × Pat × Option FExpr)}

theorem Impl.bindAttrs_cons (hp : restName p = none) :
    Impl.bindAttrs ρ kvs acc nms extra ((n, p, fb) :: ra) =
      if fb.isNone && nms.isEmpty then .err
      else
        match compValue ρ (kvs.lookup n) fb with
        | none => .err
        | some w =>
          Impl.step ρ acc p w (fun acc' => Impl.bindAttrs ρ kvs acc' (nms.filter (fun m => m != n)) extra ra) := by
  rw [Impl.bindAttrs, hp]; rfl

theorem Impl.bindAttrs_rest {t : String} (hp : restName p = some t) :
    Impl.bindAttrs ρ kvs acc nms extra ((n, p, fb) :: ra) =
      if extra.isSome then .err else Impl.bindAttrs ρ kvs acc nms (some t) ra := by
  rw [Impl.bindAttrs, hp]

variable {m : List (V × V)} {extras : List String} {k : Lit} {re : List (Lit × Pat × Option FExpr)}

theorem Impl.bindEnts_cons (hp : restName p = none) :
    Impl.bindEnts ρ acc m extras ((k, p, fb) :: re) =
      match m.lookup k.den with
      | some w =>
        Impl.step ρ acc p w (fun acc' => Impl.bindEnts ρ acc' (m.filter (fun kv => !decide (kv.1 = k.den))) extras re)
      | none =>
        match fbVal ρ fb with
        | none => .err
        | some w => Impl.step ρ acc p w (fun acc' => Impl.bindEnts ρ acc' m extras re) := by
  rw [Impl.bindEnts, hp]; rfl

theorem Impl.bindEnts_rest {t : String} (hp : restName p = some t) :
    Impl.bindEnts ρ acc m extras ((k, p, fb) :: re) = Impl.bindEnts ρ acc m (extras ++ [t]) re := by
  rw [Impl.bindEnts, hp]

end

theorem Impl.step_eq {α β : Type} {ρ acc : Env} {p : Pat} {w : V} {k : Env → Res α} {k' : Env → Option β}
    (hp : SubOK ρ p) (f : Option β → Res α) (hf : f none = .err) (hk : ∀ acc', k acc' = f (k' acc')) :
    Impl.step ρ acc p w k = f (Spec.step ρ acc p (some w) k') := by
  simp only [Impl.step, Spec.step, hp w]
  cases Spec.bind ρ p w with
  | none => exact hf.symm
  | some s =>
    simp only [ofOption_some]
    cases matchedUpdate acc s with
    | none => exact hf.symm
    | some acc' => exact hk acc'

theorem scanMarks_eq : ∀ (marks : List (Bool × Bool)) (c0 : Nat), c0 ≤ 1 →
    scanMarks marks c0 =
      if c0 + (marks.filter (·.1)).length + (marks.filter (·.2)).length ≤ 1 then
        some (c0 + (marks.filter (·.1)).length + (marks.filter (·.2)).length)
      else none
  | [], c0, h0 => by rw [scanMarks_nil]; exact (if_pos h0).symm
  | (e, f) :: r, c0, h0 => by
    have ih0 := scanMarks_eq r c0 h0
    have ih1 := scanMarks_eq r 1 (Nat.le_refl 1)
    rw [scanMarks]
    -- the step fails (counter 1 and a flag) or goes on with the counter for which `ih0` / `ih1` speaks
    rcases Nat.le_one_iff_eq_zero_or_eq_one.1 h0 with rfl | rfl <;> cases e <;> cases f <;>
      simp [ih0, ih1, Nat.add_assoc, Nat.add_comm 1] <;> omega

theorem scanMarks_of_isSome {marks : List (Bool × Bool)} (h : (scanMarks marks 0).isSome = true) :
    ∃ cnt, scanMarks marks 0 = some cnt ∧ cnt ≤ 1 ∧ cnt = (marks.filter (·.1)).length + (marks.filter (·.2)).length := by
  rw [scanMarks_eq marks 0 (Nat.zero_le 1), Nat.zero_add] at h ⊢
  split at h
  · next hle => exact ⟨_, if_pos hle, hle, rfl⟩
  · cases h

/-- the two length tests of DictPattern.Bind and SetPattern.Bind in front of the result `X` of what follows them: `K` the
keys / members the pattern names (it has `n` parts: those and `c` others), `L` those of the value (`l` of them) -/
theorem length_tests {α β : Type} [DecidableEq α] {K L : List α} (hK : K.Nodup) (hL : L.Nodup)
    (hsub : ∀ x, x ∈ K → x ∈ L) {n l c : Nat} (hn : n = K.length + c) (hl : l = L.length) (X : Res β) :
    (if n > l + c then .err else if c = 0 && n < l then .err else X) =
      if c = 0 → ∀ y, y ∈ L → y ∈ K then X else .err := by
  subst hn hl
  have hle := hK.length_le_of_subset hsub
  have hiff : L.length ≤ K.length ↔ ∀ y, y ∈ L → y ∈ K :=
    ⟨subset_of_nodup_length K L hK hsub, fun h => hL.length_le_of_subset h⟩
  rw [if_neg (by omega)]
  by_cases hc : c = 0
  · subst hc; simp [← hiff, ← Nat.not_lt]
  · simp [hc]

/-! ## tuple patterns -/

/-- with `List.contains`, as the model filters TuplePattern.Bind's names; `filter_ne_filter_not_mem` is the same with
`decide (· ∈ ·)` -/
theorem filter_ne_filter_not_contains (nms : List String) (n : String) (A : List String) :
    (nms.filter (fun m => m != n)).filter (fun m => !A.contains m) = nms.filter (fun m => !(n :: A).contains m) := by
  rw [List.filter_filter]
  apply List.filter_congr
  intro m _
  simp only [List.contains_cons, Bool.not_or]
  cases h : (m == n) <;> simp [bne, h]

theorem attrs_refine (ρ : Env) (kvs : List (String × V)) :
    ∀ (attrs : List (String × Pat × Option FExpr)), (∀ q, q ∈ attrs → SubOK ρ q.2.1) →
    ∀ (acc : Env) (nms : List String) (extra : Option String), (attrNames attrs).Nodup →
    (∀ n, n ∈ attrNames attrs → (kvs.lookup n).isSome = true → n ∈ nms) →
    (extra.isSome = true → restsAttrs attrs = []) → (restsAttrs attrs).length ≤ 1 →
    Impl.bindAttrs ρ kvs acc nms extra attrs =
      Res.ofOption ((Spec.bindAttrs ρ acc attrs kvs).map fun σ =>
        (σ, nms.filter (fun m => !(attrNames attrs).contains m), (restsAttrs attrs).head?.or extra)) := by
  refine forall_mem_rec ?_ ?_
  · intro acc nms extra _ _ _ _
    have : nms.filter (fun _ => true) = nms := List.filter_eq_self.2 (fun _ _ => rfl)
    simp [Impl.bindAttrs_nil, Spec.bindAttrs, attrNames, restsAttrs, this]
  rintro ⟨n, p, fb⟩ r hok ih acc nms extra hnd hnms hextra hlen
  cases hp : restName p with
  | some t =>
    rw [attrNames_cons_some hp] at hnd hnms
    rw [restsAttrs_cons_some hp] at hextra hlen
    obtain rfl : extra = none := Option.not_isSome_iff_eq_none.1 fun h => nomatch hextra h
    have hrr : restsAttrs r = [] := List.eq_nil_of_length_eq_zero (by simpa using hlen)
    rw [Impl.bindAttrs_rest hp, Spec.bindAttrs_rest hp, attrNames_cons_some hp, restsAttrs_cons_some hp]
    simp only [Option.isSome_none, Bool.false_eq_true, if_false]
    rw [ih acc nms (some t) hnd hnms (fun _ => hrr) (by rw [hrr]; simp), hrr]
    rfl
  | none =>
    rw [attrNames_cons_none hp] at hnd hnms
    rw [restsAttrs_cons_none hp] at hextra hlen
    obtain ⟨hnotin, hndr⟩ := List.nodup_cons.1 hnd
    rw [Impl.bindAttrs_cons hp, Spec.bindAttrs_cons hp, attrNames_cons_none hp, restsAttrs_cons_none hp]
    cases hcv : compValue ρ (kvs.lookup n) fb with
    | none => split <;> rfl
    | some w =>
      -- the shortcut test cannot fire: the attribute is present (then its name is still in nms) or has a fallback
      have hshort : (fb.isNone && nms.isEmpty) = false := by
        cases fb with
        | some d => rfl
        | none =>
          cases hl : kvs.lookup n with
          | none => rw [hl] at hcv; cases hcv
          | some w' =>
            have := hnms n (List.mem_cons_self ..) (by rw [hl]; rfl)
            cases nms with
            | nil => cases this
            | cons _ _ => rfl
      rw [hshort, if_neg Bool.false_ne_true]
      dsimp only
      refine Impl.step_eq hok (fun o => Res.ofOption (o.map _)) rfl fun acc' => ?_
      rw [ih acc' (nms.filter (fun m => m != n)) extra hndr ?_ hextra hlen, filter_ne_filter_not_contains]
      intro n' hn' hl'
      have h2 : n' ≠ n := fun e => hnotin (e ▸ hn')
      simp [hnms n' (List.mem_cons_of_mem _ hn') hl', h2]

theorem isEmpty_filter_not_contains (A : List String) (ks : List (String × V)) :
    ((ks.map (·.1)).filter (fun m => !A.contains m)).isEmpty = ks.all (fun kv => A.contains kv.1) := by
  induction ks with
  | nil => simp
  | cons kv r ih =>
    simp only [List.map_cons, List.filter_cons, List.all_cons]
    cases hc : A.contains kv.1
    · simp
    · simpa using ih

theorem tup_refine (ρ : Env) (attrs : List (String × Pat × Option FExpr)) (v : V)
    (hsub : ∀ q, q ∈ attrs → SubOK ρ q.2.1) (hlen : (restsAttrs attrs).length ≤ 1)
    (hnd : (attrNames attrs).Nodup) :
    Impl.bind ρ (.tup attrs) v = Res.ofOption (Spec.bind ρ (.tup attrs) v) := by
  cases v with
  | num _ => rfl
  | set _ => rfl
  | tup kvs =>
    rw [Impl.bind, Spec.bind_tup, if_pos hnd, attrs_refine ρ kvs attrs hsub [] (kvs.map (·.1)) none hnd
      (fun n _ h => lookup_isSome_iff.1 h) nofun hlen]
    cases Spec.bindAttrs ρ [] attrs kvs with
    | none => rfl
    | some acc =>
      simp only [Option.map_some, ofOption_some, Option.bind_some]
      cases hr : restsAttrs attrs with
      | nil =>
        simp only [bindLeft_nil, List.head?_nil, Option.or_none]
        rw [isEmpty_filter_not_contains]
        cases kvs.all (fun kv => (attrNames attrs).contains kv.1) <;> rfl
      | cons t r' =>
        obtain rfl : r' = [] := List.eq_nil_of_length_eq_zero (by rw [hr] at hlen; simpa using hlen)
        -- `tuple.Project(names)` with the names left over is the tuple without the pattern's attributes
        have hW : kvs.filter (fun kv => ((kvs.map (·.1)).filter (fun m => !(attrNames attrs).contains m)).contains kv.1)
            = kvs.filter (fun kv => !(attrNames attrs).contains kv.1) := by
          apply List.filter_congr
          intro kv hkv
          have hmem : kv.1 ∈ kvs.map (·.1) := List.mem_map.2 ⟨kv, hkv, rfl⟩
          by_cases hc : kv.1 ∈ attrNames attrs <;> simp [hc, hmem]
        simp only [bindLeft_cons, List.head?_cons, Option.some_or, hW, bindRests]
        cases matchedUpdate acc (singleRest t (.tup (kvs.filter (fun kv => !(attrNames attrs).contains kv.1)))) <;> rfl

/-! ## dict patterns -/

theorem filter_ne_filter_not_mem {α : Type} (f : α → V) (l : List α) (k : V) (K : List V) :
    (l.filter (fun a => !decide (f a = k))).filter (fun a => !decide (f a ∈ K)) =
      l.filter (fun a => !decide (f a ∈ k :: K)) := by
  rw [List.filter_filter]
  apply List.filter_congr
  intro a _
  by_cases h1 : f a = k <;> by_cases h2 : f a ∈ K <;> simp [h1, h2]

theorem ents_refine (ρ : Env) (kvs : List (V × V)) :
    ∀ (ents : List (Lit × Pat × Option FExpr)), (∀ q, q ∈ ents → SubOK ρ q.2.1 ∧ q.2.2 = none) →
    ∀ (acc : Env) (m : List (V × V)) (extras : List String), (entKeys ents).Nodup →
    (∀ k, k ∈ entKeys ents → m.lookup k = kvs.lookup k) →
    Impl.bindEnts ρ acc m extras ents =
      Res.ofOption ((Spec.bindEnts ρ acc ents kvs).map fun σ =>
        (σ, m.filter (fun kv => !decide (kv.1 ∈ entKeys ents)), extras ++ restsEnts ents)) := by
  refine forall_mem_rec ?_ ?_
  · intro acc m extras _ _
    have : m.filter (fun _ => true) = m := List.filter_eq_self.2 (fun _ _ => rfl)
    simp [Impl.bindEnts_nil, Spec.bindEnts, entKeys, restsEnts, this]
  rintro ⟨k, p, fb⟩ r ⟨hok, rfl⟩ ih acc m extras hnd hm
  cases hp : restName p with
  | some t =>
    rw [entKeys_cons_some hp] at hnd hm
    rw [Impl.bindEnts_rest hp, Spec.bindEnts_rest hp, entKeys_cons_some hp, restsEnts_cons_some hp]
    rw [ih acc m (extras ++ [t]) hnd hm, List.append_assoc]
    rfl
  | none =>
    rw [entKeys_cons_none hp] at hnd hm
    obtain ⟨hnotin, hndr⟩ := List.nodup_cons.1 hnd
    rw [Impl.bindEnts_cons hp, Spec.bindEnts_cons hp, entKeys_cons_none hp, restsEnts_cons_none hp,
      ← hm k.den (List.mem_cons_self ..)]
    cases m.lookup k.den with
    | none => rfl
    | some w =>
      dsimp only
      refine Impl.step_eq hok (fun o => Res.ofOption (o.map _)) rfl fun acc' => ?_
      rw [ih acc' (m.filter (fun kv => !decide (kv.1 = k.den))) extras hndr ?_,
        filter_ne_filter_not_mem (fun kv : V × V => kv.1)]
      intro k' hk'
      rw [lookup_filter_ne _ _ _ fun (e : k' = k.den) => hnotin (e ▸ hk')]
      exact hm k' (List.mem_cons_of_mem _ hk')

theorem REnts_keys_found {ρ σ : Env} {kvs : List (V × V)} : ∀ (ents : List (Lit × Pat × Option FExpr)),
    (∀ q, q ∈ ents → q.2.2 = none) → REnts ρ σ ents kvs → ∀ k, k ∈ entKeys ents → k ∈ kvs.map (·.1) := by
  refine forall_mem_rec (fun _ _ hk => nomatch hk) ?_
  rintro ⟨k0, p, fb⟩ r rfl ih h k hk
  simp only [REnts] at h
  cases hp : restName p with
  | some t =>
    rw [entKeys_cons_some hp] at hk
    exact ih h.2 k hk
  | none =>
    rw [entKeys_cons_none hp] at hk
    rcases List.mem_cons.1 hk with rfl | hk
    · rw [hp] at h
      obtain ⟨⟨w, hw, _⟩, _⟩ := h
      cases hl : kvs.lookup k0.den with
      | none => rw [hl] at hw; cases hw
      | some w' => exact lookup_isSome_iff.1 (by rw [hl]; rfl)
    · exact ih h.2 k hk

theorem entMarks_counts : ∀ (ents : List (Lit × Pat × Option FExpr)),
    ((entMarks ents).filter (·.1)).length = (restsEnts ents).length ∧
    ents.length = (entKeys ents).length + (restsEnts ents).length
  | [] => by simp [entMarks, restsEnts, entKeys]
  | (k, p, fb) :: r => by
    obtain ⟨h1, h2⟩ := entMarks_counts r
    unfold entMarks at h1 ⊢
    cases hp : restName p with
    | some t =>
      simp only [List.map_cons, List.filter_cons, isRest_of hp, if_true, List.length_cons, restsEnts_cons_some hp,
        entKeys_cons_some hp, h1]
      exact ⟨trivial, by rw [h2]; omega⟩
    | none =>
      simp only [List.map_cons, List.filter_cons, isRest_false_of hp, Bool.false_eq_true, if_false, List.length_cons,
        restsEnts_cons_none hp, entKeys_cons_none hp, h1]
      exact ⟨trivial, by rw [h2]; omega⟩

theorem dict_refine (ρ : Env) (ents : List (Lit × Pat × Option FExpr)) (v : V)
    (hsub : ∀ q, q ∈ ents → SubOK ρ q.2.1) (hlen : (restsEnts ents).length ≤ 1)
    (hnofb : ∀ q, q ∈ ents → q.2.2 = none) (hnd : (entKeys ents).Nodup) :
    Impl.bind ρ (.dict ents) v = Res.ofOption (Spec.bind ρ (.dict ents) v) := by
  rw [Impl.bind, Spec.bind_dict]
  cases hv : asDict v with
  | none => rfl
  | some kvs =>
    obtain ⟨_, hkn⟩ := (asDict_iff v kvs).1 hv
    obtain ⟨hc1, hc2⟩ := entMarks_counts ents
    have hmarks : (entMarks ents).filter (·.2) = [] := List.filter_eq_nil_iff.2 fun m hm => by
      obtain ⟨q, hq, rfl⟩ := List.mem_map.1 hm
      simp [hnofb q hq]
    have hscan : scanMarks (entMarks ents) 0 = some (restsEnts ents).length := by
      rw [scanMarks_eq _ 0 (Nat.zero_le 1), hc1, hmarks, if_pos (by simpa using hlen)]; simp
    simp only [hscan, Option.bind_some, if_pos hnd]
    rw [ents_refine ρ kvs ents (fun q hq => ⟨hsub q hq, hnofb q hq⟩) [] kvs [] hnd (fun _ _ => rfl)]
    cases hb : Spec.bindEnts ρ [] ents kvs with
    | none =>
      simp only [Option.map_none, ofOption_none, Option.bind_none]
      split
      · rfl
      · split <;> rfl
    | some acc =>
      have hfound := REnts_keys_found ents hnofb (bindEnts_sound ρ ents [] kvs acc hb).1
      rw [length_tests hnd hkn hfound hc2 (List.length_map ..).symm]
      simp only [Option.map_some, ofOption_some, Option.bind_some, List.nil_append]
      cases hr : restsEnts ents with
      | nil =>
        -- no `...`: the second length test is the specification's "every key is named"
        simp only [bindLeft_nil, List.length_nil, forall_const, bindRests, ofOption_some, List.all_eq_true,
          decide_eq_true_eq, List.forall_mem_map]
        rw [apply_ite Res.ofOption]; rfl
      | cons t r' => rw [bindLeft_cons, if_pos nofun]

/-! ## array patterns -/

theorem any_isRest_iff (items : List (Pat × Option FExpr)) :
    items.any (fun q => q.1.isRest) = true ↔ 0 < ((itemMarks items).filter (·.1)).length := by
  rw [itemMarks, List.filter_map, List.length_map, ← List.countP_eq_length_filter, List.countP_pos_iff, List.any_eq_true]
  rfl

theorem length_filter_le_cons {α} (f : α → Bool) (a : α) (l : List α) :
    (l.filter f).length ≤ ((a :: l).filter f).length :=
  ((List.sublist_cons_self a l).filter f).length_le

/-- what the two length tests of ArrayPattern.Bind reject has no match -/
theorem RItems_lengths {ρ σ : Env} : ∀ (items : List (Pat × Option FExpr)) (xs : List V), RItems ρ σ items xs →
    items.length ≤ xs.length + ((itemMarks items).filter (·.1)).length + ((itemMarks items).filter (·.2)).length ∧
    (items.any (fun q => q.1.isRest) = false → xs.length ≤ items.length)
  | [], xs, h => by simp only [RItems] at h; simp [h]
  | (p, fb) :: r, xs, h => by
    rw [itemMarks_cons, List.any_cons, List.length_cons]
    cases hp : restName p with
    | some t =>
      simp only [RItems, hp] at h
      obtain ⟨seg, tail, rfl, _, hi⟩ := h
      have := (RItems_lengths r tail hi).1
      have hisr := isRest_of hp
      have m2 := length_filter_le_cons (·.2) (p.isRest, fb.isSome) (itemMarks r)
      refine ⟨?_, fun hr => by rw [hisr] at hr; cases hr⟩
      rw [List.filter_cons_of_pos (p := fun x : Bool × Bool => x.1) hisr, List.length_cons, List.length_append]
      omega
    | none =>
      simp only [RItems, hp] at h
      rw [isRest_false_of hp, Bool.false_or]
      have m1 := length_filter_le_cons (·.1) (false, fb.isSome) (itemMarks r)
      rcases h with ⟨x, tail, rfl, _, hi⟩ | ⟨d, hfv, rfl, _, hi⟩
      · obtain ⟨h1, h2⟩ := RItems_lengths r tail hi
        have m2 := length_filter_le_cons (·.2) (false, fb.isSome) (itemMarks r)
        exact ⟨by rw [List.length_cons]; omega, fun hr => Nat.succ_le_succ (h2 hr)⟩
      · have h1 := (RItems_lengths r [] hi).1
        obtain ⟨d', rfl⟩ : ∃ d', fb = some d' := by cases fb <;> first | exact ⟨_, rfl⟩ | cases hfv
        refine ⟨?_, fun _ => Nat.zero_le _⟩
        rw [List.filter_cons_of_pos (p := fun x : Bool × Bool => x.2) rfl, List.length_cons]
        omega

theorem arrValue_item {p : Pat} (hp : p.isRest = false) (ρ : Env) (xs : List V) (n i j : Nat) (fb : Option FExpr) :
    arrValue ρ xs n i ((j : Int) - (i : Int)) p fb =
      Res.ofOption (((xs.drop j).head?.or (fbVal ρ fb)).map fun w => ((j : Int) - (i : Int), w)) := by
  unfold arrValue
  rw [hp, if_neg Bool.false_ne_true, List.head?_drop, show (i : Int) + ((j : Int) - (i : Int)) = j by omega,
    Int.toNat_natCast]
  by_cases hc : xs.length ≤ j
  · rw [if_pos (Int.ofNat_le.2 hc), List.getElem?_eq_none hc, Option.none_or]
    cases fbVal ρ fb <;> rfl
  · rw [if_neg (mt Int.ofNat_le.1 hc), List.getElem?_eq_getElem (Nat.lt_of_not_le hc)]
    rfl

theorem arrValue_rest (ρ : Env) (xs : List V) (n i : Nat) (t : String) (fb : Option FExpr) :
    arrValue ρ xs n i 0 (.rest t) fb =
      .ok ((xs.length : Int) - (n : Int), mkArr ((xs.drop i).take ((xs.length : Int) - (n : Int) + 1).toNat)) := by
  unfold arrValue
  rw [show (Pat.rest t).isRest = true from rfl, if_pos rfl]
  dsimp only
  split
  · rfl
  · rw [Int.toNat_of_nonpos (by omega), List.take_zero]

/-- the index arithmetic of ArrayPattern.Bind's main loop walks the array exactly as the specification's
item-by-item matcher does.  `j` is the index `i + offset` of the next item: before `...` the offset is 0; `...` sets
it so that the later items are the last ones.  `n ≤ xs.length + 1` is what the first length test leaves with a `...` -/
theorem items_refine (ρ : Env) (xs : List V) (n : Nat) :
    ∀ (items : List (Pat × Option FExpr)), (∀ q, q ∈ items → SubOK ρ q.1) →
    ∀ (i j : Nat) (acc : Env), i + items.length = n →
    (items.any (fun q => q.1.isRest) = false → xs.length ≤ j + items.length) →
    (items.any (fun q => q.1.isRest) = true →
      j = i ∧ ((itemMarks items).filter (·.1)).length ≤ 1 ∧ n ≤ xs.length + 1) →
    Impl.bindItems ρ xs n i ((j : Int) - (i : Int)) acc items =
      Res.ofOption (Spec.bindItems ρ acc items (xs.drop j)) := by
  refine forall_mem_rec ?_ ?_
  · intro i j acc _ h3 _
    rw [Impl.bindItems_nil, Spec.bindItems_nil, if_pos (List.drop_eq_nil_of_le (h3 rfl) : xs.drop j = [])]
    rfl
  rintro ⟨p, fb⟩ r hp ih i j acc h1 h3 h4
  rw [List.length_cons] at h1 h3
  rw [List.any_cons] at h3 h4
  rw [Impl.bindItems_cons]
  cases hrn : restName p with
  | some t =>
    obtain rfl := restName_some hrn
    obtain ⟨rfl, hrl, hnc⟩ := h4 rfl
    have hrr : r.any (fun q => q.1.isRest) = false := Bool.eq_false_iff.2 fun h => by
      have := (any_isRest_iff r).1 h
      rw [itemMarks_cons, List.filter_cons_of_pos rfl, List.length_cons] at hrl
      omega
    -- `...` takes all but one item per later part; the new offset makes the next index `j + that many`
    obtain ⟨hfits, hcount, hlast, hoff⟩ : r.length ≤ (xs.drop j).length ∧
        ((xs.length : Int) - (n : Int) + 1).toNat = (xs.drop j).length - r.length ∧
        xs.length ≤ j + ((xs.drop j).length - r.length) + r.length ∧
        (xs.length : Int) - (n : Int) = ((j + ((xs.drop j).length - r.length) : Nat) : Int) - ((j + 1 : Nat) : Int) := by
      rw [List.length_drop]; omega
    rw [Int.sub_self, arrValue_rest, hcount, Spec.bindItems_rest, if_pos hfits]
    dsimp only
    refine Impl.step_eq hp Res.ofOption rfl fun acc' => ?_
    rw [List.drop_drop, hoff]
    exact ih (j + 1) _ acc' ((Nat.add_right_comm j 1 r.length).trans h1) (fun _ => hlast)
      (fun h => absurd (hrr.symm.trans h) Bool.false_ne_true)
  | none =>
    rw [isRest_false_of hrn, Bool.false_or] at h3 h4
    rw [arrValue_item (isRest_false_of hrn), Spec.bindItems_cons hrn]
    cases (xs.drop j).head?.or (fbVal ρ fb) with
    | none => rfl
    | some w =>
      dsimp only [Option.map_some, ofOption_some]
      refine Impl.step_eq hp Res.ofOption rfl fun acc' => ?_
      rw [List.tail_drop, show (j : Int) - (i : Int) = ((j + 1 : Nat) : Int) - ((i + 1 : Nat) : Int) by omega]
      exact ih (i + 1) (j + 1) acc' ((Nat.add_right_comm i 1 r.length).trans h1)
        (fun hr => (Nat.add_right_comm j 1 r.length) ▸ h3 hr)
        (fun hne => by
          obtain ⟨h, hm, h'⟩ := h4 hne
          exact ⟨h ▸ rfl, by simpa [itemMarks_cons, isRest_false_of hrn] using hm, h'⟩)

theorem arr_refine (ρ : Env) (items : List (Pat × Option FExpr)) (v : V)
    (hsub : ∀ q, q ∈ items → SubOK ρ q.1) (hscan : (scanMarks (itemMarks items) 0).isSome = true) :
    Impl.bind ρ (.arr items) v = Res.ofOption (Spec.bind ρ (.arr items) v) := by
  rw [Impl.bind, Spec.bind_arr]
  cases asArr v with
  | none => rfl
  | some xs =>
    obtain ⟨cnt, hs, hle, hcnt⟩ := scanMarks_of_isSome hscan
    simp only [hs, Option.bind_some]
    have hlen := fun σ (hb : Spec.bindItems ρ [] items xs = some σ) =>
      RItems_lengths items xs (bindItems_sound ρ items [] xs σ hb).1
    by_cases h1 : items.length > xs.length + cnt
    · rw [if_pos h1]
      cases hb : Spec.bindItems ρ [] items xs with
      | none => rfl
      | some σ => have := (hlen σ hb).1; omega
    · rw [if_neg h1]
      by_cases h2 : (!(items.any (fun q => q.1.isRest)) && decide (items.length < xs.length)) = true
      · rw [if_pos h2]
        simp only [Bool.and_eq_true, Bool.not_eq_true', decide_eq_true_eq] at h2
        cases hb : Spec.bindItems ρ [] items xs with
        | none => rfl
        | some σ => exact absurd ((hlen σ hb).2 h2.1) (Nat.not_le_of_gt h2.2)
      · rw [if_neg h2]
        simp only [Bool.and_eq_true, Bool.not_eq_true', decide_eq_true_eq, not_and] at h2
        exact items_refine ρ xs items.length items hsub 0 0 [] (Nat.zero_add _)
          (fun hr => (Nat.zero_add _).symm ▸ Nat.le_of_not_lt (h2 hr))
          (fun hr => have := (any_isRest_iff items).1 hr; ⟨rfl, by omega, by omega⟩)

/-! ## set patterns -/

/-- the elements SetPattern.Bind's main loop handles itself -/
def simpleElt : Pat → Bool
  | .rest _ | .name _ | .lit _ => true
  | .exprs [_] => true
  | _ => false

/-- the test of SetPattern.Bind's first and last loop -/
abbrev isExtra (p : Pat) : Bool := p.isRest || isIdent p

theorem filter_not_mem_nil (ms : List V) : ms.filter (fun m => !decide (m ∈ ([] : List V))) = ms :=
  List.filter_eq_self.2 (fun _ _ => by simp)

theorem nodup_members_cons {s fws : List V} {w : V} (hws : w ∈ s) :
    (fws.Nodup ∧ ∀ w', w' ∈ fws → w' ∈ s.filter (fun m => !decide (m = w))) ↔
      ((w :: fws).Nodup ∧ ∀ w', w' ∈ w :: fws → w' ∈ s) := by
  simp only [List.mem_filter, Bool.not_eq_true', decide_eq_false_iff_not, List.nodup_cons, List.mem_cons]
  constructor
  · rintro ⟨h1, h2⟩
    refine ⟨⟨fun hin => (h2 w hin).2 rfl, h1⟩, ?_⟩
    rintro w' (rfl | hw')
    · exact hws
    · exact (h2 w' hw').1
  · rintro ⟨⟨h0, h1⟩, h2⟩
    exact ⟨h1, fun w' hw' => ⟨h2 w' (Or.inr hw'), fun e => h0 (e ▸ hw')⟩⟩

theorem simpleElt_cases {p : Pat} (hp : simpleElt p = true) :
    (∃ t, p = .rest t) ∨ (∃ x, p = .name x) ∨ (∃ l, p = .lit l) ∨ (∃ e, p = .exprs [e]) := by
  cases p with
  | rest t => exact Or.inl ⟨t, rfl⟩
  | name x => exact Or.inr (Or.inl ⟨x, rfl⟩)
  | lit l => exact Or.inr (Or.inr (Or.inl ⟨l, rfl⟩))
  | exprs es =>
    cases es with
    | nil => simp [simpleElt] at hp
    | cons e r =>
      cases r with
      | nil => exact Or.inr (Or.inr (Or.inr ⟨e, rfl⟩))
      | cons _ _ => simp [simpleElt] at hp
  | arr _ => simp [simpleElt] at hp
  | tup _ => simp [simpleElt] at hp
  | dict _ => simp [simpleElt] at hp
  | set _ => simp [simpleElt] at hp

/-- the main loop on simple elements: it fails exactly when the determined values are not distinct members -/
theorem impl_bindElts_of_simple (ρ : Env) (n : Nat) : ∀ (elts : List Pat) (s fws : List V),
    elts.all simpleElt = true → fixedValues ρ elts = some fws →
    Impl.bindElts ρ n s elts =
      if fws.Nodup ∧ ∀ w, w ∈ fws → w ∈ s then .cont (s.filter (fun m => !decide (m ∈ fws))) else .ret .err
  | [], s, fws, _, hf => by
    cases hf
    rw [Impl.bindElts_nil, if_pos ⟨List.nodup_nil, nofun⟩, filter_not_mem_nil]
  | p :: r, s, fws, hs, hf => by
    simp only [List.all_cons, Bool.and_eq_true] at hs
    have ih := impl_bindElts_of_simple ρ n r
    have fixedCase : ∀ w, fixedValue ρ p = some (some w) → eltKind p = .fixed →
        Impl.bindElts ρ n s (p :: r) =
          (if w ∈ s then Impl.bindElts ρ n (s.filter (fun m => !decide (m = w))) r else .ret .err) →
        Impl.bindElts ρ n s (p :: r) =
          if fws.Nodup ∧ ∀ w, w ∈ fws → w ∈ s then .cont (s.filter (fun m => !decide (m ∈ fws))) else .ret .err := by
      intro w hfv hk himpl
      obtain ⟨w', fws', hfv', hf', rfl⟩ := (fixedValues_fixed hk).1 hf
      cases hfv.symm.trans hfv'
      rw [himpl]
      by_cases hws : w ∈ s
      · rw [if_pos hws, ih _ fws' hs.2 hf', filter_ne_filter_not_mem (fun m : V => m)]
        exact ite_congr (propext (nodup_members_cons hws)) (fun _ => rfl) (fun _ => rfl)
      · rw [if_neg hws, if_neg fun h => hws (h.2 w (List.mem_cons_self ..))]
    rcases simpleElt_cases hs.1 with ⟨t, rfl⟩ | ⟨x, rfl⟩ | ⟨l, rfl⟩ | ⟨e, rfl⟩
    · rw [fixedValues_skip rfl] at hf
      rw [Impl.bindElts]; exact ih s fws hs.2 hf
    · rw [fixedValues_skip rfl] at hf
      rw [Impl.bindElts]; exact ih s fws hs.2 hf
    · exact fixedCase l.den rfl rfl (by rw [Impl.bindElts])
    · cases he : e.eval ρ with
      | none =>
        obtain ⟨w, _, hfv, _⟩ := (fixedValues_fixed (p := .exprs [e]) rfl).1 hf
        rw [fixedValue, he] at hfv; cases hfv
      | some w => exact fixedCase w (by rw [fixedValue, he]) rfl (by rw [Impl.bindElts]; simp only [he])

theorem simpleElt_not_extra {p : Pat} (hs : simpleElt p = true) (hx : isExtra p = false) :
    eltKind p = .fixed ∧ restName p = none := by
  rcases simpleElt_cases hs with ⟨t, rfl⟩ | ⟨x, rfl⟩ | ⟨l, rfl⟩ | ⟨e, rfl⟩ <;> first | exact ⟨rfl, rfl⟩ | cases hx

theorem simpleElt_extra {p : Pat} (hs : simpleElt p = true) (hx : isExtra p = true) :
    (∃ t, p = .rest t) ∨ (∃ x, p = .name x) := by
  rcases simpleElt_cases hs with h | h | ⟨l, rfl⟩ | ⟨e, rfl⟩ <;> first | exact Or.inl h | exact Or.inr h | cases hx

theorem countKind_of_simple : ∀ elts : List Pat, elts.all simpleElt = true →
    elts.any isAlternatives = false ∧ countKind .free elts + countKind .rest elts = (elts.filter isExtra).length
  | [], _ => ⟨rfl, rfl⟩
  | p :: r, hs => by
    simp only [List.all_cons, Bool.and_eq_true] at hs
    obtain ⟨ha, hc⟩ := countKind_of_simple r hs.2
    rw [countKind_cons, countKind_cons, List.any_cons, ha, List.filter_cons]
    rcases simpleElt_cases hs.1 with ⟨t, rfl⟩ | ⟨x, rfl⟩ | ⟨l, rfl⟩ | ⟨e, rfl⟩ <;>
      exact ⟨rfl, by simp [eltKind, Pat.isRest, restName, isIdent]; omega⟩

/-- `Spec.bind` after the determined elements, by the element SetPattern.Bind's last loop finds -/
theorem bindElts_bindLeft_of_simple (ρ : Env) : ∀ (elts : List Pat), elts.all simpleElt = true →
    (elts.filter isExtra).length ≤ 1 →
    ∀ left, ((Spec.bindElts ρ [] elts left).bind fun r => bindLeft r.1 (restsElts elts) (r.2 = []) (.set r.2)) =
      match elts.find? isExtra with
      | some (.rest t) => matchedUpdate [] (singleRest t (.set left))
      | some (.name x) => (match left with | [w] => matchedUpdate [] (single x w) | _ => none)
      | _ => if left = [] then some [] else none
  | [], _, _, left => rfl
  | p :: r, hs, hx, left => by
    simp only [List.all_cons, Bool.and_eq_true] at hs
    by_cases hxp : isExtra p = true
    · -- the one name or `...`: the other elements change nothing
      rw [List.filter_cons_of_pos hxp, List.length_cons] at hx
      have hc := (countKind_of_simple r hs.2).2
      have hr := restsElts_nil_of_count (by omega : countKind .rest r = 0)
      have hloop := Spec.bindElts_nofree ρ r (by omega)
      rw [List.find?_cons_of_pos (l := r) hxp]
      rcases simpleElt_extra hs.1 hxp with ⟨t, rfl⟩ | ⟨x, rfl⟩
      · rw [Spec.bindElts_cons_skip rfl, hloop, restsElts, hr]
        simp only [Option.bind_some, restName, List.append_nil, bindLeft_cons, bindRests]
        cases matchedUpdate [] (singleRest t (.set left)) <;> rfl
      · rw [restsElts, hr]
        match left with
        | [] => simp [Spec.bindElts, eltKind]
        | _ :: _ :: _ => simp [Spec.bindElts, eltKind]
        | [w] =>
          rw [Spec.bindElts_cons_free rfl]
          simp only [Spec.step, Spec.bind, hloop]
          cases matchedUpdate [] (single x w) <;> simp [bindLeft_nil, restName]
    · have hxp : isExtra p = false := by simpa using hxp
      obtain ⟨hk, hrn⟩ := simpleElt_not_extra hs.1 hxp
      rw [List.filter_cons_of_neg (by simp [hxp])] at hx
      rw [List.find?_cons_of_neg (l := r) (by simp [hxp]), Spec.bindElts_cons_skip hk, restsElts, hrn]
      exact bindElts_bindLeft_of_simple ρ r hs.2 hx left

theorem scanMarks_eltMarks {elts : List Pat} (h : (scanMarks (eltMarks elts) 0).isSome = true) :
    (elts.filter isExtra).length ≤ 1 ∧ scanMarks (eltMarks elts) 0 = some (elts.filter isExtra).length := by
  obtain ⟨cnt, hs, hle, hcnt⟩ := scanMarks_of_isSome h
  have hfb : (eltMarks elts).filter (·.2) = [] := List.filter_eq_nil_iff.2 fun m hm => by
    obtain ⟨p, _, rfl⟩ := List.mem_map.1 hm
    exact Bool.false_ne_true
  rw [hfb, eltMarks, List.filter_map, List.length_map] at hcnt
  obtain rfl : cnt = (elts.filter isExtra).length := hcnt
  exact ⟨hle, hs⟩

theorem fixedValues_of_simple (ρ : Env) : ∀ elts : List Pat, (∀ p, p ∈ elts → supported ρ p = true) →
    elts.all simpleElt = true →
    ∃ fws, fixedValues ρ elts = some fws ∧ elts.length = fws.length + (elts.filter isExtra).length := by
  refine forall_mem_rec (fun _ => ⟨[], rfl, rfl⟩) fun p r hp ih hs => ?_
  simp only [List.all_cons, Bool.and_eq_true] at hs
  obtain ⟨fws, hf, h⟩ := ih hs.2
  rcases simpleElt_cases hs.1 with ⟨t, rfl⟩ | ⟨x, rfl⟩ | ⟨l, rfl⟩ | ⟨e, rfl⟩
  · exact ⟨fws, by rw [fixedValues_skip rfl]; exact hf,
      by rw [List.filter_cons_of_pos rfl]; simp only [List.length_cons]; omega⟩
  · exact ⟨fws, by rw [fixedValues_skip rfl]; exact hf,
      by rw [List.filter_cons_of_pos rfl]; simp only [List.length_cons]; omega⟩
  · exact ⟨l.den :: fws, (fixedValues_fixed rfl).2 ⟨_, fws, rfl, hf, rfl⟩,
      by rw [List.filter_cons_of_neg (by simp [isExtra, Pat.isRest, restName, isIdent])]; simp only [List.length_cons]; omega⟩
  · obtain ⟨w, hw⟩ := Option.isSome_iff_exists.1 (by simpa [supported] using hp : (e.eval ρ).isSome = true)
    exact ⟨w :: fws, (fixedValues_fixed rfl).2 ⟨w, fws, by rw [fixedValue, hw], hf, rfl⟩,
      by rw [List.filter_cons_of_neg (by simp [isExtra, Pat.isRest, restName, isIdent])]; simp only [List.length_cons]; omega⟩

theorem eltOK_not_simple {n : Nat} {p : Pat} (hok : eltOK n p = true) (hs : simpleElt p = false) :
    n = 1 ∧ isComplex p = true := by
  cases p with
  | exprs es =>
    cases es with
    | nil => simp [eltOK] at hok
    | cons e r => cases r <;> simp [eltOK, simpleElt] at hok hs
  | arr _ => simpa [eltOK, isComplex] using hok
  | tup _ => simpa [eltOK, isComplex] using hok
  | dict _ => simpa [eltOK, isComplex] using hok
  | set _ => simpa [eltOK, isComplex] using hok
  | lit _ => simp [simpleElt] at hs
  | name _ => simp [simpleElt] at hs
  | rest _ => simp [simpleElt] at hs

theorem complex_elt {p : Pat} (hc : isComplex p = true) :
    eltKind p = .free ∧ (p.isRest || isIdent p) = false ∧ isAlternatives p = false ∧
    ∀ ρ e s, Impl.bindElts ρ 1 (e :: s) [p] = .ret (Impl.bind ρ p e) := by
  cases p <;> first | exact ⟨rfl, rfl, rfl, fun _ _ _ => rfl⟩ | cases hc

/-- a set pattern whose single element is a nested pattern: the "first element" rule -/
theorem set_refine_single_complex (ρ : Env) (p : Pat) (v : V) (hc : isComplex p = true) (hsub : SubOK ρ p) :
    Impl.bind ρ (.set [p]) v = Res.ofOption (Spec.bind ρ (.set [p]) v) := by
  obtain ⟨hk, hmark, _, hloop⟩ := complex_elt hc
  have hscan : scanMarks (eltMarks [p]) 0 = some 0 := by
    rw [eltMarks, List.map_cons, hmark]; rfl
  have hrests : restsElts [p] = [] := by
    rw [restsElts, eltKind_ne_rest hk]; rfl
  rw [Impl.bind, Spec.bind_set, fixedValues_skip hk]
  cases asSet v with
  | none => rfl
  | some ms =>
    simp only [hscan, fixedValues, Option.bind_some, List.nodup_nil, List.all_nil, and_self, if_true,
      filter_not_mem_nil, List.length_singleton, Nat.add_zero, hrests]
    match ms with
    | [] => simp [Spec.bindElts, hk]
    | e :: e' :: r' => simp [Spec.bindElts, hk]
    | [e] =>
      simp only [List.length_singleton, Nat.lt_irrefl, gt_iff_lt, if_false, decide_false, Bool.and_false,
        Bool.false_eq_true, hloop, Spec.bindElts_cons_free hk, hsub e]
      cases hb : Spec.bind ρ p e with
      | none => simp [Spec.step, hb]
      | some s => simp [Spec.step, hb, matchedUpdate_nil, Spec.bindElts, bindLeft_nil]

theorem set_refine_simple (ρ : Env) (elts : List Pat) (v : V) (hs : elts.all simpleElt = true)
    (hsup : ∀ p, p ∈ elts → supported ρ p = true) (hscan : (scanMarks (eltMarks elts) 0).isSome = true) :
    Impl.bind ρ (.set elts) v = Res.ofOption (Spec.bind ρ (.set elts) v) := by
  obtain ⟨fws, hf, hlen⟩ := fixedValues_of_simple ρ elts hsup hs
  obtain ⟨hle, hsc⟩ := scanMarks_eltMarks hscan
  rw [Impl.bind, Spec.bind_set]
  cases hset : asSet v with
  | none => rfl
  | some ms =>
    obtain ⟨_, hmnd⟩ := (asSet_iff v ms).1 hset
    simp only [hsc, hf, Option.bind_some]
    rw [impl_bindElts_of_simple ρ elts.length elts ms fws hs hf, bindElts_bindLeft_of_simple ρ elts hs hle]
    have hcondB : (fws.Nodup ∧ fws.all (fun w => decide (w ∈ ms)) = true) ↔ (fws.Nodup ∧ ∀ w, w ∈ fws → w ∈ ms) := by
      simp [List.all_eq_true]
    by_cases hcond : fws.Nodup ∧ ∀ w, w ∈ fws → w ∈ ms
    · rw [length_tests hcond.1 hmnd hcond.2 hlen rfl, if_pos hcond, if_pos (hcondB.2 hcond)]
      cases hfind : elts.find? isExtra with
      | none =>
        have h0 : elts.filter isExtra = [] :=
          List.filter_eq_nil_iff.2 fun q hq => by simpa using List.find?_eq_none.1 hfind q hq
        -- no name and no `...`: the second length test is the specification's "nothing left"
        simp only [h0, List.length_nil, forall_const, List.filter_eq_nil_iff, Bool.not_eq_true', decide_eq_false_iff_not,
          Decidable.not_not]
        rw [apply_ite Res.ofOption]; rfl
      | some e =>
        have hx := List.find?_some hfind
        have hmem := List.mem_of_find?_eq_some hfind
        rw [if_pos fun h => nomatch List.eq_nil_of_length_eq_zero h ▸ List.mem_filter.2 ⟨hmem, hx⟩]
        rcases simpleElt_extra (List.all_eq_true.1 hs e hmem) hx with ⟨t, rfl⟩ | ⟨x, rfl⟩
        · rfl
        · cases ms.filter (fun m => !decide (m ∈ fws)) with
          | nil => rfl
          | cons w l => cases l <;> rfl
    · rw [if_neg hcond, if_neg (fun h => hcond (hcondB.1 h))]
      split
      · rfl
      · split <;> rfl

theorem simple_or_single_complex {elts : List Pat} (hok : elts.all (eltOK elts.length) = true) :
    elts.all simpleElt = true ∨ ∃ p, elts = [p] ∧ isComplex p = true := by
  refine Decidable.or_iff_not_imp_left.2 fun hs => ?_
  obtain ⟨p, hp, hps⟩ := List.all_eq_false.1 (by simpa using hs)
  obtain ⟨hn, hc⟩ := eltOK_not_simple ((List.all_eq_true.1 hok) p hp) (by simpa using hps)
  match elts, hn, hp with
  | [a], _, hp => exact ⟨p, by rw [List.mem_singleton.1 hp], hc⟩

/-! ## `(e₁, …)` patterns -/

theorem exprsLoop_eq (ρ : Env) (v : V) : ∀ (es : List PExpr), es.all (fun e => (e.eval ρ).isSome) = true →
    Impl.exprsLoop ρ v es =
      Res.ofOption (if es.any (fun e => decide (e.eval ρ = some v)) then some ([] : Env) else none)
  | [], _ => by rw [Impl.exprsLoop_nil]; rfl
  | e :: r, h => by
    simp only [List.all_cons, Bool.and_eq_true] at h
    cases he : e.eval ρ with
    | none => rw [he] at h; simp at h
    | some w =>
      simp only [Impl.exprsLoop, he, List.any_cons, Option.some.injEq]
      by_cases hvw : v = w
      · subst hvw; simp
      · have hwv : ¬ w = v := fun e => hvw e.symm
        simp only [hvw, if_false, hwv, decide_false, Bool.false_or]
        exact exprsLoop_eq ρ v r h.2

/-! ## tying the knot -/

/-- on supported patterns the transliterated Go matcher computes the specification's decision procedure -/
theorem impl_eq (ρ : Env) (p : Pat) : supported ρ p = true → SubOK ρ p := by
  induction p using Pat.induct with
  | lit l =>
    intro _ w
    rw [Impl.bind, Spec.bind]
    by_cases h : w = l.den
    · rw [if_pos h, if_pos h.symm]; rfl
    · rw [if_neg h, if_neg (Ne.symm h)]; rfl
  | name x => exact fun _ w => by rw [Impl.bind, Spec.bind]; rfl
  | rest x => exact fun _ w => by rw [Impl.bind_rest, Spec.bind_rest]; rfl
  | exprs es =>
    intro h w
    simp only [supported] at h
    rw [Impl.bind, Spec.bind]
    cases es with
    | nil => rfl
    | cons e r => exact exprsLoop_eq ρ w (e :: r) h
  | arr items ih =>
    intro h w
    simp only [supported, Bool.and_eq_true] at h
    obtain ⟨hscan, hitems⟩ := h
    exact arr_refine ρ items w (fun q hq => ih q hq ((supportedItems_iff ρ items).1 hitems q hq)) hscan
  | tup attrs ih =>
    intro h w
    simp only [supported, Bool.and_eq_true, decide_eq_true_eq] at h
    obtain ⟨⟨hrests, hnd⟩, hattrs⟩ := h
    exact tup_refine ρ attrs w (fun q hq => ih q hq ((supportedAttrs_iff ρ attrs).1 hattrs q hq)) hrests hnd
  | dict ents ih =>
    intro h w
    simp only [supported, Bool.and_eq_true, decide_eq_true_eq] at h
    obtain ⟨⟨⟨hrests, hnofb⟩, hnd⟩, hents⟩ := h
    exact dict_refine ρ ents w (fun q hq => ih q hq ((supportedEnts_iff ρ ents).1 hents q hq)) hrests
      (fun q hq => by simpa using List.all_eq_true.1 hnofb q hq) hnd
  | set elts ih =>
    intro h w
    simp only [supported, Bool.and_eq_true] at h
    obtain ⟨⟨hscan, hok⟩, helts⟩ := h
    have hsup := (supportedElts_iff ρ elts).1 helts
    rcases simple_or_single_complex hok with hs | ⟨p, rfl, hc⟩
    · exact set_refine_simple ρ elts w hs hsup hscan
    · exact set_refine_single_complex ρ p w hc (ih p (List.mem_singleton_self p) (hsup p (List.mem_singleton_self p)))

/-! for the list-level hypotheses that unfolding `supported` on a container pattern leaves -/

theorem impl_eq_items (ρ : Env) : ∀ (items : List (Pat × Option FExpr)), supportedItems ρ items = true →
    ∀ q, q ∈ items → SubOK ρ q.1 :=
  fun items h q hq => impl_eq ρ q.1 ((supportedItems_iff ρ items).1 h q hq)
theorem impl_eq_attrs (ρ : Env) : ∀ (attrs : List (String × Pat × Option FExpr)), supportedAttrs ρ attrs = true →
    ∀ q, q ∈ attrs → SubOK ρ q.2.1 :=
  fun attrs h q hq => impl_eq ρ q.2.1 ((supportedAttrs_iff ρ attrs).1 h q hq)
theorem impl_eq_ents (ρ : Env) : ∀ (ents : List (Lit × Pat × Option FExpr)), supportedEnts ρ ents = true →
    ∀ q, q ∈ ents → SubOK ρ q.2.1 :=
  fun ents h q hq => impl_eq ρ q.2.1 ((supportedEnts_iff ρ ents).1 h q hq)
theorem impl_eq_elts (ρ : Env) : ∀ (elts : List Pat), supportedElts ρ elts = true →
    ∀ q, q ∈ elts → SubOK ρ q :=
  fun elts h q hq => impl_eq ρ q ((supportedElts_iff ρ elts).1 h q hq)

theorem Impl.evalCond_cons {ρ : Env} {p : Pat} (hp : supported ρ p = true) (v : V) (r : List Pat) (i : Nat) :
    Impl.evalCond ρ v (p :: r) i =
      match Spec.bind ρ p v with
      | some σ => .ok (some (i, σ))
      | none => Impl.evalCond ρ v r (i + 1) := by
  rw [Impl.evalCond, impl_eq ρ p hp v]
  cases Spec.bind ρ p v <;> rfl

/-! ## supported patterns are deterministic -/

/-- after a `...` the counts leave no mark for the later items -/
theorem detItemsShape_of_marks : ∀ items : List (Pat × Option FExpr),
    ((itemMarks items).filter (·.1)).length + ((itemMarks items).filter (·.2)).length ≤ 1 → detItemsShape items = true
  | [], _ => rfl
  | (p, fb) :: r, h => by
    rw [itemMarks_cons] at h
    have h1 := length_filter_le_cons (·.1) (p.isRest, fb.isSome) (itemMarks r)
    have h2 := length_filter_le_cons (·.2) (p.isRest, fb.isSome) (itemMarks r)
    rw [detItemsShape]
    cases hp : p.isRest with
    | false =>
      rw [if_neg Bool.false_ne_true]
      exact detItemsShape_of_marks r (by omega)
    | true =>
      rw [hp] at h2
      rw [hp, List.filter_cons_of_pos rfl, List.length_cons] at h
      rw [if_pos rfl, List.all_eq_true]
      intro q hq
      have hm : (q.1.isRest, q.2.isSome) ∈ itemMarks r := List.mem_map.2 ⟨q, hq, rfl⟩
      have hq1 : q.1.isRest = false := Bool.eq_false_iff.2 fun e => by
        have := List.length_pos_of_mem (List.mem_filter (p := (·.1)).2 ⟨hm, e⟩); omega
      have hq2 : q.2.isSome = false := Bool.eq_false_iff.2 fun e => by
        have := List.length_pos_of_mem (List.mem_filter (p := (·.2)).2 ⟨hm, e⟩); omega
      rw [hq1, Option.isNone_iff_eq_none.2 (Option.not_isSome_iff_eq_none.1 (by rw [hq2]; exact Bool.false_ne_true))]
      rfl

theorem supported_det (ρ : Env) (p : Pat) : supported ρ p = true → det p = true := by
  induction p using Pat.induct with
  | lit _ => exact fun _ => rfl
  | name _ => exact fun _ => rfl
  | rest t => exact fun _ => rfl
  | exprs _ => exact fun _ => rfl
  | arr items ih =>
    intro h
    simp only [supported, Bool.and_eq_true] at h
    simp only [det, Bool.and_eq_true]
    obtain ⟨hscan, hitems⟩ := h
    obtain ⟨cnt, _, hle, hcnt⟩ := scanMarks_of_isSome hscan
    exact ⟨detItemsShape_of_marks items (by omega),
      (detItems_iff items).2 fun q hq => ih q hq ((supportedItems_iff ρ items).1 hitems q hq)⟩
  | tup attrs ih =>
    intro h
    simp only [supported, Bool.and_eq_true, decide_eq_true_eq] at h
    simp only [det, Bool.and_eq_true, decide_eq_true_eq]
    obtain ⟨⟨hrests, _⟩, hattrs⟩ := h
    exact ⟨hrests, (detAttrs_iff attrs).2 fun q hq => ih q hq ((supportedAttrs_iff ρ attrs).1 hattrs q hq)⟩
  | dict ents ih =>
    intro h
    simp only [supported, Bool.and_eq_true, decide_eq_true_eq] at h
    simp only [det, Bool.and_eq_true, decide_eq_true_eq]
    obtain ⟨⟨⟨hrests, _⟩, _⟩, hents⟩ := h
    exact ⟨hrests, (detEnts_iff ents).2 fun q hq => ih q hq ((supportedEnts_iff ρ ents).1 hents q hq)⟩
  | set elts ih =>
    intro h
    simp only [supported, Bool.and_eq_true] at h
    obtain ⟨⟨hscan, hok⟩, hsub⟩ := h
    have hsup := (supportedElts_iff ρ elts).1 hsub
    simp only [det, Bool.and_eq_true, decide_eq_true_eq, Bool.not_eq_true']
    refine ⟨?_, (detElts_iff elts).2 fun q hq => ih q hq (hsup q hq)⟩
    rcases simple_or_single_complex hok with hs | ⟨p, rfl, hc⟩
    · obtain ⟨h3, hc⟩ := countKind_of_simple elts hs
      exact ⟨hc ▸ (scanMarks_eltMarks hscan).1, h3⟩
    · obtain ⟨hk, _, halt, _⟩ := complex_elt hc
      simp [countKind, hk, halt]

theorem supported_detItems (ρ : Env) : ∀ (items : List (Pat × Option FExpr)),
    supportedItems ρ items = true → detItems items = true :=
  fun items h => (detItems_iff items).2 fun q hq => supported_det ρ q.1 ((supportedItems_iff ρ items).1 h q hq)
theorem supported_detAttrs (ρ : Env) : ∀ (attrs : List (String × Pat × Option FExpr)),
    supportedAttrs ρ attrs = true → detAttrs attrs = true :=
  fun attrs h => (detAttrs_iff attrs).2 fun q hq => supported_det ρ q.2.1 ((supportedAttrs_iff ρ attrs).1 h q hq)
theorem supported_detEnts (ρ : Env) : ∀ (ents : List (Lit × Pat × Option FExpr)),
    supportedEnts ρ ents = true → detEnts ents = true :=
  fun ents h => (detEnts_iff ents).2 fun q hq => supported_det ρ q.2.1 ((supportedEnts_iff ρ ents).1 h q hq)
theorem supported_detElts (ρ : Env) : ∀ (elts : List Pat),
    supportedElts ρ elts = true → detElts elts = true :=
  fun elts h => (detElts_iff elts).2 fun q hq => supported_det ρ q ((supportedElts_iff ρ elts).1 h q hq)

end Arrai.C09
