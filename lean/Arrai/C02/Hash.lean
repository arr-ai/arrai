/-
  C02 — the repaired `Hash` is injective up to denotation, under every seed (`hash_inj`).

  Every hash is one atom `(tag, payload, seed)`: the mixing function the `Hash` method ends with, what it is applied to, and
  the seed (`htag`, `hpay`, `hashG_eq`).  For a tuple or a set the payload is an XOR of the atoms of its parts, each hashed
  under a seed of its own (`xorPairs`); such an XOR is the set of those atoms as soon as they are distinct, and two of them
  agree iff the parts agree as (seed, denotation) pairs (`xorPairs_eq_iff`).  The parts of a set are its `members`, all
  under one seed (`hashG_set`, `members_spec`).  The induction is on the nesting depth `depth`.
-/
import Arrai.C02.Den

namespace Arrai.C02
open Arrai Arrai.FinSet Arrai.C02.Rep Arrai.C02.Impl

/-! Nesting depth: every part `Hash` descends into is strictly below the whole.  The parts of an array, a dictionary or a
relation are item, entry or row tuples around the stored values: hence `+ 2`.  `{()}` has the part `.gtuple []` of depth 1. -/
mutual
def depth : Rep → Nat
  | .gtuple as => depthAttrs as + 1
  | .itemT _ x => depth x + 1
  | .entryT k v => depth k + depth v + 1
  | .true_ => 2
  | .generic xs => depthList xs + 1
  | .str _ _ _ => 1
  | .bytes _ _ => 1
  | .array vs _ _ => depthOpts vs + 2
  | .dict m => depthDict m + 2
  | .relation _ rows => depthRows rows + 2
  | .union bs => depthAttrs bs + 1
  | _ => 0
def depthAttrs : List (String × Rep) → Nat
  | [] => 0
  | (_, v) :: r => depth v + depthAttrs r
def depthList : List Rep → Nat
  | [] => 0
  | x :: r => depth x + depthList r
def depthOpts : List (Option Rep) → Nat
  | [] => 0
  | some x :: r => depth x + depthOpts r
  | none :: r => depthOpts r
def depthDict : List (Rep × List Rep) → Nat
  | [] => 0
  | (k, vs) :: r => depth k + depthList vs + depthDict r
def depthRows : List (List Rep) → Nat
  | [] => 0
  | row :: r => depthList row + depthRows r
end

theorem depth_mem_list : ∀ (xs : List Rep) (x : Rep), x ∈ xs → depth x ≤ depthList xs :=
  le_of_mem_of_step fun a l => by simp [depthList]

theorem depth_mem_opts (vs : List (Option Rep)) (x : Rep) : some x ∈ vs → depth x ≤ depthOpts vs :=
  le_of_mem_of_step (g := fun o : Option Rep => (o.map depth).getD 0) (fun a l => by cases a <;> simp [depthOpts]) vs
    (some x)

theorem depth_mem_attrs : ∀ (as : List (String × Rep)) (p : String × Rep), p ∈ as → depth p.2 ≤ depthAttrs as :=
  le_of_mem_of_step fun a l => by simp [depthAttrs]

theorem depth_mem_dict (m : List (Rep × List Rep)) (kv : Rep × List Rep) (hkv : kv ∈ m) (v : Rep) (hv : v ∈ kv.2) :
    depth kv.1 + depth v ≤ depthDict m := by
  have := le_of_mem_of_step (g := fun kv : Rep × List Rep => depth kv.1 + depthList kv.2) (G := depthDict)
    (fun a l => by simp [depthDict]) m kv hkv
  have := depth_mem_list kv.2 v hv
  omega

theorem depthAttrs_zip : ∀ (names : List String) (row : List Rep), depthAttrs (names.zip row) ≤ depthList row
  | [], _ => by simp [depthAttrs]
  | _ :: _, [] => by simp [depthAttrs]
  | n :: ns, x :: xs => by
    have := depthAttrs_zip ns xs
    simp [depthAttrs, depthList]; omega

theorem depth_mem_rows : ∀ (rows : List (List Rep)) (row : List Rep), row ∈ rows → depthList row ≤ depthRows rows :=
  le_of_mem_of_step fun a l => by simp [depthRows]

theorem numsV_inj (l l' : List Int) : numsV l = numsV l' ↔ l = l' := by
  simp only [numsV, V.set.injEq]
  exact List.map_inj_right (fun _ _ h => V.num.inj h)

theorem hatom_inj (t t' : String) (p p' : V) (s s' : HV) :
    hatom t p s = hatom t' p' s' ↔ (t = t' ∧ p = p' ∧ s = s') := by
  simp [hatom, and_assoc]

def htag : Rep → String
  | .num _ => "f64" | .charT _ _ => "charT" | .byteT _ _ => "byteT" | .str _ _ _ => "runes" | .bytes _ _ => "bstr"
  | _ => "fin"

def hpay : Rep → HV → V
  | .num n, _ => .num n
  | .charT ix ch, _ => .set [.num ix, .num ch]
  | .byteT ix b, _ => .set [.num ix, .num b]
  | .str r off _, _ => numsV (off :: r)
  | .bytes b off, _ => numsV (off :: b)
  | .gtuple as, s => .set (hxor (hatom "mapC" (.set []) s) (xorAttrs true as s))
  | .itemT ix x, s => .set (hashG true x (hatom "int" (.num ix) s))
  | .entryT k v, s => .set (hashG true v (hashG true k s))
  | .empty, _ => .set []
  | .true_, _ => .set (hatom "fin" (.set (hatom "mapC" (.set []) [])) [])
  | .generic xs, _ => .set (xorList true xs)
  | .array vs off _, s => .set (xorOpts true off vs s)
  | .dict m, s => .set (xorDict true m s)
  | .relation ns rows, s => .set (xorRows true ns rows s)
  | .union bs, _ => .set (xorBuckets true bs)

theorem hashG_eq (x : Rep) (s : HV) : hashG true x s = hatom (htag x) (hpay x s) s := by
  cases x <;> simp [hashG, hfin, tfin, htag, hpay]

def atomAt (x : Rep) (s : HV) : V := .tup [(htag x, hpay x s), ("seed", .set s)]

theorem hash_singleton (x : Rep) (s : HV) : hashG true x s = [atomAt x s] := hashG_eq x s

theorem atomAt_eq_iff (x y : Rep) (s s' : HV) :
    atomAt x s = atomAt y s' ↔ hashG true x s = hashG true y s' := by
  rw [hash_singleton, hash_singleton]; simp

theorem atomAt_seed_inj (x y : Rep) (s s' : HV) (h : atomAt x s = atomAt y s') : s = s' := by
  simp [atomAt] at h; exact h.2

/-- atoms tagged `"mapC"` (the frozen map constant) or `"int"` (a seed derived from an index) are no hashes of values -/
theorem htag_ne (x : Rep) : htag x ≠ "mapC" ∧ htag x ≠ "int" := by
  cases x <;> simp [htag]

theorem hatom_acyclic (t : String) (p : V) (s : HV) : hatom t p s ≠ s := by
  intro h
  have := congrArg sizeOf h
  simp [hatom] at this
  omega

def intSeed (i : Int) (s : HV) : HV := hatom "int" (.num i) s
def strSeed (n : String) (s : HV) : HV := hatom "str" (nameV n) s

theorem intSeed_inj (i j : Int) (s s' : HV) : intSeed i s = intSeed j s' ↔ (i = j ∧ s = s') := by
  simp [intSeed, hatom]

theorem strSeed_inj (n m : String) (s s' : HV) : strSeed n s = strSeed m s' ↔ (n = m ∧ s = s') := by
  simp [strSeed, hatom, nameV]

theorem intSeed_ne_hash (i : Int) (s s' : HV) (k : Rep) : intSeed i s ≠ hashG true k s' := by
  intro h
  rw [hashG_eq] at h
  exact (htag_ne k).2 ((hatom_inj _ _ _ _ _ _).1 h).1.symm

def xorPairs : List (Rep × HV) → HV
  | [] => []
  | (x, s) :: r => hxor (hashG true x s) (xorPairs r)

def atom (p : Rep × HV) : V := atomAt p.1 p.2

def pkey (p : Rep × HV) : HV × V := (p.2, den p.1)

/-! `hxor` is `FinSet.symdiff` by definition. -/

theorem hxor_nil_left (c : HV) (hc : Sorted c) : hxor [] c = c :=
  sorted_ext _ _ (sorted_symdiff _ _ hc) hc (fun x => by simp [hxor, mem_symdiff])

theorem hxor_singleton_nil (x : V) : hxor [x] [] = [x] := symdiff_nil_right [x] (List.pairwise_singleton _ _)

theorem hxor_assoc (a b c : HV) (hc : Sorted c) : hxor (hxor a b) c = hxor a (hxor b c) := by
  apply sorted_ext _ _ (sorted_symdiff _ _ hc) (sorted_symdiff _ _ (sorted_symdiff _ _ hc))
  intro x
  simp only [hxor, mem_symdiff]
  by_cases ha : x ∈ a <;> by_cases hb : x ∈ b <;> by_cases hx : x ∈ c <;> simp [ha, hb, hx]

theorem hxor_self (a : HV) : hxor a a = [] := by
  have : diff a a = [] := List.filter_eq_nil_iff.2 (fun x hx => by simp [hx])
  rw [hxor, symdiff, this]
  rfl

theorem hxor_cancel_left (m X Y : HV) (hX : Sorted X) (hY : Sorted Y) : hxor m X = hxor m Y ↔ X = Y := by
  constructor
  · intro h
    have := congrArg (hxor m) h
    rwa [← hxor_assoc _ _ _ hX, ← hxor_assoc _ _ _ hY, hxor_self, hxor_nil_left _ hX, hxor_nil_left _ hY] at this
  · intro h; rw [h]

theorem xorPairs_sorted : ∀ (l : List (Rep × HV)), Sorted (xorPairs l)
  | [] => sorted_nil
  | (_, _) :: r => sorted_symdiff _ _ (xorPairs_sorted r)

theorem xorPairs_append : ∀ (l l' : List (Rep × HV)), xorPairs (l ++ l') = hxor (xorPairs l) (xorPairs l')
  | [], l' => (hxor_nil_left _ (xorPairs_sorted l')).symm
  | (x, s) :: r, l' => by
    simp only [List.cons_append, xorPairs]
    rw [xorPairs_append r l', hxor_assoc _ _ _ (xorPairs_sorted l')]

theorem mem_xorPairs : ∀ (l : List (Rep × HV)) (x : V), x ∈ xorPairs l → ∃ p, p ∈ l ∧ x = atom p
  | [], _, h => by simp [xorPairs] at h
  | (y, s) :: r, x, h => by
    simp only [xorPairs, hxor, mem_symdiff, hash_singleton, List.mem_singleton] at h
    rcases h with ⟨h, _⟩ | ⟨h, _⟩
    · exact ⟨(y, s), by simp, h⟩
    · obtain ⟨p, hp, e⟩ := mem_xorPairs r x h
      exact ⟨p, List.mem_cons_of_mem _ hp, e⟩

theorem foldr_hxor_singletons {α : Type} (c : α → V) (f : α → HV) : ∀ (l : List α), (∀ x, x ∈ l → f x = [c x]) →
    (l.map c).Nodup → l.foldr (fun x acc => hxor (f x) acc) [] = mk (l.map c) := by
  refine forall_mem_rec (fun _ => rfl) ?_
  intro x r hx ih hn
  rw [List.map_cons, List.nodup_cons] at hn
  rw [List.foldr_cons, ih hn.2, hx, hxor, symdiff_singleton _ _ fun h => hn.1 ((mem_mk _ _).1 h)]
  rfl

theorem xorPairs_eq_foldr : ∀ (l : List (Rep × HV)),
    xorPairs l = l.foldr (fun p acc => hxor (hashG true p.1 p.2) acc) []
  | [] => rfl
  | (_, _) :: r => congrArg _ (xorPairs_eq_foldr r)

theorem xorPairs_eq_mk (l : List (Rep × HV)) (hn : (l.map atom).Nodup) : xorPairs l = mk (l.map atom) := by
  rw [xorPairs_eq_foldr]
  exact foldr_hxor_singletons atom _ l (fun p _ => hash_singleton p.1 p.2) hn

/-- `P` singles out parts on which the atom stands for the (seed, denotation) pair: below the depth of an induction
(`atom_iff_of_hashInj`), or all canonical ones once `hash_inj` is there (`atom_iff`) -/
theorem xorPairs_eq_iff (P : Rep × HV → Prop) (hP : ∀ p q, P p → P q → (atom p = atom q ↔ pkey p = pkey q))
    (ps qs : List (Rep × HV)) (gp : ∀ p, p ∈ ps → P p) (gq : ∀ q, q ∈ qs → P q)
    (np : (ps.map pkey).Nodup) (nq : (qs.map pkey).Nodup) :
    xorPairs ps = xorPairs qs ↔ ∀ k, k ∈ ps.map pkey ↔ k ∈ qs.map pkey := by
  have ap : (ps.map atom).Nodup := nodup_map_of atom pkey ps (fun p hp q hq e => (hP p q (gp p hp) (gp q hq)).1 e) np
  have aq : (qs.map atom).Nodup := nodup_map_of atom pkey qs (fun p hp q hq e => (hP p q (gq p hp) (gq q hq)).1 e) nq
  rw [xorPairs_eq_mk ps ap, xorPairs_eq_mk qs aq, mk_eq_iff]
  exact map_mem_transfer atom pkey atom pkey ps qs (fun p hp q hq => hP p q (gp p hp) (gq q hq))

/-- `GenericTuple.Hash`: each attribute value under the seed derived from its name -/
def aparts (as : List (String × Rep)) (s : HV) : List (Rep × HV) := as.map (fun p => (p.2, strSeed p.1 s))

theorem xorAttrs_eq_pairs : ∀ (as : List (String × Rep)) (s : HV), xorAttrs true as s = xorPairs (aparts as s)
  | [], _ => rfl
  | (n, v) :: r, s => by
    rw [xorAttrs, xorAttrs_eq_pairs r s]
    rfl

theorem xorRow_eq : ∀ (names : List String) (row : List Rep) (s : HV),
    xorRow true names row s = xorAttrs true (names.zip row) s
  | [], _, _ => by simp [xorRow, xorAttrs]
  | _ :: _, [], _ => by simp [xorRow, xorAttrs]
  | n :: ns, x :: xs, s => by simp [xorRow, xorAttrs, xorRow_eq ns xs s]

/-! ### the hash of a set is an XOR over its `members`, all under one seed -/

/-- the seed for the members of a set: the caller's for the item, entry and row tuples of an array, a dictionary or a
relation, seed 0 otherwise -/
def mseed : Rep → HV → HV
  | .array _ _ _, s | .dict _, s | .relation _ _, s => s
  | _, _ => []

def under (σ : HV) (ms : List Rep) : List (Rep × HV) := ms.map (fun m => (m, σ))

theorem under_append (σ : HV) (a b : List Rep) : under σ (a ++ b) = under σ a ++ under σ b := List.map_append

theorem xorList_eq_pairs : ∀ (xs : List Rep), xorList true xs = xorPairs (under [] xs)
  | [] => rfl
  | x :: r => by simp [xorList, xorPairs, under, xorList_eq_pairs r]

theorem strMemXor_members : ∀ (r : List Int) (off h : Int),
    strMemXor off r = xorPairs (under [] (members1 (.str r off h)))
  | [], _, _ => rfl
  | c :: r, off, h => by
    rw [members1_str_cons, under_append, xorPairs_append, ← strMemXor_members r (off + 1) h, strMemXor]
    by_cases hc : c < 0
    · have : ¬ 0 ≤ c := by omega
      simp only [hc, this, if_true, if_false]
      exact (hxor_nil_left _ (by rw [strMemXor_members r (off + 1) h]; exact xorPairs_sorted _)).symm
    · have : 0 ≤ c := by omega
      simp only [hc, this, if_true, if_false]
      rfl

theorem bytesMemXor_members : ∀ (r : List Int) (off : Int),
    bytesMemXor off r = xorPairs (under [] (members1 (.bytes r off)))
  | [], _ => rfl
  | c :: r, off => by
    rw [members1_bytes_cons, bytesMemXor, bytesMemXor_members r (off + 1)]; rfl

theorem xorOpts_members : ∀ (vs : List (Option Rep)) (off c : Int) (s : HV),
    xorOpts true off vs s = xorPairs (under s (members1 (.array vs off c)))
  | [], _, _, _ => rfl
  | some x :: r, off, c, s => by
    rw [members1_array_cons, xorOpts, xorOpts_members r (off + 1) c s]; rfl
  | none :: r, off, c, s => by
    rw [members1_array_cons, xorOpts, xorOpts_members r (off + 1) c s]; rfl

theorem xorVals_members (k : Rep) (s : HV) : ∀ (vs : List Rep),
    xorVals true vs (hashG true k s) s = xorPairs (under s (vs.map (fun v => Rep.entryT k v)))
  | [] => rfl
  | v :: r => by simp [xorVals, under, xorPairs, hashG, xorVals_members k s r]

theorem xorDict_members : ∀ (m : List (Rep × List Rep)) (s : HV),
    xorDict true m s = xorPairs (under s (members1 (.dict m)))
  | [], _ => rfl
  | (k, vs) :: r, s => by
    have ih := xorDict_members r s
    simp only [members1] at ih ⊢
    rw [xorDict, List.flatMap_cons, under_append, xorPairs_append, xorVals_members, ih]

theorem xorRows_members : ∀ (ns : List String) (rows : List (List Rep)) (s : HV),
    xorRows true ns rows s = xorPairs (under s (members1 (.relation ns rows)))
  | _, [], _ => rfl
  | ns, row :: r, s => by
    have ih := xorRows_members ns r s
    simp only [members1] at ih ⊢
    simp only [xorRows, List.map_cons, under, xorPairs, xorRow_eq, ih]
    simp [hashG]

theorem memXor_members (a : Rep) : memXor true a = xorPairs (under [] (members1 a)) := by
  cases a <;> simp only [memXor, members1, under, List.map_nil, xorPairs]
  case true_ => simp [xorPairs, hashG, hfin, xorAttrs, hxor_singleton_nil, hatom]
  case generic xs => exact xorList_eq_pairs xs
  case str r off h => exact strMemXor_members r off h
  case bytes b off => exact bytesMemXor_members b off
  case array vs off c => exact xorOpts_members vs off c []
  case dict m => exact xorDict_members m []
  case relation ns rows => exact xorRows_members ns rows []

theorem xorBuckets_members : ∀ (bs : List (String × Rep)),
    xorBuckets true bs = xorPairs (under [] (members (.union bs)))
  | [] => rfl
  | (_, sub) :: r => by
    have ih := xorBuckets_members r
    simp only [members] at ih ⊢
    rw [xorBuckets, List.flatMap_cons, under_append, xorPairs_append, memXor_members, ih]

/-- atomic: one mixing step over the scalar content (strings and byte arrays too: hashed by offset and content, not member
by member); gtuple: the frozen map constant XOR the attributes; thread: item and entry tuples, whose single part is hashed
under a seed derived from the index or key; set: an XOR over the members -/
inductive Cls where
  | atomic | gtuple | thread | set
  deriving DecidableEq

def clsTag : Nat → Cls
  | 0 | 2 | 3 | 9 | 10 => .atomic
  | 1 => .gtuple
  | 4 | 5 => .thread
  | _ => .set

def cls (a : Rep) : Cls := clsTag (ctorTag a)

theorem hashG_set (a : Rep) (h : cls a = .set) (s : HV) :
    hashG true a s = hatom "fin" (.set (xorPairs (under (mseed a s) (members a)))) s := by
  rw [hashG_eq]
  cases a <;> cases h <;> simp only [htag, hpay, members, mseed]
  case empty => rfl
  case true_ => simp [members1, under, xorPairs, hashG, hfin, xorAttrs, hatom, hxor_singleton_nil]
  case generic xs => rw [xorList_eq_pairs]; rfl
  case array vs off c => rw [xorOpts_members vs off c]
  case dict m => rw [xorDict_members]
  case relation ns rows => rw [xorRows_members]
  case union bs => rw [xorBuckets_members]; rfl

theorem vmembers_mkSet (l : List V) : vmembers (V.mkSet l) = mk l := rfl

theorem depth_members1 (a m : Rep) (hm : m ∈ members1 a) : depth m < depth a := by
  cases a with
  | true_ => cases List.mem_singleton.1 hm; exact Nat.lt_succ_self 1
  | generic xs => exact Nat.lt_succ_of_le (depth_mem_list xs m hm)
  | str s off h => obtain ⟨i, c, rfl, _⟩ := members1_str_form s off h m hm; exact Nat.zero_lt_one
  | bytes b off => obtain ⟨i, c, rfl, _⟩ := members1_bytes_form b off m hm; exact Nat.zero_lt_one
  | array vs off c =>
    obtain ⟨i, x, rfl, hx⟩ := members1_array_form vs off c m hm
    exact Nat.succ_lt_succ (Nat.lt_succ_of_le (depth_mem_opts vs x hx))
  | dict d =>
    obtain ⟨kv, hkv, v, hv, rfl⟩ : ∃ kv, kv ∈ d ∧ ∃ v, v ∈ kv.2 ∧ Rep.entryT kv.1 v = m := by
      simpa only [members1, List.mem_flatMap, List.mem_map] using hm
    exact Nat.succ_lt_succ (Nat.lt_succ_of_le (depth_mem_dict d kv hkv v hv))
  | relation ns rows =>
    obtain ⟨row, hr, rfl⟩ := List.mem_map.1 hm
    exact Nat.succ_lt_succ (Nat.lt_succ_of_le
      (Nat.le_trans (depthAttrs_zip ns row) (depth_mem_rows rows row hr)))
  | _ => cases hm

theorem depth_members (a m : Rep) (hm : m ∈ members a) : depth m < depth a := by
  cases a
  case union bs =>
    obtain ⟨b, hb, hmb⟩ := List.mem_flatMap.1 hm
    have := depth_members1 b.2 m hmb
    have := depth_mem_attrs bs b hb
    simp only [depth]; omega
  all_goals exact depth_members1 _ m hm

theorem members_spec (a : Rep) (h : cls a = .set) (wa : wf a = true) :
    (∀ v, v ∈ vmembers (den a) ↔ v ∈ (members a).map den) ∧ ((members a).map den).Nodup ∧
    ∀ m, m ∈ members a → wf m = true := by
  have direct : ∀ (a : Rep) k, bucketOfSet a = some k → wf a = true →
      (∀ v, v ∈ vmembers (den a) ↔ v ∈ (members1 a).map den) ∧ ((members1 a).map den).Nodup ∧
      ∀ m, m ∈ members1 a → wf m = true := fun a k hk wa => by
    obtain ⟨_, h2, h3⟩ := members1_spec a k hk wa
    exact ⟨mem_vmembers_den a k hk, h2, fun m hm => (h3 m hm).1⟩
  cases a <;> cases h
  case empty => simp [members, members1, den, vmembers]
  case true_ => exact direct _ _ rfl wa
  case generic xs => exact direct _ _ rfl wa
  case array vs off c => exact direct _ _ rfl wa
  case dict m => exact direct _ _ rfl wa
  case relation ns rows => exact direct _ _ rfl wa
  case union bs =>
    obtain ⟨_, hnd, hwb⟩ := (wf_union_iff bs).1 wa
    have sub : ∀ b, b ∈ bs → _ := fun b hb => members1_spec b.2 b.1 (wfBuckets_mem bs b hwb hb).2 (wfBuckets_mem bs b hwb hb).1
    simp only [members, List.map_flatMap]
    refine ⟨?_, ?_, ?_⟩
    · intro v
      simp only [den, vmembers_mkSet, mem_mk, mem_denBuckets, List.mem_flatMap]
      exact exists_congr fun b => and_congr_right fun hb => mem_vmembers_den b.2 b.1 (wfBuckets_mem bs b hwb hb).2 v
    · -- members of buckets with different keys are of different classes
      exact blocks_nodup (fun b : String × Rep => bkOfSet b.2) (fun b => (members1 b.2).map den) bucketV bs
        (union_blocks bs hnd hwb).1 (fun b hb => (sub b hb).2.1) (fun b hb v hv => by
          obtain ⟨m, hm, rfl⟩ := List.mem_map.1 hv
          exact ((sub b hb).2.2 m hm).2)
    · intro m hm
      obtain ⟨b, hb, hmb⟩ := List.mem_flatMap.1 hm
      exact ((sub b hb).2.2 m hmb).1

def HashInj (n : Nat) : Prop :=
  ∀ x y : Rep, depth x < n → depth y < n → wf x = true → wf y = true →
    ∀ S S' : HV, hashG true x S = hashG true y S' ↔ (S = S' ∧ den x = den y)

def Good (n : Nat) (p : Rep × HV) : Prop := depth p.1 < n ∧ wf p.1 = true

theorem atom_iff_of_hashInj {n : Nat} (H : HashInj n) (p q : Rep × HV) (hp : Good n p) (hq : Good n q) :
    atom p = atom q ↔ pkey p = pkey q := by
  rw [atom, atom, atomAt_eq_iff, H p.1 q.1 hp.1 hq.1 hp.2 hq.2]
  simp [pkey]

theorem under_keys (σ : HV) (ms : List Rep) (k : HV × V) :
    k ∈ (under σ ms).map pkey ↔ (k.1 = σ ∧ k.2 ∈ ms.map den) := by
  simp only [under, List.map_map, List.mem_map, Function.comp_def, pkey]
  constructor
  · rintro ⟨m, hm, rfl⟩; exact ⟨rfl, m, hm, rfl⟩
  · rintro ⟨h1, m, hm, h2⟩; exact ⟨m, hm, by rw [← h1, h2]⟩

theorem under_keys_nodup (σ : HV) (ms : List Rep) (h : (ms.map den).Nodup) : ((under σ ms).map pkey).Nodup :=
  nodup_map_of pkey (fun p => den p.1) _ (fun p _ q _ e => congrArg Prod.snd e)
    (by simpa [under, List.map_map, Function.comp_def] using h)

theorem xorPairs_under_iff (P : Rep × HV → Prop) (hP : ∀ p q, P p → P q → (atom p = atom q ↔ pkey p = pkey q))
    (σ σ' : HV) (ms ms' : List Rep) (g : ∀ m, m ∈ ms → P (m, σ)) (g' : ∀ m, m ∈ ms' → P (m, σ'))
    (n : (ms.map den).Nodup) (n' : (ms'.map den).Nodup) :
    xorPairs (under σ ms) = xorPairs (under σ' ms') ↔ ((∀ v, v ∈ ms.map den ↔ v ∈ ms'.map den) ∧ (ms ≠ [] → σ = σ')) := by
  have gu : ∀ (τ : HV) (l : List Rep), (∀ m, m ∈ l → P (m, τ)) → ∀ p, p ∈ under τ l → P p := fun τ l h p hp => by
    obtain ⟨m, hm, rfl⟩ := List.mem_map.1 hp; exact h m hm
  rw [xorPairs_eq_iff P hP _ _ (gu σ ms g) (gu σ' ms' g') (under_keys_nodup _ _ n) (under_keys_nodup _ _ n')]
  simp only [under_keys]
  constructor
  · intro hk
    refine ⟨fun v => ⟨fun hv => ((hk (σ, v)).1 ⟨rfl, hv⟩).2, fun hv => ((hk (σ', v)).2 ⟨rfl, hv⟩).2⟩, fun hne => ?_⟩
    obtain ⟨m, hm⟩ := List.exists_mem_of_ne_nil _ hne
    exact ((hk (σ, den m)).1 ⟨rfl, List.mem_map_of_mem hm⟩).1
  · rintro ⟨hm, hs⟩ k
    have ne : k.2 ∈ ms.map den → ms ≠ [] := fun hv e => by rw [e] at hv; cases hv
    exact ⟨fun ⟨e, hv⟩ => ⟨e.trans (hs (ne hv)), (hm _).1 hv⟩,
      fun ⟨e, hv⟩ => ⟨e.trans (hs (ne ((hm _).2 hv))).symm, (hm _).2 hv⟩⟩

theorem mseed_of_sameCtor {a b : Rep} (h : SameCtor a b) (s : HV) : mseed a s = mseed b s := by
  cases h <;> rfl

theorem set_hash_iff (n : Nat) (H : HashInj n) (a b : Rep) (ca : cls a = .set) (cb : cls b = .set)
    (da : depth a < n + 1) (db : depth b < n + 1) (wa : wf a = true) (wb : wf b = true) (s s' : HV) :
    hashG true a s = hashG true b s' ↔ (s = s' ∧ den a = den b) := by
  obtain ⟨ma, na, ga⟩ := members_spec a ca wa
  obtain ⟨mb, nb, gb⟩ := members_spec b cb wb
  have isa : isSet a = true := by cases a <;> cases ca <;> rfl
  have isb : isSet b = true := by cases b <;> cases cb <;> rfl
  rw [hashG_set a ca, hashG_set b cb, hatom_inj, V.set.injEq,
    xorPairs_under_iff (Good n) (atom_iff_of_hashInj H) _ _ _ _
      (fun m hm => ⟨Nat.lt_of_lt_of_le (depth_members a m hm) (Nat.le_of_lt_succ da), ga m hm⟩)
      (fun m hm => ⟨Nat.lt_of_lt_of_le (depth_members b m hm) (Nat.le_of_lt_succ db), gb m hm⟩) na nb]
  constructor
  · rintro ⟨_, ⟨hm, _⟩, hs⟩
    exact ⟨hs, den_eq_of_vmembers a b isa isb (fun v => by rw [ma, mb]; exact hm v)⟩
  · rintro ⟨rfl, hd⟩
    exact ⟨rfl, ⟨fun v => by rw [← ma, ← mb, hd], fun _ => mseed_of_sameCtor (sameCtor_of_den a b wa wb hd) s⟩, rfl⟩

def mapC (s : HV) : V := .tup [("mapC", .set []), ("seed", .set s)]

theorem mapC_ne_atom (s : HV) (p : Rep × HV) : mapC s ≠ atom p := by
  intro h
  simp only [mapC, atom, atomAt, V.tup.injEq, List.cons.injEq, Prod.mk.injEq] at h
  exact (htag_ne p.1).1 h.1.1.symm

/-- the constant does not cancel: the attributes contribute hashes of values -/
theorem mapC_mem (s : HV) (ps : List (Rep × HV)) : mapC s ∈ hxor [mapC s] (xorPairs ps) := by
  rw [hxor, mem_symdiff]
  refine Or.inl ⟨by simp, fun h => ?_⟩
  obtain ⟨p, _, e⟩ := mem_xorPairs ps _ h
  exact mapC_ne_atom s p e

theorem cls_gtuple (a : Rep) (h : cls a = .gtuple) : ∃ as, a = .gtuple as := by
  cases a <;> cases h
  exact ⟨_, rfl⟩

theorem hashG_gtuple (as : List (String × Rep)) (s : HV) :
    hashG true (.gtuple as) s = hatom "fin" (.set (hxor [mapC s] (xorPairs (aparts as s)))) s := by
  rw [hashG_eq]
  simp only [htag, hpay, xorAttrs_eq_pairs]
  rfl

theorem gtuple_hash_iff (n : Nat) (H : HashInj n) (a b : Rep) (ca : cls a = .gtuple) (cb : cls b = .gtuple)
    (da : depth a < n + 1) (db : depth b < n + 1) (wa : wf a = true) (wb : wf b = true) (s s' : HV) :
    hashG true a s = hashG true b s' ↔ (s = s' ∧ den a = den b) := by
  obtain ⟨as, rfl⟩ := cls_gtuple a ca
  obtain ⟨bs, rfl⟩ := cls_gtuple b cb
  obtain ⟨na, wa, _⟩ := (wf_gtuple_iff as).1 wa
  obtain ⟨nb, wb, _⟩ := (wf_gtuple_iff bs).1 wb
  simp only [depth] at da db
  have good : ∀ (cs : List (String × Rep)), depthAttrs cs + 1 < n + 1 → wfAttrs cs = true → ∀ σ p, p ∈ aparts cs σ →
      Good n p := by
    intro cs dc wc σ p hp
    obtain ⟨q, hq, rfl⟩ := List.mem_map.1 hp
    have := depth_mem_attrs cs q hq
    exact ⟨by simp only []; omega, wfAttrs_mem cs q wc hq⟩
  -- an attribute's (seed, denotation) pair stands for its (name, denotation) pair
  have keyf : ∀ (cs : List (String × Rep)) σ, (aparts cs σ).map pkey = cs.map (fun p => (strSeed p.1 σ, den p.2)) :=
    fun cs σ => by simp [aparts, pkey, List.map_map, Function.comp_def]
  have nk : ∀ (cs : List (String × Rep)) σ, (namesOf cs).Nodup → ((aparts cs σ).map pkey).Nodup := fun cs σ hn => by
    rw [keyf]
    exact nodup_map_of _ (fun p : String × Rep => p.1) cs
      (fun p _ q _ e => ((strSeed_inj _ _ _ _).1 (congrArg Prod.fst e)).1) hn
  have inner : ∀ σ, xorPairs (aparts as σ) = xorPairs (aparts bs σ) ↔ den (.gtuple as) = den (.gtuple bs) := by
    intro σ
    rw [xorPairs_eq_iff (Good n) (atom_iff_of_hashInj H) _ _ (good as da wa σ) (good bs db wb σ) (nk as σ na) (nk bs σ nb),
      keyf, keyf]
    simp only [den]
    rw [V.mkTup_eq_iff, lookup_ext_iff_mem (denAttrs_names as ▸ na) (denAttrs_names bs ▸ nb),
      denAttrs_eq_map, denAttrs_eq_map]
    apply map_mem_transfer
    intro p _ q _
    simp [strSeed_inj]
  rw [hashG_gtuple, hashG_gtuple, hatom_inj, V.set.injEq]
  constructor
  · rintro ⟨_, hx, rfl⟩
    rw [hxor_cancel_left _ _ _ (xorPairs_sorted _) (xorPairs_sorted _)] at hx
    exact ⟨rfl, (inner s).1 hx⟩
  · rintro ⟨rfl, hd⟩
    rw [(inner s).2 hd]
    exact ⟨rfl, rfl, rfl⟩

def tpart : Rep → HV → Rep × HV
  | .itemT i x, s => (x, intSeed i s)
  | .entryT k v, s => (v, hashG true k s)
  | a, s => (a, s)

theorem hashG_thread (t : Rep) (h : cls t = .thread) (s : HV) :
    hashG true t s = hatom "fin" (.set [atom (tpart t s)]) s := by
  rw [hashG_eq]
  cases t <;> cases h <;> simp only [htag, hpay, tpart, atom, hash_singleton] <;> rfl

theorem tpart_seed (t : Rep) (h : cls t = .thread) (s : HV) : (tpart t s).2 ≠ [] ∧ (tpart t s).2 ≠ s := by
  cases t <;> cases h <;> simp only [tpart]
  case itemT i x => exact ⟨by simp [intSeed, hatom], hatom_acyclic _ _ s⟩
  case entryT k v => rw [hashG_eq]; exact ⟨by simp [hatom], hatom_acyclic _ _ s⟩

theorem cls_thread (t : Rep) (h : cls t = .thread) : (∃ i x, t = .itemT i x) ∨ ∃ k v, t = .entryT k v := by
  cases t <;> cases h
  · exact Or.inl ⟨_, _, rfl⟩
  · exact Or.inr ⟨_, _, rfl⟩

theorem thread_hash_iff (n : Nat) (H : HashInj n) (a b : Rep) (ca : cls a = .thread) (cb : cls b = .thread)
    (da : depth a < n + 1) (db : depth b < n + 1) (wa : wf a = true) (wb : wf b = true) (s s' : HV) :
    hashG true a s = hashG true b s' ↔ (s = s' ∧ den a = den b) := by
  rw [hashG_thread a ca, hashG_thread b cb, hatom_inj, V.set.injEq, List.cons.injEq]
  simp only [true_and, and_true]
  rcases cls_thread a ca with ⟨i, x, rfl⟩ | ⟨k, v, rfl⟩ <;> rcases cls_thread b cb with ⟨j, y, rfl⟩ | ⟨k', v', rfl⟩ <;>
    simp only [tpart, depth, wf, Bool.and_eq_true] at da db wa wb ⊢
  case inl.inl =>
    rw [atom_iff_of_hashInj H _ _ ⟨by simp only []; omega, wa⟩ ⟨by simp only []; omega, wb⟩]
    simp only [pkey, den, Prod.mk.injEq, intSeed_inj]
    constructor
    · rintro ⟨⟨⟨rfl, _⟩, hd⟩, rfl⟩; exact ⟨rfl, by rw [hd]⟩
    · rintro ⟨rfl, hd⟩
      obtain ⟨h1, h2⟩ := vpair_inj hd
      exact ⟨⟨⟨by simpa using h1, rfl⟩, h2⟩, rfl⟩
  case inr.inr =>
    rw [atom_iff_of_hashInj H _ _ ⟨by simp only []; omega, wa.2⟩ ⟨by simp only []; omega, wb.2⟩]
    simp only [pkey, den, Prod.mk.injEq, H k k' (by omega) (by omega) wa.1 wb.1]
    constructor
    · rintro ⟨⟨⟨_, hk⟩, hv⟩, rfl⟩; exact ⟨rfl, by rw [hk, hv]⟩
    · rintro ⟨rfl, hd⟩
      obtain ⟨h1, h2⟩ := vpair_inj hd
      exact ⟨⟨⟨rfl, h1⟩, h2⟩, rfl⟩
  case inl.inr =>
    constructor
    · rintro ⟨e, _⟩
      exact absurd (atomAt_seed_inj _ _ _ _ e) (intSeed_ne_hash i s s' k')
    · rintro ⟨_, hd⟩; simp [den, vpair] at hd
  case inr.inl =>
    constructor
    · rintro ⟨e, _⟩
      exact absurd (atomAt_seed_inj _ _ _ _ e).symm (intSeed_ne_hash j s' s k)
    · rintro ⟨_, hd⟩; simp [den, vpair] at hd

theorem gtuple_ne_thread (a t : Rep) (ca : cls a = .gtuple) (ct : cls t = .thread) (s s' : HV) :
    hashG true a s ≠ hashG true t s' := by
  obtain ⟨as, rfl⟩ := cls_gtuple a ca
  rw [hashG_gtuple, hashG_thread t ct, Ne, hatom_inj, V.set.injEq]
  rintro ⟨_, h, _⟩
  have := mapC_mem s (aparts as s)
  rw [h, List.mem_singleton] at this
  exact mapC_ne_atom _ _ this

theorem gtuple_ne_set (a b : Rep) (ca : cls a = .gtuple) (cb : cls b = .set) (s s' : HV) :
    hashG true a s ≠ hashG true b s' := by
  obtain ⟨as, rfl⟩ := cls_gtuple a ca
  rw [hashG_gtuple, hashG_set b cb, Ne, hatom_inj, V.set.injEq]
  rintro ⟨_, h, _⟩
  have := mapC_mem s (aparts as s)
  rw [h] at this
  obtain ⟨p, _, e⟩ := mem_xorPairs _ _ this
  exact mapC_ne_atom _ _ e

/-- the members of a set are hashed under seed 0 or the caller's seed, the part of an item or entry tuple under
neither -/
theorem thread_ne_set (t b : Rep) (ct : cls t = .thread) (cb : cls b = .set) (s s' : HV) :
    hashG true t s ≠ hashG true b s' := by
  rw [hashG_thread t ct, hashG_set b cb, Ne, hatom_inj, V.set.injEq]
  rintro ⟨_, h, rfl⟩
  have : atom (tpart t s) ∈ xorPairs (under (mseed b s) (members b)) := by rw [← h]; simp
  obtain ⟨q, hq, e⟩ := mem_xorPairs _ _ this
  obtain ⟨m, _, rfl⟩ := List.mem_map.1 hq
  have hs : (tpart t s).2 = mseed b s := atomAt_seed_inj _ _ _ _ e
  obtain ⟨h0, h1⟩ := tpart_seed t ct s
  cases b <;> first | exact h1 hs | exact h0 hs

theorem sameCtor_of_htag (a b : Rep) (ca : cls a = .atomic) (h : htag a = htag b) : SameCtor a b := by
  cases a <;> cases ca <;> cases b <;> first | constructor | simp [htag] at h

theorem atomic_hash_iff (a b : Rep) (ca : cls a = .atomic) (wa : wf a = true) (wb : wf b = true) (s s' : HV) :
    hashG true a s = hashG true b s' ↔ (s = s' ∧ den a = den b) := by
  rw [hashG_eq, hashG_eq, hatom_inj]
  suffices same : SameCtor a b → (htag a = htag b ∧ (hpay a s = hpay b s' ↔ den a = den b)) by
    constructor
    · rintro ⟨ht, hp, hs⟩
      exact ⟨hs, (same (sameCtor_of_htag a b ca ht)).2.1 hp⟩
    · rintro ⟨hs, hd⟩
      have sc := same (sameCtor_of_den a b wa wb hd)
      exact ⟨sc.1, sc.2.2 hd, hs⟩
  intro sc
  cases sc with
  | num x y => exact ⟨rfl, by simp [hpay, den]⟩
  | charT i c j d => exact ⟨rfl, by simp [hpay, den, vpair]⟩
  | byteT i c j d => exact ⟨rfl, by simp [hpay, den, vpair]⟩
  | str r o h r' o' h' =>
    refine ⟨rfl, ?_⟩
    rw [str_den_inj r r' o o' h h' wa wb]
    simp only [hpay, numsV_inj, List.cons.injEq]
    constructor
    · rintro ⟨rfl, rfl⟩
      exact ⟨rfl, rfl, ((wf_str_iff r o h).1 wa).2.2.2.trans ((wf_str_iff r o h').1 wb).2.2.2.symm⟩
    · rintro ⟨h1, h2, _⟩; exact ⟨h1, h2⟩
  | bytes r o r' o' =>
    refine ⟨rfl, ?_⟩
    rw [bytes_den_inj r r' o o' wa wb]
    simp [hpay, numsV_inj]
  | _ => cases ca

theorem eq_iff_symm {α β γ : Type} {x y : α} {u v : β} {c d : γ} (h : x = y ↔ (u = v ∧ c = d)) :
    y = x ↔ (v = u ∧ d = c) :=
  ⟨fun e => ⟨(h.1 e.symm).1.symm, (h.1 e.symm).2.symm⟩, fun e => (h.2 ⟨e.1.symm, e.2.symm⟩).symm⟩

theorem hashInj_succ (n : Nat) (H : HashInj n) : HashInj (n + 1) := by
  intro a b da db wa wb s s'
  have hct := ctorTag_of_den a b wa wb
  -- values of different classes: the hashes differ, and so do the denotations
  have cross : cls a ≠ cls b → hashG true a s ≠ hashG true b s' →
      (hashG true a s = hashG true b s' ↔ (s = s' ∧ den a = den b)) :=
    fun hc hne => ⟨fun h => absurd h hne, fun h => absurd (congrArg clsTag (hct h.2)) hc⟩
  cases ca : cls a <;> cases cb : cls b <;> rw [ca, cb] at cross
  case atomic.atomic | atomic.gtuple | atomic.thread | atomic.set => exact atomic_hash_iff a b ca wa wb s s'
  case gtuple.atomic | thread.atomic | set.atomic =>
    exact eq_iff_symm (atomic_hash_iff b a cb wb wa s' s)
  case gtuple.gtuple => exact gtuple_hash_iff n H a b ca cb da db wa wb s s'
  case gtuple.thread => exact cross (by decide) (gtuple_ne_thread a b ca cb s s')
  case gtuple.set => exact cross (by decide) (gtuple_ne_set a b ca cb s s')
  case thread.gtuple => exact cross (by decide) (gtuple_ne_thread b a cb ca s' s).symm
  case thread.thread => exact thread_hash_iff n H a b ca cb da db wa wb s s'
  case thread.set => exact cross (by decide) (thread_ne_set a b ca cb s s')
  case set.gtuple => exact cross (by decide) (gtuple_ne_set b a cb ca s' s).symm
  case set.thread => exact cross (by decide) (thread_ne_set b a cb ca s' s).symm
  case set.set => exact set_hash_iff n H a b ca cb da db wa wb s s'

theorem hashInj_all : ∀ n, HashInj n
  | 0 => fun _ _ hx => absurd hx (Nat.not_lt_zero _)
  | n + 1 => hashInj_succ n (hashInj_all n)

theorem hash_inj (a b : Rep) (wa : wf a = true) (wb : wf b = true) (s s' : HV) :
    hashG true a s = hashG true b s' ↔ (s = s' ∧ den a = den b) :=
  hashInj_all (depth a + depth b + 1) a b (by omega) (by omega) wa wb s s'

theorem atom_iff (p q : Rep × HV) (wp : wf p.1 = true) (wq : wf q.1 = true) : atom p = atom q ↔ pkey p = pkey q :=
  atom_iff_of_hashInj (hashInj_all (depth p.1 + depth q.1 + 1)) p q ⟨by omega, wp⟩ ⟨by omega, wq⟩

theorem xorList_eq_iff (xs ys : List Rep) (wx : wfList xs = true) (wy : wfList ys = true)
    (nx : (denList xs).Nodup) (ny : (denList ys).Nodup) :
    xorList true xs = xorList true ys ↔ ∀ d, d ∈ denList xs ↔ d ∈ denList ys := by
  rw [denList_eq_map] at nx ny
  rw [xorList_eq_pairs, xorList_eq_pairs, denList_eq_map, denList_eq_map,
    xorPairs_under_iff (fun p => wf p.1 = true) atom_iff [] [] xs ys (fun m => wfList_mem xs m wx)
      (fun m => wfList_mem ys m wy) nx ny]
  exact ⟨fun h => h.1, fun h => ⟨h, fun _ => rfl⟩⟩

theorem xorList_ne_nil (xs : List Rep) (wx : wfList xs = true) (nx : (denList xs).Nodup) (hne : xs ≠ []) :
    xorList true xs ≠ [] := by
  intro h
  have := (xorList_eq_iff xs [] wx rfl nx (by simp [denList])).1 (by rw [h]; rfl)
  cases xs with
  | nil => exact hne rfl
  | cons x r => simpa [denList] using this (den x)

end Arrai.C02
