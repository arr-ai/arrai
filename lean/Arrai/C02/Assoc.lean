/-
  C02 — `lookupV`, the lookup on the attribute list of a denoted tuple in which `tupKind` and `sameRep` are written (the
  model's own is `lookupAttr`), is `List.lookup` (`lookupV_eq_lookup`); `V.mkTup` is determined by it.
-/
import Arrai.Core.CanonLemmas

namespace Arrai.C02
open Arrai

def lookupV (k : String) : List (String × V) → Option V
  | [] => none
  | (m, v) :: r => if k = m then some v else lookupV k r

theorem lookupV_eq_lookup (k : String) : ∀ l : List (String × V), lookupV k l = l.lookup k :=
  eq_lookup_of_first_wins rfl (fun _ _ => if_pos rfl) fun _ _ _ h => if_neg (Ne.symm h)

/-- `mkTup` is determined by the lookup function of its argument -/
theorem mkTup_eq_iff_lookupV (l l' : List (String × V)) : V.mkTup l = V.mkTup l' ↔ ∀ k, lookupV k l = lookupV k l' := by
  simp only [lookupV_eq_lookup]; exact V.mkTup_eq_iff l l'

end Arrai.C02
