/-
  C02 — equality is extensional; equal values are interchangeable.

  `Rep`   : what the Go evaluator holds — one constructor per Go type implementing `rel.Value`
            in the data fragment (rel/value_*.go).
  `den`   : the denotation of a representation in `Arrai.V`.
  `wf`    : the canonical-form invariant the Go constructors are supposed to establish
            ("every denotation has exactly one reachable representation").
  `Impl`  : transliteration of every `Equal` method, of the structural part of every `Hash`
            method (`hashKey`) and of the constructors that establish `wf`
            (NewTuple/TupleBuilder.Finish, NewOffsetString, NewOffsetArray, newSetFromFrozenSet,
            asString/asArray/asBytes, SetBuilder.Finish, String.Without, Array.Without,
            MergeLeftToRight) — the repaired functions and, for the witness theorems, the
            functions as they were before the repair (`…Old`).
  Core-only (linked into driver-c02).
-/
import Arrai.Core.Canon

namespace Arrai.C02

/-! ## representations -/

inductive Rep where
  | num (n : Int)                                   -- Number
  | gtuple (attrs : List (String × Rep))            -- *GenericTuple (frozen map: an enumeration order)
  | charT (ix : Int) (ch : Int)                     -- StringCharTuple
  | byteT (ix : Int) (b : Int)                      -- BytesByteTuple
  | itemT (ix : Int) (item : Rep)                   -- ArrayItemTuple
  | entryT (k : Rep) (v : Rep)                      -- DictEntryTuple
  | empty                                           -- EmptySet
  | true_                                           -- TrueSet
  | generic (xs : List Rep)                         -- GenericSet: members in enumeration order
  | str (s : List Int) (off : Int) (holes : Int)    -- String; negative rune = hole
  | bytes (b : List Int) (off : Int)                -- Bytes
  | array (vs : List (Option Rep)) (off : Int) (count : Int)   -- Array; none = hole
  | dict (m : List (Rep × List Rep))                -- Dict: key ↦ one value or multipleValues
  | relation (attrs : List String) (rows : List (List Rep))    -- Relation (identity projector)
  | union (buckets : List (String × Rep))           -- UnionSet: bucket name ↦ homogeneous subset
  deriving Inhabited

namespace Rep

/-! ## denotation -/

def vmembers : V → List V
  | .set l => l
  | _ => []

/-- `(@: i, name: v)` as a canonical tuple (`"@"` sorts before every `@name`) -/
def vpair (name : String) (i v : V) : V := .tup [("@", i), (name, v)]

/-- members of a string: negative runes are holes -/
def strMembers (off : Int) : List Int → List V
  | [] => []
  | c :: r => if c < 0 then strMembers (off + 1) r
              else vpair "@char" (.num off) (.num c) :: strMembers (off + 1) r

def bytesMembers (off : Int) : List Int → List V
  | [] => []
  | b :: r => vpair "@byte" (.num off) (.num b) :: bytesMembers (off + 1) r

def arrMembers (off : Int) : List (Option V) → List V
  | [] => []
  | some x :: r => vpair "@item" (.num off) x :: arrMembers (off + 1) r
  | none :: r => arrMembers (off + 1) r

def zipAttrs : List String → List V → List (String × V)
  | n :: ns, v :: vs => (n, v) :: zipAttrs ns vs
  | _, _ => []

mutual
def den : Rep → V
  | .num n => .num n
  | .gtuple as => V.mkTup (denAttrs as)
  | .charT ix ch => vpair "@char" (.num ix) (.num ch)
  | .byteT ix b => vpair "@byte" (.num ix) (.num b)
  | .itemT ix x => vpair "@item" (.num ix) (den x)
  | .entryT k v => vpair "@value" (den k) (den v)
  | .empty => .set []
  | .true_ => .set [.tup []]
  | .generic xs => V.mkSet (denList xs)
  | .str s off _ => V.mkSet (strMembers off s)
  | .bytes b off => V.mkSet (bytesMembers off b)
  | .array vs off _ => V.mkSet (arrMembers off (denOpts vs))
  | .dict m => V.mkSet (denDict m)
  | .relation names rows => V.mkSet (denRows names rows)
  | .union bs => V.mkSet (denBuckets bs)
def denAttrs : List (String × Rep) → List (String × V)
  | [] => []
  | (n, v) :: r => (n, den v) :: denAttrs r
def denList : List Rep → List V
  | [] => []
  | x :: r => den x :: denList r
def denOpts : List (Option Rep) → List (Option V)
  | [] => []
  | some x :: r => some (den x) :: denOpts r
  | none :: r => none :: denOpts r
def denDict : List (Rep × List Rep) → List V
  | [] => []
  | (k, vs) :: r => (denList vs).map (fun v => vpair "@value" (den k) v) ++ denDict r
def denRows (names : List String) : List (List Rep) → List V
  | [] => []
  | row :: r => V.mkTup (zipAttrs names (denList row)) :: denRows names r
def denBuckets : List (String × Rep) → List V
  | [] => []
  | (_, s) :: r => vmembers (den s) ++ denBuckets r
end

/-! ## Go-level accessors (non-recursive) -/

def isTuple : Rep → Bool
  | .gtuple _ | .charT _ _ | .byteT _ _ | .itemT _ _ | .entryT _ _ => true
  | _ => false

def isSet : Rep → Bool
  | .empty | .true_ | .generic _ | .str _ _ _ | .bytes _ _ | .array _ _ _ | .dict _ | .relation _ _
  | .union _ => true
  | _ => false

def lookupAttr (n : String) : List (String × Rep) → Option Rep
  | [] => none
  | (m, v) :: r => if n = m then some v else lookupAttr n r

/-- `Tuple.Get` -/
def tupleGet : Rep → String → Option Rep
  | .gtuple as, n => lookupAttr n as
  | .charT ix ch, n => if n = "@" then some (.num ix) else if n = "@char" then some (.num ch) else none
  | .byteT ix b, n => if n = "@" then some (.num ix) else if n = "@byte" then some (.num b) else none
  | .itemT ix x, n => if n = "@" then some (.num ix) else if n = "@item" then some x else none
  | .entryT k v, n => if n = "@" then some k else if n = "@value" then some v else none
  | _, _ => none

/-- names in `Enumerator` order -/
def tupleNames : Rep → List String
  | .gtuple as => as.map (·.1)
  | .charT _ _ => ["@", "@char"]
  | .byteT _ _ => ["@", "@byte"]
  | .itemT _ _ => ["@", "@item"]
  | .entryT _ _ => ["@", "@value"]
  | _ => []

def strCount (s : List Int) : Nat := (s.filter (fun c => decide (0 ≤ c))).length
def optCount {α} (vs : List (Option α)) : Nat := (vs.filter Option.isSome).length

/-- `Set.Enumerator` one level (members in enumeration order); union members need the subsets' -/
def members1 : Rep → List Rep
  | .true_ => [.gtuple []]
  | .generic xs => xs
  | .str s off _ => (s.zipIdx.filter (fun p => decide (0 ≤ p.1))).map (fun p => .charT (off + p.2) p.1)
  | .bytes b off => b.zipIdx.map (fun p => .byteT (off + p.2) p.1)
  | .array vs off _ => vs.zipIdx.filterMap (fun p => p.1.map (fun x => .itemT (off + p.2) x))
  | .dict m => m.flatMap (fun kv => kv.2.map (fun v => .entryT kv.1 v))
  | .relation names rows => rows.map (fun row => .gtuple (names.zip row))
  | _ => []

def members : Rep → List Rep
  | .union bs => bs.flatMap (fun b => members1 b.2)
  | r => members1 r

/-- `Set.Count`, except on dictionaries (here and inside a union set): `Dict.Count` (rel/value_set_dict.go) adds up the
sizes of the value sets, so that a key with several values counts once for each, whereas `m.length` counts keys: on
`{(@: 1, @value: 2), (@: 1, @value: 3)}` Go answers 2 and `count (.dict [(.num 1, [.num 2, .num 3])])` is 1.  No
theorem depends on the difference: `equalG` uses `count` in its `Dict.Equal(other set)` branch only, and that branch
is false on canonical arguments whatever the counts (`dict_equal_nondict`). -/
def count : Rep → Int
  | .true_ => 1
  | .generic xs => xs.length
  | .str s _ holes => s.length - holes
  | .bytes b _ => b.length
  | .array _ _ c => c
  | .dict m => m.length          -- counts keys, not entries
  | .relation _ rows => rows.length
  | .union bs => (bs.map (fun b => match b.2 with
      | .true_ => (1 : Int) | .generic xs => xs.length | .str s _ h => s.length - h | .bytes b _ => b.length
      | .array _ _ c => c | .dict m => m.length | .relation _ rows => rows.length | _ => 0)).foldl (· + ·) 0
  | _ => 0

/-- `DictTupleMatcher`: any tuple with exactly the names `@` and `@value` -/
def asEntry : Rep → Option (Rep × Rep)
  | .entryT k v => some (k, v)
  | .gtuple as =>
    if as.length = 2 then
      match lookupAttr "@" as, lookupAttr "@value" as with
      | some k, some v => some (k, v)
      | _, _ => none
    else none
  | _ => none

/-! ## `Hash`

frozen identifies the elements of a `Set` by their full hash: `Set.Equal` is "same count and same
XOR of the element hashes" (tree.Equal: `FullHash() && !H0.isZero()`), the structural comparison is
only consulted when that XOR is zero.  So what the `Hash` methods feed to the hash function decides
equality of every set nested in a set.  Hash values are modelled symbolically:

* an *atom* is one application of a mixing function of github.com/arr-ai/hash (memhash/aeshash of a
  payload under a seed) — idealised as injective in (function, payload, seed): no accidental 64-bit
  collisions;
* a hash value (`HV`) is the strictly sorted list of the atoms occurring an odd number of times, so
  Go's `^` is the symmetric difference `hxor`.

`hashG true` transliterates the repaired `Hash` methods, `hashG false` the ones before the repairs
(plain XORs of the parts' hashes; `String`/`Bytes` = hash.String(content)). frozen hashes an element
under the seeds 0 and 1; the model follows seed 0 (= `[]`) only. -/

abbrev HV := List V

def hxor (a b : HV) : HV := FinSet.symdiff a b
def hatom (tag : String) (payload : V) (seed : HV) : HV := [.tup [(tag, payload), ("seed", .set seed)]]
def numsV (l : List Int) : V := .set (l.map (fun x => .num x))
/-- payload of `hash.String(name)`: injective in the name -/
def nameV (n : String) : V := .tup [(n, .num 0)]

/-- `finishHash(h, seed)` (repaired) vs. `pre ^ h` (before) -/
def hfin (rep : Bool) (pre h seed : HV) : HV := if rep then hatom "fin" (.set h) seed else hxor pre h

/-- `ArrayItemTuple.Hash`/`DictEntryTuple.Hash`: the hash of the item/value under the seed derived from the
index/key, finished under the caller's seed (repaired) vs. returned as it is (before) -/
def tfin (rep : Bool) (inner seed : HV) : HV := if rep then hatom "fin" (.set inner) seed else inner

def strMemXor (off : Int) : List Int → HV
  | [] => []
  | c :: r => if c < 0 then strMemXor (off + 1) r
              else hxor (hatom "charT" (.set [.num off, .num c]) []) (strMemXor (off + 1) r)
def bytesMemXor (off : Int) : List Int → HV
  | [] => []
  | b :: r => hxor (hatom "byteT" (.set [.num off, .num b]) []) (bytesMemXor (off + 1) r)

mutual
/-- `v.Hash(seed)` -/
def hashG (rep : Bool) : Rep → HV → HV
  | .num n, s => hatom "f64" (.num n) s
  -- frozen Map.Hash: C(seed) ^ XOR of hash.Any(value, hash.Any(key, seed)); repaired: finished
  | .gtuple as, s => hfin rep [] (hxor (hatom "mapC" (.set []) s) (xorAttrs rep as s)) s
  -- hash.Int32(char, hash.Int(at, seed)) / hash.Uint8(byte, hash.Int(at, seed)): one injective atom each
  | .charT ix ch, s => hatom "charT" (.set [.num ix, .num ch]) s
  | .byteT ix b, s => hatom "byteT" (.set [.num ix, .num b]) s
  | .itemT ix x, s => tfin rep (hashG rep x (hatom "int" (.num ix) s)) s
  | .entryT k v, s => tfin rep (hashG rep v (hashG rep k s)) s
  | .empty, s => hfin rep s [] s
  | .true_, s => hfin rep s (hfin rep [] (hatom "mapC" (.set []) []) []) s
  | .generic xs, s => hfin rep s (xorList rep xs) s
  | .str r off _, s =>
    if rep then hatom "runes" (numsV (off :: r)) s
    else hatom "str" (numsV (r.map (fun c => if c < 0 then 0xFFFD else c))) s
  | .bytes b off, s =>
    if rep then hatom "bstr" (numsV (off :: b)) s
    else hatom "str" (numsV b) s
  | .array vs off _, s => hfin rep s (xorOpts rep off vs s) s
  | .dict m, s => hfin rep s (xorDict rep m s) s
  | .relation names rows, s => hfin rep [] (xorRows rep names rows s) s
  | .union bs, s => hfin rep s (xorBuckets rep bs) s
def xorAttrs (rep : Bool) : List (String × Rep) → HV → HV
  | [], _ => []
  | (n, v) :: r, s => hxor (hashG rep v (hatom "str" (nameV n) s)) (xorAttrs rep r s)
/-- XOR of `member.Hash(0)` -/
def xorList (rep : Bool) : List Rep → HV
  | [] => []
  | x :: r => hxor (hashG rep x []) (xorList rep r)
def xorOpts (rep : Bool) (off : Int) : List (Option Rep) → HV → HV
  | [], _ => []
  | some x :: r, s => hxor (tfin rep (hashG rep x (hatom "int" (.num off) s)) s) (xorOpts rep (off + 1) r s)
  | none :: r, s => xorOpts rep (off + 1) r s
def xorDict (rep : Bool) : List (Rep × List Rep) → HV → HV
  | [], _ => []
  | (k, vs) :: r, s => hxor (xorVals rep vs (hashG rep k s) s) (xorDict rep r s)
def xorVals (rep : Bool) : List Rep → HV → HV → HV
  | [], _, _ => []
  | v :: r, ks, s => hxor (tfin rep (hashG rep v ks) s) (xorVals rep r ks s)
def xorRows (rep : Bool) (names : List String) : List (List Rep) → HV → HV
  | [], _ => []
  | row :: r, s =>
    hxor (hfin rep [] (hxor (hatom "mapC" (.set []) s) (xorRow rep names row s)) s) (xorRows rep names r s)
def xorRow (rep : Bool) : List String → List Rep → HV → HV
  | n :: ns, v :: vs, s => hxor (hashG rep v (hatom "str" (nameV n) s)) (xorRow rep ns vs s)
  | _, _, _ => []
/-- a `UnionSet` hashes all members of all buckets under seed 0 -/
def xorBuckets (rep : Bool) : List (String × Rep) → HV
  | [] => []
  | (_, sub) :: r => hxor (memXor rep sub) (xorBuckets rep r)
/-- XOR of `member.Hash(0)` over the enumeration of a (non-union) set -/
def memXor (rep : Bool) : Rep → HV
  | .true_ => hfin rep [] (hatom "mapC" (.set []) []) []
  | .generic xs => xorList rep xs
  | .str r off _ => strMemXor off r
  | .bytes b off => bytesMemXor off b
  | .array vs off _ => xorOpts rep off vs []
  | .dict m => xorDict rep m []
  | .relation names rows => xorRows rep names rows []
  | _ => []
end

/-- the repaired hash under seed 0 -/
def hashKey (r : Rep) : HV := hashG true r []

end Rep

/-! ## the canonical-form invariant -/
namespace Rep

def inRune (c : Int) : Bool := decide (0 ≤ c) && decide (c ≤ 0x10FFFF)
def inByte (b : Int) : Bool := decide (0 ≤ b) && decide (b ≤ 0xFF)

/-- would `NewTuple`/`TupleBuilder.Finish` (after repair #20) turn these attributes into one of the
four specialised tuples?  (`@` not a number with `@char/@byte/@item` panics in Go — pinned by the
suite — so such a tuple is never built; it counts as not specialisable here.) -/
def specialisable (as : List (String × Rep)) : Bool :=
  as.length == 2 &&
  match lookupAttr "@" as with
  | none => false
  | some i =>
    (lookupAttr "@value" as).isSome ||
    (match i with
     | .num _ =>
       (lookupAttr "@item" as).isSome ||
       (match lookupAttr "@char" as with | some (.num c) => inRune c | _ => false) ||
       (match lookupAttr "@byte" as with | some (.num b) => inByte b | _ => false)
     | _ => false)

/-- member of the generic bucket (`getBucket() == genericType`): numbers, sets, the empty tuple -/
def genericMember : Rep → Bool
  | .num _ => true
  | .gtuple [] => true
  | r => isSet r

/-- `unionSetSubsetBucket()` of a set representation -/
def bucketOfSet : Rep → Option String
  | .true_ | .generic _ => some "rel.generic"
  | .str _ _ _ => some "rel.StringCharTuple"
  | .bytes _ _ => some "rel.BytesByteTuple"
  | .array _ _ _ => some "rel.ArrayItemTuple"
  | .dict _ => some "rel.DictEntryTuple"
  | .relation names _ => some (", ".intercalate (sortStrs names))
  | _ => none

def headSome {α} : List (Option α) → Bool
  | some _ :: _ => true
  | _ => false
def lastSome {α} : List (Option α) → Bool
  | [] => false
  | [x] => x.isSome
  | _ :: y :: r => lastSome (y :: r)
def headNonneg : List Int → Bool
  | c :: _ => decide (0 ≤ c)
  | _ => false
def lastNonneg : List Int → Bool
  | [] => false
  | [c] => decide (0 ≤ c)
  | _ :: y :: r => lastNonneg (y :: r)

def namesOf (as : List (String × Rep)) : List String := as.map (·.1)

mutual
def wf : Rep → Bool
  | .num _ => true
  | .gtuple as => decide (namesOf as).Nodup && wfAttrs as && !specialisable as
  | .charT _ ch => inRune ch
  | .byteT _ b => inByte b
  | .itemT _ x => wf x
  | .entryT k v => wf k && wf v
  | .empty => true
  | .true_ => true
  | .generic xs =>
    !xs.isEmpty && wfList xs && xs.all genericMember && decide (denList xs).Nodup &&
    !(denList xs == [V.tup []])
  | .str s _ holes =>
    headNonneg s && lastNonneg s && s.all (fun c => decide (-1 ≤ c) && decide (c ≤ 0x10FFFF)) &&
    holes == (s.length : Int) - (strCount s : Int)
  | .bytes b _ => !b.isEmpty && b.all inByte
  | .array vs _ c => headSome vs && lastSome vs && wfOpts vs && c == (optCount vs : Int)
  | .dict m => !m.isEmpty && wfDict m && decide (denList (m.map (·.1))).Nodup
  | .relation names rows =>
    !names.isEmpty && decide names.Nodup && !rows.isEmpty && wfRows names rows &&
    decide (denRows names rows).Nodup
  | .union bs =>
    decide (2 ≤ bs.length) && decide (bs.map (·.1)).Nodup && wfBuckets bs
def wfAttrs : List (String × Rep) → Bool
  | [] => true
  | (_, v) :: r => wf v && wfAttrs r
def wfList : List Rep → Bool
  | [] => true
  | x :: r => wf x && wfList r
def wfOpts : List (Option Rep) → Bool
  | [] => true
  | some x :: r => wf x && wfOpts r
  | none :: r => wfOpts r
def wfDict : List (Rep × List Rep) → Bool
  | [] => true
  | (k, vs) :: r => wf k && !vs.isEmpty && wfList vs && decide (denList vs).Nodup && wfDict r
/-- rows of heading length, values wf, and no row the specialisation rule would have sugared -/
def wfRows (names : List String) : List (List Rep) → Bool
  | [] => true
  | row :: r => row.length == names.length && wfList row && !specialisable (names.zip row) && wfRows names r
def wfBuckets : List (String × Rep) → Bool
  | [] => true
  | (k, s) :: r => wf s && bucketOfSet s == some k && wfBuckets r
end

end Rep

/-! ## `Equal` methods -/
namespace Impl
open Rep

def sortNames (l : List String) : List String := sortStrs l

/-- the cell of `row` under the column `n` -/
def rowGet (names : List String) (row : List Rep) (n : String) : Option Rep :=
  lookupAttr n (names.zip row)

/-- frozen `Tree.Equal`: the XOR of the element hashes decides unless it is zero -/
def frozenEq (h h' : HV) (structural : Bool) : Bool := h == h' && (!h.isEmpty || structural)

/-- `Values.Hash(seed)`: `h = hash.Any(val, h)` over the row in sorted-name order -/
def rowChain (rep : Bool) (names sorted : List String) (row : List Rep) : HV :=
  sorted.foldl (fun h n => match rowGet names row n with
    | some v => hashG rep v h
    | none => h) []

def rowsXor (rep : Bool) (names : List String) (rows : List (List Rep)) : HV :=
  rows.foldr (fun row acc => hxor (rowChain rep names (sortNames names) row) acc) []

mutual
/-- `a.Equal(b)`: structural recursion on the receiver; `rep` selects the repaired `Hash` methods -/
def equalG (rep : Bool) : Rep → Rep → Bool
  | .num a, b => (match b with | .num b => a == b | _ => false)
  -- GenericTuple.Equal accepts any Tuple
  | .gtuple as, b => isTuple b && equalAttrsIn rep as b && (tupleNames b).all (fun n => (as.map (·.1)).contains n)
  | .charT ix ch, b => (match b with | .charT ix' ch' => ix == ix' && ch == ch' | _ => false)
  | .byteT ix x, b => (match b with | .byteT ix' x' => ix == ix' && x == x' | _ => false)
  | .itemT ix x, b => (match b with | .itemT ix' y => ix == ix' && equalG rep x y | _ => false)
  | .entryT k v, b => (match b with | .entryT k' v' => equalG rep k k' && equalG rep v v' | _ => false)
  | .empty, b => (match b with | .empty => true | _ => false)
  | .true_, b => (match b with | .true_ => true | _ => false)
  -- GenericSet.Equal: frozen Set.Equal
  | .generic xs, b =>
    (match b with
     | .generic ys => xs.length == ys.length && frozenEq (xorList rep xs) (xorList rep ys) (allIn rep xs ys)
     | _ => false)
  | .str s off holes, b =>
    (match b with
     | .str s' off' holes' => off == off' && holes == holes' && s.length == s'.length && s == s'
     | _ => false)
  | .bytes x off, b => (match b with | .bytes x' off' => off == off' && x == x' | _ => false)
  | .array vs off c, b =>
    (match b with
     | .array vs' off' c' => vs.length == vs'.length && off == off' && c == c' && arrEq rep vs vs'
     | _ => false)
  -- Dict.Equal accepts any Set
  | .dict m, b =>
    (match b with
     | .dict m' => m.length == m'.length && dictAllIn rep m m'
     | b => isSet b && (count b != 0) && (count (.dict m) == count b) &&
            (members b).all (fun e => match asEntry e with
              | some (k', v') => dictHasSingle rep m k' v'
              | none => false))
  | .relation names rows, b =>
    (match b with
     | .relation names' rows' =>
       names.length == names'.length && sortNames names == sortNames names' &&
       rows.length == rows'.length &&
       frozenEq (rowsXor rep names rows) (rowsXor rep names' rows') (rowsAllIn rep names rows names' rows')
     | _ => false)
  | .union bs, b =>
    (match b with
     | .union bs' => bs.length == bs'.length && bucketsAllIn rep bs bs'
     | _ => false)
termination_by structural a _ => a
def equalAttrsIn (rep : Bool) : List (String × Rep) → Rep → Bool
  | [], _ => true
  | (n, v) :: r, b => (match tupleGet b n with | some w => equalG rep v w | none => false) && equalAttrsIn rep r b
termination_by structural a _ => a
/-- structural part of frozen's set comparison: every member found by hash and `Equal` -/
def allIn (rep : Bool) : List Rep → List Rep → Bool
  | [], _ => true
  | x :: r, ys => ys.any (fun y => hashG rep x [] == hashG rep y [] && equalG rep x y) && allIn rep r ys
termination_by structural a _ => a
def arrEq (rep : Bool) : List (Option Rep) → List (Option Rep) → Bool
  | [], _ => true
  | some c :: r, some d :: r' => equalG rep c d && arrEq rep r r'
  | none :: r, none :: r' => arrEq rep r r'
  | _, _ => false
termination_by structural a _ => a
/-- `equalDict`: every key of the receiver is found in `m'` (hash, then `Equal`) with an equal value
(`equalDictValue`: two plain values, or two `multipleValues` compared as frozen sets) -/
def dictAllIn (rep : Bool) : List (Rep × List Rep) → List (Rep × List Rep) → Bool
  | [], _ => true
  | (k, vs) :: r, m' =>
    m'.any (fun kv' => hashG rep k [] == hashG rep kv'.1 [] && equalG rep k kv'.1 &&
      (if vs.length ≤ 1 then kv'.2.length ≤ 1 && valuesEq rep vs kv'.2
       else 2 ≤ kv'.2.length && vs.length == kv'.2.length &&
            frozenEq (xorList rep vs) (xorList rep kv'.2) (allIn rep vs kv'.2)))
    && dictAllIn rep r m'
termination_by structural a _ => a
/-- `d.m.Get(key)` yields a single value equal to `v'` (argument order of the value comparison
flipped w.r.t. Go — `value.Equal(dv)` — to keep the recursion structural).  This is Go's answer where `Equal` is
symmetric, that is on canonical forms (`equal_symm`); off them it need not be (`equal_symm_needs_wf`): for the stored
value `.gtuple [("@", .num 0), ("@char", .num 97)]` and `v' = .charT 0 97` the model answers true and Go false. -/
def dictHasSingle (rep : Bool) : List (Rep × List Rep) → Rep → Rep → Bool
  | [], _, _ => false
  | (k, vs) :: r, k', v' =>
    if hashG rep k [] == hashG rep k' [] && equalG rep k k' then singleEq rep vs v' else dictHasSingle rep r k' v'
termination_by structural a _ _ => a
def singleEq (rep : Bool) : List Rep → Rep → Bool
  | [dv], v' => equalG rep dv v'
  | _, _ => false
termination_by structural a _ => a
/-- `Values.equalValues` -/
def valuesEq (rep : Bool) : List Rep → List Rep → Bool
  | [], [] => true
  | x :: r, y :: r' => equalG rep x y && valuesEq rep r r'
  | _, _ => false
termination_by structural a _ => a
/-- structural part of `canonicalRelation().set.Equal`: every row found among the other relation's
rows, columns matched by name (Go projects both sides to sorted-name order first) -/
def rowsAllIn (rep : Bool) (names : List String) : List (List Rep) → List String → List (List Rep) → Bool
  | [], _, _ => true
  | row :: r, names', rows' =>
    rows'.any (fun row' => rowEqByName rep names row names' row') && rowsAllIn rep names r names' rows'
termination_by structural a _ _ => a
def rowEqByName (rep : Bool) : List String → List Rep → List String → List Rep → Bool
  | n :: ns, x :: xs, names', row' =>
    (match rowGet names' row' n with | some y => equalG rep x y | none => false) && rowEqByName rep ns xs names' row'
  | _, _, _, _ => true
termination_by structural _ a _ _ => a
def bucketsAllIn (rep : Bool) : List (String × Rep) → List (String × Rep) → Bool
  | [], _ => true
  | (k, s) :: r, bs' =>
    (match lookupAttr k bs' with | some s' => equalG rep s s' | none => false) && bucketsAllIn rep r bs'
termination_by structural a _ => a
end

/-- the repaired `Equal` -/
abbrev equal := equalG true
/-- `Equal` with the `Hash` methods as they were before the repairs -/
abbrev equalOld := equalG false

end Impl

/-! ## constructors and the operators that must re-establish `wf` -/
namespace Impl
open Rep

/-- outcome of a Go constructor that may panic (unchecked `.(Number)` assertions, pinned by the suite) -/
inductive Res (α : Type) where
  | ok : α → Res α
  | panic : Res α
  deriving Inhabited

/-- `specialTuple` (rel/value_tuple.go, repair #20): the specialised representation of
`(@: ix, name: v)` if there is one that represents it exactly -/
def specialTuple (ix : Rep) (name : String) (v : Rep) : Res (Option Rep) :=
  if name = "@value" then .ok (some (.entryT ix v))
  else if name = "@item" then
    match ix with
    | .num i => .ok (some (.itemT i v))
    | _ => .panic
  else if name = "@char" then
    match ix, v with
    | .num i, .num c => .ok (if inRune c then some (.charT i c) else none)
    | _, _ => .panic
  else if name = "@byte" then
    match ix, v with
    | .num i, .num b => .ok (if inByte b then some (.byteT i b) else none)
    | _, _ => .panic
  else .ok none

/-- before repair #20: `int(...)`, `rune(...)`, `byte(...)` conversions, no range test -/
def specialTupleOld (ix : Rep) (name : String) (v : Rep) : Res (Option Rep) :=
  if name = "@value" then .ok (some (.entryT ix v))
  else if name = "@item" then
    match ix with
    | .num i => .ok (some (.itemT i v))
    | _ => .panic
  else if name = "@char" then
    match ix, v with
    | .num i, .num c => .ok (some (.charT i c))
    | _, _ => .panic
  else if name = "@byte" then
    match ix, v with
    | .num i, .num b => .ok (some (.byteT i (b % 256)))
    | _, _ => .panic
  else .ok none

/-- `NewTuple` / `TupleBuilder.Finish` for attributes with distinct names -/
def newTupleWith (special : Rep → String → Rep → Res (Option Rep)) (as : List (String × Rep)) : Res Rep :=
  match as with
  | [(n1, v1), (n2, v2)] =>
    if n1 = "@" then
      match special v1 n2 v2 with
      | .ok (some t) => .ok t
      | .ok none => .ok (.gtuple as)
      | .panic => .panic
    else if n2 = "@" then
      match special v2 n1 v1 with
      | .ok (some t) => .ok t
      | .ok none => .ok (.gtuple as)
      | .panic => .panic
    else .ok (.gtuple as)
  | _ => .ok (.gtuple as)

def newTuple := newTupleWith specialTuple
def newTupleOld := newTupleWith specialTupleOld

/-- `asGenericTuple` / `Enumerator` of a tuple -/
def attrsOf : Rep → List (String × Rep)
  | .gtuple as => as
  | .charT i c => [("@", .num i), ("@char", .num c)]
  | .byteT i b => [("@", .num i), ("@byte", .num b)]
  | .itemT i x => [("@", .num i), ("@item", x)]
  | .entryT k v => [("@", k), ("@value", v)]
  | _ => []

/-- frozen map `With` on an enumeration -/
def setAttr (n : String) (v : Rep) : List (String × Rep) → List (String × Rep)
  | [] => [(n, v)]
  | (m, w) :: r => if n = m then (m, v) :: r else (m, w) :: setAttr n v r

/-- `maybeNew<Kind>TupleFromTuple`: the matcher-based, non-panicking re-specialisation each
specialised tuple type applies after `With` (only to its own kind) -/
def maybeOwnKind (kind : String) (as : List (String × Rep)) : Rep :=
  match as with
  | [(n1, v1), (n2, v2)] =>
    let go (i v : Rep) (n : String) : Rep :=
      if n = kind then
        if kind = "@value" then .entryT i v
        else match i with
          | .num ix =>
            if kind = "@item" then .itemT ix v
            else match v with
              | .num c =>
                if kind = "@char" && inRune c then .charT ix c
                else if kind = "@byte" && inByte c then .byteT ix c
                else .gtuple as
              | _ => .gtuple as
          | _ => .gtuple as
      else .gtuple as
    if n1 = "@" then go v1 v2 n2 else if n2 = "@" then go v2 v1 n1 else .gtuple as
  | _ => .gtuple as

/-- `Tuple.With(name, value)` (the `&name` view stripping is outside the data fragment) -/
def tupleWith (t : Rep) (n : String) (v : Rep) : Rep :=
  match t with
  | .gtuple as => .gtuple (setAttr n v as)          -- GenericTuple.With never specialises
  | .charT _ _ => maybeOwnKind "@char" (setAttr n v (attrsOf t))
  | .byteT _ _ => maybeOwnKind "@byte" (setAttr n v (attrsOf t))
  | .itemT _ _ => maybeOwnKind "@item" (setAttr n v (attrsOf t))
  | .entryT _ _ => maybeOwnKind "@value" (setAttr n v (attrsOf t))
  | r => r

/-- `MergeLeftToRight(t, u)` before the repair: accumulate with `With` -/
def mergeLeftToRightOld (t u : Rep) : Rep :=
  (attrsOf u).foldl (fun acc nv => tupleWith acc nv.1 nv.2) t

/-- repaired: `Canonical()` on a generic result -/
def mergeLeftToRight (t u : Rep) : Res Rep :=
  match mergeLeftToRightOld t u with
  | .gtuple as => newTuple as
  | r => .ok r

/-! ### strings -/

def countNeg (s : List Int) : Int := ((s.filter (fun c => decide (c < 0))).length : Int)

/-- `NewOffsetString` -/
def newOffsetString (s : List Int) (off : Int) : Rep :=
  if s.isEmpty then .empty else .str s off (countNeg s)

def dropLeadingNeg : List Int → Int → Int → (List Int × Int × Int)
  | c :: r, off, holes => if c < 0 then dropLeadingNeg r (off + 1) (holes - 1) else (c :: r, off, holes)
  | [], off, holes => ([], off, holes)

/-- drop trailing holes: the trimmed list and the number of holes dropped -/
def trimBackNeg : List Int → (List Int × Int)
  | [] => ([], 0)
  | c :: r =>
    match trimBackNeg r with
    | ([], k) => if c < 0 then ([], k + 1) else ([c], k)
    | (r', k) => (c :: r', k)

def dropTrailingNeg (s : List Int) (holes : Int) : (List Int × Int) :=
  ((trimBackNeg s).1, holes - (trimBackNeg s).2)

/-- `String.trimHoles` (repair #4) -/
def strTrimHoles (s : List Int) (off holes : Int) : (List Int × Int × Int) :=
  let (s1, off1, h1) := dropLeadingNeg s off holes
  let (s2, h2) := dropTrailingNeg s1 h1
  (s2, off1, h2)

/-- the three removal cases of `String.Without(StringCharTuple{at, ch})`, before trimming -/
def strStage1 (s : List Int) (off holes : Int) (ix ch : Int) : (List Int × Int × Int) :=
  let pos := ix - off
  let i : Int := if 0 ≤ pos && pos ≤ s.length then pos else -1
  let n : Int := s.length
  if i == 0 && s.head? == some ch then (s.tail, off + 1, holes)
  else if i == n - 1 && s.getLast? == some ch then (s.dropLast, off, holes)
  else if 0 < i && i < n - 1 && s[i.toNat]? == some ch then (s.set i.toNat (-1), off, holes + 1)
  else (s, off, holes)

/-- `s = s.trimHoles()` (repaired only) and the final `Count() == 0` test -/
def strFinishG (trim : Bool) (t : List Int × Int × Int) : Rep :=
  let u := if trim then strTrimHoles t.1 t.2.1 t.2.2 else t
  if (u.1.length : Int) - u.2.2 == 0 then .empty else .str u.1 u.2.1 u.2.2

/-- `String.Without`; `trim` selects the repaired function -/
def strWithoutG (trim : Bool) (s : List Int) (off holes : Int) (ix ch : Int) : Rep :=
  strFinishG trim (strStage1 s off holes ix ch)

def strWithout := strWithoutG true
def strWithoutOld := strWithoutG false

/-- `asString(values...)` for `StringCharTuple` values given as (at, char) pairs, in order -/
def asString (ts : List (Int × Int)) : Rep :=
  match ts with
  | [] => .empty
  | (a0, _) :: _ =>
    let minAt := ts.foldl (fun m t => if t.1 < m then t.1 else m) a0
    let maxAt := ts.foldl (fun m t => if m < t.1 then t.1 else m) a0
    let blank : List Int := List.replicate (maxAt - minAt + 1).toNat (-1)
    let s := ts.foldl (fun acc t => acc.set (t.1 - minAt).toNat t.2) blank
    .str s minAt (countNeg s)      -- counts the holes that are left (c05's repair; before: len - n)

/-! ### arrays -/

def dropLeadingNone {α} : List (Option α) → Int → (List (Option α) × Int)
  | none :: r, off => dropLeadingNone r (off + 1)
  | l, off => (l, off)

def dropTrailingNone {α} : List (Option α) → List (Option α)
  | [] => []
  | x :: r =>
    match dropTrailingNone r with
    | [] => (match x with | none => [] | some _ => [x])
    | r' => x :: r'

/-- `NewOffsetArray(offset, values...)`: trims holes from both ends, counts -/
def newOffsetArray (off : Int) (vs : List (Option Rep)) : Rep :=
  let (v1, off1) := dropLeadingNone vs off
  let v2 := dropTrailingNone v1
  if v2.isEmpty then .empty else .array v2 off1 (optCount v2)

/-- `Array.Without(ArrayItemTuple{at, item})`; `trim` selects the repaired function -/
def arrWithoutG (trim : Bool) (vs : List (Option Rep)) (off c : Int) (ix : Int) (item : Rep) : Rep :=
  let i := ix - off
  if 0 ≤ i && i < vs.length then
    match vs[i.toNat]? with
    | some (some v) =>
      if equal v item then
        if ix == off then
          (if trim then newOffsetArray (off + 1) vs.tail else .array vs.tail (off + 1) (c - 1))
        else if ix == off + vs.length - 1 then
          (if trim then newOffsetArray off vs.dropLast else .array vs.dropLast off (c - 1))
        else if c - 1 > 0 then .array (vs.set i.toNat none) off (c - 1) else .empty
      else .array vs off c
    | _ => .array vs off c
  else .array vs off c

def arrWithout := arrWithoutG true
def arrWithoutOld := arrWithoutG false

/-- `asArray(values...)` for `ArrayItemTuple` values given as (at, item) pairs, in order -/
def asArray (ts : List (Int × Rep)) : Rep :=
  match ts with
  | [] => .empty
  | (a0, _) :: _ =>
    let minAt := ts.foldl (fun m t => if t.1 < m then t.1 else m) a0
    let maxAt := ts.foldl (fun m t => if m < t.1 then t.1 else m) a0
    let blank : List (Option Rep) := List.replicate (maxAt - minAt + 1).toNat none
    let vs := ts.foldl (fun acc t => acc.set (t.1 - minAt).toNat (some t.2)) blank
    .array vs minAt (optCount vs)

/-- `asBytes(values...)`: holes are filled with 0 (KF-bytes-holes) -/
def asBytes (ts : List (Int × Int)) : Rep :=
  match ts with
  | [] => .empty
  | (a0, _) :: _ =>
    let minAt := ts.foldl (fun m t => if t.1 < m then t.1 else m) a0
    let maxAt := ts.foldl (fun m t => if m < t.1 then t.1 else m) a0
    let blank : List Int := List.replicate (maxAt - minAt + 1).toNat 0
    .bytes (ts.foldl (fun acc t => acc.set (t.1 - minAt).toNat t.2) blank) minAt

/-! ### sets -/

/-- frozen membership: same hash and `Equal` -/
def memFrozen (x : Rep) (ys : List Rep) : Bool := ys.any (fun y => hashKey y == hashKey x && equal y x)

/-- a frozen `SetBuilder`: later duplicates are dropped -/
def dedupFrozen (xs : List Rep) : List Rep :=
  (xs.foldl (fun acc x => if memFrozen x acc then acc else x :: acc) []).reverse

/-- `newSetFromFrozenSet` -/
def newSetFromFrozenSet (xs : List Rep) : Rep :=
  match xs with
  | [] => .empty
  | [.gtuple []] => .true_
  | _ => .generic xs

def genericSetFinish (xs : List Rep) : Rep := newSetFromFrozenSet (dedupFrozen xs)

/-- `NewDict(true, entries...)` -/
def newDict (es : List (Rep × Rep)) : Rep :=
  let add (m : List (Rep × List Rep)) (e : Rep × Rep) : List (Rep × List Rep) :=
    if m.any (fun kv => hashKey kv.1 == hashKey e.1 && equal kv.1 e.1) then
      m.map (fun kv => if hashKey kv.1 == hashKey e.1 && equal kv.1 e.1
                       then (kv.1, if memFrozen e.2 kv.2 then kv.2 else kv.2 ++ [e.2]) else kv)
    else m ++ [(e.1, [e.2])]
  match es.foldl add [] with
  | [] => .empty
  | m => .dict m

/-- `Dict.CallAll` / `{a: 1}(b)`: the values stored under a key found by hash and `Equal` -/
def dictGet (d : Rep) (k : Rep) : List Rep :=
  match d with
  | .dict m => (m.filter (fun kv => hashKey kv.1 == hashKey k && equal kv.1 k)).flatMap (·.2)
  | _ => []

/-- `getBucket().String()` -/
def bucketOf : Rep → String
  | .charT _ _ => "rel.StringCharTuple"
  | .byteT _ _ => "rel.BytesByteTuple"
  | .itemT _ _ => "rel.ArrayItemTuple"
  | .entryT _ _ => "rel.DictEntryTuple"
  | .gtuple [] => "rel.generic"
  | .gtuple as => ", ".intercalate (sortStrs (namesOf as))
  | _ => "rel.generic"

/-- `relationBuilder`: heading = sorted names of the first tuple; `MustGet` panics on a tuple of
another heading that landed in the same bucket (KF-relation-bucket) -/
def relationFinish (ts : List Rep) : Res Rep :=
  match ts with
  | [] => .ok .empty
  | t :: _ =>
    let names := sortStrs (namesOf (attrsOf t))
    let rows : List (Option (List Rep)) := ts.map (fun t => names.mapM (fun n => tupleGet t n))
    if rows.all Option.isSome then
      let rs := rows.filterMap id
      let dedup := (rs.foldl (fun acc r =>
        if acc.any (fun r' => valuesEq true r' r) then acc else r :: acc) []).reverse
      .ok (.relation names dedup)
    else .panic

def bucketFinish (bucket : String) (vs : List Rep) : Res Rep :=
  if bucket = "rel.generic" then .ok (genericSetFinish vs)
  else if bucket = "rel.StringCharTuple" then
    .ok (asString (vs.filterMap (fun v => match v with | .charT i c => some (i, c) | _ => none)))
  else if bucket = "rel.BytesByteTuple" then
    .ok (asBytes (vs.filterMap (fun v => match v with | .byteT i c => some (i, c) | _ => none)))
  else if bucket = "rel.ArrayItemTuple" then
    .ok (asArray (vs.filterMap (fun v => match v with | .itemT i x => some (i, x) | _ => none)))
  else if bucket = "rel.DictEntryTuple" then
    .ok (newDict (vs.filterMap (fun v => match v with | .entryT k x => some (k, x) | _ => none)))
  else relationFinish vs

/-- group by bucket, buckets in order of first appearance -/
def groupBuckets (vs : List Rep) : List (String × List Rep) :=
  vs.foldl (fun acc v =>
    let b := bucketOf v
    if acc.any (fun p => p.1 == b) then acc.map (fun p => if p.1 == b then (p.1, p.2 ++ [v]) else p)
    else acc ++ [(b, [v])]) []

/-- `NewSet(values...)` = `SetBuilder.Add*` + `SetBuilder.Finish` -/
def setBuilderFinish (vs : List Rep) : Res Rep :=
  match groupBuckets vs with
  | [] => .ok .empty
  | [(b, xs)] => bucketFinish b xs
  | groups =>
    let rec go : List (String × List Rep) → Res (List (String × Rep))
      | [] => .ok []
      | (b, xs) :: r =>
        match bucketFinish b xs, go r with
        | .ok s, .ok rest => .ok ((b, s) :: rest)
        | _, _ => .panic
    match go groups with
    | .ok bs => .ok (.union bs)
    | .panic => .panic

/-! ### the canonical representation of a denotation (what the constructors build from scratch) -/
mutual
def build : V → Res Rep
  | .num n => .ok (.num n)
  | .tup as =>
    match buildAttrs as with
    | .ok ras => newTuple ras
    | .panic => .panic
  | .set xs =>
    match buildList xs with
    | .ok rs => setBuilderFinish rs
    | .panic => .panic
def buildAttrs : List (String × V) → Res (List (String × Rep))
  | [] => .ok []
  | (n, v) :: r =>
    match build v, buildAttrs r with
    | .ok x, .ok rest => .ok ((n, x) :: rest)
    | _, _ => .panic
def buildList : List V → Res (List Rep)
  | [] => .ok []
  | v :: r =>
    match build v, buildList r with
    | .ok x, .ok rest => .ok (x :: rest)
    | _, _ => .panic
end

end Impl

end Arrai.C02
