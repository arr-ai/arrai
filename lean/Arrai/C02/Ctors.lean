/-
  C02 — the modelled constructors return canonical forms of the intended denotation:
  bounded-exhaustive statements (every input up to a size bound over a small alphabet), for evaluation
  by the kernel (`decide`).  Proofs/C02.lean evaluates `setBuilderOk 2` and, for the behaviour before the repairs,
  `strWithoutOk false 3` and `arrWithoutOk false 3`; the other constructors are proved for every input
  (C02/CtorsGen.lean, Proofs/C02.lean, which take `specWithout`, `veq` and `okWith` from here), and their bounded
  statements here are evaluated nowhere.  Core-only.
-/
import Arrai.C02.Model

namespace Arrai.C02
open Arrai Arrai.C02.Rep Arrai.C02.Impl

def allLists {α} (alpha : List α) : Nat → List (List α)
  | 0 => [[]]
  | n + 1 => [] :: (alpha.flatMap (fun a => (allLists alpha n).map (a :: ·)))

def veq (a b : V) : Bool := decide (a = b)

def okWith (p : Rep → Bool) : Res Rep → Bool
  | .ok r => p r
  | .panic => false

/-- the specification of `s without v` on denotations -/
def specWithout (members : List V) (v : V) : V := .set (members.filter (fun m => !veq m v))

/-- `String.Without` (repaired if `trim`) on every canonical string of length ≤ n over {hole, 'a', 'b'}, offsets 0 and 2,
every index around it and both letters: canonical result with exactly the member removed -/
def strWithoutOk (trim : Bool) (n : Nat) : Bool :=
  (allLists [-1, 97, 98] n).all (fun s =>
    [0, 2].all (fun off =>
      !wf (.str s off (countNeg s)) ||
      [-1, 0, 1, 2, 3, 4, 5, 6].all (fun ix => [97, 98].all (fun ch =>
        let r := strWithoutG trim s off (countNeg s) ix ch
        wf r && veq (den r) (specWithout (strMembers off s) (vpair "@char" (.num ix) (.num ch)))))))

/-- `Array.Without` (repaired if `trim`) on every canonical array of length ≤ n over {hole, 1, {}} -/
def arrWithoutOk (trim : Bool) (n : Nat) : Bool :=
  (allLists [none, some (Rep.num 1), some Rep.empty] n).all (fun vs =>
    [0, 2].all (fun off =>
      !wf (.array vs off (optCount vs)) ||
      [-1, 0, 1, 2, 3, 4, 5, 6].all (fun ix => [Rep.num 1, Rep.empty].all (fun item =>
        let r := arrWithoutG trim vs off (optCount vs) ix item
        wf r && veq (den r) (specWithout (arrMembers off (denOpts vs)) (vpair "@item" (.num ix) (den item)))))))

/-- `NewOffsetArray` trims and counts: any list of length ≤ n over {hole, 1, {}} -/
def newOffsetArrayOk (n : Nat) : Bool :=
  (allLists [none, some (Rep.num 1), some Rep.empty] n).all (fun vs =>
    [0, -1].all (fun off =>
      let r := newOffsetArray off vs
      wf r && veq (den r) (V.mkSet (arrMembers off (denOpts vs)))))

/-- `NewOffsetString` on lists without holes at the ends (what its callers pass) -/
def newOffsetStringOk (n : Nat) : Bool :=
  (allLists [-1, 97, 98] n).all (fun s =>
    !(s.isEmpty || (headNonneg s && lastNonneg s)) ||
    [0, 3].all (fun off =>
      let r := newOffsetString s off
      wf r && veq (den r) (V.mkSet (strMembers off s))))

def smallAttrs : List (String × Rep) :=
  [("@", .num 0), ("@", .empty), ("@char", .num 97), ("@char", .num (-1)), ("@byte", .num 300), ("@byte", .num 7),
   ("@item", .empty), ("@value", .num 1), ("a", .num 1)]

def distinctNames (as : List (String × Rep)) : Bool := decide (namesOf as).Nodup

/-- `NewTuple`/`TupleBuilder.Finish` (repair #20): unless Go panics (non-number `@`/`@char`/`@byte` under a sugar
heading, pinned by the suite) the result is canonical and denotes the attributes given -/
def newTupleOk (n : Nat) : Bool :=
  (allLists smallAttrs n).all (fun as =>
    !distinctNames as ||
    match newTuple as with
    | .ok r => wf r && veq (den r) (V.mkTup (denAttrs as))
    | .panic => true)

/-- `+>` (repaired): canonical, right operand wins -/
def mergeOk (n : Nat) : Bool :=
  (allLists smallAttrs n).all (fun as => (allLists smallAttrs n).all (fun bs =>
    !(distinctNames as && distinctNames bs) ||
    match newTuple as, newTuple bs with
    | .ok t, .ok u =>
      (match mergeLeftToRight t u with
       | .ok r => wf r && veq (den r) (V.mkTup (denAttrs (bs ++ as.filter (fun p => !(namesOf bs).contains p.1))))
       | .panic => true)
    | _, _ => true))

/-- members of every bucket except the relation buckets (their bucket key is a sorted, joined string, which
the kernel does not evaluate; relations are covered by the correspondence run) -/
def smallMembers : List Rep :=
  [.num 1, .num 2, .empty, .true_, .str [97] 0 0, .gtuple [], .charT 0 97, .charT 1 98, .byteT 0 1,
   .itemT 0 (.num 1), .itemT 2 .empty, .entryT (.num 1) (.num 2), .entryT .empty (.num 2)]

/-- some character tuple occurs twice in `ms` (used nowhere) -/
def dupChar (ms : List Rep) : Bool :=
  let cs := ms.filterMap (fun m => match m with | .charT i c => some (i, c) | _ => none)
  cs.eraseDups.length != cs.length

/-- `NewSet` = `SetBuilder.Add*` + `Finish` on every list of ≤ n members (repeats allowed, any order):
bucket routing, asString/asArray/asBytes/NewDict/relation builder, union of buckets -/
def setBuilderOk (n : Nat) : Bool :=
  (allLists smallMembers n).all (fun ms =>
    okWith (fun r => wf r && veq (den r) (V.mkSet (denList ms))) (setBuilderFinish ms))

/-- the canonical representation built from a denotation denotes it (`build` = the constructors applied
bottom-up); `vs` = some small denotations -/
def buildOk (vs : List V) : Bool :=
  vs.all (fun v => okWith (fun r => wf r && veq (den r) v) (build v))

end Arrai.C02
