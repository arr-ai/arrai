/-
  C02 — "same image set" carried from one pair of maps to another (`map_mem_transfer`), and a set cut into blocks under
  distinct keys, every member showing the key of its block, as a dictionary is by its keys and a union set by its buckets
  (`blocks_eq_iff`).
-/
import Arrai.Core.CanonLemmas

namespace Arrai
namespace FinSet
open V

/-! ### XOR of sorted atom sets -/

theorem symdiff_nil_right (a : List V) (ha : Sorted a) : symdiff a [] = a := by
  have h1 : diff a [] = a := by simp [diff]
  have h2 : diff ([] : List V) a = [] := by simp [diff]
  rw [symdiff, h1, h2]
  show a.foldr ins [] = a
  exact mk_of_sorted a ha

theorem symdiff_singleton (x : V) (s : List V) (hx : x ∉ s) : symdiff [x] s = ins x s := by
  have h1 : diff [x] s = [x] := by simp [diff, hx]
  have h2 : diff s [x] = s := by
    simp only [diff]
    apply List.filter_eq_self.2
    intro a ha
    have : a ≠ x := by intro e; subst e; exact hx ha
    simp [this]
  rw [symdiff, h1, h2]; rfl

end FinSet
end Arrai

namespace Arrai.C02
open Arrai Arrai.FinSet

theorem mk_singleton (x : V) : mk [x] = [x] := by simp [mk, ins]

theorem map_mem_of_imp {α α' β γ} (f : α → β) (g : α → γ) (f' : α' → β) (g' : α' → γ) (l : List α) (l' : List α')
    (h : ∀ x, x ∈ l → ∀ y, y ∈ l' → f x = f' y → g x = g' y) (hf : ∀ v, v ∈ l.map f ↔ v ∈ l'.map f') :
    ∀ v, v ∈ l.map g ↔ v ∈ l'.map g' := by
  intro v
  constructor
  · intro hv
    obtain ⟨x, hx, e⟩ := List.mem_map.1 hv
    obtain ⟨y, hy, e'⟩ := List.mem_map.1 ((hf (f x)).1 (List.mem_map.2 ⟨x, hx, rfl⟩))
    exact List.mem_map.2 ⟨y, hy, by rw [← e]; exact (h x hx y hy e'.symm).symm⟩
  · intro hv
    obtain ⟨y, hy, e⟩ := List.mem_map.1 hv
    obtain ⟨x, hx, e'⟩ := List.mem_map.1 ((hf (f' y)).2 (List.mem_map.2 ⟨y, hy, rfl⟩))
    exact List.mem_map.2 ⟨x, hx, by rw [← e]; exact h x hx y hy e'⟩

theorem map_mem_transfer {α α' β γ} (f : α → β) (g : α → γ) (f' : α' → β) (g' : α' → γ) (l : List α) (l' : List α')
    (h : ∀ x, x ∈ l → ∀ y, y ∈ l' → (f x = f' y ↔ g x = g' y)) :
    (∀ v, v ∈ l.map f ↔ v ∈ l'.map f') ↔ (∀ v, v ∈ l.map g ↔ v ∈ l'.map g') :=
  ⟨map_mem_of_imp f g f' g' l l' (fun x hx y hy => (h x hx y hy).1),
   map_mem_of_imp g f g' f' l l' (fun x hx y hy => (h x hx y hy).2)⟩

theorem blocks_nodup {α β κ : Type} (key : α → κ) (blk : α → List β) (cls : β → κ) (l : List α)
    (hk : (l.map key).Nodup) (hb : ∀ x, x ∈ l → (blk x).Nodup)
    (hc : ∀ x, x ∈ l → ∀ v, v ∈ blk x → cls v = key x) : (l.flatMap blk).Nodup := by
  rw [List.nodup_iff_pairwise_ne, List.pairwise_flatMap]
  refine ⟨hb, List.Pairwise.imp_of_mem ?_ (List.pairwise_map.1 hk)⟩
  intro x y hx hy hne v hv w hw e
  exact hne ((hc x hx v hv).symm.trans (e ▸ hc y hy w hw))

theorem blocks_eq_iff {α β κ : Type} (key : α → κ) (blk : α → List β) (cls : β → κ) (l l' : List α)
    (hk : (l.map key).Nodup) (hk' : (l'.map key).Nodup)
    (hne : ∀ x, x ∈ l → blk x ≠ []) (hne' : ∀ x, x ∈ l' → blk x ≠ [])
    (hc : ∀ x, x ∈ l → ∀ v, v ∈ blk x → cls v = key x) (hc' : ∀ x, x ∈ l' → ∀ v, v ∈ blk x → cls v = key x) :
    (∀ v, v ∈ l.flatMap blk ↔ v ∈ l'.flatMap blk) ↔
      (l.length = l'.length ∧ ∀ x, x ∈ l → ∃ y, y ∈ l' ∧ key x = key y ∧ ∀ v, v ∈ blk x ↔ v ∈ blk y) := by
  have fibre : ∀ (a : List α), (a.map key).Nodup → (∀ x, x ∈ a → ∀ v, v ∈ blk x → cls v = key x) →
      ∀ x, x ∈ a → ∀ v, v ∈ blk x ↔ (v ∈ a.flatMap blk ∧ cls v = key x) := by
    intro a ha hca x hx v
    constructor
    · intro hv; exact ⟨List.mem_flatMap.2 ⟨x, hx, hv⟩, hca x hx v hv⟩
    · rintro ⟨hv, e⟩
      obtain ⟨x', hx', hv'⟩ := List.mem_flatMap.1 hv
      have := inj_of_nodup_map key ha x' hx' x hx ((hca x' hx' v hv').symm.trans e)
      rwa [← this]
  have partner : ∀ (a b : List α), (a.map key).Nodup → (b.map key).Nodup → (∀ x, x ∈ a → blk x ≠ []) →
      (∀ x, x ∈ a → ∀ v, v ∈ blk x → cls v = key x) → (∀ x, x ∈ b → ∀ v, v ∈ blk x → cls v = key x) →
      (∀ v, v ∈ a.flatMap blk ↔ v ∈ b.flatMap blk) →
      ∀ x, x ∈ a → ∃ y, y ∈ b ∧ key x = key y ∧ ∀ v, v ∈ blk x ↔ v ∈ blk y := by
    intro a b ha hb hna hca hcb h x hx
    obtain ⟨v0, hv0⟩ := List.exists_mem_of_ne_nil _ (hna x hx)
    obtain ⟨y, hy, hv0y⟩ := List.mem_flatMap.1 ((h v0).1 (List.mem_flatMap.2 ⟨x, hx, hv0⟩))
    have e : key x = key y := (hca x hx v0 hv0).symm.trans (hcb y hy v0 hv0y)
    exact ⟨y, hy, e, fun v => by rw [fibre a ha hca x hx, fibre b hb hcb y hy, h v, e]⟩
  constructor
  · intro h
    have p1 := partner l l' hk hk' hne hc hc' h
    have p2 := partner l' l hk' hk hne' hc' hc (fun v => (h v).symm)
    refine ⟨?_, p1⟩
    have := length_eq_of_same_members _ _ hk hk' (fun k => by
      simp only [List.mem_map]
      constructor
      · rintro ⟨x, hx, rfl⟩; obtain ⟨y, hy, e, _⟩ := p1 x hx; exact ⟨y, hy, e.symm⟩
      · rintro ⟨x, hx, rfl⟩; obtain ⟨y, hy, e, _⟩ := p2 x hx; exact ⟨y, hy, e.symm⟩)
    simpa using this
  · rintro ⟨hlen, hp⟩ v
    constructor
    · intro hv
      obtain ⟨x, hx, hvx⟩ := List.mem_flatMap.1 hv
      obtain ⟨y, hy, _, hb⟩ := hp x hx
      exact List.mem_flatMap.2 ⟨y, hy, (hb v).1 hvx⟩
    · intro hv
      obtain ⟨y, hy, hvy⟩ := List.mem_flatMap.1 hv
      -- pigeonhole: every key of the second is a key of the first
      have := subset_of_nodup_length (l.map key) (l'.map key) hk (fun k hk => by
        obtain ⟨x, hx, rfl⟩ := List.mem_map.1 hk
        obtain ⟨y, hy, e, _⟩ := hp x hx
        exact List.mem_map.2 ⟨y, hy, e.symm⟩) (by simp [hlen]) (key y) (List.mem_map.2 ⟨y, hy, rfl⟩)
      obtain ⟨x, hx, e⟩ := List.mem_map.1 this
      obtain ⟨y', hy', e', hb⟩ := hp x hx
      have := inj_of_nodup_map key hk' y' hy' y hy (e'.symm.trans e)
      subst this
      exact List.mem_flatMap.2 ⟨x, hx, (hb v).2 hvy⟩

end Arrai.C02
