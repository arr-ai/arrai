/-
  C02 — `Equal` is equality of denotations on canonical forms (`equalDen_all`, by induction on the nesting depth of the
  receiver; `Theorems.equal_iff_den` is without the bound): the `Equal` methods that compare collections each get a lemma that
  takes what it needs about the parts as a hypothesis.  frozen's set comparison trusts hashes, so the set cases rest on
  `hash_inj`.
-/
import Arrai.C02.Hash

namespace Arrai.C02
open Arrai Arrai.FinSet Arrai.C02.Rep Arrai.C02.Impl

/-! ### the defining equations of `Equal`

By `rfl`: rewriting with `equalG` itself re-derives the equations of the whole
mutual block at every use. -/

theorem equal_num (x y : Int) : equal (.num x) (.num y) = (x == y) := rfl
theorem equal_charT (i c j d : Int) : equal (.charT i c) (.charT j d) = (i == j && c == d) := rfl
theorem equal_byteT (i c j d : Int) : equal (.byteT i c) (.byteT j d) = (i == j && c == d) := rfl
theorem equal_itemT (i j : Int) (x y : Rep) : equal (.itemT i x) (.itemT j y) = (i == j && equal x y) := rfl
theorem equal_entryT (k v k' v' : Rep) : equal (.entryT k v) (.entryT k' v') = (equal k k' && equal v v') := rfl
theorem equal_str (s s' : List Int) (o h o' h' : Int) :
    equal (.str s o h) (.str s' o' h') = (o == o' && h == h' && s.length == s'.length && s == s') := rfl
theorem equal_bytes (x x' : List Int) (o o' : Int) : equal (.bytes x o) (.bytes x' o') = (o == o' && x == x') := rfl
theorem equal_generic (xs ys : List Rep) :
    equal (.generic xs) (.generic ys) =
      (xs.length == ys.length && frozenEq (xorList true xs) (xorList true ys) (allIn true xs ys)) := rfl
theorem equal_array (vs vs' : List (Option Rep)) (o c o' c' : Int) :
    equal (.array vs o c) (.array vs' o' c') = (vs.length == vs'.length && o == o' && c == c' && arrEq true vs vs') := rfl
theorem equal_dict (m m' : List (Rep × List Rep)) :
    equal (.dict m) (.dict m') = (m.length == m'.length && dictAllIn true m m') := rfl

theorem equal_gtuple (as : List (String × Rep)) (b : Rep) :
    equal (.gtuple as) b =
      (isTuple b && equalAttrsIn true as b && (tupleNames b).all (fun n => (as.map (·.1)).contains n)) := rfl

theorem equal_relation (ns ns' : List String) (rows rows' : List (List Rep)) :
    equal (.relation ns rows) (.relation ns' rows') =
      (ns.length == ns'.length && sortNames ns == sortNames ns' && rows.length == rows'.length &&
        frozenEq (rowsXor true ns rows) (rowsXor true ns' rows') (rowsAllIn true ns rows ns' rows')) := rfl

theorem equal_union (bs bs' : List (String × Rep)) :
    equal (.union bs) (.union bs') = (bs.length == bs'.length && bucketsAllIn true bs bs') := rfl

/-! ### frozen's set comparison, arrays, generic tuples -/

/-- frozen's `Set.Equal`: the XOR of the hashes decides; the structural comparison `st` is never consulted -/
theorem frozenEq_list_iff (xs ys : List Rep) (wx : wfList xs = true) (wy : wfList ys = true)
    (nx : (denList xs).Nodup) (ny : (denList ys).Nodup) (hne : xs ≠ []) (st : Bool) :
    frozenEq (xorList true xs) (xorList true ys) st = true ↔ ∀ d, d ∈ denList xs ↔ d ∈ denList ys := by
  have hX : (xorList true xs).isEmpty = false := by
    cases hx : xorList true xs with
    | nil => exact absurd hx (xorList_ne_nil xs wx nx hne)
    | cons _ _ => rfl
  simp only [frozenEq, hX, Bool.not_false, Bool.true_or, Bool.and_true, beq_iff_eq]
  exact xorList_eq_iff xs ys wx wy nx ny

/-- `Array.Equal` tests the lengths first; equal denotations of the cells imply them -/
theorem arrEq_iff : ∀ (vs vs' : List (Option Rep)),
    (∀ x, some x ∈ vs → ∀ y, some y ∈ vs' → (equal x y = true ↔ den x = den y)) →
    ((vs.length = vs'.length ∧ arrEq true vs vs' = true) ↔ denOpts vs = denOpts vs')
  | [], [], _ => by simp [arrEq, denOpts]
  | [], o :: _, _ => by cases o <;> simp [denOpts]
  | o :: _, [], _ => by cases o <;> simp [denOpts]
  | some c :: r, some d :: r', H => by
    have ih := arrEq_iff r r' fun x hx y hy => H x (List.mem_cons_of_mem _ hx) y (List.mem_cons_of_mem _ hy)
    simp only [arrEq, denOpts, List.length_cons, Nat.add_right_cancel_iff, Bool.and_eq_true, List.cons.injEq,
      Option.some.injEq, ← ih, ← H c (by simp) d (by simp)]
    exact and_left_comm
  | some c :: r, none :: r', _ => by simp [arrEq, denOpts]
  | none :: r, some d :: r', _ => by simp [arrEq, denOpts]
  | none :: r, none :: r', H => by
    have ih := arrEq_iff r r' fun x hx y hy => H x (List.mem_cons_of_mem _ hx) y (List.mem_cons_of_mem _ hy)
    simp only [arrEq, denOpts, List.length_cons, Nat.add_right_cancel_iff, List.cons.injEq, true_and, ← ih]

theorem equalAttrsIn_iff : ∀ (as : List (String × Rep)) (b : Rep),
    equalAttrsIn true as b = true ↔ ∀ p, p ∈ as → ∃ w, tupleGet b p.1 = some w ∧ equalG true p.2 w = true
  | [], b => by simp [equalAttrsIn]
  | (n, v) :: r, b => by
    simp only [equalAttrsIn, Bool.and_eq_true, equalAttrsIn_iff r b, List.mem_cons, forall_eq_or_imp]
    constructor
    · rintro ⟨h1, h2⟩
      refine ⟨?_, h2⟩
      cases hg : tupleGet b n with
      | none => rw [hg] at h1; simp at h1
      | some w => rw [hg] at h1; exact ⟨w, rfl, h1⟩
    · rintro ⟨⟨w, hw, he⟩, h2⟩
      refine ⟨?_, h2⟩
      rw [hw]; exact he

/-- `GenericTuple.Equal(b)` for a tuple `b` of any representation is equality of the name ↦ value maps -/
theorem gtuple_equal_iff (as : List (String × Rep)) (b : Rep) (hb : isTuple b = true)
    (na : (namesOf as).Nodup)
    (HE : ∀ p, p ∈ as → ∀ q, q ∈ attrsOf b → (equal p.2 q.2 = true ↔ den p.2 = den q.2)) :
    equal (.gtuple as) b = true ↔ den (.gtuple as) = den b := by
  rw [den_attrsOf b hb]
  simp only [den, mkTup_eq_iff_lookupV, lookupV_denAttrs, equal_gtuple, hb, Bool.true_and, Bool.and_eq_true, equalAttrsIn_iff,
    List.all_eq_true, tupleNames_attrsOf b hb, tupleGet_attrsOf b hb, List.contains_iff_mem, lookupAttr_eq_lookup]
  exact lookup_match_iff den (fun x y => equal x y = true) as (attrsOf b) na HE

/-! ### dictionaries: `Dict.equalDict` -/

/-- `equalDictValue` on the value lists stored under two keys -/
def valueMatch (vs vs' : List Rep) : Bool :=
  if vs.length ≤ 1 then decide (vs'.length ≤ 1) && valuesEq true vs vs'
  else decide (2 ≤ vs'.length) && (vs.length == vs'.length) &&
       frozenEq (xorList true vs) (xorList true vs') (allIn true vs vs')

theorem dictAllIn_iff : ∀ (m m' : List (Rep × List Rep)),
    dictAllIn true m m' = true ↔ ∀ kv, kv ∈ m → ∃ kv', kv' ∈ m' ∧
      ((hashG true kv.1 [] == hashG true kv'.1 [] && equalG true kv.1 kv'.1) && valueMatch kv.2 kv'.2) = true
  | [], m' => by simp [dictAllIn]
  | (k, vs) :: r, m' => by
    simp only [dictAllIn, Bool.and_eq_true, List.any_eq_true, dictAllIn_iff r m', List.mem_cons, forall_eq_or_imp]
    constructor
    · rintro ⟨⟨kv', h1, h2⟩, h3⟩
      refine ⟨⟨kv', h1, ?_⟩, h3⟩
      simpa [valueMatch, Bool.and_assoc] using h2
    · rintro ⟨⟨kv', h1, h2⟩, h3⟩
      refine ⟨⟨kv', h1, ?_⟩, h3⟩
      simpa [valueMatch, Bool.and_assoc] using h2

theorem valueMatch_iff (vs vs' : List Rep) (hne : vs ≠ []) (hne' : vs' ≠ [])
    (hw : wfList vs = true) (hw' : wfList vs' = true) (hn : (denList vs).Nodup) (hn' : (denList vs').Nodup)
    (HE : ∀ x, x ∈ vs → ∀ y, y ∈ vs' → (equal x y = true ↔ den x = den y)) :
    valueMatch vs vs' = true ↔ ∀ d, d ∈ denList vs ↔ d ∈ denList vs' := by
  have pos := List.length_pos_iff.2 hne
  have pos' := List.length_pos_iff.2 hne'
  -- both sides say that there are as many values on the left as on the right
  suffices same : vs.length = vs'.length → (valueMatch vs vs' = true ↔ ∀ d, d ∈ denList vs ↔ d ∈ denList vs') from
    ⟨fun h => (same (by unfold valueMatch at h; split at h <;> simp at h <;> omega)).1 h,
     fun h => (same (denList_length_eq vs vs' hn hn' h)).2 h⟩
  intro hl
  unfold valueMatch
  by_cases h1 : vs.length ≤ 1
  · -- one value against one value
    obtain ⟨v, rfl⟩ := List.length_eq_one_iff.1 (Nat.le_antisymm h1 pos)
    obtain ⟨v', rfl⟩ := List.length_eq_one_iff.1 hl.symm
    simp only [valuesEq, denList, List.length_singleton, Nat.le_refl, if_true, decide_true, Bool.true_and, Bool.and_true,
      List.mem_singleton]
    exact (HE v (by simp) v' (by simp)).trans ⟨fun h d => by rw [h], fun h => (h _).1 rfl⟩
  · rw [if_neg h1, Bool.and_eq_true, frozenEq_list_iff vs vs' hw hw' hn hn' hne]
    simp only [Bool.and_eq_true, decide_eq_true_eq, beq_iff_eq, and_iff_right_iff_imp]
    exact fun _ => ⟨by omega, hl⟩

/-! ### dictionaries: `Dict.Equal` against a set of another representation -/

theorem asEntry_bucket (e : Rep) (we : wf e = true) (h : (asEntry e).isSome = true) : bucketV (den e) = .e := by
  cases e with
  | entryT k v => exact bucketV_value _ _
  | gtuple as =>
    exfalso
    obtain ⟨_, _, hs⟩ := (wf_gtuple_iff as).1 we
    unfold specialisable at hs
    simp only [asEntry] at h
    split at h
    · next h2 =>
      simp only [h2, beq_self_eq_true, Bool.true_and] at hs
      split at h
      · next k v hk hv => rw [hk, hv] at hs; simp at hs
      · cases h
    · cases h
  | _ => cases h

theorem nonentry_member (s : Rep) (k : String) (wb : wf s = true) (hk : bucketOfSet s = some k)
    (hnd : ∀ m, s ≠ .dict m) : ∃ e, e ∈ members1 s ∧ asEntry e = none := by
  obtain ⟨hne, _, hm⟩ := members1_spec s k hk wb
  obtain ⟨e, he⟩ := List.exists_mem_of_ne_nil _ hne
  refine ⟨e, he, Option.not_isSome_iff_eq_none.1 (fun h => ?_)⟩
  have := (hm e he).2.symm.trans (asEntry_bucket e (hm e he).1 h)
  cases s <;> first | exact absurd rfl (hnd _) | cases this

/-- `Dict.Equal` against a canonical set of another representation is false -/
theorem dict_equal_nondict (m : List (Rep × List Rep)) (b : Rep) (wb : wf b = true)
    (hb : ∀ m', b ≠ .dict m') : equal (.dict m) b = false := by
  -- against another set `Dict.Equal` looks every member up as an `@`/`@value` tuple: one that is none refutes it
  have refuted : ∀ {p : Bool} {l : List Rep} (e : Rep), e ∈ l → asEntry e = none →
      (p && l.all (fun e => match asEntry e with
        | some (k', v') => dictHasSingle true m k' v'
        | none => false)) = false := fun e he hne => by
    rw [Bool.and_eq_false_iff]
    exact Or.inr (List.all_eq_false.2 ⟨e, he, by rw [hne]; simp⟩)
  unfold equal equalG
  cases b
  case num | gtuple | charT | byteT | itemT | entryT | empty => rfl
  case dict m' => exact absurd rfl (hb m')
  case true_ | generic | str | bytes | array | relation =>
    obtain ⟨e, he, hne⟩ := nonentry_member _ _ wb rfl hb
    exact refuted e he hne
  case union bs =>
    obtain ⟨p, q, hp, hq, hpq⟩ := union_two_buckets bs wb
    have hwb := ((wf_union_iff bs).1 wb).2.2
    -- two dictionaries would sit under one key
    obtain ⟨t, ht, htd⟩ : ∃ t, t ∈ bs ∧ ∀ m', t.2 ≠ .dict m' := by
      by_cases h1 : ∃ m1, p.2 = .dict m1
      · obtain ⟨m1, e1⟩ := h1
        exact ⟨q, hq, fun m2 e2 => hpq (bkOfSet_key p.2 q.2 p.1 q.1 (wfBuckets_mem bs p hwb hp).2
          (wfBuckets_mem bs q hwb hq).2 (by rw [e1, e2]; rfl))⟩
      · exact ⟨p, hp, fun m' e => h1 ⟨m', e⟩⟩
    obtain ⟨wt, kt⟩ := wfBuckets_mem bs t hwb ht
    obtain ⟨e, he, hne⟩ := nonentry_member t.2 t.1 wt kt htd
    exact refuted e (List.mem_flatMap.2 ⟨t, ht, he⟩) hne

/-! ### relations: the `Values` hash of a row is one atom, and two rows share it iff they denote the same tuple

The model's `sortNames` is `sortStrs` by definition, and the lemmas are stated for `sortStrs`: given as terms they apply to
`sortNames` by unfolding, as rewrite rules they do not fire on it. -/

def chainStep (names : List String) (row : List Rep) (h : HV) (n : String) : HV :=
  match rowGet names row n with
  | some v => hashG true v h
  | none => h

theorem rowChain_eq (names S : List String) (row : List Rep) :
    rowChain true names S row = S.foldl (chainStep names row) [] := rfl

theorem chain_inj (ns ns' : List String) (row row' : List Rep) (hw : wfList row = true) (hw' : wfList row' = true) :
    ∀ (S : List String), (∀ n, n ∈ S → (rowGet ns row n).isSome = true ∧ (rowGet ns' row' n).isSome = true) →
      ∀ (h h' : HV), S.foldl (chainStep ns row) h = S.foldl (chainStep ns' row') h' ↔
        (h = h' ∧ ∀ n, n ∈ S → getDen ns row n = getDen ns' row' n) := by
  refine forall_mem_rec (fun _ _ => by simp) ?_
  rintro n S ⟨g1, g2⟩ ih h h'
  cases e1 : rowGet ns row n with
  | none => rw [e1] at g1; cases g1
  | some v =>
    cases e2 : rowGet ns' row' n with
    | none => rw [e2] at g2; cases g2
    | some v' =>
      have hv := wfList_mem row v hw (rowGet_mem _ _ _ _ e1)
      have hv' := wfList_mem row' v' hw' (rowGet_mem _ _ _ _ e2)
      simp only [List.foldl_cons, ih, chainStep, e1, e2, hash_inj v v' hv hv' h h', List.mem_cons, forall_eq_or_imp,
        getDen, Option.map_some, Option.some.injEq, and_assoc]

/-- the last step of the chain leaves a one-atom hash, whatever came before -/
theorem chain_fold_singleton (ns : List String) (row : List Rep) (S : List String) (h : HV) (hne : S ≠ [])
    (hs : ∀ n, n ∈ S → (rowGet ns row n).isSome = true) : ∃ A, S.foldl (chainStep ns row) h = [A] := by
  rw [← List.dropLast_concat_getLast hne, List.foldl_append]
  cases e1 : rowGet ns row (S.getLast hne) with
  | none => have := hs _ (List.getLast_mem hne); rw [e1] at this; cases this
  | some v => exact ⟨atomAt v (S.dropLast.foldl (chainStep ns row) h), by simp [chainStep, e1, hash_singleton v]⟩

/-- the chain of cell hashes is a singleton (`rowChain_eq_chainAtom`); `headD` picks its element -/
def chainAtom (ns : List String) (row : List Rep) : V := (rowChain true ns (sortNames ns) row).headD (.num 0)

structure RelOk (ns : List String) (rows : List (List Rep)) : Prop where
  nne : ns ≠ []
  nnd : ns.Nodup
  rne : rows ≠ []
  len : ∀ row, row ∈ rows → row.length = ns.length
  cells : ∀ row, row ∈ rows → wfList row = true
  dnd : (denRows ns rows).Nodup

theorem relOk_of_wf (ns : List String) (rows : List (List Rep)) (hw : wf (.relation ns rows) = true) : RelOk ns rows := by
  obtain ⟨hnn, hnd, hrn, hwr, hdn⟩ := (wf_relation_iff ns rows).1 hw
  exact ⟨hnn, hnd, hrn, fun row hr => (wfRows_mem ns rows row hwr hr).1, fun row hr => (wfRows_mem ns rows row hwr hr).2.1, hdn⟩

theorem rowChain_eq_chainAtom (ns : List String) (rows : List (List Rep)) (ok : RelOk ns rows) (row : List Rep)
    (hr : row ∈ rows) : rowChain true ns (sortNames ns) row = [chainAtom ns row] := by
  have hne : sortNames ns ≠ [] := fun e => ok.nne (List.nil_perm.1 (e ▸ sortStrs_perm ns))
  obtain ⟨A, hA⟩ := chain_fold_singleton ns row (sortNames ns) [] hne
    (fun n hn => (rowGet_isSome ns row (ok.len row hr) n).2 ((mem_sortStrs ns n).1 hn))
  rw [rowChain_eq] at *
  simp [chainAtom, rowChain_eq, hA]

theorem getDen_none (ns : List String) (row : List Rep) (hl : row.length = ns.length) (k : String) (hk : k ∉ ns) :
    getDen ns row k = none := by
  cases hh : rowGet ns row k with
  | none => simp [getDen, hh]
  | some _ => exact absurd ((rowGet_isSome ns row hl k).1 (by rw [hh]; rfl)) hk

/-- for rows of relations with the same set of column names: same `Values` hash iff same row denotation -/
theorem chainAtom_iff (ns ns' : List String) (rows rows' : List (List Rep)) (ok : RelOk ns rows) (ok' : RelOk ns' rows')
    (hnames : ∀ x, x ∈ ns ↔ x ∈ ns') (row : List Rep) (hr : row ∈ rows) (row' : List Rep) (hr' : row' ∈ rows') :
    chainAtom ns row = chainAtom ns' row' ↔ den (rowT ns row) = den (rowT ns' row') := by
  have hS : sortNames ns = sortNames ns' := (sortStrs_eq_iff ns ns' ok.nnd ok'.nnd).2 hnames
  have c1 := rowChain_eq_chainAtom ns rows ok row hr
  have c2 := rowChain_eq_chainAtom ns' rows' ok' row' hr'
  have hci := chain_inj ns ns' row row' (ok.cells row hr) (ok'.cells row' hr') (sortNames ns) (fun n hn =>
    ⟨(rowGet_isSome ns row (ok.len row hr) n).2 ((mem_sortStrs ns n).1 hn),
     (rowGet_isSome ns' row' (ok'.len row' hr') n).2 ((hnames n).1 ((mem_sortStrs ns n).1 hn))⟩) [] []
  have h1 : chainAtom ns row = chainAtom ns' row' ↔
      rowChain true ns (sortNames ns) row = rowChain true ns' (sortNames ns') row' := by
    rw [c1, c2]; simp
  rw [h1, rowChain_eq, rowChain_eq, ← hS, hci]
  simp only [den_rowT_eq_iff, true_and]
  constructor
  · intro h k
    by_cases hk : k ∈ ns
    · exact h k ((mem_sortStrs ns k).2 hk)
    · rw [getDen_none ns row (ok.len row hr) k hk, getDen_none ns' row' (ok'.len row' hr') k (fun h => hk ((hnames k).2 h))]
  · intro h k _; exact h k

theorem rows_atoms_nodup (ns : List String) (rows : List (List Rep)) (ok : RelOk ns rows) :
    (rows.map (chainAtom ns)).Nodup :=
  nodup_map_of (chainAtom ns) (fun r => den (rowT ns r)) rows
    (fun r1 h1 r2 h2 => (chainAtom_iff ns ns rows rows ok ok (fun _ => Iff.rfl) r1 h1 r2 h2).1)
    (by rw [← denRows_eq]; exact ok.dnd)

theorem rowsXor_eq_mk (ns : List String) (rows : List (List Rep)) (ok : RelOk ns rows) :
    rowsXor true ns rows = mk (rows.map (chainAtom ns)) :=
  foldr_hxor_singletons (chainAtom ns) _ rows (fun row hr => rowChain_eq_chainAtom ns rows ok row hr)
    (rows_atoms_nodup ns rows ok)

theorem relation_equal_iff (ns ns' : List String) (rows rows' : List (List Rep)) (wa : wf (.relation ns rows) = true)
    (wb : wf (.relation ns' rows') = true) :
    equal (.relation ns rows) (.relation ns' rows') = true ↔ den (.relation ns rows) = den (.relation ns' rows') := by
  have ok := relOk_of_wf ns rows wa
  have ok' := relOk_of_wf ns' rows' wb
  have hX := rowsXor_eq_mk ns rows ok
  have hXne : (rowsXor true ns rows).isEmpty = false := by
    rw [hX, List.isEmpty_eq_false_iff, Ne, mk_eq_nil, List.map_eq_nil_iff]
    exact ok.rne
  -- with the same column names the transfer between atoms and row denotations works
  have transfer : (∀ x, x ∈ ns ↔ x ∈ ns') →
      (rowsXor true ns rows = rowsXor true ns' rows' ↔ ∀ v, v ∈ denRows ns rows ↔ v ∈ denRows ns' rows') := fun hnames => by
    rw [hX, rowsXor_eq_mk ns' rows' ok', mk_eq_iff, denRows_eq, denRows_eq]
    exact map_mem_transfer _ _ _ _ rows rows' (chainAtom_iff ns ns' rows rows' ok ok' hnames)
  simp only [equal_relation, Bool.and_eq_true, beq_iff_eq, frozenEq, hXne, Bool.not_false, Bool.true_or,
    and_true]
  constructor
  · rintro ⟨⟨⟨_, hs⟩, _⟩, hx⟩
    rw [den, den, V.mkSet_eq_iff]
    exact (transfer ((sortStrs_eq_iff ns ns' ok.nnd ok'.nnd).1 hs)).1 hx
  · intro hd
    obtain ⟨hs, hrl, hm⟩ := relation_of_den_eq ns ns' rows rows' wa wb hd
    have hnames := (sortStrs_eq_iff ns ns' ok.nnd ok'.nnd).1 hs
    exact ⟨⟨⟨length_eq_of_same_members ns ns' ok.nnd ok'.nnd hnames, hs⟩, hrl⟩, (transfer hnames).2 hm⟩

/-! ### union sets -/

theorem bucketsAllIn_iff : ∀ (bs bs' : List (String × Rep)),
    bucketsAllIn true bs bs' = true ↔ ∀ p, p ∈ bs → ∃ s', lookupAttr p.1 bs' = some s' ∧ equal p.2 s' = true
  | [], _ => by simp [bucketsAllIn]
  | (k, s) :: r, bs' => by
    simp only [bucketsAllIn, Bool.and_eq_true, bucketsAllIn_iff r bs', List.mem_cons]
    constructor
    · rintro ⟨h1, h2⟩ p (hp | hp)
      · subst hp
        cases hl : lookupAttr k bs' with
        | none => simp [hl] at h1
        | some s' => simp only [hl] at h1; exact ⟨s', rfl, h1⟩
      · exact h2 p hp
    · intro h
      refine ⟨?_, fun p hp => h p (Or.inr hp)⟩
      obtain ⟨s', hl, he⟩ := h (k, s) (Or.inl rfl)
      simp only [hl]; exact he

/-- `UnionSet.Equal` on canonical union sets is equality of denotations, given that `Equal` is on the buckets -/
theorem union_equal_iff (bs bs' : List (String × Rep)) (wa : wf (.union bs) = true) (wb : wf (.union bs') = true)
    (E : ∀ p, p ∈ bs → ∀ q, q ∈ bs' → (equal p.2 q.2 = true ↔ den p.2 = den q.2)) :
    equal (.union bs) (.union bs') = true ↔ den (.union bs) = den (.union bs') := by
  obtain ⟨_, hn', _⟩ := (wf_union_iff bs').1 wb
  simp only [equal_union, Bool.and_eq_true, beq_iff_eq, bucketsAllIn_iff, lookupAttr_eq_lookup]
  rw [union_den_iff bs bs' wa wb]
  -- `Equal` looks the partner of a bucket up by its key
  refine and_congr_right fun _ => forall_congr' fun p => imp_congr_right fun hp => ?_
  constructor
  · rintro ⟨s', hl, he⟩
    exact ⟨(p.1, s'), mem_of_lookup hl, rfl, (E p hp _ (mem_of_lookup hl)).1 he⟩
  · rintro ⟨q, hq, e, ed⟩
    exact ⟨q.2, e ▸ lookup_of_mem hn' hq, (E p hp q hq).2 ed⟩

/-! ### the induction on the nesting depth of the receiver -/

/-- the receivers whose `Equal` insists on an argument of their own type (`GenericTuple.Equal` takes any tuple,
`Dict.Equal` any set) -/
def rigid : Rep → Bool
  | .gtuple _ | .dict _ => false
  | _ => true

theorem equal_ctor (a b : Rep) (hr : rigid a = true) (h : equalG true a b = true) : SameCtor a b := by
  -- `a.Equal(b)` is a match on `b` that answers `false` unless `b` has the constructor of `a`
  cases a <;> simp only [rigid, Bool.false_eq_true] at hr <;> unfold equalG at h <;> split at h <;>
    first | constructor | cases h

/-- only the receiver is bounded: `equalG` recurses on it, whereas `hash_inj`, which the set cases use, is there for
every depth -/
def EqIH (n : Nat) : Prop :=
  ∀ x y : Rep, depth x < n → wf x = true → wf y = true → (equal x y = true ↔ den x = den y)

theorem equalDen_rigid (n : Nat) (IH : EqIH n) (a b : Rep) (hr : rigid a = true) (da : depth a < n + 1)
    (wa : wf a = true) (wb : wf b = true) : equal a b = true ↔ den a = den b := by
  suffices same : SameCtor a b → (equal a b = true ↔ den a = den b) from
    ⟨fun h => (same (equal_ctor a b hr h)).1 h, fun h => (same (sameCtor_of_den a b wa wb h)).2 h⟩
  intro sc
  cases sc with
  | gtuple as bs => cases hr
  | dict m m' => cases hr
  | num x y =>
    simp [equal_num, den]
  | charT i c j d =>
    simp [equal_charT, den, vpair]
  | byteT i c j d =>
    simp [equal_byteT, den, vpair]
  | itemT i x j y =>
    simp only [depth] at da
    simp only [equal_itemT, Bool.and_eq_true, beq_iff_eq]
    rw [IH x y (by omega) (by simpa [wf] using wa) (by simpa [wf] using wb)]
    simp [den, vpair]
  | entryT k v k' v' =>
    simp only [depth] at da
    simp only [wf, Bool.and_eq_true] at wa wb
    simp only [equal_entryT, Bool.and_eq_true]
    rw [IH k k' (by omega) wa.1 wb.1, IH v v' (by omega) wa.2 wb.2]
    simp [den, vpair]
  | empty =>
    exact ⟨fun _ => rfl, fun _ => rfl⟩
  | true_ =>
    exact ⟨fun _ => rfl, fun _ => rfl⟩
  | str r off h r' off' h' =>
    rw [str_den_inj r r' off off' h h' wa wb]
    simp [equal_str]
    constructor
    · rintro ⟨⟨⟨h1, h2⟩, _⟩, h4⟩; exact ⟨h1, h4, h2⟩
    · rintro ⟨h1, h2, h3⟩; subst h2; exact ⟨⟨⟨h1, h3⟩, rfl⟩, rfl⟩
  | bytes r off r' off' =>
    rw [bytes_den_inj r r' off off' wa wb]
    simp [equal_bytes]
  | generic xs ys =>
    obtain ⟨hne, hwl, _, hnd, _⟩ := (wf_generic_iff xs).1 wa
    obtain ⟨_, hwl', _, hnd', _⟩ := (wf_generic_iff ys).1 wb
    rw [generic_den_iff xs ys wa wb, equal_generic, Bool.and_eq_true, beq_iff_eq,
      frozenEq_list_iff xs ys hwl hwl' hnd hnd' hne]
  | array vs off c vs' off' c' =>
    obtain ⟨_, _, hwo, _⟩ := (wf_array_iff vs off c).1 wa
    obtain ⟨_, _, hwo', _⟩ := (wf_array_iff vs' off' c').1 wb
    simp only [depth] at da
    rw [array_den_inj vs vs' off off' c c' wa wb, ← arrEq_iff vs vs' fun x hx y hy =>
      IH x y (by have := depth_mem_opts vs x hx; omega) (wfOpts_mem vs x hwo hx) (wfOpts_mem vs' y hwo' hy)]
    simp only [equal_array, Bool.and_eq_true, beq_iff_eq]
    exact ⟨fun ⟨⟨⟨l, o⟩, c⟩, e⟩ => ⟨o, c, l, e⟩, fun ⟨o, c, l, e⟩ => ⟨⟨⟨l, o⟩, c⟩, e⟩⟩
  | relation ns rows ns' rows' =>
    exact relation_equal_iff ns ns' rows rows' wa wb
  | union bs bs' =>
    obtain ⟨_, _, hwb⟩ := (wf_union_iff bs).1 wa
    obtain ⟨_, _, hwb'⟩ := (wf_union_iff bs').1 wb
    simp only [depth] at da
    exact union_equal_iff bs bs' wa wb (fun p hp q hq => by
      have := depth_mem_attrs bs p hp
      exact IH p.2 q.2 (by omega) (wfBuckets_mem bs p hwb hp).1 (wfBuckets_mem bs' q hwb' hq).1)

theorem equalDen_succ (n : Nat) (IH : EqIH n) : EqIH (n + 1) := by
  intro a b da wa wb
  cases a with
  | gtuple as =>
    by_cases hbt : isTuple b = true
    · -- against any tuple: the name ↦ value maps
      obtain ⟨na, was, _⟩ := (wf_gtuple_iff as).1 wa
      simp only [depth] at da
      exact gtuple_equal_iff as b hbt na (fun p hp q hq => by
        have := depth_mem_attrs as p hp
        exact IH p.2 q.2 (by omega) (wfAttrs_mem as p was hp) (wfAttrs_mem _ q (wfAttrs_attrsOf b hbt wb) hq))
    · have heq : equal (.gtuple as) b = false := by simp [equal_gtuple, hbt]
      refine ⟨fun h => (by rw [heq] at h; cases h), fun h => absurd ?_ hbt⟩
      cases sameCtor_of_den _ _ wa wb h with
      | gtuple _ bs => rfl
  | dict m =>
    by_cases hbd : ∃ m', b = .dict m'
    · obtain ⟨m', rfl⟩ := hbd
      obtain ⟨_, hwd, _⟩ := (wf_dict_iff m).1 wa
      obtain ⟨_, hwd', _⟩ := (wf_dict_iff m').1 wb
      simp only [depth] at da
      rw [dict_den_iff m m' wa wb]
      simp only [equal_dict, Bool.and_eq_true, beq_iff_eq, dictAllIn_iff]
      -- per pair of keys: the Go test is the denotational one
      have pq : ∀ kv, kv ∈ m → ∀ kv', kv' ∈ m' →
          (((hashG true kv.1 [] = hashG true kv'.1 [] ∧ equalG true kv.1 kv'.1 = true) ∧ valueMatch kv.2 kv'.2 = true) ↔
            (den kv.1 = den kv'.1 ∧ ∀ d, d ∈ denList kv.2 ↔ d ∈ denList kv'.2)) := by
        intro kv hkv kv' hkv'
        obtain ⟨wk, hne, wvs, hnv⟩ := wfDict_mem m kv hwd hkv
        obtain ⟨wk', hne', wvs', hnv'⟩ := wfDict_mem m' kv' hwd' hkv'
        obtain ⟨v0, hv0⟩ := List.exists_mem_of_ne_nil _ hne
        have d0 := depth_mem_dict m kv hkv v0 hv0
        have hkE := IH kv.1 kv'.1 (by omega) wk wk'
        have hkey : (hashG true kv.1 [] = hashG true kv'.1 [] ∧ equalG true kv.1 kv'.1 = true) ↔
            den kv.1 = den kv'.1 :=
          ⟨fun h => hkE.1 h.2, fun h => ⟨(hash_inj _ _ wk wk' [] []).2 ⟨rfl, h⟩, hkE.2 h⟩⟩
        rw [hkey, valueMatch_iff kv.2 kv'.2 hne hne' wvs wvs' hnv hnv' (fun x hx y hy => by
          have := depth_mem_dict m kv hkv x hx
          exact IH x y (by omega) (wfList_mem kv.2 x wvs hx) (wfList_mem kv'.2 y wvs' hy))]
      exact and_congr_right fun _ => forall_congr' fun kv => imp_congr_right fun hkv => exists_congr fun kv' =>
        and_congr_right fun hkv' => pq kv hkv kv' hkv'
    · have hnd : ∀ m', b ≠ .dict m' := fun m' e => hbd ⟨m', e⟩
      have heq := dict_equal_nondict m b wb hnd
      refine ⟨fun h => (by rw [heq] at h; cases h), fun h => ?_⟩
      cases sameCtor_of_den _ _ wa wb h with
      | dict _ m' => exact absurd rfl (hnd m')
  | _ => exact equalDen_rigid n IH _ b rfl da wa wb

theorem equalDen_all : ∀ n, EqIH n
  | 0 => fun _ _ hx => absurd hx (Nat.not_lt_zero _)
  | n + 1 => equalDen_succ n (equalDen_all n)

end Arrai.C02
