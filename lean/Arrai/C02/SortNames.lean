/-
  C02 — `sortStrs` (Go's sort.Strings on relation headings): a permutation, and determined by the set of names.
-/
import Arrai.Core.Canon

namespace Arrai.C02
open Arrai

def leS (a b : String) : Bool := !(b < a)

theorem sortStrs_eq (l : List String) : sortStrs l = l.mergeSort leS := rfl

theorem sortStrs_perm (l : List String) : (sortStrs l).Perm l := List.mergeSort_perm l _

theorem mem_sortStrs (l : List String) (x : String) : x ∈ sortStrs l ↔ x ∈ l := (sortStrs_perm l).mem_iff

theorem leS_trans (a b c : String) (h1 : leS a b = true) (h2 : leS b c = true) : leS a c = true := by
  simp only [leS, Bool.not_eq_true', decide_eq_false_iff_not] at *
  intro h
  rcases Std.lt_trichotomy a b with h3 | h3 | h3
  · exact h2 (Std.lt_trans h h3)
  · subst h3; exact h2 h
  · exact h1 h3

theorem leS_total (a b : String) : (leS a b || leS b a) = true := by
  simp only [leS, Bool.or_eq_true, Bool.not_eq_true', decide_eq_false_iff_not]
  rcases Std.lt_trichotomy a b with h | h | h
  · exact Or.inl (fun h' => Std.lt_irrefl (Std.lt_trans h h'))
  · subst h; exact Or.inl Std.lt_irrefl
  · exact Or.inr (fun h' => Std.lt_irrefl (Std.lt_trans h h'))

theorem leS_antisymm (a b : String) (h1 : leS a b = true) (h2 : leS b a = true) : a = b := by
  simp only [leS, Bool.not_eq_true', decide_eq_false_iff_not] at *
  rcases Std.lt_trichotomy a b with h | h | h
  · exact absurd h h2
  · exact h
  · exact absurd h h1

theorem sortStrs_sorted (l : List String) : (sortStrs l).Pairwise (fun a b => leS a b = true) :=
  List.pairwise_mergeSort leS_trans leS_total l

theorem eq_sortStrs {a l : List String} (hs : a.Pairwise (fun x y => leS x y = true)) (hp : a.Perm l) : a = sortStrs l :=
  List.Perm.eq_of_pairwise (fun x y _ _ => leS_antisymm x y) hs (sortStrs_sorted l) (hp.trans (sortStrs_perm l).symm)

/-- the sorted heading depends only on the set of (distinct) names -/
theorem sortStrs_eq_iff (l l' : List String) (h : l.Nodup) (h' : l'.Nodup) :
    sortStrs l = sortStrs l' ↔ ∀ x, x ∈ l ↔ x ∈ l' :=
  ⟨fun e x => by rw [← mem_sortStrs l, ← mem_sortStrs l', e],
   fun hm => eq_sortStrs (sortStrs_sorted l) ((sortStrs_perm l).trans ((List.perm_ext_iff_of_nodup h h').2 hm))⟩

theorem sortStrs_nodup (l : List String) (h : l.Nodup) : (sortStrs l).Nodup := (sortStrs_perm l).nodup_iff.2 h

end Arrai.C02
