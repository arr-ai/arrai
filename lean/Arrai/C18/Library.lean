/-
  C18 — what the libraries built from the tables can reach: a library reaches no more than its leaves
  (`insertPath`, `build`) and what the wrapper script adds (`wrapSafe`: closures over the Go tuple and
  pure natives), so a bound on the leaves' tags is a bound on the library.
-/
import Arrai.C18.Lemmas
import Arrai.C18.Expected

namespace Arrai.C18.Expected
open Arrai.C18

theorem insertPath_reach {C : List Cap} {t v : Val} {p : List String} (ht : t.reach ⊆ C) (hv : v.reach ⊆ C) :
    (insertPath t p v).reach ⊆ C := by
  fun_induction insertPath t p v with
  | case1 => exact ht
  | case2 t k v => exact Val.bind_reach k hv ht
  | case3 t k r v _ ih =>
    refine Val.bind_reach k (ih ?_ hv) ht
    split
    · next hs => exact Val.get_reach hs ht
    · exact List.nil_subset _

theorem build_reach {C : List Cap} {es : List Entry} {t : Val} (ht : t.reach ⊆ C)
    (hes : ∀ e ∈ es, ∀ v ∈ leafVal e.leaf, v.reach ⊆ C) : (build es t).reach ⊆ C := by
  refine List.foldlRecOn (motive := fun t : Val => t.reach ⊆ C) es _ ht fun t ht e he => ?_
  cases hv : leafVal e.leaf with
  | none => exact ht
  | some v => exact insertPath_reach ht (hes e he v hv)

theorem wrapSafe_reach {C : List Cap} {go : Val} (hgo : go.reach ⊆ C) (hpure : Cap.pure ∈ C) :
    (wrapSafe go).reach ⊆ C := by
  unfold wrapSafe
  extract_lets internal env _ reNatives standIn t0 t1 t2 t3
  have hstd : (Val.cons "stdlib" go .nil).reach ⊆ C := Val.cons_reach hgo (List.nil_subset _)
  have hinternal : internal.reach ⊆ C := by
    unfold internal
    split
    · next h => exact Val.get_reach h hgo
    · exact List.nil_subset _
  have henv : env.reach ⊆ C := Val.bind_reach "internal" hinternal hstd
  have hnat : ∀ names, (Val.nat names .pure .nil).reach ⊆ C := fun _ =>
    List.append_subset.2 ⟨List.cons_subset.2 ⟨hpure, List.nil_subset _⟩, List.nil_subset _⟩
  have hre : reNatives.reach ⊆ C :=
    Val.cons_reach (hnat _) (Val.cons_reach (hnat _) (Val.cons_reach (hnat _) (List.nil_subset _)))
  have hstandIn : standIn.reach ⊆ C :=
    clo_reach_of_noPkg (Val.cons_reach hre hstd) (List.nil_subset _) rfl
  -- the closures of the script: environment `env`, a body without literals (first `rfl`) and without `//` (second)
  have hclo : ∀ {x b}, b.reach = [] → b.noPkg = true → (Val.clo env x b).reach ⊆ C := fun hb hn =>
    clo_reach_of_noPkg henv (hb ▸ List.nil_subset _) hn
  have ht0 : t0.reach ⊆ C := Val.without_reach _ hgo
  have ht1 : t1.reach ⊆ C :=
    insertPath_reach ht0 (Val.cons_reach hstandIn (Val.cons_reach hstandIn (List.nil_subset _)))
  have ht2 : t2.reach ⊆ C :=
    insertPath_reach ht1 (Val.cons_reach (hclo rfl rfl) (Val.cons_reach (hclo rfl rfl)
      (Val.cons_reach (hclo rfl rfl) (List.nil_subset _))))
  have ht3 : t3.reach ⊆ C := insertPath_reach ht2 (hclo rfl rfl)
  exact insertPath_reach ht3 (hclo rfl rfl)

theorem safeLibOf_reach {C : List Cap} {es : List Entry} (hpure : Cap.pure ∈ C)
    (hes : ∀ e ∈ es, ∀ v ∈ leafVal e.leaf, v.reach ⊆ C) : (safeLibOf es).reach ⊆ C :=
  have h := wrapSafe_reach (build_reach (List.nil_subset _) hes) hpure
  -- `//std.safe` is the wrapped tuple itself, inserted into it
  insertPath_reach h h

end Arrai.C18.Expected
