/-
  C18 — syntax, values and capability reach of the sandbox model.  Core Lean only.

  `Ast` is the fragment of arr.ai that matters for confinement: the λ-core, tuples, `//name`
  (PackageExpr), import syntax, macros, and *quotation*: a string literal whose content is the source
  text of another `Ast` (what gets passed to //eval.*).  "All source strings" = all `Ast`.
  `Val` are run-time values: data, strings, source strings, tuples/scopes (cons lists), closures and
  native functions tagged with the capability they exercise when called.
-/
namespace Arrai.C18

inductive Cap
  | pure | readFile | listFiles | env | stdin | net | exec | eval
  deriving DecidableEq, Repr, Inhabited

def allCaps : List Cap := [.pure, .readFile, .listFiles, .env, .stdin, .net, .exec, .eval]

theorem mem_allCaps (c : Cap) : c ∈ allCaps := by cases c <;> decide

/-- What holding a native with capability `c` gives access to.  Holding the evaluator is holding the
safe library (it is the evaluator's default `//`). -/
def capClosure : Cap → List Cap
  | .eval => [.eval, .pure, .listFiles, .env, .stdin]
  | c => [c]

/-- what holding the evaluator stands for; the safe library stays within it -/
def safeCaps : List Cap := capClosure .eval

mutual
inductive Ast
  | num (n : Nat)
  | str (s : String)                    -- string literal that is just data (a path, say)
  | quote (a : Ast)                     -- string literal holding the source text of `a`
  | var (x : String)
  | lam (x : String) (b : Ast)
  | app (f a : Ast)
  | letE (x : String) (v b : Ast)
  | tnil                                -- ()
  | tcons (k : String) (v r : Ast)      -- (k: v, …r)
  | dot (e : Ast) (k : String)
  | pkg (k : String)                    -- //k                      (PackageExpr)
  | imp (file : String)                 -- //{./file}               (import syntax, source form)
  | mac (f : Ast)                       -- {:(@grammar: …, @transform: (r: f)):x:}
  | lit (v : Val)                       -- compiled form of a macro: its expansion value
  | imported (e : Ast)                  -- compiled form of an import: ImportExpr
inductive Val
  | data
  | str (s : String)
  | src (a : Ast)                       -- a string value holding source text
  | nil                                 -- empty tuple / empty scope
  | cons (k : String) (v r : Val)       -- tuple or scope extension
  | clo (env : Val) (x : String) (b : Ast)
  | nat (names : List String) (cap : Cap) (held : Val)  -- names of this and the later partial applications
  | thunk (env : Val) (e : Ast)         -- rel.ExprClosure: an expression to be evaluated in `env` when looked up
                                        -- (what the parser's `bind` hook puts in the parse-time scope)
end

instance : Inhabited Ast := ⟨.tnil⟩
instance : Inhabited Val := ⟨.nil⟩

namespace Val

def get : Val → String → Option Val
  | .cons k v r, x => if k = x then some v else get r x
  | _, _ => none

def hasKey (t : Val) (x : String) : Bool := (t.get x).isSome

def without : Val → String → Val
  | .cons k v r, x => if k = x then without r x else .cons k v (without r x)
  | t, _ => t

/-- `Scope.With` / `Tuple.With`: new or replacement binding -/
def bind (t : Val) (k : String) (v : Val) : Val := .cons k v (t.without k)

def isTuple : Val → Bool
  | .nil | .cons .. => true
  | _ => false

/-- the scope has a `//` binding -/
def hasLib (s : Val) : Bool := s.hasKey "//"

end Val

/-- no `//name`, import or macro is evaluated in the lexical scope of this expression (quotations are
evaluated later by //eval.* in scopes of their own; literals are values already).  Import syntax and macros count
although `Impl.run` fails on both uncompiled: that only makes `reach` larger. -/
def Ast.noPkg : Ast → Bool
  | .pkg _ | .imp _ | .mac _ => false
  | .lam _ b => b.noPkg
  | .app f a => f.noPkg && a.noPkg
  | .letE _ v b => v.noPkg && b.noPkg
  | .tcons _ v r => v.noPkg && r.noPkg
  | .dot e _ => e.noPkg
  | .imported e => e.noPkg
  | _ => true

mutual
/-- capabilities reachable from a value: through tuples, scopes, closure environments, arguments held by
partially applied natives, literals inside closure bodies; a closure that evaluates `//name` in an
environment without `//` reaches everything (PackageExpr falls back to the full library).  An upper bound: a
binding of a cons list that an earlier one shadows (`get` returns the first) counts too. -/
def Val.reach : Val → List Cap
  | .data | .str _ | .nil => []
  | .src a => a.reach
  | .cons _ v r => v.reach ++ r.reach
  | .clo env _ b => env.reach ++ b.reach ++ (if env.hasLib || b.noPkg then [] else allCaps)
  | .nat _ c held => capClosure c ++ held.reach
  | .thunk env e => env.reach ++ e.reach ++ (if env.hasLib || e.noPkg then [] else allCaps)
def Ast.reach : Ast → List Cap
  | .lit v => v.reach
  | .quote a => a.reach
  | .lam _ b => b.reach
  | .app f a => f.reach ++ a.reach
  | .letE _ v b => v.reach ++ b.reach
  | .tcons _ v r => v.reach ++ r.reach
  | .dot e _ => e.reach
  | .mac f => f.reach
  | .imported e => e.reach
  | _ => []
end

/-- what evaluating `e` in scope `s` can reach -/
def scopeCaps (s : Val) (e : Ast) : List Cap :=
  s.reach ++ e.reach ++ (if s.hasLib || e.noPkg then [] else allCaps)

/-- an effect performed by a native call or by the compiler: capability and (for file reads) the path.
`unmodelled` marks a step whose outcome in Go this model does not determine (calling a string, a library
function on arguments it may reject, …): the case generator discards programs that log it. -/
inductive Eff
  | did (cap : Cap) (arg : String)
  | imported (file : String)     -- the importer opened this file while compiling (import syntax)
  | unmodelled
  deriving Repr

inductive File
  | code (a : Ast)      -- an .arrai file
  | bytes               -- anything else

/-- which repairs are in force (all `true` = the repaired tree; used to show each repair is needed) -/
structure Fixes where
  macroLib : Bool       -- macros are expanded with the library the source was given
  importLib : Bool      -- imported code sees the importer's library
  importReject : Bool   -- import syntax is rejected in sandboxed evaluation
  valueEmpty : Bool     -- //eval.value evaluates with an empty library and scope
  dynBarrier : Bool     -- the sandbox does not see the caller's dynamic variables `@{x}`

/-- every repair -/
def Fixes.all : Fixes := ⟨true, true, true, true, true⟩

/-- the tree as repaired: every repair is in /repo -/
def Fixes.tree : Fixes := Fixes.all

def Fixes.beforeDynBarrier : Fixes := { Fixes.all with dynBarrier := false }

/-- the four repairs that close the routes to the full library are in force -/
structure Fixes.core (fx : Fixes) : Prop where
  macroLib : fx.macroLib = true
  importLib : fx.importLib = true
  importReject : fx.importReject = true
  valueEmpty : fx.valueEmpty = true

/-- the libraries and the source file system the interpreter runs against -/
structure World where
  safe : Val
  full : Val
  fs : List (String × File)
  fixes : Fixes
  strTotal : List String := []   -- final names of natives that accept any string argument

/-- the files named by import syntax that compiling this expression resolves (quotations are compiled
later, by //eval.*, where import syntax is rejected; resolved imports are not resolved again) -/
def Ast.imports : Ast → List String
  | .imp f => [f]
  | .lam _ b => b.imports
  | .app f a => f.imports ++ a.imports
  | .letE _ v b => v.imports ++ b.imports
  | .tcons _ v r => v.imports ++ r.imports
  | .dot e _ => e.imports
  | .mac f => f.imports
  | _ => []

/-- the files named by import syntax inside the .arrai files of a file system -/
def fsImports : List (String × File) → List String
  | [] => []
  | (_, .code a) :: r => a.imports ++ fsImports r
  | (_, .bytes) :: r => fsImports r

def lookupFile : List (String × File) → String → Option File
  | [], _ => none
  | (n, f) :: r, p => if n = p then some f else lookupFile r p

/-- the part of the Go context the routes depend on -/
structure Ctx where
  sandboxed : Bool      -- set by contextualEval: import syntax is rejected
  compiling : Bool      -- arraictx.IsCompiling
  lib : Option Val      -- the `//` recorded by EvalWithScope (seen by macros)
  dyn : Val := .nil     -- dynamic variables `@{x}`: context values keyed by rel.DynIdent, bound by DynIdentPattern

/-- rel.isDynIdent: identifiers `@{…}` are dynamic variables, bound in and read from the Go context -/
def isDyn (x : String) : Bool :=
  match x.toList with
  | '@' :: '{' :: _ => true
  | _ => false

structure EvalConfig where
  stdlib : Option Val
  scopes : Val

abbrev Res := Option Val × List Eff
/-- result of compiling: the compiled expression and the parse-time scope after it (the parser's stack of
`let` bindings only grows) -/
abbrev CRes := Option (Ast × Val) × List Eff

def Res.bind (r : Res) (f : Val → Res) : Res :=
  match r with
  | (none, l) => (none, l)
  | (some v, l) => let r' := f v; (r'.1, l ++ r'.2)

def CRes.bind (r : CRes) (f : Ast → Val → CRes) : CRes :=
  match r with
  | (none, l) => (none, l)
  | (some v, l) => let r' := f v.1 v.2; (r'.1, l ++ r'.2)

def CRes.map (r : CRes) (f : Ast → Ast) : CRes := (r.1.map fun x => (f x.1, x.2), r.2)

/-- result of resolving the imports of a parsed expression -/
abbrev RRes := Option Ast × List Eff

def RRes.bind (r : RRes) (f : Ast → RRes) : RRes :=
  match r with
  | (none, l) => (none, l)
  | (some v, l) => let r' := f v; (r'.1, l ++ r'.2)

def RRes.map (r : RRes) (f : Ast → Ast) : RRes := (r.1.map f, r.2)

/-- resolve a parsed sub-expression inside the parse (the `bind` hook, unpackMacro) -/
def RRes.bindC (r : RRes) (f : Ast → CRes) : CRes :=
  match r with
  | (none, l) => (none, l)
  | (some v, l) => let r' := f v; (r'.1, l ++ r'.2)

/-- run a value computation inside a compilation -/
def Res.bindC (r : Res) (f : Val → CRes) : CRes :=
  match r with
  | (none, l) => (none, l)
  | (some v, l) => let r' := f v; (r'.1, l ++ r'.2)

def fail : Res := (none, [])
def ok (v : Val) : Res := (some v, [])

end Arrai.C18
