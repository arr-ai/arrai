/-
  C18 — capability reach through scopes/tuples, and the invariant "everything in every scope and on every evaluation
  path reaches only C, and the importer opens only files in `impAllowed`" (`Inv`), preserved by every function of the
  evaluator (Impl) when all four repairs are in force (`inv`, by induction on fuel), with the theorems for any repaired
  world (`confinement_general`, `direct_general`) that `Proofs/C18.lean` instantiates at `Expected.world`.
-/
import Arrai.C18.Model

namespace Arrai.C18
open Impl

/-! ## Reach through tuples and scopes -/

theorem append_subset_append {α} {a a' b b' : List α} (ha : a ⊆ a') (hb : b ⊆ b') : a ++ b ⊆ a' ++ b' :=
  List.append_subset.2 ⟨List.subset_append_of_subset_left _ ha, List.subset_append_of_subset_right _ hb⟩

theorem sub_allCaps (l : List Cap) : l ⊆ allCaps := fun c _ => mem_allCaps c

theorem mem_capClosure (c : Cap) : c ∈ capClosure c := by cases c <;> exact List.mem_cons_self

theorem Val.get_reach {C : List Cap} {t : Val} {k : String} {v : Val} (h : t.get k = some v)
    (ht : t.reach ⊆ C) : v.reach ⊆ C := by
  fun_induction Val.get t k with
  | case1 => cases h; exact (List.append_subset.1 ht).1
  | case2 _ _ _ _ _ ih => exact ih h (List.append_subset.1 ht).2
  | case3 => cases h

theorem Val.without_reach {C : List Cap} {t : Val} (k : String) (ht : t.reach ⊆ C) : (t.without k).reach ⊆ C := by
  fun_induction Val.without t k with
  | case1 _ _ _ ih => exact ih (List.append_subset.1 ht).2
  | case2 _ _ _ _ _ ih => exact List.append_subset.2 ⟨(List.append_subset.1 ht).1, ih (List.append_subset.1 ht).2⟩
  | case3 => exact ht

theorem Val.bind_reach {C : List Cap} {t v : Val} (k : String) (hv : v.reach ⊆ C) (ht : t.reach ⊆ C) :
    (t.bind k v).reach ⊆ C :=
  List.append_subset.2 ⟨hv, Val.without_reach k ht⟩

theorem Val.cons_reach {C : List Cap} {k : String} {v r : Val} (hv : v.reach ⊆ C) (hr : r.reach ⊆ C) :
    (Val.cons k v r).reach ⊆ C :=
  List.append_subset.2 ⟨hv, hr⟩

theorem Val.get_without (t : Val) (k x : String) :
    (t.without k).get x = if k = x then none else t.get x := by
  fun_induction Val.without t k with
  | case1 v r k ih =>
    rw [ih, Val.get]
    split <;> rfl
  | case2 k' v r k hk ih =>
    rw [Val.get, Val.get, ih]
    split
    · next h => subst h; rw [if_neg (Ne.symm hk)]
    · rfl
  | case3 t k ht =>
    have hn : t.get x = none := by cases t <;> first | rfl | exact absurd rfl (ht _ _ _)
    rw [hn]
    split <;> rfl

theorem Val.get_bind (t : Val) (k x : String) (v : Val) :
    (t.bind k v).get x = if k = x then some v else t.get x := by
  simp only [Val.bind, Val.get, Val.get_without]
  split <;> rfl

theorem Val.hasLib_iff {s : Val} : s.hasLib = true ↔ ∃ l, s.get "//" = some l :=
  Option.isSome_iff_exists

theorem Val.hasLib_eq_false_iff {s : Val} : s.hasLib = false ↔ s.get "//" = none := by
  rw [← Bool.not_eq_true]
  exact Option.not_isSome_iff_eq_none

theorem Val.hasLib_bind {t : Val} {k : String} {v : Val} (h : t.hasLib = true) :
    (t.bind k v).hasLib = true := by
  simp only [Val.hasLib, Val.hasKey, Val.get_bind] at *
  split <;> simp [*]

theorem Val.hasLib_cons_lib {l r : Val} : (Val.cons "//" l r).hasLib = true :=
  Val.hasLib_iff.2 ⟨l, rfl⟩

/-! ## `scopeCaps` -/

theorem scopeCaps_sub_iff {C : List Cap} {s : Val} {e : Ast} :
    scopeCaps s e ⊆ C ↔ s.reach ⊆ C ∧ e.reach ⊆ C ∧ (s.hasLib = false → e.noPkg = false → allCaps ⊆ C) := by
  unfold scopeCaps
  cases s.hasLib <;> cases e.noPkg <;> simp [List.append_subset]

theorem scopeCaps_of_hasLib {C : List Cap} {s : Val} {e : Ast} (hl : s.hasLib = true) (hs : s.reach ⊆ C)
    (he : e.reach ⊆ C) : scopeCaps s e ⊆ C :=
  scopeCaps_sub_iff.2 ⟨hs, he, fun h => nomatch hl.symm.trans h⟩

theorem scopeCaps_pair {C : List Cap} {s : Val} {e e₁ e₂ : Ast} (hr : e.reach = e₁.reach ++ e₂.reach)
    (hn : e.noPkg = (e₁.noPkg && e₂.noPkg)) (h : scopeCaps s e ⊆ C) :
    scopeCaps s e₁ ⊆ C ∧ scopeCaps s e₂ ⊆ C := by
  have ⟨hs, he, hp⟩ := scopeCaps_sub_iff.1 h
  have ⟨he₁, he₂⟩ := List.append_subset.1 (hr ▸ he)
  exact ⟨scopeCaps_sub_iff.2 ⟨hs, he₁, fun hl h₁ => hp hl (by rw [hn, h₁, Bool.false_and])⟩,
    scopeCaps_sub_iff.2 ⟨hs, he₂, fun hl h₂ => hp hl (by rw [hn, h₂, Bool.and_false])⟩⟩

/-- extending a scope by a binding whose value is inside C keeps what the body can reach inside C -/
theorem scopeCaps_bind {C : List Cap} {s : Val} {x : String} {v : Val} {b : Ast}
    (hv : v.reach ⊆ C) (hb : scopeCaps s b ⊆ C) : scopeCaps (s.bind x v) b ⊆ C := by
  have ⟨hs, he, hp⟩ := scopeCaps_sub_iff.1 hb
  refine scopeCaps_sub_iff.2 ⟨Val.bind_reach x hv hs, he, fun hl => hp ?_⟩
  cases h : s.hasLib
  · rfl
  · exact nomatch (Val.hasLib_bind h).symm.trans hl

theorem clo_reach (s : Val) (x : String) (b : Ast) : (Val.clo s x b).reach = scopeCaps s b := rfl

theorem thunk_reach (env : Val) (e : Ast) : (Val.thunk env e).reach = scopeCaps env e := rfl

theorem clo_reach_of_noPkg {C : List Cap} {env : Val} {x : String} {b : Ast} (henv : env.reach ⊆ C)
    (hb : b.reach ⊆ C) (hn : b.noPkg = true) : (Val.clo env x b).reach ⊆ C :=
  clo_reach env x b ▸ scopeCaps_sub_iff.2 ⟨henv, hb, fun _ h => nomatch hn.symm.trans h⟩

/-! ## Files and import syntax -/

def FsOK (W : World) (C : List Cap) : Prop :=
  ∀ p a, lookupFile W.fs p = some (.code a) → a.reach ⊆ C

/-- the files the importer may open while compiling `a` under context `c`: none inside a sandbox, else the
files named by import syntax in `a` or in a file of the file system -/
def impAllowed (W : World) (c : Ctx) (a : Ast) : List String :=
  if c.sandboxed then [] else a.imports ++ fsImports W.fs

theorem impAllowed_mono {W : World} {c : Ctx} {a a' : Ast} (h : a'.imports ⊆ a.imports) :
    impAllowed W c a' ⊆ impAllowed W c a := by
  unfold impAllowed
  split
  · exact List.Subset.refl _
  · exact append_subset_append h (List.Subset.refl _)

theorem impAllowed_sub_imports {W : World} {c : Ctx} {a : Ast} : impAllowed W c a ⊆ a.imports ++ fsImports W.fs := by
  unfold impAllowed
  split
  · exact List.nil_subset _
  · exact List.Subset.refl _

theorem fsImports_of_lookup {fs : List (String × File)} {p : String} {a : Ast}
    (h : lookupFile fs p = some (.code a)) : a.imports ⊆ fsImports fs := by
  fun_induction lookupFile fs p with
  | case1 => cases h
  | case2 => cases h; exact List.subset_append_left ..
  | case3 _ f _ _ _ ih =>
    cases f with
    | code b => exact List.subset_append_of_subset_right _ (ih h)
    | bytes => exact ih h

/-! ## The result predicates

`Res.bind`, `RRes.bind`, `RRes.bindC`, `Res.bindC` are one function at four pairs of types, hence the look-alike
`_bind` lemmas. -/

/-- every effect performed exercises a capability in `C`; the importer opened only files in `A` -/
def LogOK (C : List Cap) (A : List String) (l : List Eff) : Prop :=
  (∀ cap arg, Eff.did cap arg ∈ l → cap ∈ C) ∧ (∀ p, Eff.imported p ∈ l → p ∈ A)

/-- the result value and every effect performed stay inside `C`; import reads stay inside `A` -/
def PA (C : List Cap) (A : List String) (r : Res) : Prop := LogOK C A r.2 ∧ ∀ v, r.1 = some v → v.reach ⊆ C

abbrev P (C : List Cap) (r : Res) : Prop := PA C [] r

/-- compiling: the compiled expression and the parse-time scope it leaves reach only `C`, and the parse-time
scope still binds `//` -/
def PCA (C : List Cap) (A : List String) (r : CRes) : Prop :=
  LogOK C A r.2 ∧ ∀ a ps, r.1 = some (a, ps) → a.reach ⊆ C ∧ ps.reach ⊆ C ∧ ps.hasLib = true

abbrev PC (C : List Cap) (r : CRes) : Prop := PCA C [] r

/-- resolving imports: the compiled expression reaches only `C` -/
def PRA (C : List Cap) (A : List String) (r : RRes) : Prop :=
  LogOK C A r.2 ∧ ∀ a, r.1 = some a → a.reach ⊆ C

theorem LogOK_nil {C A} : LogOK C A [] := ⟨fun _ _ h => (nomatch h), fun _ h => nomatch h⟩

theorem LogOK_append {C A l₁ l₂} (h₁ : LogOK C A l₁) (h₂ : LogOK C A l₂) : LogOK C A (l₁ ++ l₂) :=
  ⟨fun c a he => (List.mem_append.1 he).elim (h₁.1 c a) (h₂.1 c a),
   fun p he => (List.mem_append.1 he).elim (h₁.2 p) (h₂.2 p)⟩

theorem LogOK_did {C A c arg l} (hc : c ∈ C) (h : LogOK C A l) : LogOK C A (.did c arg :: l) :=
  ⟨fun c' a he => (List.mem_cons.1 he).elim (fun e => by cases e; exact hc) (h.1 c' a),
   fun p he => (List.mem_cons.1 he).elim nofun (h.2 p)⟩

theorem LogOK_imported {C A p l} (hp : p ∈ A) (h : LogOK C A l) : LogOK C A (.imported p :: l) :=
  ⟨fun c a he => (List.mem_cons.1 he).elim nofun (h.1 c a),
   fun q he => (List.mem_cons.1 he).elim (fun e => by cases e; exact hp) (h.2 q)⟩

theorem LogOK_unmodelled {C A l} (h : LogOK C A l) : LogOK C A (.unmodelled :: l) :=
  ⟨fun c a he => (List.mem_cons.1 he).elim nofun (h.1 c a),
   fun q he => (List.mem_cons.1 he).elim nofun (h.2 q)⟩

theorem LogOK_mono {C A A' l} (hA : A ⊆ A') (h : LogOK C A l) : LogOK C A' l :=
  ⟨h.1, fun p hp => hA (h.2 p hp)⟩

theorem PA_mono {C A A' r} (hA : A ⊆ A') (h : PA C A r) : PA C A' r := ⟨LogOK_mono hA h.1, h.2⟩

theorem PCA_mono {C A A' r} (hA : A ⊆ A') (h : PCA C A r) : PCA C A' r := ⟨LogOK_mono hA h.1, h.2⟩

theorem PRA_mono {C A A' r} (hA : A ⊆ A') (h : PRA C A r) : PRA C A' r := ⟨LogOK_mono hA h.1, h.2⟩

theorem PA.confined {C A r} (h : PA C A r) : Spec.Confined C r := ⟨h.2, h.1.1⟩

theorem PA_none {C A l} (h : LogOK C A l) : PA C A (none, l) := ⟨h, nofun⟩

theorem PCA_none {C A l} (h : LogOK C A l) : PCA C A (none, l) := ⟨h, nofun⟩

theorem PRA_none {C A l} (h : LogOK C A l) : PRA C A (none, l) := ⟨h, nofun⟩

theorem PA_fail {C A} : PA C A fail := PA_none LogOK_nil

theorem PA_unmodelled {C A} : PA C A (none, [Eff.unmodelled]) := PA_none (LogOK_unmodelled LogOK_nil)

theorem PA_ok {C A v} (h : v.reach ⊆ C) : PA C A (ok v) := ⟨LogOK_nil, by rintro _ ⟨⟩; exact h⟩

theorem PCA_ret {C A a ps} (h : a.reach ⊆ C) (hp : ps.reach ⊆ C) (hl : ps.hasLib = true) :
    PCA C A (some (a, ps), []) :=
  ⟨LogOK_nil, by rintro _ _ ⟨⟩; exact ⟨h, hp, hl⟩⟩

theorem PRA_ret {C A a} (h : a.reach ⊆ C) : PRA C A (some a, []) :=
  ⟨LogOK_nil, by rintro _ ⟨⟩; exact h⟩

theorem PA_ite {C A} {p : Prop} [Decidable p] {x y : Res} (hx : p → PA C A x) (hy : ¬p → PA C A y) :
    PA C A (if p then x else y) := by
  by_cases h : p
  · rw [if_pos h]; exact hx h
  · rw [if_neg h]; exact hy h

theorem PA_bind {C A} {r : Res} {f : Val → Res} (hr : PA C A r) (hf : ∀ v, v.reach ⊆ C → PA C A (f v)) :
    PA C A (r.bind f) := by
  obtain ⟨_ | v, l⟩ := r
  · exact PA_none hr.1
  · have h := hf v (hr.2 v rfl)
    exact ⟨LogOK_append hr.1 h.1, h.2⟩

theorem PRA_bind {C A} {r : RRes} {f : Ast → RRes} (hr : PRA C A r) (hf : ∀ a, a.reach ⊆ C → PRA C A (f a)) :
    PRA C A (r.bind f) := by
  obtain ⟨_ | a, l⟩ := r
  · exact PRA_none hr.1
  · have h := hf a (hr.2 a rfl)
    exact ⟨LogOK_append hr.1 h.1, h.2⟩

theorem PRA_map {C A} {r : RRes} {g : Ast → Ast} (hr : PRA C A r)
    (hg : ∀ a, a.reach ⊆ C → (g a).reach ⊆ C) : PRA C A (r.map g) := by
  obtain ⟨_ | a, l⟩ := r
  · exact PRA_none hr.1
  · exact ⟨hr.1, by rintro _ ⟨⟩; exact hg a (hr.2 a rfl)⟩

theorem PCA_bind {C A} {r : CRes} {f : Ast → Val → CRes} (hr : PCA C A r)
    (hf : ∀ a ps, r.1 = some (a, ps) → a.reach ⊆ C → ps.reach ⊆ C → ps.hasLib = true → PCA C A (f a ps)) :
    PCA C A (r.bind f) := by
  obtain ⟨_ | ⟨a, ps⟩, l⟩ := r
  · exact PCA_none hr.1
  · have h3 := hr.2 a ps rfl
    have h := hf a ps rfl h3.1 h3.2.1 h3.2.2
    exact ⟨LogOK_append hr.1 h.1, h.2⟩

theorem PCA_map {C A} {r : CRes} {g : Ast → Ast} (hr : PCA C A r)
    (hg : ∀ a, a.reach ⊆ C → (g a).reach ⊆ C) : PCA C A (r.map g) := by
  obtain ⟨_ | ⟨a, ps⟩, l⟩ := r
  · exact PCA_none hr.1
  · have h3 := hr.2 a ps rfl
    exact ⟨hr.1, by rintro _ _ ⟨⟩; exact ⟨hg a h3.1, h3.2⟩⟩

theorem PCA_Res_bindC {C A} {r : Res} {f : Val → CRes} (hr : PA C A r) (hf : ∀ v, v.reach ⊆ C → PCA C A (f v)) :
    PCA C A (r.bindC f) := by
  obtain ⟨_ | v, l⟩ := r
  · exact PCA_none hr.1
  · have h := hf v (hr.2 v rfl)
    exact ⟨LogOK_append hr.1 h.1, h.2⟩

theorem PCA_RRes_bindC {C A} {r : RRes} {f : Ast → CRes} (hr : PRA C A r)
    (hf : ∀ a, a.reach ⊆ C → PCA C A (f a)) : PCA C A (r.bindC f) := by
  obtain ⟨_ | a, l⟩ := r
  · exact PCA_none hr.1
  · have h := hf a (hr.2 a rfl)
    exact ⟨LogOK_append hr.1 h.1, h.2⟩

theorem PA_getAttr {C A} {t : Val} (k : String) (h : t.reach ⊆ C) : PA C A (getAttr t k) := by
  unfold getAttr
  split
  · cases hg : t.get k with
    | none => exact PA_fail
    | some v => exact PA_ok (Val.get_reach hg h)
  · exact PA_unmodelled

/-! ## The sandbox scope, the configuration, the parse-time scope -/

theorem addAll_reach {C : List Cap} {t s : Val} (ht : t.reach ⊆ C) (hs : s.reach ⊆ C) :
    (addAll t s).reach ⊆ C := by
  fun_induction addAll t s with
  | case1 k v r s ih =>
    have ⟨hv, hr⟩ := List.append_subset.1 ht
    exact ih hr (Val.bind_reach k hv hs)
  | case2 => exact hs

theorem addAll_hasLib {t s : Val} (h : s.hasLib = true) : (addAll t s).hasLib = true := by
  fun_induction addAll t s with
  | case1 k v r s ih => exact ih (Val.hasLib_bind h)
  | case2 => exact h

theorem sandboxScope_hasLib (W : World) (ec : EvalConfig) : (sandboxScope W ec).hasLib = true := by
  unfold sandboxScope
  cases ec.stdlib <;> exact addAll_hasLib Val.hasLib_cons_lib

theorem sandboxScope_reach (W : World) (ec : EvalConfig) : (sandboxScope W ec).reach ⊆ cfgCaps W ec := by
  unfold sandboxScope cfgCaps
  refine addAll_reach (List.subset_append_right ..) (List.subset_append_of_subset_left _ ?_)
  cases ec.stdlib <;> exact Val.cons_reach (List.Subset.refl _) (List.nil_subset _)

theorem cfgCaps_default (W : World) : cfgCaps W ⟨none, .nil⟩ ⊆ W.safe.reach :=
  List.append_subset.2 ⟨List.Subset.refl _, List.nil_subset _⟩

theorem parseEvalConfig_caps {W : World} {C : List Cap} {cfg : Val} {ec : EvalConfig}
    (h : parseEvalConfig cfg = some ec) (hcfg : cfg.reach ⊆ C) (hsafe : W.safe.reach ⊆ C) :
    cfgCaps W ec ⊆ C := by
  unfold parseEvalConfig at h
  split at h
  · cases h
  · split at h <;> (try split at h) <;> cases h
    · exact List.append_subset.2 ⟨hsafe, List.nil_subset _⟩
    · next hs _ _ => exact List.append_subset.2 ⟨hsafe, Val.get_reach hs hcfg⟩
    · next hl _ => exact List.append_subset.2 ⟨Val.get_reach hl hcfg, List.nil_subset _⟩
    · next hs hl _ => exact List.append_subset.2 ⟨Val.get_reach hl hcfg, Val.get_reach hs hcfg⟩

theorem parseScope0_hasLib_reach {W : World} {C : List Cap} {c : Ctx} (hfix : W.fixes.macroLib = true)
    (hlib : ∃ L, c.lib = some L ∧ L.reach ⊆ C) :
    (parseScope0 W c).hasLib = true ∧ (parseScope0 W c).reach ⊆ C := by
  obtain ⟨L, hL, hLr⟩ := hlib
  simp only [parseScope0, hfix, ↓reduceIte, baseScope, hL]
  exact ⟨Val.hasLib_cons_lib, Val.cons_reach hLr (List.nil_subset _)⟩

/-! ## Inverting the binds; expansion adds no import syntax -/

theorem CRes.bind_some {r : CRes} {f : Ast → Val → CRes} {y : Ast × Val} (h : (r.bind f).1 = some y) :
    ∃ x px, r.1 = some (x, px) ∧ (f x px).1 = some y := by
  obtain ⟨_ | ⟨x, px⟩, l⟩ := r
  · cases h
  · exact ⟨x, px, rfl, h⟩

theorem CRes.map_some {r : CRes} {g : Ast → Ast} {a : Ast} {ps : Val} (h : (r.map g).1 = some (a, ps)) :
    ∃ x, r.1 = some (x, ps) ∧ a = g x := by
  obtain ⟨_ | ⟨x, px⟩, l⟩ := r
  · cases h
  · cases h; exact ⟨x, rfl, rfl⟩

theorem RRes.bindC_some {r : RRes} {f : Ast → CRes} {y : Ast × Val} (h : (r.bindC f).1 = some y) :
    ∃ x, r.1 = some x ∧ (f x).1 = some y := by
  obtain ⟨_ | x, l⟩ := r
  · cases h
  · exact ⟨x, rfl, h⟩

theorem Res.bindC_some {r : Res} {f : Val → CRes} {y : Ast × Val} (h : (r.bindC f).1 = some y) :
    ∃ v, r.1 = some v ∧ (f v).1 = some y := by
  obtain ⟨_ | v, l⟩ := r
  · cases h
  · exact ⟨v, rfl, h⟩

theorem expand_imports (W : World) : ∀ (n : Nat) (c : Ctx) (ps : Val) (a : Ast) {a1 : Ast} {ps1 : Val},
    (expand W n c ps a).1 = some (a1, ps1) → a1.imports ⊆ a.imports
  | 0, _, _, _, _, _, h => nomatch h
  | n+1, c, ps, a, a1, ps1, h => by
    cases a with
    | lam _ b | dot b _ =>
      obtain ⟨b1, hb, rfl⟩ := CRes.map_some h
      exact expand_imports W n c ps b (a1 := b1) hb
    | app f x | tcons _ f x =>
      obtain ⟨f1, pf, hf, h2⟩ := CRes.bind_some h
      obtain ⟨x1, hx, rfl⟩ := CRes.map_some h2
      exact append_subset_append (expand_imports W n c ps f hf) (expand_imports W n c pf x hx)
    | letE x v b =>
      obtain ⟨v1, pv, hv, h2⟩ := CRes.bind_some h
      obtain ⟨v2, _, h3⟩ := RRes.bindC_some h2
      obtain ⟨b1, hb, rfl⟩ := CRes.map_some h3
      exact append_subset_append (expand_imports W n c ps v hv) (expand_imports W n c _ b hb)
    | mac f =>
      obtain ⟨f1, pf, _, h2⟩ := CRes.bind_some h
      obtain ⟨f2, _, h3⟩ := RRes.bindC_some h2
      obtain ⟨_, _, h4⟩ := Res.bindC_some h3
      obtain ⟨_, _, h5⟩ := Res.bindC_some h4
      obtain ⟨v, _, h6⟩ := Res.bindC_some h5
      -- the result is a literal, whatever import syntax the macro held
      cases h6
      exact List.nil_subset _
    | num _ | str _ | quote _ | var _ | tnil | pkg _ | imp _ | lit _ | imported _ =>
      cases h; exact List.Subset.refl _

/-! ## The invariant -/

/-- `c.sandboxed = true ∨ FsOK W C`: compiling touches the files of `W.fs` only through import syntax, which a
sandboxed context rejects.  `W.fixes.dynBarrier = true ∨ c.dyn.reach ⊆ C` (`ceval`): with the barrier the sandbox
starts from no dynamic variables, so the caller's need not be inside `C`.  `c.lib` is the `//` that `evalWithScope`
recorded; the parse-time scope starts from it. -/
structure Inv (W : World) (C : List Cap) (n : Nat) : Prop where
  expand : ∀ c ps a, c.dyn.reach ⊆ C → (c.sandboxed = true ∨ FsOK W C) → (∃ L, c.lib = some L ∧ L.reach ⊆ C) →
    ps.hasLib = true → ps.reach ⊆ C → a.reach ⊆ C → PCA C (impAllowed W c a) (expand W n c ps a)
  resolve : ∀ c a, c.dyn.reach ⊆ C → (c.sandboxed = true ∨ FsOK W C) → (∃ L, c.lib = some L ∧ L.reach ⊆ C) →
    a.reach ⊆ C → PRA C (impAllowed W c a) (resolve W n c a)
  run : ∀ c s e, c.dyn.reach ⊆ C → scopeCaps s e ⊆ C → P C (run W n c s e)
  call : ∀ c f a, c.dyn.reach ⊆ C → f.reach ⊆ C → a.reach ⊆ C → P C (call W n c f a)
  ceval : ∀ c ec v, (W.fixes.dynBarrier = true ∨ c.dyn.reach ⊆ C) → cfgCaps W ec ⊆ C → v.reach ⊆ C →
    P C (contextualEval W n c ec v)
  ews : ∀ c a s, c.dyn.reach ⊆ C → (c.sandboxed = true ∨ FsOK W C) → s.hasLib = true → s.reach ⊆ C →
    a.reach ⊆ C → PA C (impAllowed W c a) (evalWithScope W n c a s)

/-- `let x = v; b` and the call of `\x b` bind alike (`IdentPattern.Bind`, `DynIdentPattern.Bind`), then run the body -/
theorem Inv.run_bind {W : World} {C : List Cap} {n : Nat} (ih : Inv W C n) {c : Ctx} {s v : Val} (x : String) {b : Ast}
    (hd : c.dyn.reach ⊆ C) (hv : v.reach ⊆ C) (hb : scopeCaps s b ⊆ C) :
    P C (if isDyn x then Impl.run W n { c with dyn := c.dyn.bind x v } s b else Impl.run W n c (s.bind x v) b) :=
  PA_ite (fun _ => ih.run _ s b (Val.bind_reach x hv hd) hb) fun _ => ih.run c _ b hd (scopeCaps_bind hv hb)

theorem inv_expand {W : World} {C : List Cap} {n : Nat} (ih : Inv W C n) :
    ∀ c ps a, c.dyn.reach ⊆ C → (c.sandboxed = true ∨ FsOK W C) → (∃ L, c.lib = some L ∧ L.reach ⊆ C) →
      ps.hasLib = true → ps.reach ⊆ C → a.reach ⊆ C → PCA C (impAllowed W c a) (expand W (n+1) c ps a) := by
  intro c ps a hd hsb hlib hpl hpr ha
  have exp : ∀ {a' ps'}, a'.imports ⊆ a.imports → ps'.hasLib = true → ps'.reach ⊆ C → a'.reach ⊆ C →
      PCA C (impAllowed W c a) (expand W n c ps' a') := fun hi hl hr ha' =>
    PCA_mono (impAllowed_mono hi) (ih.expand c _ _ hd hsb hlib hl hr ha')
  have res : ∀ {a'}, a'.imports ⊆ a.imports → a'.reach ⊆ C → PRA C (impAllowed W c a) (resolve W n c a') :=
    fun hi ha' => PRA_mono (impAllowed_mono hi) (ih.resolve c _ hd hsb hlib ha')
  cases a with
  | lam _ b | dot b _ =>
    exact PCA_map (exp (List.Subset.refl _) hpl hpr ha) fun _ h => h
  | app f x | tcons _ f x =>
    have ⟨hf, hx⟩ := List.append_subset.1 ha
    exact PCA_bind (exp (List.subset_append_left ..) hpl hpr hf) fun f' ps1 _ hf' hp1 hl1 =>
      PCA_map (exp (List.subset_append_right ..) hl1 hp1 hx) fun _ hx' => List.append_subset.2 ⟨hf', hx'⟩
  | letE x v b =>
    show PCA C _ ((expand W n c ps v).bind fun v1 ps1 => (resolve W n c v1).bindC fun v2 =>
      (expand W n c ((ps1.bind "." (.thunk ps1 v2)).bind x (.thunk ps1 v2)) b).map (.letE x v1))
    have ⟨hv, hb⟩ := List.append_subset.1 ha
    exact PCA_bind (exp (List.subset_append_left ..) hpl hpr hv) fun v1 ps1 h1 hv1 hp1 hl1 =>
      PCA_RRes_bindC (res (List.subset_append_of_subset_left _ (expand_imports W n c ps v h1)) hv1) fun v2 hv2 =>
        -- what the `bind` hook pushes keeps the parse-time scope inside C
        have ht : (Val.thunk ps1 v2).reach ⊆ C := thunk_reach ps1 v2 ▸ scopeCaps_of_hasLib hl1 hp1 hv2
        PCA_map (exp (List.subset_append_right ..) (Val.hasLib_bind (Val.hasLib_bind hl1))
          (Val.bind_reach x ht (Val.bind_reach "." ht hp1)) hb) fun _ hb' => List.append_subset.2 ⟨hv1, hb'⟩
  | mac f =>
    show PCA C _ ((expand W n c ps f).bind fun f1 ps1 => (resolve W n c f1).bindC fun f2 =>
      (run W n c ps1 grammarRef).bindC fun _ => (run W n c ps1 f2).bindC fun fv =>
      (call W n c fv .data).bindC fun v => (some (.lit v, ps1), []))
    have runLib : ∀ {s e}, s.hasLib = true → s.reach ⊆ C → e.reach ⊆ C →
        PA C (impAllowed W c (.mac f)) (run W n c s e) := fun hl hs he =>
      PA_mono (List.nil_subset _) (ih.run c _ _ hd (scopeCaps_of_hasLib hl hs he))
    exact PCA_bind (exp (List.Subset.refl _) hpl hpr ha) fun f1 ps1 h1 hf1 hp1 hl1 =>
      PCA_RRes_bindC (res (expand_imports W n c ps f h1) hf1) fun f2 hf2 =>
      PCA_Res_bindC (runLib hl1 hp1 (List.nil_subset _)) fun _ _ =>
      PCA_Res_bindC (runLib hl1 hp1 hf2) fun fv hfv =>
      PCA_Res_bindC (PA_mono (List.nil_subset _) (ih.call c fv .data hd hfv (List.nil_subset _))) fun v hv =>
      PCA_ret hv hp1 hl1
  | num _ | str _ | quote _ | var _ | tnil | pkg _ | imp _ | lit _ | imported _ => exact PCA_ret ha hpr hpl

theorem inv_resolve {W : World} {C : List Cap} {n : Nat} (ih : Inv W C n) (hfix : W.fixes.core) :
    ∀ c a, c.dyn.reach ⊆ C → (c.sandboxed = true ∨ FsOK W C) → (∃ L, c.lib = some L ∧ L.reach ⊆ C) →
      a.reach ⊆ C → PRA C (impAllowed W c a) (resolve W (n+1) c a) := by
  intro c a hd hsb hlib ha
  have res : ∀ {a'}, a'.imports ⊆ a.imports → a'.reach ⊆ C → PRA C (impAllowed W c a) (resolve W n c a') :=
    fun hi ha' => PRA_mono (impAllowed_mono hi) (ih.resolve c _ hd hsb hlib ha')
  cases a with
  | lam _ b | dot b _ =>
    exact PRA_map (res (List.Subset.refl _) ha) fun _ h => h
  | app f x | letE _ f x | tcons _ f x =>
    have ⟨hf, hx⟩ := List.append_subset.1 ha
    exact PRA_bind (res (List.subset_append_left ..) hf) fun f' hf' =>
      PRA_map (res (List.subset_append_right ..) hx) fun _ hx' => List.append_subset.2 ⟨hf', hx'⟩
  | imp p =>
    simp only [Impl.resolve, hfix.importReject, Bool.true_and]
    split
    · exact PRA_none LogOK_nil
    · next hs =>
      have hfs : FsOK W C := hsb.resolve_left hs
      have hA : impAllowed W c (.imp p) = p :: fsImports W.fs := by simp [impAllowed, hs, Ast.imports]
      rw [hA]
      have hp : LogOK C (p :: fsImports W.fs) [.imported p] := LogOK_imported List.mem_cons_self LogOK_nil
      split  -- no file, bytes, code `src`
      · exact PRA_none hp
      · exact ⟨hp, by rintro _ ⟨⟩; exact List.nil_subset _⟩
      · next src hlf =>
        have hsub : ∀ {a'}, a'.imports ⊆ src.imports → impAllowed W c a' ⊆ p :: fsImports W.fs := fun hi =>
          List.Subset.trans impAllowed_sub_imports (List.subset_cons_of_subset _
            (List.append_subset.2 ⟨List.Subset.trans hi (fsImports_of_lookup hlf), List.Subset.refl _⟩))
        have hps := parseScope0_hasLib_reach hfix.macroLib hlib
        have hexp := PCA_mono (hsub (List.Subset.refl _))
          (ih.expand c _ src hd hsb hlib hps.1 hps.2 (hfs p src hlf))
        split
        · next he => exact PRA_none (LogOK_append hp hexp.1)
        · next x he =>
          have hres := PRA_mono (hsub (expand_imports W n c _ src (a1 := x.1) (ps1 := x.2) he))
            (ih.resolve c x.1 hd hsb hlib (hexp.2 x.1 x.2 he).1)
          refine ⟨LogOK_append hp (LogOK_append hexp.1 hres.1), fun a h => ?_⟩
          cases hr : (resolve W n c x.1).1 with
          | none => rw [hr] at h; cases h
          | some a' => rw [hr] at h; cases h; exact hres.2 a' hr
  | mac f => exact PRA_none LogOK_nil
  | num _ | str _ | quote _ | var _ | tnil | pkg _ | lit _ | imported _ => exact PRA_ret ha

theorem inv_run {W : World} {C : List Cap} {n : Nat} (ih : Inv W C n)
    (hfix : W.fixes.core) : ∀ c s e, c.dyn.reach ⊆ C → scopeCaps s e ⊆ C → P C (run W (n+1) c s e) := by
  intro c s e hd h
  have ⟨hs, he, hp⟩ := scopeCaps_sub_iff.1 h
  cases e with
  | num _ | str _ | tnil => exact PA_ok (List.nil_subset _)
  | quote _ | lit _ => exact PA_ok he
  | lam x b => exact PA_ok (clo_reach s x b ▸ h)
  | imp _ | mac _ => exact PA_fail
  | dot e k =>
    show P C ((run W n c s e).bind fun t => getAttr t k)
    exact PA_bind (ih.run c s e hd h) fun t ht => PA_getAttr k ht
  | app f a =>
    show P C ((run W n c s f).bind fun vf => (run W n c s a).bind fun va => call W n c vf va)
    have ⟨hf, ha⟩ := scopeCaps_pair rfl rfl h
    exact PA_bind (ih.run c s f hd hf) fun vf hvf =>
      PA_bind (ih.run c s a hd ha) fun va hva => ih.call c vf va hd hvf hva
  | tcons k v r =>
    show P C ((run W n c s v).bind fun vv => (run W n c s r).bind fun vr => ok (.cons k vv vr))
    have ⟨hv, hr⟩ := scopeCaps_pair rfl rfl h
    exact PA_bind (ih.run c s v hd hv) fun vv hvv =>
      PA_bind (ih.run c s r hd hr) fun vr hvr => PA_ok (Val.cons_reach hvv hvr)
  | letE x v b =>
    show P C ((run W n c s v).bind fun vv =>
      if isDyn x then run W n { c with dyn := c.dyn.bind x vv } s b else run W n c (s.bind x vv) b)
    have ⟨hv, hb⟩ := scopeCaps_pair rfl rfl h
    exact PA_bind (ih.run c s v hd hv) fun vv hvv => ih.run_bind x hd hvv hb
  | var x =>
    have ht : (if isDyn x then c.dyn else s).reach ⊆ C := by split <;> assumption
    simp only [Impl.run]
    generalize (if isDyn x = true then c.dyn else s) = t at ht ⊢
    cases hg : t.get x with
    | none => exact PA_fail
    | some v =>
      have hv := Val.get_reach hg ht
      cases v with
      | thunk env e => exact ih.run c env e hd (thunk_reach env e ▸ hv)
      | _ => exact PA_ok hv
  | pkg k =>
    -- without a `//` in scope the full library is used, and then `C` holds every capability
    have hl : ∀ l, (if s.hasLib then s else s.bind "//" W.full).get "//" = some l → l.reach ⊆ C := by
      intro l hg
      split at hg
      · exact Val.get_reach hg hs
      · next hl => exact List.Subset.trans (sub_allCaps _) (hp (Bool.eq_false_iff.2 hl) rfl)
    simp only [Impl.run]
    cases hg : (if s.hasLib = true then s else s.bind "//" W.full).get "//" with
    | none => exact PA_fail
    | some l => exact PA_getAttr k (hl l hg)
  | imported e =>
    simp only [Impl.run, hfix.importLib, ↓reduceIte]
    refine ih.run _ _ e hd ?_
    cases hg : s.get "//" with
    | none =>
      exact scopeCaps_sub_iff.2 ⟨List.nil_subset _, he, fun _ => hp (Val.hasLib_eq_false_iff.2 hg)⟩
    | some l =>
      exact scopeCaps_of_hasLib Val.hasLib_cons_lib
        (Val.cons_reach (Val.get_reach hg hs) (List.nil_subset _)) he

theorem inv_call {W : World} {C : List Cap} {n : Nat} (ih : Inv W C n)
    (hfix : W.fixes.core) (hsafe : W.safe.reach ⊆ safeCaps) :
    ∀ c f a, c.dyn.reach ⊆ C → f.reach ⊆ C → a.reach ⊆ C → P C (call W (n+1) c f a) := by
  intro c f a hd hf ha
  cases f with
  | clo env x b => exact ih.run_bind x hd ha (clo_reach env x b ▸ hf)
  | nat names cap held =>
    have ⟨hcap, hheld⟩ := List.append_subset.1 hf
    cases names with
    | nil => exact PA_fail
    | cons nm rest =>
      -- one `PA_ite` per `if` of the native dispatch of `Impl.call`, in the model's order.  Partial application:
      refine PA_ite (p := (!rest.isEmpty) = true)
        (fun _ => PA_ok (List.append_subset.2 ⟨hcap, Val.cons_reach ha hheld⟩)) fun _ => ?_
      -- //eval.value: its configuration `⟨some .nil, .nil⟩` hands over nothing
      refine PA_ite (p := (cap = .eval && nm = "value") = true) (fun _ => ?_) fun _ => ?_
      · cases a with
        | src t =>
          exact PA_ite (fun _ => ih.ceval c _ _ (Or.inr hd) (List.nil_subset _) ha)
            (fun h => absurd hfix.valueEmpty h)
        | _ => exact PA_fail
      refine PA_ite (p := (cap = .eval && nm = "eval$2") = true) (fun hev => ?_) fun _ => ?_
      · -- @internal.eval.eval: the configuration is the argument held, so inside C; holding the evaluator is holding
        -- the safe library
        obtain rfl : cap = .eval := of_decide_eq_true (Bool.and_eq_true_iff.1 hev).1
        cases hg : held.get "" with
        | none => exact PA_fail
        | some cfg =>
          dsimp only
          cases hp : parseEvalConfig cfg with
          | none => exact PA_fail
          | some ec =>
            exact ih.ceval c ec a (Or.inr hd)
              (parseEvalConfig_caps hp (Val.get_reach hg hheld)
                (List.Subset.trans hsafe hcap)) ha
      -- //os.file
      refine PA_ite (p := (cap = .readFile && nm = "file") = true) (fun hfl => ?_) fun _ => ?_
      · obtain rfl : cap = .readFile := of_decide_eq_true (Bool.and_eq_true_iff.1 hfl).1
        cases a with
        | str p =>
          refine PA_ite (fun _ => PA_fail) fun _ =>
            ⟨LogOK_did (hcap (mem_capClosure _)) LogOK_nil, fun v => ?_⟩
          cases lookupFile W.fs p <;> rintro ⟨⟩
          exact List.nil_subset _
        | data | src _ => exact PA_unmodelled
        | _ => exact PA_fail
      -- any other native
      refine ⟨LogOK_did (hcap (mem_capClosure cap)) ?_, by rintro _ ⟨⟩; exact List.nil_subset _⟩
      cases a with
      | str _ =>
        dsimp only
        split
        · exact LogOK_nil
        · exact LogOK_unmodelled LogOK_nil
      | _ => exact LogOK_unmodelled LogOK_nil
  | nil | cons _ _ _ => exact PA_fail
  | _ => exact PA_unmodelled

theorem inv_ceval {W : World} {C : List Cap} {n : Nat} (ih : Inv W C n) :
    ∀ c ec v, (W.fixes.dynBarrier = true ∨ c.dyn.reach ⊆ C) → cfgCaps W ec ⊆ C → v.reach ⊆ C →
      P C (contextualEval W (n+1) c ec v) := by
  intro c ec v hdyn hc hv
  cases v with
  | src a =>
    refine ih.ews _ a (sandboxScope W ec) ?_ (Or.inl rfl) (sandboxScope_hasLib W ec)
      (List.Subset.trans (sandboxScope_reach W ec) hc) hv
    show (if W.fixes.dynBarrier = true then { c with dyn := Val.nil } else c).dyn.reach ⊆ C
    split
    · exact List.nil_subset _
    · next hb => exact hdyn.resolve_left hb
  | _ => exact PA_fail

theorem inv_ews {W : World} {C : List Cap} {n : Nat} (ih : Inv W C n) (hfix : W.fixes.core) :
    ∀ c a s, c.dyn.reach ⊆ C → (c.sandboxed = true ∨ FsOK W C) → s.hasLib = true → s.reach ⊆ C →
      a.reach ⊆ C → PA C (impAllowed W c a) (evalWithScope W (n+1) c a s) := by
  intro c a s hd hsb hl hs ha
  obtain ⟨l, hg⟩ := Val.hasLib_iff.1 hl
  have hlr : l.reach ⊆ C := Val.get_reach hg hs
  have hps := parseScope0_hasLib_reach (W := W) (c := { c with lib := some l }) hfix.macroLib ⟨l, rfl, hlr⟩
  simp only [Impl.evalWithScope, hg]
  have hexp := ih.expand { c with lib := some l, compiling := true } _ a hd hsb ⟨l, rfl, hlr⟩ hps.1 hps.2 ha
  split
  · next lg he =>
    rw [he] at hexp
    exact PA_none hexp.1
  · next a1 ps1 lg he =>
    have himp : a1.imports ⊆ a.imports := expand_imports W n _ _ a (congrArg Prod.fst he)
    rw [he] at hexp
    have ha1 : a1.reach ⊆ C := (hexp.2 a1 ps1 rfl).1
    have hres := PRA_mono (impAllowed_mono (c := c) himp)
      (ih.resolve { c with lib := some l, compiling := true } a1 hd hsb ⟨l, rfl, hlr⟩ ha1)
    split
    · next lg2 hr =>
      rw [hr] at hres
      exact PA_none (LogOK_append hexp.1 hres.1)
    · next a2 lg2 hr =>
      rw [hr] at hres
      have hrun := ih.run { c with lib := some l, compiling := false } s a2 hd
        (scopeCaps_of_hasLib hl hs (hres.2 a2 rfl))
      exact ⟨LogOK_append (LogOK_append hexp.1 hres.1) (LogOK_mono (List.nil_subset _) hrun.1), hrun.2⟩

/-- the invariant holds at every fuel -/
theorem inv (W : World) (C : List Cap) (hfix : W.fixes.core) (hsafe : W.safe.reach ⊆ safeCaps) :
    ∀ n, Inv W C n
  | 0 =>
    ⟨fun _ _ _ _ _ _ _ _ _ => PCA_none LogOK_nil, fun _ _ _ _ _ _ => PRA_none LogOK_nil,
     fun _ _ _ _ _ => PA_fail, fun _ _ _ _ _ _ => PA_fail, fun _ _ _ _ _ _ => PA_fail,
     fun _ _ _ _ _ _ _ _ => PA_fail⟩
  | n+1 =>
    have ih := inv W C hfix hsafe n
    ⟨inv_expand ih, inv_resolve ih hfix, inv_run ih hfix, inv_call ih hfix hsafe, inv_ceval ih, inv_ews ih hfix⟩

/-! ## Vocabulary of the property statements -/

/-- source text: no compiled forms (macro expansions, resolved imports) inside, at any quotation depth -/
def Ast.isSource : Ast → Bool
  | .lit _ | .imported _ => false
  | .quote a => a.isSource
  | .lam _ b => b.isSource
  | .app f a => f.isSource && a.isSource
  | .letE _ v b => v.isSource && b.isSource
  | .tcons _ v r => v.isSource && r.isSource
  | .dot e _ => e.isSource
  | .mac f => f.isSource
  | _ => true

theorem Ast.reach_of_source : ∀ {a : Ast}, a.isSource = true → a.reach = []
  | .num _, _ | .str _, _ | .var _, _ | .tnil, _ | .pkg _, _ | .imp _, _ => rfl
  | .quote a, h | .lam _ a, h | .dot a _, h | .mac a, h => reach_of_source (a := a) h
  | .app _ _, h | .letE _ _ _, h | .tcons _ _ _, h =>
    have ⟨hf, ha⟩ := Bool.and_eq_true_iff.1 h
    List.append_eq_nil_iff.2 ⟨reach_of_source hf, reach_of_source ha⟩

theorem Ast.reach_sub_of_source {a : Ast} (h : a.isSource = true) (C : List Cap) : a.reach ⊆ C :=
  Ast.reach_of_source h ▸ List.nil_subset C

/-- a file system of source text: every .arrai file is source -/
def FsSource (fs : List (String × File)) : Prop :=
  ∀ p a, lookupFile fs p = some (.code a) → a.isSource = true

theorem FsSource.nil : FsSource [] := fun _ _ h => nomatch h

theorem FsSource.code {n : String} {a : Ast} {fs : List (String × File)} (ha : a.isSource = true)
    (h : FsSource fs) : FsSource ((n, .code a) :: fs) := by
  intro p b hb
  simp only [lookupFile] at hb
  split at hb
  · cases hb; exact ha
  · exact h p b hb

theorem FsSource.bytes {n : String} {fs : List (String × File)} (h : FsSource fs) :
    FsSource ((n, .bytes) :: fs) := by
  intro p b hb
  simp only [lookupFile] at hb
  split at hb
  · cases hb
  · exact h p b hb

theorem FsSource.fsOK {W : World} (h : FsSource W.fs) (C : List Cap) : FsOK W C :=
  fun p a ha => Ast.reach_sub_of_source (h p a ha) C

/-! ## The theorems for any repaired world -/

/-- Confinement, for any world with the four repairs in force whose safe library stays within `safeCaps`:
what the configuration hands over bounds what the result reaches and what is done — provided the dynamic
variables of the calling context are themselves within bounds, or the sandbox does not see them.  The expression
may hold compiled forms that reach only `C`; source text reaches nothing. -/
theorem confinement_general (W : World) (hfix : W.fixes.core) (hsafe : W.safe.reach ⊆ safeCaps)
    (ec : EvalConfig) (C : List Cap) (hC : cfgCaps W ec ⊆ C) (a : Ast) (ha : a.reach ⊆ C)
    (fuel : Nat) (c : Ctx) (hdyn : W.fixes.dynBarrier = true ∨ c.dyn.reach ⊆ C) :
    Spec.Confined C (sandboxEval W fuel c ec a) :=
  ((inv W C hfix hsafe fuel).ceval c ec (.src a) hdyn hC ha).confined

/-- sandboxed evaluation never goes through the importer: no file is opened by import syntax, whatever the
source (at any depth of nested //eval.*, in macros, in functions called later).  `hsafe` is not needed: `inv` takes
it, but at `C := allCaps` its one use (`inv_call`, `W.safe.reach ⊆ C`) holds anyway. -/
theorem sandbox_never_imports_general (W : World) (hfix : W.fixes.core) (hsafe : W.safe.reach ⊆ safeCaps)
    (ec : EvalConfig) (a : Ast) (fuel : Nat) (c : Ctx) (p : String) :
    Eff.imported p ∉ (sandboxEval W fuel c ec a).2 :=
  -- with C := every capability the invariant has no side conditions left
  have h := (inv W allCaps hfix hsafe fuel).ceval c ec (.src a) (Or.inr (sub_allCaps _)) (sub_allCaps _)
    (sub_allCaps _)
  fun hp => nomatch h.1.2 p hp

/-- **The direct entry** `EvalWithScope(ctx, "", src, scope)` outside any sandbox, with a scope that binds `//`:
import syntax is allowed, imported code is evaluated under the importer's `//`.  The result reaches only what
the scope reaches; every capability exercised is one the scope reaches; the importer opens only files named
by import syntax in the source or in a file of the file system.  Files and expression need only reach no more
than `C`, as source text does. -/
theorem direct_general (W : World) (hfix : W.fixes.core) (hsafe : W.safe.reach ⊆ safeCaps) {C : List Cap}
    (hfs : FsOK W C) (s : Val) (hl : s.hasLib = true) (hs : s.reach ⊆ C)
    (a : Ast) (ha : a.reach ⊆ C) (fuel : Nat) (c : Ctx) (hd : c.dyn.reach ⊆ C) :
    Spec.Confined C (evalWithScope W fuel c a s) ∧
    (∀ p, Eff.imported p ∈ (evalWithScope W fuel c a s).2 → p ∈ a.imports ++ fsImports W.fs) :=
  have h := (inv W C hfix hsafe fuel).ews c a s hd (Or.inr hfs) hl hs ha
  ⟨h.confined, fun p hp => impAllowed_sub_imports (h.1.2 p hp)⟩

/-! ## Two evaluations in closed form -/

/-- fuel 1 is a base case too: there `expand` runs at fuel 0 and fails -/
theorem evalWithScope_unbound {W : World} {s l : Val} {x : String} (hl : s.get "//" = some l)
    (hx : l.get x = none) : ∀ (n : Nat) (c : Ctx), (evalWithScope W n c (.pkg x) s).1 = none
  | 0, _ | 1, _ => rfl
  | n+2, c => by
    have he : ∀ c ps, expand W (n+1) c ps (.pkg x) = (some (.pkg x, ps), []) := fun _ _ => rfl
    simp only [Impl.evalWithScope, hl, he, Impl.resolve, Impl.run, Val.hasLib_iff.2 ⟨l, hl⟩, ↓reduceIte,
      getAttr, hx]
    split <;> rfl

theorem evalWithScope_import_rejected {W : World} (hfix : W.fixes.importReject = true) (s : Val) (p : String) :
    ∀ (n : Nat) (c : Ctx), c.sandboxed = true → evalWithScope W n c (.imp p) s = (none, [])
  | 0, _, _ | 1, _, _ => rfl
  | n+2, c, hs => by
    have he : ∀ c ps, expand W (n+1) c ps (.imp p) = (some (.imp p, ps), []) := fun _ _ => rfl
    cases hg : s.get "//" <;> simp [Impl.evalWithScope, hg, he, Impl.resolve, hfix, hs]

theorem import_rejected_general (W : World) (hfix : W.fixes.importReject = true) (ec : EvalConfig) (p : String)
    (fuel : Nat) (c : Ctx) :
    sandboxEval W fuel c ec (.imp p) = (none, []) :=
  match fuel with
  | 0 => rfl
  | n+1 => evalWithScope_import_rejected hfix _ p n _ rfl

end Arrai.C18
