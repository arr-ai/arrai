/-
  C18 — expected tables (hand-written from the pinned, repaired tree) with capability tags, and the
  model's libraries built from them.  `Arrai/Proofs/C18.lean` proves `Generated.x = Expected.x` for the
  regenerated facts; its theorems about the libraries and about confinement (Parts 2 and 3) are stated at `safeLib`,
  `fullLib` and `world`, built from these tables.
-/
import Arrai.C18.Model

namespace Arrai.C18.Expected
open Arrai.C18

/-- what sits at a path of the Go standard-library tuple -/
inductive Leaf
  | native (names : List String) (cap : Cap)   -- names of the native and of its partial applications
  | data
  | empty                                        -- an empty tuple
  | bytesDecode                                  -- mustParseLit `(decode: \b b)`
  | fix | fixt                                   -- //fn.fix, //fn.fixt: closures of arr.ai literals
  | self                                         -- the tuple being built (//std.safe)

structure Entry where
  path : List String
  kind : String          -- constructor shape as the extractor reports it
  leaf : Leaf

/-- the Go tuple `goStdlib` of SafeStdScopeTuple (syntax/std.go and the std_*.go constructors) -/
def safeGo : List Entry := [
  ⟨["@internal", "eval", "eval"], "native2", .native ["eval", "eval$2"] .eval⟩,
  ⟨["@internal", "xml", "decode"], "native2", .native ["decode", "decode$2"] .pure⟩,
  ⟨["@internal", "xml", "encode"], "native", .native ["encode"] .pure⟩,
  ⟨["archive", "tar", "tar"], "native", .native ["tar"] .pure⟩,
  ⟨["archive", "zip", "zip"], "native", .native ["zip"] .pure⟩,
  ⟨["arrai", "info"], "native", .native ["info"] .pure⟩,
  ⟨["bits", "mask"], "native", .native ["mask"] .pure⟩,
  ⟨["bits", "set"], "native", .native ["set"] .pure⟩,
  ⟨["dict"], "native", .native ["dict"] .pure⟩,
  ⟨["encoding", "bytes"], "arrai:(decode: \\b b)", .bytesDecode⟩,
  ⟨["encoding", "csv", "decode"], "native", .native ["decode"] .pure⟩,
  ⟨["encoding", "csv", "decoder"], "native", .native ["decoder"] .pure⟩,
  ⟨["encoding", "csv", "encode"], "native", .native ["encode"] .pure⟩,
  ⟨["encoding", "csv", "encoder"], "native", .native ["encoder"] .pure⟩,
  ⟨["encoding", "json", "decode"], "native", .native ["decode"] .pure⟩,
  ⟨["encoding", "json", "decoder"], "native", .native ["decoder"] .pure⟩,
  ⟨["encoding", "json", "encode"], "native", .native ["encode"] .pure⟩,
  ⟨["encoding", "json", "encode_indent"], "native", .native ["encode_indent"] .pure⟩,
  ⟨["encoding", "json", "encoder"], "native", .native ["encoder"] .pure⟩,
  ⟨["encoding", "proto", "decode"], "value:pb.StdProtobufDecoder", .native ["decode"] .pure⟩,
  ⟨["encoding", "proto", "descriptor"], "value:pb.StdProtobufDescriptor", .native ["decode"] .pure⟩,
  ⟨["encoding", "xlsx", "decode"], "native", .native ["decode"] .pure⟩,
  ⟨["encoding", "xlsx", "decodeToRelation"], "native2",
    .native ["decodeToRelation", "decodeToRelation$2"] .pure⟩,
  ⟨["encoding", "yaml", "decode"], "native", .native ["decode"] .pure⟩,
  ⟨["encoding", "yaml", "decoder"], "native", .native ["decoder"] .pure⟩,
  ⟨["encoding", "yaml", "encode"], "native", .native ["encode"] .pure⟩,
  ⟨["encoding", "yaml", "encoder"], "native", .native ["encoder"] .pure⟩,
  ⟨["error"], "native", .native ["error"] .pure⟩,
  ⟨["eval", "value"], "native", .native ["value"] .eval⟩,
  ⟨["fmt", "pretty"], "native", .native ["pretty"] .pure⟩,
  ⟨["fn", "fix"], "value:fixFn", .fix⟩,
  ⟨["fn", "fixt"], "value:fixtFn", .fixt⟩,
  ⟨["grammar", "lang", "arrai"], "value:rel.ASTNodeToValue(arraiParsers.Node().(ast.Node))", .data⟩,
  ⟨["grammar", "lang", "wbnf"], "value:rel.ASTNodeToValue(wbnf.Core().Node().(ast.Node))", .data⟩,
  ⟨["grammar", "parse"], "native", .native ["parse"] .pure⟩,
  ⟨["log", "print"], "native", .native ["print"] .pure⟩,
  ⟨["log", "printf"], "native2", .native ["printf", "printf$2"] .pure⟩,
  ⟨["math", "cos"], "native", .native ["cos"] .pure⟩,
  ⟨["math", "e"], "data", .data⟩,
  ⟨["math", "pi"], "data", .data⟩,
  ⟨["math", "sin"], "native", .native ["sin"] .pure⟩,
  ⟨["os", "&args"], "native", .native ["&args"] .env⟩,
  ⟨["os", "&stdin"], "native", .native ["&stdin"] .stdin⟩,
  ⟨["os", "cwd"], "value:stdOsCwd()", .data⟩,
  ⟨["os", "exists"], "native", .native ["exists"] .listFiles⟩,
  ⟨["os", "get_env"], "native", .native ["get_env"] .env⟩,
  ⟨["os", "isatty"], "native", .native ["isatty"] .env⟩,
  ⟨["os", "path_list_separator"], "value:stdOsPathListSeparator()", .data⟩,
  ⟨["os", "path_separator"], "value:stdOsPathSeparator()", .data⟩,
  ⟨["os", "tree"], "native", .native ["tree"] .listFiles⟩,
  ⟨["re", "compile"], "native:compile", .native ["compile"] .pure⟩,
  ⟨["reflect"], "emptytuple", .empty⟩,
  ⟨["rel", "union"], "native", .native ["union"] .pure⟩,
  ⟨["seq", "concat"], "native", .native ["concat"] .pure⟩,
  ⟨["seq", "contains"], "native2", .native ["contains", "contains$2"] .pure⟩,
  ⟨["seq", "has_prefix"], "native2", .native ["has_prefix", "has_prefix$2"] .pure⟩,
  ⟨["seq", "has_suffix"], "native2", .native ["has_suffix", "has_suffix$2"] .pure⟩,
  ⟨["seq", "join"], "native2", .native ["join", "join$2"] .pure⟩,
  ⟨["seq", "repeat"], "native", .native ["repeat"] .pure⟩,
  ⟨["seq", "split"], "native2", .native ["split", "split$2"] .pure⟩,
  ⟨["seq", "sub"], "native3", .native ["sub", "sub$2", "sub$3"] .pure⟩,
  ⟨["seq", "trim_prefix"], "native2", .native ["trim_prefix", "trim_prefix$2"] .pure⟩,
  ⟨["seq", "trim_suffix"], "native2", .native ["trim_suffix", "trim_suffix$2"] .pure⟩,
  ⟨["str", "expand"], "nested4:expand", .native ["expand4", "expand3", "expand2", "expand1"] .pure⟩,
  ⟨["str", "lower"], "nested1", .native ["lower1"] .pure⟩,
  ⟨["str", "repr"], "native:repr", .native ["repr"] .pure⟩,
  ⟨["str", "title"], "nested1", .native ["title1"] .pure⟩,
  ⟨["str", "upper"], "nested1", .native ["upper1"] .pure⟩,
  ⟨["test", "assert", "equal"], "nested2", .native ["equal2", "equal1"] .pure⟩,
  ⟨["test", "assert", "false"], "native", .native ["false"] .pure⟩,
  ⟨["test", "assert", "size"], "nested2", .native ["size2", "size1"] .pure⟩,
  ⟨["test", "assert", "true"], "native", .native ["true"] .pure⟩,
  ⟨["test", "assert", "unequal"], "nested2", .native ["unequal2", "unequal1"] .pure⟩,
  ⟨["tuple"], "native", .native ["tuple"] .pure⟩
]

/-- what SafeStdScopeTuple merges on top of the wrapped tuple -/
def safeMerged : List Entry := [
  ⟨["std", "safe"], "value:t", .self⟩
]

/-- what StdScope merges on top of `SafeStdScopeTuple()` -/
def unsafeOnly : List Entry := [
  ⟨["deprecated", "exec"], "native", .native ["exec"] .exec⟩,
  ⟨["net", "http", "get"], "native2", .native ["get", "get$2"] .net⟩,
  ⟨["net", "http", "post"], "native3", .native ["post", "post$2", "post$3"] .net⟩,
  ⟨["os", "file"], "native", .native ["file"] .readFile⟩
]

def stdScopeBase : String := "SafeStdScopeTuple()"

/-- the unrepaired tree had //deprecated.exec in the safe tuple -/
def safeGoUnrepaired : List Entry := safeGo ++ [⟨["deprecated", "exec"], "native", .native ["exec"] .exec⟩]

def facts (es : List Entry) : List (List String × String) := es.map fun e => (e.path, e.kind)

/-- syntax/stdlib/stdlib-safe.arrai as embedded (comments dropped, white space collapsed) -/
def safeWrapper : String :=
  "\\stdlib let (@internal: internal, ...) = stdlib; stdlib.~|@internal| +> ( flag: //{./flag}(stdlib), \
   encoding+>: ( xml: ( decoder: \\config (decode: \\byte internal.xml.decode(config, byte)), \
   decode: \\byte internal.xml.decode((), byte), encode: \\input internal.xml.encode(input) ) ), \
   eval+>: ( evaluator: \\config (eval: \\expr internal.eval.eval(config, expr)), \
   eval: \\expr internal.eval.eval((), expr) ) )"

def unsafeWrapper : String := "\\stdlib stdlib"

/-- every `//` reference in the bundled library scripts: the only library member they use is //seq.split -/
def wrapperPkgRefs : List String :=
  ["flag.arrai: //seq.split", "flag.arrai: //{./util}", "stdlib-safe.arrai: //{./flag}"]

/-! ### call sites through which source is evaluated, a scope is reset, or the outside world is reached -/

inductive SiteTag
  | route (rule : String)                          -- modelled by the named rule of `Impl`; the strings say
                                                   -- `compile .mac` for `expand`, `compile .imp` for `resolve`
  | nativeEffect (path : List String) (cap : Cap)  -- the primitive behind the native at this library path
  | importEffect (cap : Cap)       -- import machinery at compile time (`Impl.resolve` on `.imp`; rejected in a sandbox)
  | construct                      -- start-up construction of the libraries from the embedded, trusted scripts
  | outside                        -- CLI, shell, bundler, test runner and test helpers: not reachable from source

structure Site where
  fn : String
  what : String
  n : Nat
  tag : SiteTag

def sites : List Site := [
  ⟨"cmd/arrai.buildBinary", "afero.ReadFile", 1, .outside⟩,
  ⟨"cmd/arrai.buildTree", "afero.ReadFile", 1, .outside⟩,
  ⟨"cmd/arrai.buildTree", "filepath.Walk", 1, .outside⟩,
  ⟨"cmd/arrai.evalExpr", "EvaluateExpr", 1, .outside⟩,
  ⟨"cmd/arrai.evalFile", "afero.ReadFile", 1, .outside⟩,
  ⟨"pkg/bundle.BundledScriptsTo", "afero.ReadFile", 1, .outside⟩,
  ⟨"pkg/shell.changeFrame", "StdScope()", 1, .outside⟩,
  ⟨"pkg/shell.newShellInstance", "StdScope()", 2, .outside⟩,
  ⟨"pkg/shell.tryEval", "EvalWithScope", 1, .outside⟩,
  ⟨"pkg/test.RunExpr", "Eval(EmptyScope)", 1, .outside⟩,
  ⟨"pkg/test.RunTests", "os.Getwd", 1, .outside⟩,
  ⟨"pkg/test.getTestFiles", "afero.ReadFile", 1, .outside⟩,
  ⟨"pkg/test.relPath", "os.Getwd", 1, .outside⟩,
  ⟨"rel.AssertExprErrorEquals", "Eval(EmptyScope)", 1, .outside⟩,
  ⟨"rel.AssertExprErrors", "Eval(EmptyScope)", 1, .outside⟩,
  ⟨"rel.AssertExprEvalsToType", "Eval(EmptyScope)", 1, .outside⟩,
  ⟨"rel.AssertExprPanics", "Eval(EmptyScope)", 1, .outside⟩,
  ⟨"rel.AssertExprsEvalToSameValue", "Eval(EmptyScope)", 2, .outside⟩,
  ⟨"syntax.AssertCodeErrors", "Eval(EmptyScope)", 1, .outside⟩,
  ⟨"syntax.AssertCodeEvalsToGrammar", "Eval(EmptyScope)", 1, .outside⟩,
  ⟨"syntax.AssertCodePanics", "Eval(EmptyScope)", 1, .outside⟩,
  ⟨"syntax.AssertCodesEvalToSameValueCtx", "Eval(EmptyScope)", 1, .outside⟩,
  ⟨"syntax.EvalWithScope", "Eval(scope)", 1, .route "evalWithScope: run in the scope given"⟩,
  ⟨"syntax.EvalWithScope", "withStdlibInEffect", 1, .route "evalWithScope: ctx.lib := scope's //"⟩,
  ⟨"syntax.EvaluateBundleCtx", "EvaluateExpr", 1, .outside⟩,
  ⟨"syntax.EvaluateExpr", "EvalWithScope", 1, .route "evalWithScope with the empty scope (top level)"⟩,
  ⟨"syntax.GetMainBundleSource", "afero.ReadFile", 1, .outside⟩,
  ⟨"syntax.ImportExpr.Eval", "Eval(imported)", 1, .route "run .imported: only the importer's //"⟩,
  ⟨"syntax.PackageExpr.Eval", "Eval(scope)", 1, .route "run .pkg"⟩,
  ⟨"syntax.PackageExpr.Eval", "StdScope()", 1, .route "run .pkg: fall-back to the full library"⟩,
  ⟨"syntax.ParseContext.Parse", "[]rel.Scope{…}", 1, .route "compile .mac: parse-time scope"⟩,
  ⟨"syntax.ParseContext.Parse", "baseScope", 1, .route "compile .mac: parse-time scope = baseScope"⟩,
  ⟨"syntax.ParseContext.compilePackage", "isSandboxed", 1, .route "compile .imp: rejected when sandboxed"⟩,
  ⟨"syntax.ParseContext.compileTailFunc", "Eval(local)", 2, .route "lexical: evaluates in the scope it is given"⟩,
  ⟨"syntax.ParseContext.unpackMacro", "Eval(relScope)", 1, .route "compile .mac: macro expression"⟩,
  ⟨"syntax.SafeStdScope", "SafeStdScopeTuple()", 1, .construct⟩,
  ⟨"syntax.SafeStdScopeTuple", "Eval(EmptyScope)", 1, .construct⟩,
  ⟨"syntax.SafeStdScopeTuple", "contextualEval", 1, .route "call: native eval$2"⟩,
  ⟨"syntax.SetupBundle", "afero.ReadFile", 1, .outside⟩,
  ⟨"syntax.StdScope", "Eval(EmptyScope)", 1, .construct⟩,
  ⟨"syntax.StdScope", "SafeStdScopeTuple()", 1, .construct⟩,
  ⟨"syntax.addModuleSentinel", "afero.ReadFile", 1, .importEffect .readFile⟩,
  ⟨"syntax.bundleLocalFile", "afero.ReadFile", 1, .importEffect .readFile⟩,
  ⟨"syntax.bundleModule", "afero.ReadFile", 1, .importEffect .readFile⟩,
  ⟨"syntax.contextualEval", "Eval(scope)", 1, .route "contextualEval: config.stdlib is a value"⟩,
  ⟨"syntax.contextualEval", "EvalWithScope", 1, .route "contextualEval"⟩,
  ⟨"syntax.contextualEval", "SafeStdScope()", 1, .route "contextualEval: default library"⟩,
  ⟨"syntax.contextualEval", "withSandbox", 1, .route "contextualEval: sandboxed := true"⟩,
  ⟨"syntax.evalExpr", "contextualEval", 1, .route "call: native value"⟩,
  ⟨"syntax.fileValue", "afero.ReadFile", 1, .importEffect .readFile⟩,
  ⟨"syntax.importURL", "http.Get", 1, .importEffect .net⟩,
  ⟨"syntax.mustParseBundle", "Eval(EmptyScope)", 1, .construct⟩,
  ⟨"syntax.mustParseLit", "Eval(EmptyScope)", 1, .construct⟩,
  ⟨"syntax.retrieveModule", "exec.Command", 1, .importEffect .exec⟩,
  ⟨"syntax.send", "http.Client.Do", 1, .nativeEffect ["net", "http", "get"] .net⟩,
  ⟨"syntax.send", "http.NewRequest", 1, .nativeEffect ["net", "http", "post"] .net⟩,
  ⟨"syntax.stdDeprecatedExec", "exec.Command", 1, .nativeEffect ["deprecated", "exec"] .exec⟩,
  ⟨"syntax.stdOsCwd", "os.Getwd", 1, .construct⟩,
  ⟨"syntax.stdOsFile", "afero.ReadFile", 1, .nativeEffect ["os", "file"] .readFile⟩,
  ⟨"syntax.stdOsGetEnv", "os.Getenv", 1, .nativeEffect ["os", "get_env"] .env⟩,
  ⟨"syntax.stdOsTree", "filepath.Walk", 1, .nativeEffect ["os", "tree"] .listFiles⟩,
  ⟨"syntax.toDecoderTuple", "Eval(baseScope(ctx))", 1, .route "compile .imp: decoder expression (rejected with the import when sandboxed)"⟩,
  ⟨"syntax.toDecoderTuple", "baseScope", 1, .route "compile .imp: decoder expression"⟩,
  ⟨"syntax.withBundledConfig", "Eval(EmptyScope)", 1, .outside⟩,
  ⟨"syntax.withBundledConfig", "afero.ReadFile", 1, .outside⟩
]

def siteFacts : List (String × String × Nat) := sites.map fun s => (s.fn, s.what, s.n)

def capOfPath : List Entry → List String → Option Cap
  | [], _ => none
  | e :: r, p => if e.path = p then (match e.leaf with | .native _ c => some c | _ => none) else capOfPath r p

/-- every primitive effect that sits behind a library member is tagged in the table with that capability -/
def siteTagsAgree : Bool :=
  sites.all fun s => match s.tag with
    | .nativeEffect p c => capOfPath (safeGo ++ unsafeOnly) p == some c
    | _ => true

/-! ### the model's libraries, built from the tables the way std.go and the wrapper scripts build them -/

/-- put `v` at `path` inside tuple `t`, creating the intermediate tuples (rel.NewTupleAttr nesting; for
existing members this is the deep merge of rel.MergeTuples and of `+>` with `name+>:`) -/
def insertPath : Val → List String → Val → Val
  | t, [], _ => t
  | t, [k], v => t.bind k v
  | t, k :: r, v => t.bind k (insertPath (match t.get k with | some s => s | none => .nil) r v)

/-- `(\f f(f))(\f \g \n g(f(f)(g))(n))` evaluated: a closure whose environment holds only a closure -/
def fixClo : Val :=
  let body : Ast := .app (.app (.var "g") (.app (.app (.var "f") (.var "f")) (.var "g"))) (.var "n")
  .clo (.cons "f" (.clo .nil "f" (.lam "g" (.lam "n" body))) .nil) "g" (.lam "n" body)

def leafVal : Leaf → Option Val
  | .native names cap => some (.nat names cap .nil)
  | .data => some .data
  | .empty => some .nil
  | .bytesDecode => some (.cons "decode" (.clo .nil "b" (.var "b")) .nil)
  | .fix => some fixClo
  | .fixt => some fixClo          -- same shape: a closure over closures, no natives, no `//`
  | .self => none

def build (es : List Entry) (t : Val) : Val :=
  es.foldl (fun acc e => match leafVal e.leaf with
    | some v => insertPath acc e.path v
    | none => acc) t

/-- `goStdlib` in SafeStdScopeTuple -/
def goSafeOf (es : List Entry) : Val := build es .nil

/-- stdlib-safe.arrai applied to the Go tuple: `\stdlib let (@internal: internal, ...) = stdlib; …` -/
def wrapSafe (go : Val) : Val :=
  let internal := match go.get "@internal" with | some i => i | none => .nil
  let env : Val := (Val.cons "stdlib" go .nil).bind "internal" internal
  let ie (grp fn : String) : Ast := .dot (.dot (.var "internal") grp) fn
  -- flag.arrai: closures over stdlib and over what `re.compile(…)` returned (match, sub partially applied, subf)
  let reNatives : Val := .cons "match" (.nat ["match"] .pure .nil)
    (.cons "sub" (.nat ["sub$2"] .pure .nil) (.cons "subf" (.nat ["subf", "subf$2"] .pure .nil) .nil))
  let standIn : Val := .clo (.cons "dashes" reNatives (.cons "stdlib" go .nil)) "args" (.num 0)
  let t0 := go.without "@internal"
  let t1 := insertPath t0 ["flag"] (.cons "help" standIn (.cons "parser" standIn .nil))
  let t2 := insertPath t1 ["encoding", "xml"] (
    .cons "decoder" (.clo env "config" (.tcons "decode"
        (.lam "byte" (.app (.app (ie "xml" "decode") (.var "config")) (.var "byte"))) .tnil))
    (.cons "decode" (.clo env "byte" (.app (.app (ie "xml" "decode") .tnil) (.var "byte")))
    (.cons "encode" (.clo env "input" (.app (ie "xml" "encode") (.var "input"))) .nil)))
  let t3 := insertPath t2 ["eval", "evaluator"] (.clo env "config" (.tcons "eval"
        (.lam "expr" (.app (.app (ie "eval" "eval") (.var "config")) (.var "expr"))) .tnil))
  insertPath t3 ["eval", "eval"] (.clo env "expr" (.app (.app (ie "eval" "eval") .tnil) (.var "expr")))

/-- SafeStdScopeTuple(): the wrapped tuple merged with (std: (safe: itself)) -/
def safeLibOf (es : List Entry) : Val :=
  let t := wrapSafe (goSafeOf es)
  insertPath t ["std", "safe"] t

def safeLib : Val := safeLibOf safeGo

/-- StdScope(): MergeTuples(SafeStdScopeTuple(), (os: (file), net: …, deprecated: …)), identity wrapper -/
def fullLib : Val := build unsafeOnly safeLib

def strTotal : List String := ["lower1", "upper1", "title1"]

/-- the tree under test: all repairs made -/
def world (fs : List (String × File)) : World := ⟨safeLib, fullLib, fs, Fixes.tree, strTotal⟩

/-- the specification's world: the same -/
def specWorld (fs : List (String × File)) : World := world fs

end Arrai.C18.Expected
