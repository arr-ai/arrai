/-
  C13 — data codecs round-trip: JSON, YAML, CSV, //bits and the server wire format.

  The Go code under `translate/`, `rel/json.go`, `syntax/std_encoding_csv.go` and `syntax/std_bits.go`
  dispatches on the Go *representation type* of a value (`rel.String`, `rel.Array`, `rel.Dict`,
  `*rel.GenericTuple`, `rel.GenericSet`, …).  The model therefore works on `R`, one constructor per
  Go type those type switches distinguish; `R.den` (Arrai/C13/Render.lean) gives the framework value
  `Arrai.V` an `R` denotes, which is what the correspondence run observes.

  `Impl` = transliteration of the (repaired) Go code, same branches in the same order.
  Text layers (`encoding/json`, `yaml.v3`, UTF-8) are not modelled: a document is its tree `J`.
  `encoding/csv` is modelled at character level (`Csv.writeAll`, `Csv.parse`) for the default
  configuration the arr.ai functions use.

  Core-only; no `String` anywhere in this file (names are code point lists), so every definition
  reduces in the kernel.
-/
namespace Arrai.C13

/-- a string as its Unicode code points -/
abbrev Key := List Nat

/-- result of a Go function returning `(T, error)`; `panic` marks a panic site of the repaired code -/
inductive Out (α : Type) where
  | ok (a : α)
  | err
  | panic
  deriving Inhabited, DecidableEq

namespace Out
def map {α β : Type} (f : α → β) : Out α → Out β
  | ok a => ok (f a)
  | err => err
  | panic => panic
def bind {α β : Type} (x : Out α) (f : α → Out β) : Out β :=
  match x with
  | ok a => f a
  | err => err
  | panic => panic
def isOk {α : Type} : Out α → Bool
  | ok _ => true
  | _ => false
end Out

/-! ## Documents -/

/-- a JSON/YAML document as the tree `encoding/json` / `yaml.v3` hand to `ToArrai`
(numbers: integers only, see the float stream in Gen.lean) -/
inductive J where
  | null
  | bool (b : Bool)
  | num (n : Int)
  | str (cs : Key)
  | arr (xs : List J)
  | obj (kvs : List (Key × J))
  deriving Inhabited

def keys {α : Type} (l : List (Key × α)) : List Key := l.map (·.1)

/-- a Go `map[string]T` filled by `m[k] = v` in list order: the last binding of a key wins
(`encoding/json` for duplicate object keys, `maps[key] = …` in from_arrai.go, `result[name] = …`
in rel/json.go).  The position of a binding is immaterial (Go maps are unordered). -/
def lastWins {α : Type} : List (Key × α) → List (Key × α)
  | [] => []
  | (k, v) :: r => if k ∈ keys r then lastWins r else (k, v) :: lastWins r

mutual
/-- the tree a document denotes: duplicate object keys resolved -/
def J.norm : J → J
  | .arr xs => .arr (J.normList xs)
  | .obj kvs => .obj (lastWins (J.normKvs kvs))
  | j => j
def J.normList : List J → List J
  | [] => []
  | x :: r => x.norm :: J.normList r
def J.normKvs : List (Key × J) → List (Key × J)
  | [] => []
  | (k, v) :: r => (k, v.norm) :: J.normKvs r
end

mutual
/-- what a non-strict decode/encode cycle leaves of a document: `false`, `""`, `[]` and `{}` all
decode to the empty set, which encodes as `null` -/
def J.nsNorm : J → J
  | .null => .null
  | .bool b => if b then .bool true else .null
  | .num n => .num n
  | .str cs => if cs.isEmpty then .null else .str cs
  | .arr xs => if xs.isEmpty then .null else .arr (J.nsNormList xs)
  | .obj kvs => if kvs.isEmpty then .null else .obj (lastWins (J.nsNormKvs kvs))
def J.nsNormList : List J → List J
  | [] => []
  | x :: r => x.nsNorm :: J.nsNormList r
def J.nsNormKvs : List (Key × J) → List (Key × J)
  | [] => []
  | (k, v) :: r => (k, v.nsNorm) :: J.nsNormKvs r
end

mutual
/-- the document contains `false`, `""`, `[]` or `{}` (the trees non-strict decoding maps to `{}`) -/
def J.hasEmptyish : J → Bool
  | .null => false
  | .bool b => !b
  | .num _ => false
  | .str cs => cs.isEmpty
  | .arr xs => xs.isEmpty || J.hasEmptyishList xs
  | .obj kvs => kvs.isEmpty || J.hasEmptyishKvs kvs
def J.hasEmptyishList : List J → Bool
  | [] => false
  | x :: r => x.hasEmptyish || J.hasEmptyishList r
def J.hasEmptyishKvs : List (Key × J) → Bool
  | [] => false
  | (_, v) :: r => v.hasEmptyish || J.hasEmptyishKvs r
end

def nodupKeyList : List Key → Bool
  | [] => true
  | k :: r => !(r.contains k) && nodupKeyList r

mutual
/-- some object of the document has two bindings for one key (YAML rejects those) -/
def J.hasDupKeys : J → Bool
  | .arr xs => J.hasDupKeysList xs
  | .obj kvs => !nodupKeyList (keys kvs) || J.hasDupKeysKvs kvs
  | _ => false
def J.hasDupKeysList : List J → Bool
  | [] => false
  | x :: r => x.hasDupKeys || J.hasDupKeysList r
def J.hasDupKeysKvs : List (Key × J) → Bool
  | [] => false
  | (_, v) :: r => v.hasDupKeys || J.hasDupKeysKvs r
end

/-! ## Values, by Go representation type -/

inductive R where
  | num (n : Int)                      -- rel.Number (integral here)
  | tuple (as : List (Key × R))        -- *rel.GenericTuple (the empty tuple included)
  | charT (i : Int) (c : Nat)          -- rel.StringCharTuple  (@: i, @char: c)
  | byteT (i : Int) (b : Nat)          -- rel.BytesByteTuple   (@: i, @byte: b)
  | itemT (i : Int) (v : R)            -- rel.ArrayItemTuple   (@: i, @item: v)
  | entryT (k v : R)                   -- rel.DictEntryTuple   (@: k, @value: v)
  | empty                              -- rel.EmptySet
  | tt                                 -- rel.TrueSet
  | str (off : Int) (cs : Key)         -- rel.String (dense; `off` = index of the first character)
  | bytes (off : Int) (bs : List Nat)  -- rel.Bytes
  | arr (off : Int) (xs : List R)      -- rel.Array (dense)
  | dict (es : List (R × R))           -- rel.Dict
  | gset (xs : List R)                 -- rel.GenericSet / rel.Relation / rel.UnionSet: any other set, members listed
                                       -- in the order the consumer enumerates them: rel.ValueLess for the translator
                                       -- (`OrderedValueEnumerator`), `Enumerator()` order for the wire format
  deriving Inhabited

namespace R
/-- `rel.NewString`: the empty string is the empty set -/
def newString (cs : Key) : R := if cs.isEmpty then .empty else .str 0 cs
/-- `rel.NewArray` -/
def newArray (xs : List R) : R := if xs.isEmpty then .empty else .arr 0 xs
/-- `rel.NewBool` -/
def newBool (b : Bool) : R := if b then .tt else .empty
/-- `SetBuilder.Finish` over `DictEntryTuple`s -/
def newDict (es : List (R × R)) : R := if es.isEmpty then .empty else .dict es
/-- `x.(rel.Set)` succeeds -/
def isSet : R → Bool
  | .empty | .tt | .str .. | .bytes .. | .arr .. | .dict .. | .gset .. => true
  | _ => false
end R

def kA : Key := [97]            -- "a"
def kS : Key := [115]           -- "s"
def kB : Key := [98]            -- "b"
def kAt : Key := [64]           -- "@"
def kChar : Key := [64, 99, 104, 97, 114]        -- "@char"
def kByte : Key := [64, 98, 121, 116, 101]       -- "@byte"
def kItem : Key := [64, 105, 116, 101, 109]      -- "@item"
def kValue : Key := [64, 118, 97, 108, 117, 101] -- "@value"
def kSet : Key := [123, 124, 124, 125]           -- "{||}"

/-- dict entries `{key: value}` with `rel.NewString` keys (objToArrai) -/
def entries (l : List (Key × R)) : List (R × R) := l.map (fun p => (R.newString p.1, p.2))

namespace Impl

/-! ### translate/to_arrai.go -/
mutual
/-- `Translator.ToArrai` on the tree of a document -/
def toArrai (strict : Bool) : J → R
  | .null => .tuple []
  | .bool b => if strict then .tuple [(kB, R.newBool b)] else R.newBool b
  | .num n => .num n
  | .str cs => if strict then .tuple [(kS, R.newString cs)] else R.newString cs
  | .arr xs =>
    if strict then .tuple [(kA, R.newArray (toArraiList strict xs))]
    else R.newArray (toArraiList strict xs)
  | .obj kvs => R.newDict (entries (lastWins (toArraiKvs strict kvs)))
def toArraiList (strict : Bool) : List J → List R
  | [] => []
  | x :: r => toArrai strict x :: toArraiList strict r
def toArraiKvs (strict : Bool) : List (Key × J) → List (Key × R)
  | [] => []
  | (k, v) :: r => (k, toArrai strict v) :: toArraiKvs strict r
end

/-! ### translate/from_arrai.go (with the repairs: non-string dict keys and `(b: x)` for a
non-boolean `x` are errors; the key `""`, which is the empty set, is accepted) -/

/-- `(s: x)`: `case rel.EmptySet`, `case rel.String`; anything else falls through to the final error -/
def strictS : R → Out J
  | .empty => .ok (.str [])
  | .str _ cs => .ok (.str cs)
  | _ => .err

/-- `(b: x)` (repaired: only `{}`, `true` and a GenericSet equal to `true` are booleans) -/
def strictB : R → Out J
  | .empty => .ok (.bool false)
  | .tt => .ok (.bool true)
  | .gset [.tuple []] => .ok (.bool true)
  | _ => .err

/-- strict mode, a tuple with the single attribute `n`: the `Get("a")` / `Get("s")` / `Get("b")` chain;
`viaArr` = `arrFromArrai(x)` -/
def strictTagged (n : Key) (x : R) (viaArr : Out J) : Out J :=
  if n = kA then (if x.isSet then viaArr else .err)  -- "value in (a: <value>) must be a set"
  else if n = kS then strictS x
  else if n = kB then strictB x
  else .err                                          -- "cannot convert tuple … to an object"

/-- one `append` of a loop that returns on the first error (the loops of from_arrai.go, and of `jsonUnescape`
in rel/json.go) -/
def consOut {α : Type} (h : Out α) (t : Out (List α)) : Out (List α) :=
  match h with
  | .ok a => t.map (a :: ·)
  | .err => .err
  | .panic => .panic

/-- the object key of a dict key `k`; `kd` = `FromArrai(k)` (repaired: the key "" is the empty set) -/
def keyData (k : R) (kd : Out J) : Out J :=
  match k with
  | .empty => .ok (.str [])
  | _ => kd

/-- one iteration of `objFromArraiDict`: `kd`, `vd` = `FromArrai` of key and value -/
def entryStep (k : R) (kd vd : Out J) (rest : Out (List (Key × J))) : Out (List (Key × J)) :=
  match keyData k kd with
  | .ok kdv =>
    (match vd with
     | .ok v =>
       (match kdv with
        | .str ks => rest.map ((ks, v) :: ·)
        | _ => .err)                                 -- repaired: keydata is not a string
     | .err => .err
     | .panic => .panic)
  | .err => .err
  | .panic => .panic

mutual
/-- `Translator.FromArrai` -/
def fromArrai (strict : Bool) : R → Out J
  | .num n => .ok (.num n)
  | .str _ cs => .ok (.str cs)                       -- v.String(): the offset is dropped
  | .tuple [] => .ok .null                           -- !v.IsTrue()
  | .tuple [(n, x)] =>
    if strict then strictTagged n x (arrFromArrai strict x)
    else (fromArrai strict x).map (fun j => .obj (lastWins [(n, j)]))
  | .tuple (a :: b :: r) =>
    if strict then .err                              -- "cannot convert tuple … to an object"
    else (fromAttrs strict (a :: b :: r)).map (fun l => .obj (lastWins l))
  | .charT .. | .byteT .. | .itemT .. | .entryT .. => .err   -- default: "unexpected rel.Value type"
  | .arr _ xs => (fromList strict xs).map .arr         -- arrFromArrai, case rel.Array
  | .dict es => (fromEntries strict es).map (fun l => .obj (lastWins l))
  | .empty => if strict then .ok (.obj []) else .ok .null
  | .tt => if strict then .ok (.obj []) else .ok (.bool true)
  | .bytes _ bs =>
    if strict then .ok (.obj []) else if bs.isEmpty then .ok .null else .err
  | .gset xs =>
    if strict then .ok (.obj [])
    else if xs.isEmpty then .ok .null
    else (fromList strict xs).map .arr
/-- `arrFromArrai(s rel.Set)` -/
def arrFromArrai (strict : Bool) : R → Out J
  | .empty => .ok (.arr [])
  | .arr _ xs => (fromList strict xs).map .arr
  | .gset xs => (fromList strict xs).map .arr
  | .tt => .ok (.arr [.null])                          -- the one member is the empty tuple
  | .str _ cs => if cs.isEmpty then .ok (.arr []) else .err      -- members are StringCharTuples
  | .bytes _ bs => if bs.isEmpty then .ok (.arr []) else .err
  | .dict es => if es.isEmpty then .ok (.arr []) else .err
  | _ => .err
def fromList (strict : Bool) : List R → Out (List J)
  | [] => .ok []
  | x :: r => consOut (fromArrai strict x) (fromList strict r)
/-- `objFromArraiTuple` -/
def fromAttrs (strict : Bool) : List (Key × R) → Out (List (Key × J))
  | [] => .ok []
  | (n, x) :: r => consOut ((fromArrai strict x).map (fun j => (n, j))) (fromAttrs strict r)
/-- `objFromArraiDict` -/
def fromEntries (strict : Bool) : List (R × R) → Out (List (Key × J))
  | [] => .ok []
  | (k, v) :: r => entryStep k (fromArrai strict k) (fromArrai strict v) (fromEntries strict r)
end

/-- decode ∘ encode ∘ decode at tree level -/
def reDecode (strict : Bool) (j : J) : Out R :=
  (fromArrai strict (toArrai strict j)).map (toArrai strict)

end Impl

/-! ## Specification side of "rejected, not silently changed" -/
namespace Spec

/-- `x` is a rel.Array -/
def isArr : R → Bool
  | .arr .. => true
  | _ => false

mutual
/-- the strictly tagged form of a value: strict encoding also accepts a bare string or array where
`(s: …)` / `(a: …)` is meant; decoding always yields the tagged form -/
def tag : R → R
  | .str o cs => .tuple [(kS, .str o cs)]
  | .arr o xs => .tuple [(kA, .arr o (tagList xs))]
  | .tuple [(n, x)] => if n = kA && isArr x then tag x else .tuple [(n, x)]
  | .dict es => .dict (tagEntries es)
  | v => v
def tagList : List R → List R
  | [] => []
  | x :: r => tag x :: tagList r
def tagEntries : List (R × R) → List (R × R)
  | [] => []
  | (k, v) :: r => (k, tag v) :: tagEntries r
end

/-- a dict key `ToArrai` can have produced -/
def entryKey : R → Option Key
  | .empty => some []
  | .str o cs => if o = 0 ∧ ¬ cs.isEmpty then some cs else none
  | _ => none

def entryKeys : List (R × R) → Option (List Key)
  | [] => some []
  | (k, _) :: r =>
    match entryKey k, entryKeys r with
    | some a, some b => some (a :: b)
    | _, _ => none

/-- the lemmas are stated for `nodupKeyList` -/
abbrev nodupKeys : List Key → Bool := nodupKeyList

/-- `(n: x)` in the class `strictOk`; `okx` = `strictOk x` -/
def strictOkTagged (n : Key) (x : R) (okx : Bool) : Bool :=
  if n = kA then
    (match x with
     | .empty => true
     | .arr .. => okx
     | .str _ cs => !cs.isEmpty                     -- rejected by the code (members are not data)
     | .bytes _ bs => !bs.isEmpty
     | .dict es => !es.isEmpty
     | .tt | .gset _ => false                       -- KF-json-strict-sets
     | _ => true)
  else if n = kS then
    (match x with
     | .str .. => okx
     | _ => true)
  else if n = kB then
    (match x with
     | .gset _ => false
     | _ => true)
  else true

mutual
/-- the class on which strict encoding is claimed faithful: no plain set (`true` outside `(b: …)`,
byte arrays, any other non-array set) in a value position, no offset strings/arrays, dict keys plain
distinct strings; representation invariants of rel's constructors (no empty String/Array/Dict) -/
def strictOk : R → Bool
  | .num _ => true
  | .tuple [] => true
  | .tuple [(n, x)] => strictOkTagged n x (strictOk x)
  | .tuple (_ :: _ :: _) => true
  | .charT .. | .byteT .. | .itemT .. | .entryT .. => true
  | .empty => true
  | .tt => false
  | .bytes .. => false
  | .gset _ => false
  | .str o cs => o = 0 && !cs.isEmpty
  | .arr o xs => o = 0 && !xs.isEmpty && strictOkList xs
  | .dict es =>
    !es.isEmpty && strictOkEntries es &&
    (match entryKeys es with
     | some ks => nodupKeys ks
     | none => false)
def strictOkList : List R → Bool
  | [] => true
  | x :: r => strictOk x && strictOkList r
def strictOkEntries : List (R × R) → Bool
  | [] => true
  | (_, v) :: r => strictOk v && strictOkEntries r
end

end Spec

/-! ## Server wire format: rel/json.go -/
namespace Impl.Wire

def escapeBytes (o : Int) : List Nat → List J
  | [] => []
  | b :: r => .obj [(kAt, .num o), (kByte, .num b)] :: escapeBytes (o + 1) r

mutual
/-- `jsonEscape` (data values; functions are not data).  Go's `case Set` first answers `true` for a set equal to
`{()}`; here only `.tt` does, a `.gset` is taken not to be `{()}` (`.gset [.tuple []]` is listed as an array) -/
def escape : R → J
  | .num n => .num n
  | .tuple as => .obj (lastWins (escapeAttrs as))
  | .charT i c => .obj [(kAt, .num i), (kChar, .num c)]
  | .byteT i b => .obj [(kAt, .num i), (kByte, .num b)]
  | .itemT i v => .obj [(kAt, .num i), (kItem, escape v)]
  | .entryT k v => .obj [(kAt, escape k), (kValue, escape v)]
  | .str _ cs => .str cs
  | .empty => .bool false
  | .arr _ xs => .obj [(kSet, .arr (escapeList xs))]
  | .tt => .bool true
  | .bytes o bs => .obj [(kSet, .arr (escapeBytes o bs))]
  | .dict es => .obj [(kSet, .arr (escapeEntries es))]
  | .gset xs => .obj [(kSet, .arr (escapeList xs))]
def escapeList : List R → List J
  | [] => []
  | x :: r => escape x :: escapeList r
def escapeAttrs : List (Key × R) → List (Key × J)
  | [] => []
  | (n, x) :: r => (n, escape x) :: escapeAttrs r
def escapeEntries : List (R × R) → List J
  | [] => []
  | (k, v) :: r => .obj [(kAt, escape k), (kValue, escape v)] :: escapeEntries r
end

def finish2 (i : R) (n : Key) (v : R) (as : List (Key × R)) : Out R :=
  if n = kChar then
    (match i, v with
     | .num i, .num c => .ok (.charT i c.toNat)
     | _, _ => .panic)
  else if n = kByte then
    (match i, v with
     | .num i, .num b => .ok (.byteT i b.toNat)
     | _, _ => .panic)
  else if n = kItem then
    (match i with
     | .num i => .ok (.itemT i v)
     | _ => .panic)
  else if n = kValue then .ok (.entryT i v)
  else .ok (.tuple as)

/-- `TupleBuilder.Finish`: a two-attribute tuple with `@` and one of `@char`/`@byte`/`@item`/`@value`
becomes the specialised tuple type (its `int(i.(Number))` assertions panic on a non-number) -/
def finishTuple (as : List (Key × R)) : Out R :=
  match as with
  | [(n1, v1), (n2, v2)] =>
    if n1 = kAt then finish2 v1 n2 v2 as
    else if n2 = kAt then finish2 v2 n1 v1 as
    else .ok (.tuple as)
  | _ => .ok (.tuple as)

def jIsArr : J → Bool
  | .arr _ => true
  | _ => false

/-- a JSON object with the single member `k: v`; `uv` = `jsonUnescape(v)` -/
def unescapeSingle (k : Key) (v : J) (uv : Out R) : Out R :=
  if k = kSet then
    (if jIsArr v then uv                              -- {"{||}": [...]}: NewArray(items...)
     else .err)                                      -- `x must be array in {"{||}": x}`
  else uv.bind (fun r => finishTuple [(k, r)])

mutual
/-- `jsonUnescape` (with the repair: `null` is an error, not a panic) -/
def unescape : J → Out R
  | .null => .err
  | .bool b => .ok (R.newBool b)
  | .num n => .ok (.num n)
  | .str cs => .ok (R.newString cs)
  | .arr xs => (unescapeList xs).map R.newArray
  | .obj [] => .ok (.tuple [])
  | .obj [(k, v)] => unescapeSingle k v (unescape v)
  | .obj (a :: b :: r) =>
    if kSet ∈ keys (a :: b :: r) then .err          -- `"{||}" is a reserved name`
    else (unescapeKvs (a :: b :: r)).bind (fun as => finishTuple (lastWins as))
def unescapeList : List J → Out (List R)
  | [] => .ok []
  | x :: r => consOut (unescape x) (unescapeList r)
def unescapeKvs : List (Key × J) → Out (List (Key × R))
  | [] => .ok []
  | (k, x) :: r => consOut ((unescape x).map (fun v => (k, v))) (unescapeKvs r)
end

/-- what an observer receives -/
def roundTrip (v : R) : Out R := unescape (escape v)

end Impl.Wire

namespace Spec
/-- a two-attribute tuple that rel would have built as a specialised tuple -/
def sugarShaped (as : List (Key × R)) : Bool :=
  match as with
  | [(n1, _), (n2, _)] =>
    (n1 = kAt && (n2 = kChar || n2 = kByte || n2 = kItem || n2 = kValue)) ||
    (n2 = kAt && (n1 = kChar || n1 = kByte || n1 = kItem || n1 = kValue))
  | _ => false

mutual
/-- the class on which the wire format is claimed faithful: every set inside the value is empty,
`true`, a string or an array (zero offset); attribute names distinct and not the reserved `{||}` -/
def wireOk : R → Bool
  | .num _ => true
  | .tuple as => nodupKeys (keys as) && !(keys as).contains kSet && !sugarShaped as && wireOkAttrs as
  | .charT _ _ => true
  | .byteT _ _ => true
  | .itemT _ v => wireOk v
  | .entryT k v => wireOk k && wireOk v
  | .empty => true
  | .tt => true
  | .str o cs => o = 0 && !cs.isEmpty
  | .arr o xs => o = 0 && !xs.isEmpty && wireOkList xs
  | .bytes .. => false
  | .dict _ => false
  | .gset _ => false
def wireOkList : List R → Bool
  | [] => true
  | x :: r => wireOk x && wireOkList r
def wireOkAttrs : List (Key × R) → Bool
  | [] => true
  | (_, x) :: r => wireOk x && wireOkAttrs r
end
end Spec

/-! ## //bits: syntax/std_bits.go on non-negative integers -/
namespace Impl.Bits

/-- `bits.TrailingZeros64` -/
def tz (v : Nat) : Nat :=
  if h : v = 0 then 64 else if v % 2 = 1 then 0 else 1 + tz (v / 2)
termination_by v
decreasing_by omega

theorem and_pred_lt (v : Nat) (h : v ≠ 0) : v &&& (v - 1) < v :=
  Nat.lt_of_le_of_lt Nat.and_le_right (by omega)

/-- `for v := int(n); v != 0; v &= v - 1 { b.Add(TrailingZeros64(v)) }` -/
def setLoop (v : Nat) : List Nat :=
  if h : v = 0 then [] else tz v :: setLoop (v &&& (v - 1))
termination_by v
decreasing_by exact and_pred_lt v h

/-- `//bits.set(n)` for an integer `n ≥ 0`: `float64(n) == float64(int(n))` holds below 2^63
(repaired: otherwise an error) -/
def set (n : Nat) : Out (List Nat) := if n < 2 ^ 63 then .ok (setLoop n) else .err

/-- `//bits.mask(S)`: `total += math.Pow(2, n)` -/
def mask : List Nat → Nat
  | [] => 0
  | i :: r => 2 ^ i + mask r

end Impl.Bits

/-! ## //encoding.csv: syntax/std_encoding_csv.go over encoding/csv (default configuration:
Comma `sep` (',' by default; any valid delimiter), no comment character, no TrimLeadingSpace, no LazyQuotes, FieldsPerRecord 0, UseCRLF false).
Text is a list of code points (UTF-8 is transparent to every rule below). -/
namespace Impl.Csv

def isSpace (c : Nat) : Bool :=
  (9 ≤ c && c ≤ 13) || c = 32 || c = 0x85 || c = 0xA0 || c = 0x1680 || (0x2000 ≤ c && c ≤ 0x200A) ||
  c = 0x2028 || c = 0x2029 || c = 0x202F || c = 0x205F || c = 0x3000

/-- `(*Writer).fieldNeedsQuotes` -/
def needsQuotes (sep : Nat) (f : Key) : Bool :=
  if f.isEmpty then false
  else if f = [92, 46] then true
  else if f.any (fun c => c = 10 || c = 13 || c = 34 || c = sep) then true
  else isSpace (f.headD 0)

def escField : Key → Key
  | [] => []
  | c :: r => if c = 34 then 34 :: 34 :: escField r else c :: escField r

def writeField (sep : Nat) (f : Key) : Key := if needsQuotes sep f then 34 :: (escField f ++ [34]) else f

def writeFields (sep : Nat) : List Key → Key
  | [] => []
  | f :: r => sep :: (writeField sep f ++ writeFields sep r)

/-- `(*Writer).Write` -/
def writeRecord (sep : Nat) : List Key → Key
  | [] => [10]
  | f :: r => writeField sep f ++ writeFields sep r ++ [10]

/-- `(*Writer).WriteAll` -/
def writeAll (sep : Nat) : List (List Key) → Key
  | [] => []
  | r :: rs => writeRecord sep r ++ writeAll sep rs

inductive Mode
  | sor   -- at the start of a record (nothing read yet on this line)
  | sof   -- at the start of a field after a comma
  | unq   -- inside a non-quoted field
  | inq   -- inside a quoted field
  | qq    -- inside a quoted field, just after a quote
  | bad   -- a parse error has occurred
  deriving DecidableEq, Inhabited

/-- reader state; `cr`: a '\r' has been read whose meaning depends on the next character
(`readLine` turns "\r\n" into "\n" and drops a '\r' that ends the input) -/
structure St where
  mode : Mode
  cr : Bool
  field : Key                    -- current field, reversed
  row : List Key                 -- fields of the current record, reversed
  out : List (List Key)          -- finished records, reversed
  width : Option Nat             -- FieldsPerRecord once the first record has fixed it
  deriving Inhabited

def St.init : St := ⟨.sor, false, [], [], [], none⟩

def St.fail (s : St) : St := { s with mode := .bad }

/-- finish the current field -/
def St.endField (s : St) : St := { s with field := [], row := s.field.reverse :: s.row }

/-- finish the current record: `ErrFieldCount` unless it has the width of the first one -/
def St.endRecord (s : St) : St :=
  let r := s.row.reverse
  match s.width with
  | none => { s with mode := .sor, row := [], out := r :: s.out, width := some r.length }
  | some w =>
    if r.length = w then { s with mode := .sor, row := [], out := r :: s.out }
    else s.fail

/-- one character other than the '\r' of a "\r\n" pair -/
def feed (sep : Nat) (s : St) (c : Nat) : St :=
  match s.mode with
  | .bad => s
  | .sor =>
    if c = 10 then s                                       -- empty line: skipped
    else if c = 34 then { s with mode := .inq }
    else if c = sep then { s.endField with mode := .sof }
    else { s with mode := .unq, field := [c] }
  | .sof =>
    if c = 10 then s.endField.endRecord
    else if c = 34 then { s with mode := .inq }
    else if c = sep then { s.endField with mode := .sof }
    else { s with mode := .unq, field := [c] }
  | .unq =>
    if c = 10 then s.endField.endRecord
    else if c = 34 then s.fail                             -- ErrBareQuote
    else if c = sep then { s.endField with mode := .sof }
    else { s with field := c :: s.field }
  | .inq =>
    if c = 34 then { s with mode := .qq }
    else { s with field := c :: s.field }
  | .qq =>
    if c = 34 then { s with mode := .inq, field := 34 :: s.field }
    else if c = sep then { s.endField with mode := .sof }
    else if c = 10 then s.endField.endRecord
    else s.fail                                            -- ErrQuote

/-- one character of the input, `readLine`'s treatment of '\r' included: "\r\n" is "\n", any other '\r' is data
unless it ends the input (`finish` does not look at `cr`) -/
def step (sep : Nat) (s : St) (c : Nat) : St :=
  if s.cr then
    if c = 10 then feed sep { s with cr := false } 10          -- "\r\n" is "\n"
    else if c = 13 then { feed sep { s with cr := false } 13 with cr := true }
    else feed sep (feed sep { s with cr := false } 13) c
  else if c = 13 then { s with cr := true }
  else feed sep s c

/-- end of input: a pending '\r' is dropped; an open record is finished -/
def finish (s : St) : Out (List (List Key)) :=
  match s.mode with
  | .bad => .err
  | .inq => .err                                           -- ErrQuote: no closing quote
  | .sor => .ok s.out.reverse
  | .sof | .unq | .qq =>
    let s' := s.endField.endRecord
    if s'.mode = .bad then .err else .ok s'.out.reverse

/-- `csv.NewReader(text)` read to `io.EOF` -/
def parse (sep : Nat) (text : Key) : Out (List (List Key)) := finish (text.foldl (step sep) St.init)

/-- `rel.AsArray` then `Values()` -/
def asArray : R → Option (List R)
  | .empty => some []
  | .arr _ xs => some xs
  | _ => none

/-- `rel.AsString` -/
def asString : R → Option Key
  | .empty => some []
  | .str _ cs => some cs
  | _ => none

def fieldsOf : List R → Option (List Key)
  | [] => some []
  | f :: r =>
    match asString f, fieldsOf r with
    | some a, some b => some (a :: b)
    | _, _ => none

def rowsOf : List R → Option (List (List Key))
  | [] => some []
  | x :: r =>
    match asArray x with
    | some fs =>
      (match fieldsOf fs, rowsOf r with
       | some a, some b => some (a :: b)
       | _, _ => none)
    | none => none

/-- the matrix `csvEncodeFnBody` hands to the writer -/
def matrixOf (v : R) : Option (List (List Key)) :=
  match asArray v with
  | some rows => rowsOf rows
  | none => none

/-- `csvEncodeFnBody`: the text written -/
def encode (sep : Nat) (v : R) : Out Key :=
  match matrixOf v with
  | some m => .ok (writeAll sep m)
  | none => .err

/-- the value `csvDecodeFnBody` builds from the records -/
def matrixR (m : List (List Key)) : R :=
  R.newArray (m.map (fun r => R.newArray (r.map R.newString)))

/-- `csvDecodeFnBody` on the text of its argument (repaired: the empty input is accepted) -/
def decode (sep : Nat) (text : Key) : Out R := (parse sep text).map matrixR

/-- encode, then decode what was written -/
def roundTrip (sep : Nat) (v : R) : Out R := (encode sep v).bind (decode sep)

end Impl.Csv

namespace Spec
/-- every row has the length of the first (`FieldsPerRecord = 0`) -/
def rectangular : List (List Key) → Bool
  | [] => true
  | r :: rs => rs.all (fun r' => r'.length = r.length)

def hasCRLF : Key → Bool
  | 13 :: 10 :: _ => true
  | _ :: r => hasCRLF r
  | [] => false

/-- no field contains "\r\n" (the reader turns it into "\n") -/
def noCRLF (m : List (List Key)) : Bool := m.all (fun r => r.all (fun f => !hasCRLF f))

/-- no row is written as an empty line (which the reader skips): `[]` and `[""]` -/
def noBlankRow (m : List (List Key)) : Bool := m.all (fun r => !(r.isEmpty || r = [[]]))

def csvOk (m : List (List Key)) : Bool := rectangular m && noCRLF m && noBlankRow m
end Spec

end Arrai.C13
