/-
  C13 — the JSON/YAML translator (`translate/to_arrai.go`, `from_arrai.go`): induction over documents,
  decode-then-encode, the class on which strict encoding is faithful, no panic.

  `foo_list` / `foo_kvs`: `foo` of every member of an array / of an object, the shape the hypotheses of `J.induct` have.
-/
import Arrai.C13.Base
import Arrai.Core.ListLemmas

namespace Arrai.C13

/-! ## induction over documents; the helpers of the mutual blocks are maps -/

/-- the hypotheses for members are stated by membership, so that a proof can go through `List.map` / `mapVal` -/
theorem J.induct {P : J → Prop} (null : P .null) (bool : ∀ b, P (.bool b)) (num : ∀ n, P (.num n))
    (str : ∀ cs, P (.str cs)) (arr : ∀ xs, (∀ x ∈ xs, P x) → P (.arr xs))
    (obj : ∀ kvs, (∀ p ∈ kvs, P p.2) → P (.obj kvs)) (j : J) : P j :=
  J.rec (motive_1 := P) (motive_2 := fun xs => ∀ x ∈ xs, P x) (motive_3 := fun kvs => ∀ p ∈ kvs, P p.2)
    (motive_4 := fun p => P p.2) null bool num str arr obj
    (fun _ h => nomatch h) (fun _ _ hx hxs => List.forall_mem_cons.2 ⟨hx, hxs⟩)
    (fun _ h => nomatch h) (fun _ _ hp hps => List.forall_mem_cons.2 ⟨hp, hps⟩)
    (fun _ _ h => h) j

@[simp] theorem entries_cons (k : Key) (v : R) (l : List (Key × R)) :
    entries ((k, v) :: l) = (R.newString k, v) :: entries l := rfl

theorem toArraiList_eq (s : Bool) (xs : List J) : Impl.toArraiList s xs = xs.map (Impl.toArrai s) :=
  eq_map_of rfl (fun _ _ => rfl) xs

theorem toArraiKvs_eq (s : Bool) (kvs : List (Key × J)) :
    Impl.toArraiKvs s kvs = mapVal (Impl.toArrai s) kvs :=
  eq_map_of rfl (fun ⟨_, _⟩ _ => rfl) kvs

theorem normList_eq (xs : List J) : J.normList xs = xs.map J.norm :=
  eq_map_of rfl (fun _ _ => rfl) xs

theorem normKvs_eq (kvs : List (Key × J)) : J.normKvs kvs = mapVal J.norm kvs :=
  eq_map_of rfl (fun ⟨_, _⟩ _ => rfl) kvs

theorem nsNormList_eq (xs : List J) : J.nsNormList xs = xs.map J.nsNorm :=
  eq_map_of rfl (fun _ _ => rfl) xs

theorem nsNormKvs_eq (kvs : List (Key × J)) : J.nsNormKvs kvs = mapVal J.nsNorm kvs :=
  eq_map_of rfl (fun ⟨_, _⟩ _ => rfl) kvs

section
open Impl

theorem toArrai_arr (s : Bool) (xs : List J) : toArrai s (.arr xs) =
    if s then .tuple [(kA, R.newArray (xs.map (toArrai s)))] else R.newArray (xs.map (toArrai s)) := by
  rw [← toArraiList_eq]; rfl

theorem toArrai_obj (s : Bool) (kvs : List (Key × J)) :
    toArrai s (.obj kvs) = R.newDict (entries (mapVal (toArrai s) (lastWins kvs))) := by
  rw [← lastWins_mapVal, ← toArraiKvs_eq]; rfl

theorem norm_arr (xs : List J) : (J.arr xs).norm = .arr (xs.map J.norm) := by
  rw [← normList_eq]; rfl

theorem norm_obj (kvs : List (Key × J)) : (J.obj kvs).norm = .obj (lastWins (mapVal J.norm kvs)) := by
  rw [← normKvs_eq]; rfl

theorem nsNorm_arr (xs : List J) :
    (J.arr xs).nsNorm = if xs.isEmpty then .null else .arr (xs.map J.nsNorm) := by
  rw [← nsNormList_eq]; rfl

theorem nsNorm_obj (kvs : List (Key × J)) :
    (J.obj kvs).nsNorm = if kvs.isEmpty then .null else .obj (lastWins (mapVal J.nsNorm kvs)) := by
  rw [← nsNormKvs_eq]; rfl

end

/-! ## documents: `norm`, `nsNorm` and their guards -/

theorem hasEmptyishList_eq_false {xs : List J} :
    J.hasEmptyishList xs = false ↔ ∀ x ∈ xs, x.hasEmptyish = false := by
  induction xs with
  | nil => simp [J.hasEmptyishList]
  | cons x r ih => simp only [J.hasEmptyishList, Bool.or_eq_false_iff, ih, List.forall_mem_cons]

theorem hasEmptyishKvs_eq_false {kvs : List (Key × J)} :
    J.hasEmptyishKvs kvs = false ↔ ∀ p ∈ kvs, p.2.hasEmptyish = false := by
  induction kvs with
  | nil => simp [J.hasEmptyishKvs]
  | cons p r ih => simp only [J.hasEmptyishKvs, Bool.or_eq_false_iff, ih, List.forall_mem_cons]

theorem hasDupKeysList_eq_false {xs : List J} :
    J.hasDupKeysList xs = false ↔ ∀ x ∈ xs, x.hasDupKeys = false := by
  induction xs with
  | nil => simp [J.hasDupKeysList]
  | cons x r ih => simp only [J.hasDupKeysList, Bool.or_eq_false_iff, ih, List.forall_mem_cons]

theorem hasDupKeysKvs_eq_false {kvs : List (Key × J)} :
    J.hasDupKeysKvs kvs = false ↔ ∀ p ∈ kvs, p.2.hasDupKeys = false := by
  induction kvs with
  | nil => simp [J.hasDupKeysKvs]
  | cons p r ih => simp only [J.hasDupKeysKvs, Bool.or_eq_false_iff, ih, List.forall_mem_cons]

/-- without `false`, `""`, `[]`, `{}` the non-strict cycle loses nothing -/
theorem nsNorm_eq_norm (j : J) (h : j.hasEmptyish = false) : j.nsNorm = j.norm := by
  induction j using J.induct with
  | null | num => rfl
  | bool b => cases b <;> simp_all [J.hasEmptyish, J.nsNorm, J.norm]
  | str cs => cases cs <;> simp_all [J.hasEmptyish, J.nsNorm, J.norm]
  | arr xs ih =>
    simp only [J.hasEmptyish, Bool.or_eq_false_iff, hasEmptyishList_eq_false] at h
    rw [nsNorm_arr, norm_arr, h.1, List.map_congr_left fun x hx => ih x hx (h.2 x hx)]; rfl
  | obj kvs ih =>
    simp only [J.hasEmptyish, Bool.or_eq_false_iff, hasEmptyishKvs_eq_false] at h
    rw [nsNorm_obj, norm_obj, h.1, mapVal_congr fun p hp => ih p hp (h.2 p hp)]; rfl

theorem nsNorm_eq_norm_list (xs : List J) (h : J.hasEmptyishList xs = false) :
    ∀ x ∈ xs, x.nsNorm = x.norm :=
  fun x hx => nsNorm_eq_norm x (hasEmptyishList_eq_false.1 h x hx)

theorem nsNorm_eq_norm_kvs (kvs : List (Key × J)) (h : J.hasEmptyishKvs kvs = false) :
    ∀ p ∈ kvs, p.2.nsNorm = p.2.norm :=
  fun p hp => nsNorm_eq_norm p.2 (hasEmptyishKvs_eq_false.1 h p hp)

/-- a document without duplicate keys is its own normal form -/
theorem norm_eq_self (j : J) (h : j.hasDupKeys = false) : j.norm = j := by
  induction j using J.induct with
  | null | bool | num | str => rfl
  | arr xs ih =>
    simp only [J.hasDupKeys, hasDupKeysList_eq_false] at h
    rw [norm_arr, List.map_congr_left fun x hx => ih x hx (h x hx), List.map_id']
  | obj kvs ih =>
    simp only [J.hasDupKeys, Bool.or_eq_false_iff, Bool.not_eq_eq_eq_not, Bool.not_false,
      hasDupKeysKvs_eq_false] at h
    have e : mapVal J.norm kvs = kvs := by
      rw [mapVal_congr (g := id) fun p hp => ih p hp (h.2 p hp)]; exact List.map_id' kvs
    rw [norm_obj, e, lastWins_of_nodup h.1]

theorem norm_eq_self_list (xs : List J) (h : J.hasDupKeysList xs = false) : ∀ x ∈ xs, x.norm = x :=
  fun x hx => norm_eq_self x (hasDupKeysList_eq_false.1 h x hx)

theorem norm_eq_self_kvs (kvs : List (Key × J)) (h : J.hasDupKeysKvs kvs = false) :
    ∀ p ∈ kvs, p.2.norm = p.2 :=
  fun p hp => norm_eq_self p.2 (hasDupKeysKvs_eq_false.1 h p hp)

/-! ## `keyData`, `entryStep`: one iteration of `objFromArraiDict` -/
section EntryStep
open Impl

theorem keyData_newString (s : Bool) (k : Key) :
    keyData (R.newString k) (fromArrai s (R.newString k)) = .ok (.str k) := by
  cases k <;> rfl

theorem entryStep_ok_iff {k : R} {kd vd : Out J} {rest : Out (List (Key × J))} {a : Key} {l : List (Key × J)}
    (hk : keyData k kd = .ok (.str a)) :
    entryStep k kd vd rest = .ok l ↔ ∃ vj l', vd = .ok vj ∧ rest = .ok l' ∧ l = (a, vj) :: l' := by
  unfold entryStep
  rw [hk]
  cases vd with
  | ok vj => simp [Out.map_eq_ok, eq_comm]
  | err | panic => simp

theorem entryStep_not_str {k : R} {kd vd : Out J} {rest : Out (List (Key × J))} {j : J}
    (hk : keyData k kd = .ok j) (hj : ∀ ks, j ≠ .str ks) (hv : vd ≠ .panic) :
    entryStep k kd vd rest = .err := by
  unfold entryStep
  rw [hk]
  cases vd with
  | ok v =>
    cases j with
    | str ks => exact absurd rfl (hj ks)
    | _ => rfl
  | err => rfl
  | panic => exact absurd rfl hv

theorem entryStep_ne_panic {k : R} {kd vd : Out J} {rest : Out (List (Key × J))}
    (hk : kd ≠ .panic) (hv : vd ≠ .panic) (hr : rest ≠ .panic) : entryStep k kd vd rest ≠ .panic := by
  have hk' : keyData k kd ≠ .panic := by unfold keyData; split <;> simp [hk]
  unfold entryStep
  split
  · split
    · split
      · exact Out.map_ne_panic hr
      · nofun
    · nofun
    · exact absurd rfl hv
  · nofun
  · contradiction

end EntryStep

/-! ## encoding a decoded document -/
section RoundTrip
open Impl

theorem fromList_map_ok (s : Bool) (f : J → R) (g : J → J) : ∀ (xs : List J),
    (∀ x ∈ xs, fromArrai s (f x) = .ok (g x)) → fromList s (xs.map f) = .ok (xs.map g) := by
  refine forall_mem_rec rfl fun x r hx hr => ?_
  simp [fromList, hx, hr]

theorem fromEntries_entries (s : Bool) (l : List (Key × R)) : fromEntries s (entries l) = fromAttrs s l := by
  induction l with
  | nil => rfl
  | cons p r ih =>
    obtain ⟨k, v⟩ := p
    rw [entries_cons, fromEntries, entryStep, keyData_newString, ih, fromAttrs]
    cases fromArrai s v <;> rfl

theorem fromAttrs_mapVal_ok (s : Bool) (f : J → R) (g : J → J) : ∀ (l : List (Key × J)),
    (∀ p ∈ l, fromArrai s (f p.2) = .ok (g p.2)) → fromAttrs s (mapVal f l) = .ok (mapVal g l) := by
  refine forall_mem_rec rfl ?_
  rintro ⟨k, v⟩ r hp ih
  rw [mapVal_cons, fromAttrs, hp, ih]
  rfl

theorem fromEntries_decoded (s : Bool) (g : J → J) (kvs : List (Key × J))
    (h : ∀ p ∈ kvs, fromArrai s (toArrai s p.2) = .ok (g p.2)) :
    (fromEntries s (entries (mapVal (toArrai s) (lastWins kvs)))).map (fun l => J.obj (lastWins l))
      = .ok (.obj (lastWins (mapVal g kvs))) := by
  rw [fromEntries_entries, fromAttrs_mapVal_ok s _ g _ fun p hp => h p (lastWins_subset _ hp),
    Out.map_ok, ← lastWins_mapVal, lastWins_idem]

theorem isEmpty_entries_decoded (s : Bool) (kvs : List (Key × J)) :
    (entries (mapVal (toArrai s) (lastWins kvs))).isEmpty = kvs.isEmpty := by
  rw [entries, mapVal, List.isEmpty_map, List.isEmpty_map, isEmpty_lastWins]

theorem fromArrai_a_newArray (ys : List R) :
    fromArrai true (.tuple [(kA, R.newArray ys)]) = (fromList true ys).map .arr := by
  cases ys <;> rfl

theorem fromArrai_newArray (ys : List R) :
    fromArrai false (R.newArray ys) = if ys.isEmpty then .ok .null else (fromList false ys).map .arr := by
  cases ys <;> rfl

theorem fromArrai_strict_newDict (es : List (R × R)) :
    fromArrai true (R.newDict es) = (fromEntries true es).map (fun l => .obj (lastWins l)) := by
  cases es <;> rfl

theorem fromArrai_newDict (es : List (R × R)) :
    fromArrai false (R.newDict es) =
      if es.isEmpty then .ok .null else (fromEntries false es).map (fun l => .obj (lastWins l)) := by
  cases es <;> rfl

/-- strict decode then encode returns the document with duplicate keys resolved -/
theorem rt_strict (j : J) : fromArrai true (toArrai true j) = .ok j.norm := by
  induction j using J.induct with
  | null | num => rfl
  | bool b => cases b <;> rfl
  | str cs => cases cs <;> rfl
  | arr xs ih =>
    rw [toArrai_arr, if_pos rfl, fromArrai_a_newArray, norm_arr, fromList_map_ok true _ J.norm xs ih, Out.map_ok]
  | obj kvs ih =>
    rw [toArrai_obj, fromArrai_strict_newDict, norm_obj]
    exact fromEntries_decoded true J.norm kvs ih

theorem rt_strict_list (xs : List J) : ∀ x ∈ xs, fromArrai true (toArrai true x) = .ok x.norm :=
  fun x _ => rt_strict x

theorem rt_strict_kvs (kvs : List (Key × J)) :
    ∀ p ∈ kvs, fromArrai true (toArrai true p.2) = .ok p.2.norm :=
  fun p _ => rt_strict p.2

/-- non-strict decode then encode: `false`, `""`, `[]`, `{}` come back as `null` -/
theorem rt_nonstrict (j : J) : fromArrai false (toArrai false j) = .ok j.nsNorm := by
  induction j using J.induct with
  | null | num => rfl
  | bool b => cases b <;> rfl
  | str cs => cases cs <;> rfl
  | arr xs ih =>
    rw [toArrai_arr, if_neg Bool.false_ne_true, fromArrai_newArray, nsNorm_arr,
      fromList_map_ok false _ J.nsNorm xs ih]
    cases xs <;> rfl
  | obj kvs ih =>
    rw [toArrai_obj, fromArrai_newDict, isEmpty_entries_decoded, nsNorm_obj,
      fromEntries_decoded false J.nsNorm kvs ih]
    cases kvs <;> rfl

theorem rt_nonstrict_list (xs : List J) : ∀ x ∈ xs, fromArrai false (toArrai false x) = .ok x.nsNorm :=
  fun x _ => rt_nonstrict x

theorem rt_nonstrict_kvs (kvs : List (Key × J)) :
    ∀ p ∈ kvs, fromArrai false (toArrai false p.2) = .ok p.2.nsNorm :=
  fun p _ => rt_nonstrict p.2

/-- decoding does not see how duplicate keys were resolved: `norm` is invisible to `toArrai` -/
theorem toArrai_norm (s : Bool) (j : J) : toArrai s j.norm = toArrai s j := by
  induction j using J.induct with
  | null | bool | num | str => rfl
  | arr xs ih =>
    have e : (xs.map J.norm).map (toArrai s) = xs.map (toArrai s) := by
      rw [List.map_map]; exact List.map_congr_left ih
    rw [norm_arr, toArrai_arr, toArrai_arr, e]
  | obj kvs ih =>
    have e : mapVal (toArrai s) (mapVal J.norm kvs) = mapVal (toArrai s) kvs := by
      rw [mapVal_mapVal]; exact mapVal_congr ih
    rw [norm_obj, toArrai_obj, toArrai_obj, lastWins_idem, ← lastWins_mapVal, e, lastWins_mapVal]

theorem toArrai_norm_list (s : Bool) (xs : List J) : ∀ x ∈ xs, toArrai s x.norm = toArrai s x :=
  fun x _ => toArrai_norm s x

theorem toArrai_norm_kvs (s : Bool) (kvs : List (Key × J)) :
    ∀ p ∈ kvs, toArrai s p.2.norm = toArrai s p.2 :=
  fun p _ => toArrai_norm s p.2

end RoundTrip

/-! ## strict encoding is faithful on the class `strictOk` -/
section StrictFaithful
open Impl Spec

theorem tagList_eq (xs : List R) : tagList xs = xs.map tag :=
  eq_map_of rfl (fun _ _ => rfl) xs

theorem entryKey_some {k : R} {a : Key} (h : entryKey k = some a) :
    keyData k (fromArrai true k) = .ok (.str a) ∧ R.newString a = k := by
  have e : R.newString a = k := by
    unfold entryKey at h
    split at h
    · cases h; rfl
    · split at h
      · next hc => cases h; simp [R.newString, hc.1, hc.2]
      · cases h
    · cases h
  exact ⟨e ▸ keyData_newString true a, e⟩

theorem entryKey_newString (k : Key) : entryKey (R.newString k) = some k := by
  cases k <;> simp [R.newString, entryKey]

theorem entryKeys_cons {k v : R} {r : List (R × R)} {ks : List Key} (h : entryKeys ((k, v) :: r) = some ks) :
    ∃ a b, entryKey k = some a ∧ entryKeys r = some b ∧ a :: b = ks := by
  rw [entryKeys] at h
  split at h
  · next a b ha hb => exact ⟨a, b, ha, hb, Option.some.inj h⟩
  · cases h

theorem toArrai_str_of_strictOk {o : Int} {cs : Key} (h : strictOk (.str o cs) = true) :
    toArrai true (.str cs) = .tuple [(kS, .str o cs)] := by
  simp only [strictOk, Bool.and_eq_true, decide_eq_true_eq, Bool.not_eq_true'] at h
  obtain ⟨rfl, hne⟩ := h
  cases cs with
  | nil => cases hne
  | cons => rfl

theorem toArrai_of_strictS {x : R} {j : J} (hv : strictOkTagged kS x (strictOk x) = true)
    (h : strictS x = .ok j) : toArrai true j = .tuple [(kS, x)] := by
  unfold strictS at h
  split at h
  · cases h; rfl
  · cases h; exact toArrai_str_of_strictOk hv
  · cases h

theorem toArrai_of_strictB {x : R} {j : J} (hv : strictOkTagged kB x (strictOk x) = true)
    (h : strictB x = .ok j) : toArrai true j = .tuple [(kB, x)] := by
  unfold strictB at h
  split at h
  · cases h; rfl
  · cases h; rfl
  · cases hv
  · cases h

theorem toArrai_of_strictA {x : R} {j : J}
    (ih : strictOk x = true → ∀ j, fromArrai true x = .ok j → toArrai true j = tag x)
    (hv : strictOkTagged kA x (strictOk x) = true) (h : strictTagged kA x (arrFromArrai true x) = .ok j) :
    toArrai true j = tag (.tuple [(kA, x)]) := by
  cases x with
  | empty => cases h; rfl
  | arr o xs =>
    -- on a rel.Array `arrFromArrai` is `fromArrai`, and the class asks of `(a: arr)` what it asks of `arr`
    have h' : fromArrai true (.arr o xs) = .ok j := h
    have hv' : strictOk (.arr o xs) = true := hv
    exact ih hv' j h'
  | tt | gset => cases hv
  | str _ l | bytes _ l | dict l => cases l with | nil => cases hv | cons => cases h
  | _ => cases h

theorem toArrai_of_strictTagged {n : Key} {x : R} {j : J}
    (ih : strictOk x = true → ∀ j, fromArrai true x = .ok j → toArrai true j = tag x)
    (hv : strictOkTagged n x (strictOk x) = true) (h : strictTagged n x (arrFromArrai true x) = .ok j) :
    toArrai true j = tag (.tuple [(n, x)]) := by
  by_cases hA : n = kA
  · subst hA; exact toArrai_of_strictA ih hv h
  · have e : tag (.tuple [(n, x)]) = .tuple [(n, x)] := by simp [tag, hA]
    rw [e]
    by_cases hS : n = kS
    · subst hS; exact toArrai_of_strictS hv h
    · by_cases hB : n = kB
      · subst hB; exact toArrai_of_strictB hv h
      · unfold strictTagged at h
        rw [if_neg hA, if_neg hS, if_neg hB] at h
        cases h

mutual
theorem rejects (v : R) (hv : strictOk v = true) (j : J) (h : fromArrai true v = .ok j) :
    toArrai true j = tag v := by
  cases v with
  | num | empty => cases h; rfl
  | tuple as =>
    match as, hv, h with
    | [], _, h => cases h; rfl
    | [(n, x)], hv, h => exact toArrai_of_strictTagged (rejects x) hv h
    | a :: b :: r, _, h => cases h
  | charT | byteT | itemT | entryT => cases h
  | tt | bytes | gset => cases hv
  | str o cs =>
    cases h
    exact toArrai_str_of_strictOk hv
  | arr o xs =>
    obtain ⟨js, hjs, rfl⟩ := Out.map_eq_ok.1 h
    simp only [strictOk, Bool.and_eq_true, decide_eq_true_eq, Bool.not_eq_true'] at hv
    obtain ⟨⟨rfl, hne⟩, hxs⟩ := hv
    show R.tuple [(kA, R.newArray (toArraiList true js))] = .tuple [(kA, .arr 0 (tagList xs))]
    rw [rejects_list xs hxs js hjs]
    cases xs with
    | nil => cases hne
    | cons => rfl
  | dict es =>
    obtain ⟨l, hl, rfl⟩ := Out.map_eq_ok.1 h
    simp only [strictOk, Bool.and_eq_true, Bool.not_eq_true'] at hv
    obtain ⟨⟨hne, hes⟩, hk⟩ := hv
    cases hks : entryKeys es with
    | none => simp [hks] at hk
    | some ks =>
      simp only [hks] at hk
      obtain ⟨h1, h2⟩ := rejects_entries es hes ks hks l hl
      have hnd : nodupKeyList (keys l) = true := h2 ▸ hk
      rw [toArrai_obj, lastWins_of_nodup hnd, lastWins_of_nodup hnd, h1]
      cases es with
      | nil => cases hne
      | cons p r => obtain ⟨k, v⟩ := p; rfl
theorem rejects_list (xs : List R) (hv : strictOkList xs = true) (js : List J)
    (h : fromList true xs = .ok js) : toArraiList true js = tagList xs := by
  cases xs with
  | nil => cases h; rfl
  | cons x r =>
    simp only [strictOkList, Bool.and_eq_true] at hv
    obtain ⟨j, js', hj, hjs, rfl⟩ := consOut_eq_ok.1 h
    simp only [toArraiList, tagList, rejects x hv.1 j hj, rejects_list r hv.2 js' hjs]
theorem rejects_entries (es : List (R × R)) (hv : strictOkEntries es = true) (ks : List Key)
    (hk : entryKeys es = some ks) (l : List (Key × J)) (h : fromEntries true es = .ok l) :
    entries (mapVal (toArrai true) l) = tagEntries es ∧ keys l = ks := by
  cases es with
  | nil => cases h; cases hk; exact ⟨rfl, rfl⟩
  | cons p r =>
    obtain ⟨k, v⟩ := p
    simp only [strictOkEntries, Bool.and_eq_true] at hv
    obtain ⟨a, b, hkk, hkr, rfl⟩ := entryKeys_cons hk
    obtain ⟨hkd, hns⟩ := entryKey_some hkk
    obtain ⟨vj, l', hvd, hr, rfl⟩ := (entryStep_ok_iff hkd).1 h
    obtain ⟨i1, i2⟩ := rejects_entries r hv.2 b hkr l' hr
    rw [mapVal_cons, entries_cons, hns, rejects v hv.1 vj hvd, i1, keys_cons, i2]
    exact ⟨rfl, rfl⟩
end
end StrictFaithful

/-! ## decoded values lie in the class `strictOk` -/
section Decoded
open Impl Spec

theorem entryKeys_entries (l : List (Key × R)) : entryKeys (entries l) = some (keys l) := by
  induction l with
  | nil => rfl
  | cons p r ih => obtain ⟨k, v⟩ := p; simp [entryKeys, entryKey_newString, ih]

theorem strictOkList_eq_true {xs : List R} : strictOkList xs = true ↔ ∀ x ∈ xs, strictOk x = true := by
  induction xs with
  | nil => simp [strictOkList]
  | cons x r ih => simp only [strictOkList, Bool.and_eq_true, ih, List.forall_mem_cons]

theorem strictOkEntries_eq_true {es : List (R × R)} :
    strictOkEntries es = true ↔ ∀ p ∈ es, strictOk p.2 = true := by
  induction es with
  | nil => simp [strictOkEntries]
  | cons p r ih => simp only [strictOkEntries, Bool.and_eq_true, ih, List.forall_mem_cons]

theorem strictOk_a_newArray (ys : List R) : strictOk (.tuple [(kA, R.newArray ys)]) = strictOkList ys := by
  cases ys <;> rfl

theorem strictOk_newDict {es : List (R × R)} {ks : List Key} (h1 : strictOkEntries es = true)
    (h2 : entryKeys es = some ks) (h3 : nodupKeyList ks = true) : strictOk (R.newDict es) = true := by
  cases es with
  | nil => rfl
  | cons e es => simp [R.newDict, strictOk, h1, h2, h3]

/-- every strictly decoded value lies in the class on which strict encoding is faithful -/
theorem strictOk_toArrai (j : J) : strictOk (toArrai true j) = true := by
  induction j using J.induct with
  | null | num => rfl
  | bool b => cases b <;> rfl
  | str cs => cases cs <;> rfl
  | arr xs ih =>
    rw [toArrai_arr, if_pos rfl, strictOk_a_newArray]
    exact strictOkList_eq_true.2 (List.forall_mem_map.2 ih)
  | obj kvs ih =>
    rw [toArrai_obj]
    have hnd : nodupKeyList (keys (mapVal (toArrai true) (lastWins kvs))) = true := by
      rw [keys_mapVal]; exact nodup_keys_lastWins kvs
    refine strictOk_newDict (strictOkEntries_eq_true.2 (List.forall_mem_map.2 fun p hp => ?_))
      (entryKeys_entries _) hnd
    obtain ⟨q, hq, rfl⟩ := List.mem_map.1 hp
    exact ih q (lastWins_subset _ hq)

theorem strictOk_toArrai_list (xs : List J) : ∀ x ∈ xs, strictOk (toArrai true x) = true :=
  fun x _ => strictOk_toArrai x

theorem strictOk_toArrai_kvs (kvs : List (Key × J)) : ∀ p ∈ kvs, strictOk (toArrai true p.2) = true :=
  fun p _ => strictOk_toArrai p.2
end Decoded

/-! ## the encoder has no panic site -/
section NoPanic
open Impl

theorem strictS_ne_panic (x : R) : strictS x ≠ .panic := by
  unfold strictS; split <;> nofun

theorem strictB_ne_panic (x : R) : strictB x ≠ .panic := by
  unfold strictB; split <;> nofun

theorem strictTagged_ne_panic {n : Key} {x : R} {viaArr : Out J} (h : viaArr ≠ .panic) :
    strictTagged n x viaArr ≠ .panic :=
  ite_ne_panic (ite_ne_panic h nofun)
    (ite_ne_panic (strictS_ne_panic x) (ite_ne_panic (strictB_ne_panic x) nofun))

mutual
theorem fromArrai_ne_panic (s : Bool) (v : R) : fromArrai s v ≠ .panic := by
  cases v with
  | num | charT | byteT | itemT | entryT | str => nofun
  | empty | tt => cases s <;> nofun
  | bytes o bs => cases s <;> cases bs <;> nofun
  | arr o xs => exact Out.map_ne_panic (fromList_ne_panic s xs)
  | dict es => exact Out.map_ne_panic (fromEntries_ne_panic s es)
  | gset xs =>
    cases s
    · cases xs
      · nofun
      · exact Out.map_ne_panic (fromList_ne_panic false _)
    · nofun
  | tuple as =>
    match as with
    | [] => nofun
    | [(n, x)] =>
      cases s
      · exact Out.map_ne_panic (fromArrai_ne_panic false x)
      · exact strictTagged_ne_panic (arrFromArrai_ne_panic true x)
    | a :: b :: r =>
      cases s
      · exact Out.map_ne_panic (fromAttrs_ne_panic false (a :: b :: r))
      · nofun
theorem arrFromArrai_ne_panic (s : Bool) (v : R) : arrFromArrai s v ≠ .panic := by
  cases v with
  | arr o xs | gset xs => exact Out.map_ne_panic (fromList_ne_panic s xs)
  | str o l | bytes o l | dict l => cases l <;> nofun
  | _ => nofun
theorem fromList_ne_panic (s : Bool) (xs : List R) : fromList s xs ≠ .panic := by
  cases xs with
  | nil => nofun
  | cons x r => exact consOut_ne_panic (fromArrai_ne_panic s x) (fromList_ne_panic s r)
theorem fromAttrs_ne_panic (s : Bool) (as : List (Key × R)) : fromAttrs s as ≠ .panic := by
  cases as with
  | nil => nofun
  | cons p r =>
    exact consOut_ne_panic (Out.map_ne_panic (fromArrai_ne_panic s p.2)) (fromAttrs_ne_panic s r)
theorem fromEntries_ne_panic (s : Bool) (es : List (R × R)) : fromEntries s es ≠ .panic := by
  cases es with
  | nil => nofun
  | cons p r =>
    exact entryStep_ne_panic (fromArrai_ne_panic s p.1) (fromArrai_ne_panic s p.2) (fromEntries_ne_panic s r)
end

end NoPanic

end Arrai.C13
