/-
  C13 — the server wire format (`rel/json.go`): `jsonUnescape ∘ jsonEscape` on the class `wireOk`.
-/
import Arrai.C13.Base
import Arrai.Core.ListLemmas

namespace Arrai.C13

section WireRt
open Impl Impl.Wire Spec

theorem escapeAttrs_eq (as : List (Key × R)) : escapeAttrs as = mapVal escape as :=
  eq_map_of rfl (fun ⟨_, _⟩ _ => rfl) as

theorem keys_escapeAttrs (as : List (Key × R)) : keys (escapeAttrs as) = keys as := by
  rw [escapeAttrs_eq, keys_mapVal]

theorem finish2_of_ne {i v : R} {as : List (Key × R)} {n : Key}
    (h1 : n ≠ kChar) (h2 : n ≠ kByte) (h3 : n ≠ kItem) (h4 : n ≠ kValue) :
    finish2 i n v as = .ok (.tuple as) := by
  simp only [finish2, h1, h2, h3, h4, if_false]

theorem finishTuple_of_not_sugar {as : List (Key × R)} (h : sugarShaped as = false) :
    finishTuple as = .ok (.tuple as) := by
  unfold finishTuple
  split
  · simp only [sugarShaped, Bool.or_eq_false_iff, Bool.and_eq_false_imp, decide_eq_true_eq,
      decide_eq_false_iff_not] at h
    split
    · next hAt =>
      obtain ⟨⟨⟨h1, h2⟩, h3⟩, h4⟩ := h.1 hAt
      exact finish2_of_ne h1 h2 h3 h4
    · split
      · next hAt =>
        obtain ⟨⟨⟨h1, h2⟩, h3⟩, h4⟩ := h.2 hAt
        exact finish2_of_ne h1 h2 h3 h4
      · rfl
  · rfl

/-- one statement for the branches of `unescape` by number of members -/
theorem unescape_obj {kvs : List (Key × J)} (h : kSet ∉ keys kvs) :
    unescape (.obj kvs) = (unescapeKvs kvs).bind fun as => finishTuple (lastWins as) := by
  match kvs, h with
  | [], _ => rfl
  | [(k, v)], h =>
    have hk : k ≠ kSet := fun e => h (by simp [e])
    simp only [unescape, unescapeSingle, hk, if_false, unescapeKvs]
    cases unescape v <;> rfl
  | a :: b :: r, h => simp only [unescape, h, if_false]

mutual
theorem wire_rt (v : R) (h : wireOk v = true) : unescape (escape v) = .ok v := by
  cases v with
  | num | charT | byteT | empty | tt => rfl
  | tuple as =>
    simp only [wireOk, Bool.and_eq_true, Bool.not_eq_true'] at h
    obtain ⟨⟨⟨hnd, hres⟩, hsug⟩, has⟩ := h
    have hres' : kSet ∉ keys (escapeAttrs as) := by rw [keys_escapeAttrs]; simpa using hres
    rw [escape, lastWins_of_nodup (keys_escapeAttrs as ▸ hnd), unescape_obj hres', wire_rt_attrs as has,
      Out.bind_ok, lastWins_of_nodup hnd]
    exact finishTuple_of_not_sugar hsug
  | itemT i x =>
    have hx : wireOk x = true := h
    simp only [escape, unescape, unescapeKvs, wire_rt x hx]
    rfl  -- what is left is closed: comparisons of the key constants `@`, `@item`, `{||}`
  | entryT k x =>
    simp only [wireOk, Bool.and_eq_true] at h
    simp only [escape, unescape, unescapeKvs, wire_rt k h.1, wire_rt x h.2]
    rfl
  | str o cs =>
    simp only [wireOk, Bool.and_eq_true, decide_eq_true_eq, Bool.not_eq_true'] at h
    obtain ⟨rfl, hne⟩ := h
    cases cs with
    | nil => cases hne
    | cons => rfl
  | arr o xs =>
    simp only [wireOk, Bool.and_eq_true, decide_eq_true_eq, Bool.not_eq_true'] at h
    obtain ⟨⟨rfl, hne⟩, hxs⟩ := h
    simp only [escape, unescape, wire_rt_list xs hxs, Out.map_ok]
    cases xs with
    | nil => cases hne
    | cons => rfl
  | bytes | dict | gset => cases h
theorem wire_rt_list (xs : List R) (h : wireOkList xs = true) : unescapeList (escapeList xs) = .ok xs := by
  cases xs with
  | nil => rfl
  | cons x r =>
    simp only [wireOkList, Bool.and_eq_true] at h
    simp only [escapeList, unescapeList, wire_rt x h.1, wire_rt_list r h.2, consOut_ok, Out.map_ok]
theorem wire_rt_attrs (as : List (Key × R)) (h : wireOkAttrs as = true) :
    unescapeKvs (escapeAttrs as) = .ok as := by
  cases as with
  | nil => rfl
  | cons p r =>
    obtain ⟨k, x⟩ := p
    simp only [wireOkAttrs, Bool.and_eq_true] at h
    simp only [escapeAttrs, unescapeKvs, wire_rt x h.1, wire_rt_attrs r h.2, consOut_ok, Out.map_ok]
end
end WireRt

end Arrai.C13
