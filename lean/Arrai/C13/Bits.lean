/-
  C13 — `//bits` (`syntax/std_bits.go`): `set` and `mask` are inverse; `v & (v - 1)` clears bit `tz v`.
-/
import Arrai.C13.Model
import Arrai.Core.ListLemmas

namespace Arrai.C13.Impl.Bits

theorem tz_odd {v : Nat} (h : v % 2 = 1) : tz v = 0 := by
  rw [tz, dif_neg (fun h0 => by rw [h0] at h; cases h), if_pos h]

theorem tz_even {v : Nat} (h0 : v ≠ 0) (h : v % 2 = 0) : tz v = 1 + tz (v / 2) := by
  rw [tz, dif_neg h0, if_neg (by rw [h]; decide)]

theorem and_eq_two_mul {a b : Nat} (h : a % 2 = 0 ∨ b % 2 = 0) : a &&& b = 2 * (a / 2 &&& b / 2) := by
  have hA := Nat.div_add_mod (a &&& b) 2
  have hm : (a &&& b) % 2 = 0 := by
    refine (Nat.mod_two_eq_zero_or_one _).resolve_right fun h1 => ?_
    obtain ⟨ha, hb⟩ := Nat.and_mod_two_eq_one.1 h1
    rcases h with h | h
    · rw [ha] at h; cases h
    · rw [hb] at h; cases h
  rw [Nat.and_div_two, hm] at hA
  exact hA.symm

theorem two_pow_tz_add_and_pred (v : Nat) (h : v ≠ 0) : 2 ^ tz v + (v &&& (v - 1)) = v := by
  induction v using Nat.strongRecOn with
  | _ v ih =>
    have e0 (k : Nat) : 2 * k / 2 = k := Nat.mul_div_cancel_left k (by decide)
    have e1 (k : Nat) : (2 * k + 1) / 2 = k := Nat.mul_add_div (by decide) k 1
    have o0 (k : Nat) : 2 * k % 2 = 0 := Nat.mul_mod_right 2 k
    have o1 (k : Nat) : (2 * k + 1) % 2 = 1 := Nat.mul_add_mod 2 k 1
    obtain ⟨w, rfl⟩ := Nat.exists_eq_succ_of_ne_zero h
    obtain ⟨k, rfl | rfl⟩ : ∃ k, w = 2 * k ∨ w = 2 * k + 1 := ⟨w / 2, by omega⟩
    · change 2 ^ tz (2 * k + 1) + (2 * k + 1 &&& 2 * k) = 2 * k + 1
      rw [and_eq_two_mul (.inr (o0 k)), tz_odd (o1 k), e1, e0, Nat.and_self, Nat.pow_zero, Nat.add_comm]
    · change 2 ^ tz (2 * (k + 1)) + (2 * (k + 1) &&& 2 * k + 1) = 2 * (k + 1)
      have hne : 2 * (k + 1) ≠ 0 := Nat.mul_ne_zero (by decide) (Nat.succ_ne_zero k)
      have hk := ih (k + 1) (by omega) (Nat.succ_ne_zero k)
      rw [and_eq_two_mul (.inl (o0 (k + 1))), tz_even hne (o0 (k + 1)), e0, e1, Nat.pow_add, Nat.pow_one,
        ← Nat.mul_add]
      exact congrArg (2 * ·) hk

theorem setLoop_zero : setLoop 0 = [] := by rw [setLoop, dif_pos rfl]

theorem setLoop_of_ne {v : Nat} (h : v ≠ 0) : setLoop v = tz v :: setLoop (v &&& (v - 1)) := by
  rw [setLoop, dif_neg h]

theorem mask_setLoop (v : Nat) : mask (setLoop v) = v := by
  induction v using Nat.strongRecOn with
  | _ v ih =>
    by_cases h : v = 0
    · rw [h, setLoop_zero]; rfl
    · rw [setLoop_of_ne h, mask, ih _ (and_pred_lt v h)]
      exact two_pow_tz_add_and_pred v h

theorem dvd_mask {a : Nat} : ∀ r : List Nat, (∀ x ∈ r, a ≤ x) → 2 ^ a ∣ mask r :=
  forall_mem_rec (by simp [mask]) fun _ _ hx ih => Nat.dvd_add (Nat.pow_dvd_pow 2 hx) ih

theorem tz_two_pow_mul (s : Nat) {a : Nat} (ha : a % 2 = 1) : tz (2 ^ s * a) = s := by
  induction s with
  | zero => rw [Nat.pow_zero, Nat.one_mul]; exact tz_odd ha
  | succ s ih =>
    have ha0 : a ≠ 0 := fun h0 => by rw [h0] at ha; cases ha
    have hne : 2 * (2 ^ s * a) ≠ 0 :=
      Nat.mul_ne_zero (by decide) (Nat.mul_ne_zero (Nat.ne_of_gt (Nat.pow_pos (by decide))) ha0)
    rw [Nat.pow_succ, Nat.mul_right_comm, Nat.mul_comm, tz_even hne (Nat.mul_mod_right 2 _),
      Nat.mul_div_cancel_left _ (by decide), ih, Nat.add_comm]

theorem setLoop_mask (S : List Nat) (h : S.Pairwise (· < ·)) : setLoop (mask S) = S := by
  induction S with
  | nil => exact setLoop_zero
  | cons s r ih =>
    rw [List.pairwise_cons] at h
    -- the bits above `s` contribute a multiple of `2 ^ (s + 1)`, so bit `s` is the lowest one set
    obtain ⟨m, hm⟩ := dvd_mask (a := s + 1) r h.1
    have e : mask (s :: r) = 2 ^ s * (2 * m + 1) := by
      rw [mask, hm, Nat.pow_succ, Nat.mul_assoc, Nat.mul_add, Nat.mul_one, Nat.add_comm]
    have hne : mask (s :: r) ≠ 0 :=
      e ▸ Nat.mul_ne_zero (Nat.ne_of_gt (Nat.pow_pos (by decide))) (Nat.succ_ne_zero _)
    have htz : tz (mask (s :: r)) = s := e ▸ tz_two_pow_mul s (Nat.mul_add_mod 2 m 1)
    have hc := two_pow_tz_add_and_pred _ hne
    rw [htz] at hc
    have hc : mask (s :: r) &&& (mask (s :: r) - 1) = mask r := Nat.add_left_cancel hc
    rw [setLoop_of_ne hne, htz, hc, ih h.2]

theorem mask_add_le {S : List Nat} {a b : Nat} (hab : a ≤ b) (hs : S.Pairwise (· < ·))
    (hb : ∀ x ∈ S, a ≤ x ∧ x < b) : mask S + 2 ^ a ≤ 2 ^ b := by
  induction S generalizing a with
  | nil => rw [mask, Nat.zero_add]; exact Nat.pow_le_pow_right (by decide) hab
  | cons s r ih =>
    rw [List.pairwise_cons] at hs
    obtain ⟨has, hsb⟩ := hb s List.mem_cons_self
    have h1 := ih (a := s + 1) hsb hs.2 fun x hx => ⟨hs.1 x hx, (hb x (List.mem_cons_of_mem _ hx)).2⟩
    have h2 : 2 ^ a ≤ 2 ^ s := Nat.pow_le_pow_right (by decide) has
    rw [Nat.pow_succ] at h1
    rw [mask]; omega

theorem mask_lt {S : List Nat} {b : Nat} (hs : S.Pairwise (· < ·)) (hb : ∀ x ∈ S, x < b) : mask S < 2 ^ b :=
  mask_add_le (a := 0) (Nat.zero_le b) hs fun x hx => ⟨Nat.zero_le x, hb x hx⟩

end Arrai.C13.Impl.Bits
