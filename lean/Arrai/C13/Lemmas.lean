/-
  C13 — one lemma module per codec, side by side: `Json` (the translator) and `Wire` over `Base` (Go map semantics,
  the result type `Out`), `Bits` and `Csv` over `Model`.
-/
import Arrai.C13.Json
import Arrai.C13.Wire
import Arrai.C13.Bits
import Arrai.C13.Csv
