/-
  C13 — `//encoding.csv`: the character-level reader run over what the writer produced, field by field,
  record by record, up to `parse_writeAll`; then the round trip of a value the encoder accepts, `roundTrip_of_matrixOf`.
-/
import Arrai.C13.Model
import Arrai.Core.ListLemmas

namespace Arrai.C13.Impl.Csv
open Spec

/-- what the proofs need of a valid delimiter: not a quote, CR or LF (Go's `validDelim` also excludes 0, U+FFFD and
invalid runes) -/
structure ValidSep (sep : Nat) : Prop where
  ne10 : sep ≠ 10
  ne13 : sep ≠ 13
  ne34 : sep ≠ 34

/-- a character that needs no quoting -/
def plain (sep c : Nat) : Prop := c ≠ 10 ∧ c ≠ 13 ∧ c ≠ 34 ∧ c ≠ sep

/-- state after a complete field, given its terminator -/
def afterField (sep : Nat) (row : List Key) (out : List (List Key)) (wd : Option Nat) (t : Nat) : St :=
  if t = sep then ⟨.sof, false, [], row, out, wd⟩ else St.endRecord ⟨.sof, false, [], row, out, wd⟩

/-- the pending '\r' of a quoted field, made part of the field -/
def flushed (cr : Bool) (fld : Key) : Key := if cr then 13 :: fld else fld

variable {sep : Nat} {fld : Key} {row : List Key} {out : List (List Key)} {wd : Option Nat}

theorem afterField_sep : afterField sep row out wd sep = ⟨.sof, false, [], row, out, wd⟩ := if_pos rfl

theorem afterField_newline (hs : ValidSep sep) :
    afterField sep row out wd 10 = St.endRecord ⟨.sof, false, [], row, out, wd⟩ := if_neg (Ne.symm hs.ne10)

@[simp] theorem flushed_false : flushed false fld = fld := rfl
@[simp] theorem flushed_true : flushed true fld = 13 :: fld := rfl

theorem endRecord_mode (m1 m2 : Mode) :
    St.endRecord ⟨m1, false, fld, row, out, wd⟩ = St.endRecord ⟨m2, false, fld, row, out, wd⟩ := by
  cases wd <;> simp [St.endRecord, St.fail]

theorem step_plain_unq {c : Nat} (hc : plain sep c) :
    step sep ⟨.unq, false, fld, row, out, wd⟩ c = ⟨.unq, false, c :: fld, row, out, wd⟩ := by
  obtain ⟨h10, h13, h34, hs⟩ := hc
  simp [step, feed, h10, h13, h34, hs]

theorem step_plain_start {md : Mode} (hmd : md = .sor ∨ md = .sof) {c : Nat} (hc : plain sep c) :
    step sep ⟨md, false, [], row, out, wd⟩ c = ⟨.unq, false, [c], row, out, wd⟩ := by
  obtain ⟨h10, h13, h34, hs⟩ := hc
  rcases hmd with rfl | rfl <;> simp [step, feed, h10, h13, h34, hs]

theorem step_quote_start {md : Mode} (hmd : md = .sor ∨ md = .sof) :
    step sep ⟨md, false, [], row, out, wd⟩ 34 = ⟨.inq, false, [], row, out, wd⟩ := by
  rcases hmd with rfl | rfl <;> rfl

theorem step_term (hs : ValidSep sep) {md : Mode} (hmd : md = .unq ∨ md = .qq) {t : Nat} (ht : t = sep ∨ t = 10) :
    step sep ⟨md, false, fld, row, out, wd⟩ t = afterField sep (fld.reverse :: row) out wd t := by
  obtain ⟨h10, h13, h34⟩ := hs
  rcases ht with rfl | rfl
  · rw [afterField_sep]
    rcases hmd with rfl | rfl <;> simp [step, feed, St.endField, h10, h13, h34]
  · rw [afterField_newline ⟨h10, h13, h34⟩]
    rcases hmd with rfl | rfl <;> simp [step, feed, St.endField, Ne.symm h10, endRecord_mode _ .sof]

/-- `hblank`: a newline at the start of a record is an empty line, which the reader skips -/
theorem step_term_empty (hs : ValidSep sep) {md : Mode} (hmd : md = .sor ∨ md = .sof) {t : Nat} (ht : t = sep ∨ t = 10)
    (hblank : md = .sor → t ≠ 10) :
    step sep ⟨md, false, [], row, out, wd⟩ t = afterField sep ([] :: row) out wd t := by
  obtain ⟨h10, h13, h34⟩ := hs
  rcases ht with rfl | rfl
  · rw [afterField_sep]
    rcases hmd with rfl | rfl <;> simp [step, feed, St.endField, h10, h13, h34]
  · rw [afterField_newline ⟨h10, h13, h34⟩]
    rcases hmd with rfl | rfl
    · exact absurd rfl (hblank rfl)
    · simp [step, feed, St.endField]

theorem step_inq_flush {cr : Bool} {c : Nat} (h : cr = true → c ≠ 10) :
    step sep ⟨.inq, cr, fld, row, out, wd⟩ c = step sep ⟨.inq, false, flushed cr fld, row, out, wd⟩ c := by
  cases cr with
  | false => rfl
  | true =>
    have h10 := h rfl
    by_cases h13 : c = 13
    · simp [step, feed, h13]
    · by_cases h34 : c = 34
      · simp [step, feed, h34]
      · simp [step, feed, h10, h13, h34]

theorem step_inq {c : Nat} (h13 : c ≠ 13) (h34 : c ≠ 34) :
    step sep ⟨.inq, false, fld, row, out, wd⟩ c = ⟨.inq, false, c :: fld, row, out, wd⟩ := by
  simp [step, feed, h13, h34]

theorem step_inq_cr : step sep ⟨.inq, false, fld, row, out, wd⟩ 13 = ⟨.inq, true, fld, row, out, wd⟩ := rfl

theorem step_inq_quote : step sep ⟨.inq, false, fld, row, out, wd⟩ 34 = ⟨.qq, false, fld, row, out, wd⟩ := rfl

theorem step_qq_quote :
    step sep ⟨.qq, false, fld, row, out, wd⟩ 34 = ⟨.inq, false, 34 :: fld, row, out, wd⟩ := rfl

theorem run_unq : ∀ (g : Key), (∀ c ∈ g, plain sep c) → ∀ fld : Key,
    g.foldl (step sep) ⟨.unq, false, fld, row, out, wd⟩ = ⟨.unq, false, g.reverse ++ fld, row, out, wd⟩ := by
  refine forall_mem_rec (fun _ => rfl) fun c r hc ih fld => ?_
  rw [List.foldl_cons, step_plain_unq hc, ih, List.reverse_cons, List.append_assoc]
  rfl

theorem hasCRLF_cons_eq_false {c : Nat} {r : Key} (h : hasCRLF (c :: r) = false) :
    hasCRLF r = false ∧ (c = 13 → r.head? ≠ some 10) := by
  unfold hasCRLF at h
  split at h
  · cases h
  · next hne e =>
    cases e
    refine ⟨h, fun hc hd => ?_⟩
    cases r with
    | nil => cases hd
    | cons d t => cases hd; exact hne t hc rfl
  · contradiction

/-- reading the rest of a quoted field, the closing quote and the terminator -/
theorem run_inq (hs : ValidSep sep) (f : Key) (hf : hasCRLF f = false) (cr : Bool)
    (hcr : cr = true → f.head? ≠ some 10) {t : Nat} (ht : t = sep ∨ t = 10) (rest : Key) :
    (escField f ++ 34 :: t :: rest).foldl (step sep) ⟨.inq, cr, fld, row, out, wd⟩
      = rest.foldl (step sep) (afterField sep (((flushed cr fld).reverse ++ f) :: row) out wd t) := by
  induction f generalizing cr fld with
  | nil =>
    rw [escField, List.nil_append, List.foldl_cons, List.foldl_cons,
      step_inq_flush (fun _ => by decide), step_inq_quote, step_term hs (.inr rfl) ht, List.append_nil]
  | cons c r ih =>
    obtain ⟨hr, hhead⟩ := hasCRLF_cons_eq_false hf
    have hc10 : cr = true → c ≠ 10 := fun h e => hcr h (by rw [e]; rfl)
    by_cases h34 : c = 34
    · subst h34
      rw [escField, if_pos rfl, List.cons_append, List.cons_append, List.foldl_cons, List.foldl_cons,
        step_inq_flush hc10, step_inq_quote, step_qq_quote, ih hr false nofun]
      simp
    · rw [escField, if_neg h34, List.cons_append, List.foldl_cons, step_inq_flush hc10]
      by_cases h13 : c = 13
      · subst h13
        rw [step_inq_cr, ih hr true fun _ => hhead rfl]
        simp
      · rw [step_inq h13 h34, ih hr false nofun]
        simp

theorem plain_of_not_needsQuotes {f : Key} (h : needsQuotes sep f = false) : ∀ c ∈ f, plain sep c := by
  intro c hc
  unfold needsQuotes at h
  split at h
  · cases f with
    | nil => cases hc
    | cons => contradiction
  split at h
  · cases h
  split at h
  · cases h
  · rename_i hany
    have hp := Bool.eq_false_iff.2 fun hpc => hany (List.any_eq_true.2 ⟨c, hc, hpc⟩)
    simp only [Bool.or_eq_false_iff, decide_eq_false_iff_not, and_assoc] at hp
    exact hp

theorem run_field (hs : ValidSep sep) {md : Mode} (hmd : md = .sor ∨ md = .sof) (f : Key)
    (hf : hasCRLF f = false) {t : Nat} (ht : t = sep ∨ t = 10) (hblank : md = .sor → ¬ (f = [] ∧ t = 10))
    (rest : Key) :
    (writeField sep f ++ t :: rest).foldl (step sep) ⟨md, false, [], row, out, wd⟩
      = rest.foldl (step sep) (afterField sep (f :: row) out wd t) := by
  unfold writeField
  split
  · rw [List.cons_append, List.append_assoc, List.foldl_cons, step_quote_start hmd]
    exact run_inq hs f hf false nofun ht rest
  · next hq =>
    cases f with
    | nil => rw [List.nil_append, List.foldl_cons, step_term_empty hs hmd ht fun h e => hblank h ⟨rfl, e⟩]
    | cons c r =>
      obtain ⟨hc, hr⟩ := List.forall_mem_cons.1 (plain_of_not_needsQuotes (Bool.eq_false_iff.2 hq))
      rw [List.cons_append, List.foldl_cons, step_plain_start hmd hc, List.foldl_append, run_unq r hr,
        List.foldl_cons, step_term hs (.inl rfl) ht]
      simp

/-- the fields of one record up to the end of the line -/
theorem run_fields (hs : ValidSep sep) (fs : List Key) {md : Mode} (hmd : md = .sor ∨ md = .sof) (f : Key)
    (hf : hasCRLF f = false) (hfs : ∀ g ∈ fs, hasCRLF g = false) (hb : md = .sor → ¬ (f = [] ∧ fs = []))
    (rest : Key) :
    (writeField sep f ++ (writeFields sep fs ++ 10 :: rest)).foldl (step sep) ⟨md, false, [], row, out, wd⟩
      = rest.foldl (step sep) (St.endRecord ⟨.sof, false, [], (f :: fs).reverse ++ row, out, wd⟩) := by
  induction fs generalizing md f row with
  | nil =>
    rw [writeFields, List.nil_append, run_field hs hmd f hf (.inr rfl) (fun h ⟨h1, _⟩ => hb h ⟨h1, rfl⟩),
      afterField_newline hs]
    rfl
  | cons g gs ih =>
    obtain ⟨hg, hgs⟩ := List.forall_mem_cons.1 hfs
    rw [writeFields, List.cons_append, List.append_assoc,
      run_field hs hmd f hf (.inl rfl) (fun _ ⟨_, h2⟩ => hs.ne10 h2), afterField_sep,
      ih (.inr rfl) g hg hgs nofun, List.reverse_cons (a := f), List.append_assoc]
    rfl

theorem endRecord_of_width {md : Mode} (h : ∀ w, wd = some w → w = row.length) :
    St.endRecord ⟨md, false, fld, row, out, wd⟩
      = ⟨.sor, false, fld, [], row.reverse :: out, some row.length⟩ := by
  cases wd with
  | none => simp [St.endRecord]
  | some w => simp [St.endRecord, h w rfl]

theorem run_record (hs : ValidSep sep) (r : List Key) (hcr : ∀ g ∈ r, hasCRLF g = false)
    (hb : ¬ (r = [] ∨ r = [[]])) (hw : ∀ w, wd = some w → w = r.length) (rest : Key) :
    (writeRecord sep r ++ rest).foldl (step sep) ⟨.sor, false, [], [], out, wd⟩
      = rest.foldl (step sep) ⟨.sor, false, [], [], r :: out, some r.length⟩ := by
  cases r with
  | nil => exact absurd (.inl rfl) hb
  | cons f fs =>
    obtain ⟨hf, hfs⟩ := List.forall_mem_cons.1 hcr
    rw [writeRecord, List.append_assoc, List.append_assoc, List.singleton_append,
      run_fields hs fs (.inl rfl) f hf hfs (fun _ ⟨e1, e2⟩ => hb (.inr (by rw [e1, e2]))),
      List.append_nil, endRecord_of_width (fun w e => (hw w e).trans List.length_reverse.symm), List.reverse_reverse,
      List.length_reverse]

/-- the width the reader ends with is left open: `finish` does not look at it -/
theorem run_rows (hs : ValidSep sep) (m : List (List Key)) {L : Nat} (hL : ∀ r ∈ m, r.length = L)
    (hw : ∀ w, wd = some w → w = L) (hcr : ∀ r ∈ m, ∀ g ∈ r, hasCRLF g = false)
    (hbl : ∀ r ∈ m, ¬ (r = [] ∨ r = [[]])) :
    ∃ wd', (writeAll sep m).foldl (step sep) ⟨.sor, false, [], [], out, wd⟩
      = ⟨.sor, false, [], [], m.reverse ++ out, wd'⟩ := by
  induction m generalizing out wd with
  | nil => exact ⟨wd, rfl⟩
  | cons r rs ih =>
    obtain ⟨hr, hrs⟩ := List.forall_mem_cons.1 hL
    obtain ⟨hcr, hcrs⟩ := List.forall_mem_cons.1 hcr
    obtain ⟨hb, hbls⟩ := List.forall_mem_cons.1 hbl
    obtain ⟨wd', h2⟩ := ih (out := r :: out) (wd := some r.length) hrs
      (fun w e => (Option.some.inj e).symm.trans hr) hcrs hbls
    refine ⟨wd', ?_⟩
    rw [writeAll, run_record hs r hcr hb (fun w e => (hw w e).trans hr.symm), h2, List.reverse_cons,
      List.append_assoc]
    rfl

theorem parse_writeAll (hs : ValidSep sep) (m : List (List Key)) (h : csvOk m = true) :
    parse sep (writeAll sep m) = .ok m := by
  simp only [csvOk, Bool.and_eq_true] at h
  obtain ⟨⟨hrect, hcr⟩, hbl⟩ := h
  obtain ⟨L, hL⟩ : ∃ L, ∀ r ∈ m, r.length = L := by
    cases m with
    | nil => exact ⟨0, nofun⟩
    | cons r rs => exact ⟨r.length, List.forall_mem_cons.2 ⟨rfl, by simpa [rectangular] using hrect⟩⟩
  obtain ⟨wd', h2⟩ := run_rows (out := []) (wd := none) hs m hL nofun (by simpa [noCRLF] using hcr)
    (fun r hr => by simpa using List.all_eq_true.1 hbl r hr)
  simp [parse, St.init, h2, finish]

theorem asArray_newArray (xs : List R) : asArray (R.newArray xs) = some xs := by
  cases xs <;> simp [R.newArray, asArray]

theorem asString_newString (f : Key) : asString (R.newString f) = some f := by
  cases f <;> simp [R.newString, asString]

theorem fieldsOf_map (r : List Key) : fieldsOf (r.map R.newString) = some r := by
  induction r with
  | nil => rfl
  | cons f fs ih => simp [fieldsOf, asString_newString, ih]

theorem rowsOf_map (m : List (List Key)) :
    rowsOf (m.map (fun r => R.newArray (r.map R.newString))) = some m := by
  induction m with
  | nil => rfl
  | cons r rs ih => simp [rowsOf, asArray_newArray, fieldsOf_map, ih]

theorem matrixOf_matrixR (m : List (List Key)) : matrixOf (matrixR m) = some m := by
  simp [matrixOf, matrixR, asArray_newArray, rowsOf_map]

/-- `v` need not be the decoder's own `matrixR m`: `asArray`, `asString` ignore offsets -/
theorem roundTrip_of_matrixOf (hs : ValidSep sep) {v : R} {m : List (List Key)} (hm : matrixOf v = some m)
    (h : csvOk m = true) : roundTrip sep v = .ok (matrixR m) := by
  simp [roundTrip, encode, hm, Out.bind, decode, parse_writeAll hs m h, Out.map]

end Arrai.C13.Impl.Csv
