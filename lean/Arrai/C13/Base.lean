/-
  C13 — what the codec modules share: Go map semantics (`lastWins`, `keys`, and `mapVal`, defined here, of a keyed
  list); the result type `Out` and the first-error loop step `consOut`.
-/
import Arrai.C13.Model

namespace Arrai.C13

/-! ## `lastWins`: Go map semantics -/
section LastWins
variable {α β : Type}

def mapVal (f : α → β) (l : List (Key × α)) : List (Key × β) := l.map (fun p => (p.1, f p.2))

@[simp] theorem mapVal_nil (f : α → β) : mapVal f [] = [] := rfl
@[simp] theorem mapVal_cons (f : α → β) (k : Key) (v : α) (l : List (Key × α)) :
    mapVal f ((k, v) :: l) = (k, f v) :: mapVal f l := rfl

@[simp] theorem keys_nil : keys ([] : List (Key × α)) = [] := rfl
@[simp] theorem keys_cons (k : Key) (v : α) (l : List (Key × α)) : keys ((k, v) :: l) = k :: keys l := rfl

@[simp] theorem keys_mapVal (f : α → β) (l : List (Key × α)) : keys (mapVal f l) = keys l := List.map_map

theorem lastWins_mapVal (f : α → β) (l : List (Key × α)) : lastWins (mapVal f l) = mapVal f (lastWins l) := by
  induction l with
  | nil => rfl
  | cons p r ih =>
    obtain ⟨k, v⟩ := p
    simp only [mapVal_cons, lastWins, keys_mapVal]
    split <;> simp [ih]

theorem lastWins_subset (l : List (Key × α)) : lastWins l ⊆ l := by
  induction l with
  | nil => exact List.Subset.refl _
  | cons q r ih =>
    obtain ⟨k, v⟩ := q
    rw [lastWins]
    split
    · exact List.subset_cons_of_subset _ ih
    · exact List.cons_subset_cons _ ih

theorem mem_keys_lastWins {k : Key} {l : List (Key × α)} : k ∈ keys (lastWins l) ↔ k ∈ keys l := by
  induction l with
  | nil => rfl
  | cons q r ih =>
    obtain ⟨k', v⟩ := q
    rw [lastWins]
    split
    · next hk =>
      rw [ih, keys_cons, List.mem_cons]
      constructor
      · exact .inr
      · rintro (rfl | h)
        · exact hk
        · exact h
    · simp [ih]

theorem nodup_keys_lastWins (l : List (Key × α)) : nodupKeyList (keys (lastWins l)) = true := by
  induction l with
  | nil => rfl
  | cons q r ih =>
    obtain ⟨k, v⟩ := q
    simp only [lastWins]
    split
    · exact ih
    · next hk => simp [nodupKeyList, mem_keys_lastWins, hk, ih]

theorem lastWins_of_nodup {l : List (Key × α)} (h : nodupKeyList (keys l) = true) : lastWins l = l := by
  induction l with
  | nil => rfl
  | cons q r ih =>
    obtain ⟨k, v⟩ := q
    simp only [keys_cons, nodupKeyList, Bool.and_eq_true, Bool.not_eq_true', List.contains_eq_mem, decide_eq_false_iff_not] at h
    simp [lastWins, h.1, ih h.2]

theorem lastWins_idem (l : List (Key × α)) : lastWins (lastWins l) = lastWins l :=
  lastWins_of_nodup (nodup_keys_lastWins l)

theorem isEmpty_lastWins (l : List (Key × α)) : (lastWins l).isEmpty = l.isEmpty := by
  cases l with
  | nil => rfl
  | cons q r =>
    have h : q.1 ∈ keys (lastWins (q :: r)) := mem_keys_lastWins.2 List.mem_cons_self
    cases e : lastWins (q :: r) with
    | nil => rw [e] at h; cases h
    | cons => rfl

theorem mapVal_mapVal {γ : Type} (f : α → β) (g : β → γ) (l : List (Key × α)) :
    mapVal g (mapVal f l) = mapVal (fun a => g (f a)) l := by
  simp [mapVal]

theorem mapVal_congr {f g : α → β} {l : List (Key × α)} (h : ∀ p ∈ l, f p.2 = g p.2) :
    mapVal f l = mapVal g l := by
  apply List.map_congr_left
  intro p hp; rw [h p hp]

end LastWins

theorem nodupKeyList_iff (ks : List Key) : nodupKeyList ks = true ↔ ks.Nodup := by
  induction ks with
  | nil => simp [nodupKeyList]
  | cons k r ih => simp [nodupKeyList, ih]

section Out
open Impl

@[simp] theorem Out.map_ok {α β : Type} (f : α → β) (a : α) : (Out.ok a).map f = .ok (f a) := rfl
@[simp] theorem Out.bind_ok {α β : Type} (f : α → Out β) (a : α) : (Out.ok a).bind f = f a := rfl

@[simp] theorem consOut_ok {α : Type} (a : α) (t : Out (List α)) :
    Impl.consOut (.ok a) t = t.map (a :: ·) := rfl

theorem Out.map_eq_ok {α β : Type} {x : Out α} {f : α → β} {b : β} :
    x.map f = .ok b ↔ ∃ a, x = .ok a ∧ f a = b := by
  cases x <;> simp [Out.map]

theorem consOut_eq_ok {α : Type} {h : Out α} {t : Out (List α)} {l : List α} :
    consOut h t = .ok l ↔ ∃ a l', h = .ok a ∧ t = .ok l' ∧ a :: l' = l := by
  cases h with
  | ok a => simp [Out.map_eq_ok]
  | err | panic => simp [consOut]

theorem Out.map_ne_panic {α β : Type} {x : Out α} {f : α → β} (h : x ≠ .panic) : x.map f ≠ .panic := by
  cases x with
  | ok | err => nofun
  | panic => exact absurd rfl h

theorem consOut_ne_panic {α : Type} {h : Out α} {t : Out (List α)} (h1 : h ≠ .panic) (h2 : t ≠ .panic) :
    consOut h t ≠ .panic := by
  cases h with
  | ok a => exact Out.map_ne_panic h2
  | err => nofun
  | panic => exact absurd rfl h1

theorem ite_ne_panic {α : Type} {c : Prop} [Decidable c] {a b : Out α} (ha : a ≠ .panic) (hb : b ≠ .panic) :
    (if c then a else b) ≠ .panic := by
  split <;> assumption

end Out

end Arrai.C13
