/-
  Keyed sequences, the lemma library: slots `List (Option α)` read from an offset denote a finite partial function
  index ↦ element (`kden`, enumerated by increasing index); every list surgery of the Go methods erases or puts one
  index of it, cells with both ends present are determined by what they denote (`kden_inj`), and `build` holds exactly
  the pairs it is given when no index is claimed twice (`mem_kden_build`).  A tagged sequence
  `(kden vs off).map (fun p => mk p.1 p.2)`, `mk` injective, is how String, Bytes and Array enumerate their members.
-/
import Arrai.C01.KSeqModel
import Arrai.Core.CanonLemmas

namespace Arrai.C01
open Arrai

theorem toNat_add_sub_self (off : Int) (n : Nat) : (off + ↑n - off).toNat = n := by omega

/-! ## keyed sequences -/
namespace KSeq
variable {α : Type}

theorem kget_nil (n : Nat) : kget ([] : List (Option α)) n = none := by simp [kget]
theorem kget_cons_zero (v : Option α) (r : List (Option α)) : kget (v :: r) 0 = v := by
  cases v <;> simp [kget]
theorem kget_cons_succ (v : Option α) (r : List (Option α)) (n : Nat) : kget (v :: r) (n + 1) = kget r n := by
  simp [kget]

theorem kget_of_ge (vs : List (Option α)) (n : Nat) (h : vs.length ≤ n) : kget vs n = none := by
  simp [kget, List.getElem?_eq_none h]

theorem kget_mem {vs : List (Option α)} {n : Nat} {x : α} (h : kget vs n = some x) : some x ∈ vs := by
  unfold kget at h
  cases hv : vs[n]? with
  | none => rw [hv] at h; cases h
  | some o =>
    rw [hv] at h
    cases (show o = some x from h)
    exact List.mem_of_getElem? hv

theorem kget_eq_some {vs : List (Option α)} {n : Nat} {x : α} : kget vs n = some x ↔ vs[n]? = some (some x) := by
  unfold kget
  cases vs[n]? with
  | none => exact ⟨nofun, nofun⟩
  | some o => exact ⟨congrArg some, Option.some.inj⟩

theorem kget_map_some (b : List α) (n : Nat) : kget (b.map some) n = b[n]? := by
  unfold kget
  rw [List.getElem?_map]
  cases b[n]? <;> rfl

theorem kget_some_lt {vs : List (Option α)} {n : Nat} {x : α} (h : kget vs n = some x) : n < vs.length := by
  apply Classical.byContradiction
  intro hn
  rw [kget_of_ge vs n (by omega)] at h
  cases h

theorem mem_kden_nat (vs : List (Option α)) (off i : Int) (x : α) :
    (i, x) ∈ kden vs off ↔ ∃ n : Nat, i = off + n ∧ kget vs n = some x := by
  induction vs generalizing off with
  | nil => simp [kden, kget_nil]
  | cons v r ih =>
    have step : (∃ n : Nat, i = off + n ∧ kget (v :: r) n = some x) ↔
        (i = off ∧ v = some x) ∨ ∃ n : Nat, i = off + 1 + n ∧ kget r n = some x := by
      constructor
      · rintro ⟨n, hi, hg⟩
        cases n with
        | zero => exact Or.inl ⟨by simpa using hi, by rwa [kget_cons_zero] at hg⟩
        | succ n => exact Or.inr ⟨n, by omega, by rwa [kget_cons_succ] at hg⟩
      · rintro (⟨hi, hv⟩ | ⟨n, hi, hg⟩)
        · exact ⟨0, by simpa using hi, by rwa [kget_cons_zero]⟩
        · exact ⟨n + 1, by omega, by rwa [kget_cons_succ]⟩
    rw [step, ← ih]
    cases v with
    | none => simp [kden]
    | some y => simp [kden, eq_comm]

/-- membership in the denotation: the index is in range and the slot holds the element -/
theorem mem_kden (vs : List (Option α)) (off i : Int) (x : α) :
    (i, x) ∈ kden vs off ↔ off ≤ i ∧ kget vs (i - off).toNat = some x := by
  rw [mem_kden_nat]
  constructor
  · rintro ⟨n, rfl, hg⟩
    exact ⟨by omega, by rwa [toNat_add_sub_self]⟩
  · rintro ⟨hle, hg⟩
    exact ⟨(i - off).toNat, by omega, hg⟩

theorem mem_kden_at {vs : List (Option α)} {n : Nat} {x : α} (off : Int) (h : kget vs n = some x) :
    (off + (n : Int), x) ∈ kden vs off := (mem_kden_nat vs off _ x).2 ⟨n, rfl, h⟩

/-- no two pairs put different elements at one index -/
def Functional (ps : List (Int × α)) : Prop := ∀ p q, p ∈ ps → q ∈ ps → p.1 = q.1 → p.2 = q.2

theorem Functional.nil : Functional ([] : List (Int × α)) := by intro p q hp; cases hp

theorem Functional.tail {p : Int × α} {ps : List (Int × α)} (h : Functional (p :: ps)) : Functional ps :=
  fun a b ha hb => h a b (List.mem_cons_of_mem _ ha) (List.mem_cons_of_mem _ hb)

theorem kden_elem {vs : List (Option α)} {off i : Int} {x : α} (h : (i, x) ∈ kden vs off) : some x ∈ vs := by
  obtain ⟨n, _, hg⟩ := (mem_kden_nat vs off i x).1 h
  exact kget_mem hg

theorem kden_lower (vs : List (Option α)) (off : Int) : ∀ p, p ∈ kden vs off → off ≤ p.1 := by
  intro p hp
  obtain ⟨i, x⟩ := p
  exact ((mem_kden vs off i x).1 hp).1

/-- indices strictly increase along the enumeration -/
theorem kden_pairwise (vs : List (Option α)) (off : Int) :
    (kden vs off).Pairwise (fun p q => p.1 < q.1) := by
  induction vs generalizing off with
  | nil => simp [kden]
  | cons v r ih =>
    cases v with
    | none => exact ih (off + 1)
    | some y =>
      simp only [kden, List.pairwise_cons]
      refine ⟨?_, ih (off + 1)⟩
      intro q hq
      have := kden_lower r (off + 1) q hq
      show off < q.1
      omega

theorem kden_upper {vs : List (Option α)} {off : Int} {p : Int × α} (hp : p ∈ kden vs off) :
    p.1 < off + vs.length := by
  obtain ⟨i, x⟩ := p
  obtain ⟨n, rfl, hg⟩ := (mem_kden_nat vs off i x).1 hp
  have := kget_some_lt hg
  show off + (n : Int) < _
  omega

theorem kden_functional (vs : List (Option α)) (off : Int) : Functional (kden vs off) := by
  rintro ⟨i, x⟩ ⟨j, y⟩ hp hq (rfl : i = j)
  have h1 := ((mem_kden vs off i x).1 hp).2
  rw [((mem_kden vs off i y).1 hq).2] at h1
  exact (Option.some.inj h1).symm

theorem length_kden (vs : List (Option α)) (off : Int) : (kden vs off).length = kcount vs := by
  induction vs generalizing off with
  | nil => rfl
  | cons v r ih => cases v <;> simp [kden, kcount, ih]

theorem kcount_map_some' (l : List α) : kcount (l.map some) = l.length := by
  induction l with
  | nil => rfl
  | cons a r ih => simp [kcount, ih]

theorem kholes_map_some (l : List α) : kholes (l.map some) = 0 := by
  induction l with
  | nil => rfl
  | cons a r ih => simp [kholes, ih]

theorem kcount_add_kholes (vs : List (Option α)) : kcount vs + kholes vs = vs.length := by
  induction vs with
  | nil => rfl
  | cons v r ih => cases v <;> simp [kcount, kholes] <;> omega

theorem kcount_pos_of_get {vs : List (Option α)} {n : Nat} {x : α} (h : kget vs n = some x) : 0 < kcount vs := by
  induction vs generalizing n with
  | nil => simp [kget_nil] at h
  | cons v r ih =>
    cases v with
    | some y => simp [kcount]
    | none =>
      cases n with
      | zero => simp [kget_cons_zero] at h
      | succ n => rw [kget_cons_succ] at h; simpa [kcount] using ih h

/-! ### `kget` of the list surgery the Go methods perform -/

theorem kget_append_left (a b : List (Option α)) (n : Nat) (h : n < a.length) : kget (a ++ b) n = kget a n := by
  simp [kget, List.getElem?_append_left h]

theorem kget_append_right (a b : List (Option α)) (n : Nat) (h : a.length ≤ n) :
    kget (a ++ b) n = kget b (n - a.length) := by
  simp [kget, List.getElem?_append_right h]

theorem kget_take (vs : List (Option α)) (k n : Nat) :
    kget (vs.take k) n = if n < k then kget vs n else none := by
  simp only [kget, List.getElem?_take]
  split <;> simp

theorem kget_set (vs : List (Option α)) (i n : Nat) (y : Option α) :
    kget (vs.set i y) n = if i = n ∧ n < vs.length then y else kget vs n := by
  simp only [kget, List.getElem?_set]
  by_cases h : i = n
  · subst h
    by_cases h2 : i < vs.length
    · simp [h2]
    · simp [h2]
  · simp [h]

theorem kget_replicate_none (k n : Nat) : kget (List.replicate k (none : Option α)) n = none := by
  simp only [kget, List.getElem?_replicate]
  split <;> simp

theorem kden_replicate_none (k : Nat) (off : Int) : kden (List.replicate k (none : Option α)) off = [] := by
  induction k generalizing off with
  | zero => rfl
  | succ k ih => simp [List.replicate_succ, kden, ih]

theorem mem_kden_set (vs : List (Option α)) (off : Int) (n : Nat) (o : Option α) (j : Int) (y : α) :
    (j, y) ∈ kden (vs.set n o) off ↔
      (j = off + (n : Int) ∧ n < vs.length ∧ o = some y) ∨ ((j, y) ∈ kden vs off ∧ j ≠ off + (n : Int)) := by
  simp only [mem_kden_nat, kget_set]
  constructor
  · rintro ⟨m, rfl, hg⟩
    by_cases he : n = m ∧ m < vs.length
    · rw [if_pos he] at hg
      exact Or.inl ⟨by rw [he.1], he.1 ▸ he.2, hg⟩
    · rw [if_neg he] at hg
      exact Or.inr ⟨⟨m, rfl, hg⟩, fun hc => he ⟨by omega, kget_some_lt hg⟩⟩
  · rintro (⟨rfl, hl, rfl⟩ | ⟨⟨m, rfl, hg⟩, hne⟩)
    · exact ⟨n, rfl, by rw [if_pos ⟨rfl, hl⟩]⟩
    · exact ⟨m, rfl, by rw [if_neg (fun he => hne (by rw [he.1]))]; exact hg⟩

/-! ### `trimFront` / `trimBack` keep the denotation -/

theorem kden_trimFront (vs : List (Option α)) (off : Int) :
    kden (trimFront vs off).1 (trimFront vs off).2 = kden vs off := by
  induction vs generalizing off with
  | nil => simp [trimFront]
  | cons v r ih =>
    cases v with
    | none => simp [trimFront, kden, ih]
    | some y => simp [trimFront]

theorem kden_trimBack (vs : List (Option α)) (off : Int) : kden (trimBack vs) off = kden vs off := by
  induction vs generalizing off with
  | nil => simp [trimBack]
  | cons v r ih =>
    simp only [trimBack]
    cases h : trimBack r with
    | nil =>
      have hr := ih (off + 1)
      rw [h] at hr
      cases v with
      | none => simp [kden, ← hr]
      | some y => simp [kden, ← hr]
    | cons w r' =>
      have hr := ih (off + 1)
      rw [h] at hr
      cases v with
      | none => simp [kden, hr]
      | some y => simp [kden, hr]

theorem kcount_trimFront (vs : List (Option α)) (off : Int) : kcount (trimFront vs off).1 = kcount vs := by
  rw [← length_kden _ (trimFront vs off).2, kden_trimFront, length_kden]

theorem kcount_trimBack (vs : List (Option α)) : kcount (trimBack vs) = kcount vs := by
  rw [← length_kden _ 0, kden_trimBack, length_kden]

theorem trimBack_kcount_pos (vs : List (Option α)) (h : trimBack vs ≠ []) : 0 < kcount (trimBack vs) := by
  induction vs with
  | nil => simp [trimBack] at h
  | cons x r ih =>
    simp only [trimBack] at h ⊢
    cases ht : trimBack r with
    | nil =>
      rw [ht] at h
      simp only at h ⊢
      cases x with
      | none => simp at h
      | some y => simp [kcount]
    | cons w t =>
      simp only
      have := ih (by rw [ht]; simp)
      rw [ht] at this
      cases x <;> simp [kcount] <;> omega

theorem kden_trim (vs : List (Option α)) (off : Int) :
    kden (trimBack (trimFront vs off).1) (trimFront vs off).2 = kden vs off := by
  rw [kden_trimBack, kden_trimFront]

theorem kcount_trim (vs : List (Option α)) (off : Int) : kcount (trimBack (trimFront vs off).1) = kcount vs := by
  rw [kcount_trimBack, kcount_trimFront]

/-! ### `build` (asString / asArray / asBytes) -/

theorem minAt_le (r : List (Int × α)) (m : Int) : minAt r m ≤ m ∧ ∀ p, p ∈ r → minAt r m ≤ p.1 := by
  induction r generalizing m with
  | nil => exact ⟨Int.le_refl _, fun p hp => nomatch hp⟩
  | cons q r ih =>
    obtain ⟨i, x⟩ := q
    obtain ⟨h1, h2⟩ := ih (if i < m then i else m)
    have hm : (if i < m then i else m) ≤ m ∧ (if i < m then i else m) ≤ i := by split <;> omega
    refine ⟨Int.le_trans h1 hm.1, fun p hp => ?_⟩
    rcases List.mem_cons.1 hp with rfl | hp
    · exact Int.le_trans h1 hm.2
    · exact h2 p hp

theorem le_maxAt (r : List (Int × α)) (m : Int) : m ≤ maxAt r m ∧ ∀ p, p ∈ r → p.1 ≤ maxAt r m := by
  induction r generalizing m with
  | nil => exact ⟨Int.le_refl _, fun p hp => nomatch hp⟩
  | cons q r ih =>
    obtain ⟨i, x⟩ := q
    obtain ⟨h1, h2⟩ := ih (if m < i then i else m)
    have hm : m ≤ (if m < i then i else m) ∧ i ≤ (if m < i then i else m) := by split <;> omega
    refine ⟨Int.le_trans hm.1 h1, fun p hp => ?_⟩
    rcases List.mem_cons.1 hp with rfl | hp
    · exact Int.le_trans hm.2 h1
    · exact h2 p hp

theorem length_fill (lo : Int) (ps : List (Int × α)) (base : List (Option α)) :
    (fill lo ps base).length = base.length := by
  induction ps generalizing base with
  | nil => rfl
  | cons p r ih => obtain ⟨i, x⟩ := p; simp [fill, ih]

theorem mem_kden_fill (lo : Int) (ps : List (Int × α)) (base : List (Option α)) (hf : Functional ps)
    (hr : ∀ p, p ∈ ps → lo ≤ p.1 ∧ p.1 < lo + base.length) (i : Int) (x : α) :
    (i, x) ∈ kden (fill lo ps base) lo ↔ (i, x) ∈ ps ∨ ((i, x) ∈ kden base lo ∧ ∀ y, (i, y) ∉ ps) := by
  induction ps generalizing base with
  | nil => exact ⟨fun h => Or.inr ⟨h, fun _ => List.not_mem_nil⟩, fun h => h.elim (fun h => nomatch h) And.left⟩
  | cons p r ih =>
    obtain ⟨j, c⟩ := p
    have hj := hr (j, c) List.mem_cons_self
    have hjn : lo + ((j - lo).toNat : Int) = j := by omega
    show (i, x) ∈ kden (fill lo r (base.set (j - lo).toNat (some c))) lo ↔ _
    rw [ih _ hf.tail (fun p hp => by rw [List.length_set]; exact hr p (List.mem_cons_of_mem _ hp)), mem_kden_set, hjn]
    simp only [List.mem_cons, Prod.mk.injEq, not_or]
    constructor
    · rintro (h | ⟨⟨rfl, _, e⟩ | ⟨h, hne⟩, hno⟩)
      · exact Or.inl (Or.inr h)
      · exact Or.inl (Or.inl ⟨rfl, (Option.some.inj e).symm⟩)
      · exact Or.inr ⟨h, fun y => ⟨fun e => hne e.1, hno y⟩⟩
    · rintro ((⟨rfl, rfl⟩ | h) | ⟨h, hno⟩)
      · -- a later pair on the same slot carries the same element
        by_cases hex : ∃ y, (i, y) ∈ r
        · obtain ⟨y, hy⟩ := hex
          exact Or.inl ((show y = x from hf (i, y) (i, x) (List.mem_cons_of_mem _ hy) List.mem_cons_self rfl) ▸ hy)
        · exact Or.inr ⟨Or.inl ⟨rfl, by omega, rfl⟩, fun y hy => hex ⟨y, hy⟩⟩
      · exact Or.inl h
      · exact Or.inr ⟨Or.inr ⟨h, fun e => (hno c).1 ⟨e, rfl⟩⟩, fun y => (hno y).2⟩

theorem build_length (p : Int × α) (r : List (Int × α)) :
    (build (p :: r)).1.length = (maxAt r p.1 - minAt r p.1 + 1).toNat := by
  obtain ⟨i, x⟩ := p
  simp [build, length_fill]

theorem build_off (p : Int × α) (r : List (Int × α)) : (build (p :: r)).2 = minAt r p.1 := by
  obtain ⟨i, x⟩ := p
  simp [build]

/-- the builders denote exactly the pairs they were given (when no index is claimed twice) -/
theorem mem_kden_build (ps : List (Int × α)) (hf : Functional ps) (i : Int) (x : α) :
    (i, x) ∈ kden (build ps).1 (build ps).2 ↔ (i, x) ∈ ps := by
  cases ps with
  | nil => simp [build, kden]
  | cons q r =>
    obtain ⟨i0, x0⟩ := q
    have hr : ∀ p, p ∈ (i0, x0) :: r → minAt r i0 ≤ p.1 ∧
        p.1 < minAt r i0 + (List.replicate (maxAt r i0 - minAt r i0 + 1).toNat (none : Option α)).length := by
      intro p hp
      rw [List.length_replicate]
      have h1 := minAt_le r i0
      have h2 := le_maxAt r i0
      rcases List.mem_cons.1 hp with rfl | hp
      · have := h1.1; have := h2.1; omega
      · have := h1.2 p hp; have := h2.2 p hp; omega
    show (i, x) ∈ kden (fill _ _ _) (minAt r i0) ↔ _
    rw [mem_kden_fill _ _ _ hf hr, kden_replicate_none]
    exact ⟨fun h => h.elim id (fun h => nomatch h.1), Or.inl⟩

theorem build_ne_nil (p : Int × α) (r : List (Int × α)) : (build (p :: r)).1 ≠ [] := by
  intro h
  have := build_length p r
  rw [h] at this
  have h1 := (minAt_le r p.1).1
  have h2 := (le_maxAt r p.1).1
  simp at this
  omega

theorem minAt_attained (r : List (Int × α)) (m : Int) : minAt r m = m ∨ ∃ p, p ∈ r ∧ p.1 = minAt r m := by
  induction r generalizing m with
  | nil => exact Or.inl rfl
  | cons q r ih =>
    obtain ⟨i, x⟩ := q
    simp only [minAt]
    split
    · rcases ih i with h | ⟨p, hp, he⟩
      · exact Or.inr ⟨(i, x), by simp, h.symm⟩
      · exact Or.inr ⟨p, List.mem_cons_of_mem _ hp, he⟩
    · rcases ih m with h | ⟨p, hp, he⟩
      · exact Or.inl h
      · exact Or.inr ⟨p, List.mem_cons_of_mem _ hp, he⟩

theorem maxAt_attained (r : List (Int × α)) (m : Int) : maxAt r m = m ∨ ∃ p, p ∈ r ∧ p.1 = maxAt r m := by
  induction r generalizing m with
  | nil => exact Or.inl rfl
  | cons q r ih =>
    obtain ⟨i, x⟩ := q
    simp only [maxAt]
    split
    · rcases ih i with h | ⟨p, hp, he⟩
      · exact Or.inr ⟨(i, x), by simp, h.symm⟩
      · exact Or.inr ⟨p, List.mem_cons_of_mem _ hp, he⟩
    · rcases ih m with h | ⟨p, hp, he⟩
      · exact Or.inl h
      · exact Or.inr ⟨p, List.mem_cons_of_mem _ hp, he⟩

/-- the indices claimed by the pairs form a contiguous range -/
def NoGap (ps : List (Int × α)) : Prop :=
  ∀ i, (∃ p q, p ∈ ps ∧ q ∈ ps ∧ p.1 ≤ i ∧ i ≤ q.1) → ∃ x, (i, x) ∈ ps

theorem NoGap.nil : NoGap ([] : List (Int × α)) := by
  rintro i ⟨p, q, hp, _⟩; cases hp

/-- a gap-free, non-superimposed list of pairs builds a slice without holes -/
theorem build_full (ps : List (Int × α)) (hf : Functional ps) (hg : NoGap ps) :
    ∀ n, n < (build ps).1.length → ∃ x, kget (build ps).1 n = some x := by
  cases ps with
  | nil => intro n hn; simp [build] at hn
  | cons q r =>
    intro n hn
    rw [build_length] at hn
    have hlo : ∃ p, p ∈ q :: r ∧ p.1 = minAt r q.1 := by
      rcases minAt_attained r q.1 with h | ⟨p, hp, he⟩
      · exact ⟨q, by simp, h.symm⟩
      · exact ⟨p, List.mem_cons_of_mem _ hp, he⟩
    have hhi : ∃ p, p ∈ q :: r ∧ p.1 = maxAt r q.1 := by
      rcases maxAt_attained r q.1 with h | ⟨p, hp, he⟩
      · exact ⟨q, by simp, h.symm⟩
      · exact ⟨p, List.mem_cons_of_mem _ hp, he⟩
    obtain ⟨p1, hp1, e1⟩ := hlo
    obtain ⟨p2, hp2, e2⟩ := hhi
    obtain ⟨x, hx⟩ := hg (minAt r q.1 + n) ⟨p1, p2, hp1, hp2, by omega, by omega⟩
    refine ⟨x, ?_⟩
    have := (mem_kden_build (q :: r) hf _ x).2 hx
    rw [mem_kden, build_off] at this
    rw [toNat_add_sub_self] at this
    exact this.2

/-! ### removing one element: slice at an end, hole in the middle -/

theorem mem_kden_drop_one (vs : List (Option α)) (off j : Int) (y : α) :
    (j, y) ∈ kden (vs.drop 1) (off + 1) ↔ (j, y) ∈ kden vs off ∧ j ≠ off := by
  cases vs with
  | nil => simp [kden]
  | cons v r =>
    have hlow : (j, y) ∈ kden r (off + 1) → j ≠ off := fun h => by
      have := kden_lower r (off + 1) _ h
      show j ≠ off
      omega
    cases v with
    | none => exact ⟨fun h => ⟨h, hlow h⟩, And.left⟩
    | some c =>
      show _ ↔ (j, y) ∈ (off, c) :: kden r (off + 1) ∧ _
      rw [List.mem_cons, Prod.mk.injEq]
      exact ⟨fun h => ⟨Or.inr h, hlow h⟩, fun h => h.1.resolve_left (fun e => h.2 e.1)⟩

theorem mem_kden_take (vs : List (Option α)) (k : Nat) (off j : Int) (y : α) :
    (j, y) ∈ kden (vs.take k) off ↔ (j, y) ∈ kden vs off ∧ j < off + k := by
  simp only [mem_kden_nat, kget_take]
  constructor
  · rintro ⟨n, rfl, hg⟩
    by_cases hn : n < k
    · rw [if_pos hn] at hg; exact ⟨⟨n, rfl, hg⟩, by omega⟩
    · rw [if_neg hn] at hg; cases hg
  · rintro ⟨⟨n, rfl, hg⟩, hlt⟩
    exact ⟨n, rfl, by rw [if_pos (by omega)]; exact hg⟩

theorem mem_kden_drop_last (vs : List (Option α)) (off j : Int) (y : α) :
    (j, y) ∈ kden (vs.take (vs.length - 1)) off ↔
      (j, y) ∈ kden vs off ∧ j ≠ off + ((vs.length - 1 : Nat) : Int) := by
  rw [mem_kden_take]
  constructor
  · rintro ⟨h, hlt⟩; exact ⟨h, by omega⟩
  · rintro ⟨h, hne⟩
    have := kden_upper h
    exact ⟨h, by show j < _; simp only at this; omega⟩

theorem mem_kden_eraseAt (vs : List (Option α)) (off : Int) (n : Nat) (j : Int) (y : α) :
    (j, y) ∈ kden (eraseAt vs n) off ↔ (j, y) ∈ kden vs off ∧ j ≠ off + (n : Int) :=
  (mem_kden_set vs off n none j y).trans ⟨fun h => h.resolve_left (fun h' => nomatch h'.2.2), Or.inr⟩

theorem kholes_drop_one {vs : List (Option α)} {c : α} (h : kget vs 0 = some c) : kholes (vs.drop 1) = kholes vs := by
  cases vs with
  | nil => simp [kget_nil] at h
  | cons v r =>
    rw [kget_cons_zero] at h
    subst h
    rfl

theorem counts_eraseAt (vs : List (Option α)) (n : Nat) (c : α) (h : kget vs n = some c) :
    kholes (eraseAt vs n) = kholes vs + 1 ∧ kcount (eraseAt vs n) + 1 = kcount vs := by
  induction vs generalizing n with
  | nil => simp [kget_nil] at h
  | cons v r ih =>
    cases n with
    | zero =>
      rw [kget_cons_zero] at h
      subst h
      exact ⟨rfl, rfl⟩
    | succ n =>
      rw [kget_cons_succ] at h
      obtain ⟨t1, t2⟩ := ih n h
      unfold eraseAt at t1 t2 ⊢
      cases v <;> simp only [List.set_cons_succ, kholes, kcount, t1, true_and] <;> omega

theorem kholes_take_last {vs : List (Option α)} {k : Nat} {c : α} (h : kget vs k = some c) (hk : vs.length = k + 1) :
    kholes (vs.take k) = kholes vs := by
  induction vs generalizing k with
  | nil => cases hk
  | cons v r ih =>
    cases k with
    | zero =>
      rw [kget_cons_zero] at h
      subst h
      obtain rfl : r = [] := List.eq_nil_of_length_eq_zero (by simpa using hk)
      rfl
    | succ k =>
      rw [kget_cons_succ] at h
      have t := ih h (by simpa using hk)
      cases v <;> simp only [List.take_succ_cons, kholes, t]

theorem kden_nil_of_kcount_zero (vs : List (Option α)) (off : Int) (h : kcount vs = 0) : kden vs off = [] := by
  apply List.eq_nil_of_length_eq_zero
  rw [length_kden]; exact h

/-! ### adding one element: append, prepend (with padding), fill a hole -/

theorem kden_append (a b : List (Option α)) (off : Int) :
    kden (a ++ b) off = kden a off ++ kden b (off + a.length) := by
  induction a generalizing off with
  | nil => simp [kden]
  | cons v r ih =>
    have e : off + 1 + (r.length : Int) = off + ((r.length + 1 : Nat) : Int) := by omega
    cases v <;> simp [kden, ih, e]

theorem kden_map {β : Type} (g : α → β) (vs : List (Option α)) (off : Int) :
    kden (vs.map (Option.map g)) off = (kden vs off).map (fun t => (t.1, g t.2)) := by
  induction vs generalizing off with
  | nil => rfl
  | cons v r ih => cases v <;> simp [kden, ih]

theorem kden_map_some_map {β : Type} (f : α → β) (l : List α) (off : Int) :
    kden (l.map (fun c => some (f c))) off = (kden (l.map some) off).map (fun p => (p.1, f p.2)) := by
  induction l generalizing off with
  | nil => rfl
  | cons a r ih => simp [kden, ih]

theorem kcount_append (a b : List (Option α)) : kcount (a ++ b) = kcount a + kcount b := by
  induction a with
  | nil => simp [kcount]
  | cons v r ih => cases v <;> simp [kcount, ih] <;> omega

theorem kholes_append (a b : List (Option α)) : kholes (a ++ b) = kholes a + kholes b := by
  induction a with
  | nil => simp [kholes]
  | cons v r ih => cases v <;> simp [kholes, ih] <;> omega

theorem kcount_replicate_none (k : Nat) : kcount (List.replicate k (none : Option α)) = 0 := by
  induction k with
  | zero => rfl
  | succ k ih => simp [List.replicate_succ, kcount, ih]

theorem kholes_replicate_none (k : Nat) : kholes (List.replicate k (none : Option α)) = k := by
  have := kcount_add_kholes (List.replicate k (none : Option α))
  rwa [kcount_replicate_none, List.length_replicate, Nat.zero_add] at this

theorem mem_kden_push_back (vs : List (Option α)) (off : Int) (x : α) (j : Int) (y : α) :
    (j, y) ∈ kden (vs ++ [some x]) off ↔ (j = off + vs.length ∧ y = x) ∨ (j, y) ∈ kden vs off := by
  rw [kden_append, List.mem_append, Or.comm]
  exact or_congr_left (by simp [kden])

theorem mem_kden_push_front (vs : List (Option α)) (off : Int) (x : α) (j : Int) (y : α) :
    (j, y) ∈ kden (some x :: vs) (off - 1) ↔ (j = off - 1 ∧ y = x) ∨ (j, y) ∈ kden vs off := by
  rw [show kden (some x :: vs) (off - 1) = (off - 1, x) :: kden vs (off - 1 + 1) from rfl, Int.sub_add_cancel,
    List.mem_cons, Prod.mk.injEq]

theorem mem_kden_pad_back (vs : List (Option α)) (off : Int) {k : Nat} (x : α) {i : Int}
    (h : off + ((vs.length + k : Nat) : Int) = i) (j : Int) (y : α) :
    (j, y) ∈ kden (vs ++ List.replicate k none ++ [some x]) off ↔ (j = i ∧ y = x) ∨ (j, y) ∈ kden vs off := by
  rw [mem_kden_push_back, kden_append, kden_replicate_none, List.append_nil, List.length_append, List.length_replicate, h]

theorem mem_kden_pad_front (vs : List (Option α)) (off : Int) {k : Nat} (x : α) {i : Int}
    (h : i + 1 + (k : Int) = off) (j : Int) (y : α) :
    (j, y) ∈ kden (some x :: (List.replicate k none ++ vs)) i ↔ (j = i ∧ y = x) ∨ (j, y) ∈ kden vs off := by
  rw [show kden (some x :: (List.replicate k none ++ vs)) i = (i, x) :: kden (List.replicate k none ++ vs) (i + 1) from rfl,
    kden_append, kden_replicate_none, List.nil_append, List.length_replicate, h, List.mem_cons, Prod.mk.injEq]

theorem mem_kden_setAt_hole (vs : List (Option α)) (off : Int) (n : Nat) (x : α) (hn : n < vs.length)
    (h : kget vs n = none) (j : Int) (y : α) :
    (j, y) ∈ kden (setAt vs n (some x)) off ↔ (j = off + (n : Int) ∧ y = x) ∨ (j, y) ∈ kden vs off := by
  refine (mem_kden_set vs off n (some x) j y).trans ⟨?_, ?_⟩
  · rintro (⟨e, _, hx⟩ | hm)
    · exact Or.inl ⟨e, (Option.some.inj hx).symm⟩
    · exact Or.inr hm.1
  · rintro (⟨e, rfl⟩ | hm)
    · exact Or.inl ⟨e, hn, rfl⟩
    · refine Or.inr ⟨hm, ?_⟩
      rintro rfl
      obtain ⟨m, e, hg⟩ := (mem_kden_nat vs off _ y).1 hm
      rw [show m = n by omega, h] at hg
      cases hg

theorem kcount_setAt_hole (vs : List (Option α)) (n : Nat) (x : α) (hn : n < vs.length) (h : kget vs n = none) :
    kcount (setAt vs n (some x)) = kcount vs + 1 := by
  induction vs generalizing n with
  | nil => simp at hn
  | cons v r ih =>
    cases n with
    | zero =>
      rw [kget_cons_zero] at h
      subst h
      simp [setAt, kcount]
    | succ n =>
      rw [kget_cons_succ] at h
      have := ih n (by simpa using hn) h
      unfold setAt at this ⊢
      cases v <;> simp [kcount, this]

/-! ### more about the trims -/

theorem exists_kget_of_mem {vs : List (Option α)} {x : α} (h : some x ∈ vs) : ∃ n, kget vs n = some x := by
  obtain ⟨n, hn, he⟩ := List.getElem_of_mem h
  exact ⟨n, by unfold kget; rw [List.getElem?_eq_getElem hn, he]; rfl⟩

theorem some_mem_of_kden_eq {vs ws : List (Option α)} {off off' : Int} (h : kden ws off' = kden vs off) {x : α}
    (hx : some x ∈ ws) : some x ∈ vs := by
  obtain ⟨n, hg⟩ := exists_kget_of_mem hx
  exact kden_elem (h ▸ mem_kden_at off' hg)

theorem length_trimFront_le (vs : List (Option α)) (off : Int) : (trimFront vs off).1.length ≤ vs.length := by
  induction vs generalizing off with
  | nil => simp [trimFront]
  | cons v r ih =>
    cases v with
    | none => have := ih (off + 1); simp [trimFront]; omega
    | some y => simp [trimFront]

theorem length_trimBack_le (vs : List (Option α)) : (trimBack vs).length ≤ vs.length := by
  induction vs with
  | nil => simp [trimBack]
  | cons v r ih =>
    simp only [trimBack]
    cases ht : trimBack r with
    | nil => simp only; split <;> simp
    | cons w t => rw [ht] at ih; simp at ih ⊢; omega

/-! ### cells determined by what they denote -/

theorem kget_eq_of_kden_eq {xs ys : List (Option α)} {off : Int} (h : kden xs off = kden ys off) (n : Nat) :
    kget xs n = kget ys n :=
  Option.ext fun x => by
    have e : ∀ vs : List (Option α), kget vs n = some x ↔ (off + (n : Int), x) ∈ kden vs off := fun vs => by
      rw [mem_kden, toNat_add_sub_self]; exact ⟨fun h => ⟨by omega, h⟩, And.right⟩
    rw [e, e, h]

theorem kden_inj {xs ys : List (Option α)} {off off' : Int} {a b a' b' : α}
    (hx : kget xs 0 = some a) (hy : kget ys 0 = some b)
    (lx : kget xs (xs.length - 1) = some a') (ly : kget ys (ys.length - 1) = some b')
    (h : kden xs off = kden ys off') : off = off' ∧ xs = ys := by
  -- the first index denoted is the offset, the last one tells the length
  have m1 := kden_lower ys off' _ (h ▸ mem_kden_at off hx)
  have m2 := kden_lower xs off _ (h ▸ mem_kden_at off' hy)
  have u1 := kden_upper (h ▸ mem_kden_at off lx)
  have u2 := kden_upper (h ▸ mem_kden_at off' ly)
  have := kget_some_lt hx
  have := kget_some_lt hy
  simp only at m1 m2 u1 u2
  obtain rfl : off = off' := by omega
  refine ⟨rfl, List.ext_getElem (by omega) fun n hn hn' => ?_⟩
  simpa [kget, hn, hn'] using kget_eq_of_kden_eq h n

/-! ### tagged sequences: a change of the denotation by one pair is a change of the members by one value -/
section Tagged
variable {β : Type} (mk : Int → α → β)

theorem mem_tagged (ps : List (Int × α)) (v : β) :
    v ∈ ps.map (fun p => mk p.1 p.2) ↔ ∃ i x, v = mk i x ∧ (i, x) ∈ ps := by
  simp only [List.mem_map]
  constructor
  · rintro ⟨⟨i, x⟩, hp, rfl⟩; exact ⟨i, x, rfl, hp⟩
  · rintro ⟨i, x, rfl, hp⟩; exact ⟨(i, x), hp, rfl⟩

theorem mem_tagged_cell (vs : List (Option α)) (off : Int) (v : β) :
    v ∈ (kden vs off).map (fun p => mk p.1 p.2) ↔ ∃ (n : Nat) (x : α), v = mk (off + n) x ∧ kget vs n = some x := by
  simp only [mem_tagged, mem_kden_nat]
  exact ⟨fun ⟨_, x, e, n, hi, hg⟩ => ⟨n, x, hi ▸ e, hg⟩, fun ⟨n, x, e, hg⟩ => ⟨_, x, e, n, rfl, hg⟩⟩

theorem tagged_insert {ps qs : List (Int × α)} {i : Int} {x : α}
    (h : ∀ j y, (j, y) ∈ qs ↔ (j = i ∧ y = x) ∨ (j, y) ∈ ps) (v : β) :
    v ∈ qs.map (fun p => mk p.1 p.2) ↔ v = mk i x ∨ v ∈ ps.map (fun p => mk p.1 p.2) := by
  simp only [mem_tagged, h]
  constructor
  · rintro ⟨j, y, rfl, ⟨rfl, rfl⟩ | hp⟩
    · exact Or.inl rfl
    · exact Or.inr ⟨j, y, rfl, hp⟩
  · rintro (rfl | ⟨j, y, rfl, hp⟩)
    · exact ⟨i, x, rfl, Or.inl ⟨rfl, rfl⟩⟩
    · exact ⟨j, y, rfl, Or.inr hp⟩

variable {mk} (hinj : ∀ {i j : Int} {x y : α}, mk i x = mk j y → i = j ∧ x = y)
include hinj

theorem mem_tagged_self (ps : List (Int × α)) (i : Int) (x : α) :
    mk i x ∈ ps.map (fun p => mk p.1 p.2) ↔ (i, x) ∈ ps := by
  rw [mem_tagged]
  constructor
  · rintro ⟨j, y, he, hp⟩
    obtain ⟨rfl, rfl⟩ := hinj he
    exact hp
  · exact fun hp => ⟨i, x, rfl, hp⟩

theorem tagged_remove {ps qs : List (Int × α)} (hf : Functional ps) {i : Int} {c : α} (hic : (i, c) ∈ ps)
    (h : ∀ j y, (j, y) ∈ qs ↔ (j, y) ∈ ps ∧ j ≠ i) (v : β) :
    v ∈ qs.map (fun p => mk p.1 p.2) ↔ v ∈ ps.map (fun p => mk p.1 p.2) ∧ v ≠ mk i c := by
  simp only [mem_tagged, h]
  constructor
  · rintro ⟨j, y, rfl, hp, hne⟩
    exact ⟨⟨j, y, rfl, hp⟩, fun he => hne (hinj he).1⟩
  · rintro ⟨⟨j, y, rfl, hp⟩, hne⟩
    refine ⟨j, y, rfl, hp, ?_⟩
    rintro rfl
    exact hne (congrArg (mk j) (hf _ _ hp hic rfl))

theorem tagged_remove_cell {vs : List (Option α)} {off : Int} {n : Nat} {c : α} (hg : kget vs n = some c)
    {qs : List (Int × α)} (h : ∀ j y, (j, y) ∈ qs ↔ (j, y) ∈ kden vs off ∧ j ≠ off + (n : Int)) (v : β) :
    v ∈ qs.map (fun p => mk p.1 p.2) ↔ v ∈ (kden vs off).map (fun p => mk p.1 p.2) ∧ v ≠ mk (off + n) c :=
  tagged_remove hinj (kden_functional vs off) (mem_kden_at off hg) h v

theorem functional_of_tagged {ps qs : List (Int × α)} (hf : Functional ps)
    (h : ∀ i x, (i, x) ∈ qs → mk i x ∈ ps.map (fun p => mk p.1 p.2)) : Functional qs := by
  rintro ⟨i, x⟩ ⟨j, y⟩ hp hq (rfl : i = j)
  exact hf _ _ ((mem_tagged_self hinj ps i x).1 (h i x hp)) ((mem_tagged_self hinj ps i y).1 (h i y hq)) rfl

theorem nodup_tagged (vs : List (Option α)) (off : Int) : ((kden vs off).map (fun p => mk p.1 p.2)).Nodup := by
  unfold List.Nodup
  rw [List.pairwise_map]
  exact (kden_pairwise vs off).imp (fun {p q} hlt he => by have := (hinj he).1; omega)

end Tagged


/-! ### the members `Core.Canon` gives a sequence value -/

theorem seqMembers_eq_tagged (name : String) (h : "@" < name) (xs : List (Option V)) (off : Int) :
    V.seqMembers name off xs = (kden xs off).map (fun p => V.tup [("@", .num p.1), (name, p.2)]) := by
  induction xs generalizing off with
  | nil => rfl
  | cons o r ih =>
    cases o with
    | none => exact ih (off + 1)
    | some x => exact congr (congrArg List.cons (V.mkTup_at name _ x h)) (ih (off + 1))

end KSeq

end Arrai.C01
