/-
  C01: finite-set extras (the power set of a strictly sorted list), non-emptiness along an inclusion of members,
  case analysis on a named `if`.
-/
import Arrai.C01.Model
import Arrai.C01.KSeq

namespace Arrai.C01
open Arrai Arrai.FinSet

/-! ## finite-set extras -/
namespace FS

theorem mem_sublists : ∀ (a l : List V), l ∈ sublists a ↔ List.Sublist l a
  | [], l => by simp [sublists]
  | x :: xs, l => by
    simp only [sublists, List.mem_append, List.mem_map]
    constructor
    · rintro (h | ⟨m, hm, rfl⟩)
      · exact ((mem_sublists xs l).1 h).cons x
      · exact ((mem_sublists xs m).1 hm).cons_cons x
    · intro h
      cases h with
      | cons _ h => exact Or.inl ((mem_sublists xs l).2 h)
      | cons_cons _ h => exact Or.inr ⟨_, (mem_sublists xs _).2 h, rfl⟩

/-- a strictly sorted list all of whose members lie in a strictly sorted list is a sub-list of it: it is what the filter
keeps, since a strictly sorted list is determined by its members -/
theorem sublist_of_sorted_subset (a l : List V) (hl : Sorted l) (ha : Sorted a) (h : ∀ x, x ∈ l → x ∈ a) :
    List.Sublist l a := by
  have e : l = a.filter (· ∈ l) := FinSet.sorted_ext _ _ hl (FinSet.sorted_filter _ a ha) fun x => by
    simp only [List.mem_filter, decide_eq_true_eq]
    exact ⟨fun hx => ⟨h x hx, hx⟩, And.right⟩
  exact e ▸ List.filter_sublist

/-- the power set contains exactly the (canonical) subsets -/
theorem mem_powerset (a : List V) (ha : Sorted a) (s : V) :
    s ∈ powerset a ↔ ∃ l, s = V.set l ∧ Sorted l ∧ ∀ x, x ∈ l → x ∈ a := by
  simp only [powerset, FinSet.mem_mk, List.mem_map]
  constructor
  · rintro ⟨l, hl, rfl⟩
    have hs := (mem_sublists a l).1 hl
    exact ⟨l, rfl, List.Pairwise.sublist hs ha, fun x hx => hs.subset hx⟩
  · rintro ⟨l, rfl, hl, hsub⟩
    exact ⟨l, (mem_sublists a l).2 (sublist_of_sorted_subset a l hl ha hsub), rfl⟩

theorem sorted_powerset (a : List V) : Sorted (powerset a) := FinSet.sorted_mk _

end FS

theorem ne_nil_of_subset {α : Type} {l l' : List α} (hne : l ≠ []) (h : ∀ x, x ∈ l → x ∈ l') : l' ≠ [] := by
  obtain ⟨a, ha⟩ := List.exists_mem_of_ne_nil _ hne
  exact List.ne_nil_of_mem (h a ha)

theorem ite_cases {α : Type} {c : Prop} [Decidable c] {a b r : α} (h : (if c then a else b) = r) :
    (c ∧ a = r) ∨ (¬ c ∧ b = r) := by
  by_cases hc : c
  · exact Or.inl ⟨hc, by rwa [if_pos hc] at h⟩
  · exact Or.inr ⟨hc, by rwa [if_neg hc] at h⟩

theorem ite_bnot {α : Type} (b : Bool) (x y : α) : (if (!b) = true then x else y) = if b = true then y else x := by
  cases b <;> rfl

end Arrai.C01
