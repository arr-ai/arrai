/-
  C01: `PowerSet` of every representation (`powerSet_spec`, under `PowerAdm`), proved from the interface contracts: the
  GenericSet by frozen's Powerset, every other representation by the loop `newSets.With(s.With(c))` / `Union(result, newSets)`,
  which is the work (`powerLoop_spec`; the EmptySet answers the loop's initial value).
-/
import Arrai.C01.Union

namespace Arrai.C01
open Arrai Arrai.FinSet KSeq

/-! ## numbers and sets are always admissible for `With` -/

def NonTuple (v : V) : Prop := (∃ n, v = .num n) ∨ (∃ xs, v = .set xs)

theorem withAdm_of_nontuple (p : Plain) (v : V) (hv : NonTuple v) : WithAdm p v := by
  rcases hv with ⟨n, rfl⟩ | ⟨xs, rfl⟩ <;> cases p with
  | str s off holes => intro ix c hc; simp [asChar] at hc
  | bytes b off => intro ix c hc; simp [asByte] at hc
  | arr vs off count => intro ix c hc; simp [asItem] at hc
  | _ => trivial

theorem repWithAdm_of_nontuple (r : Rep) (v : V) (hv : NonTuple v) : RepWithAdm r v := by
  cases r <;> exact withAdm_of_nontuple _ v hv

theorem withAllAdm_of_nontuples (vs : List V) (a : Rep) (h : ∀ v, v ∈ vs → NonTuple v) : WithAllAdm a vs :=
  forall_mem_rec (Q := fun vs => ∀ a, WithAllAdm a vs) (fun _ => trivial)
    (fun v _ hv ih a => ⟨repWithAdm_of_nontuple a v hv, fun a' _ => ih a'⟩) vs h a

/-! ## `s.Current().(Set).With(c)` on a member of the accumulated power set -/

theorem withV_spec (l : List V) (hl : Sorted l) (c : V) (h1 : FinishAdm l) (h2 : RepWithAdm (finish l) c) :
    withV (.set l) c = .ok (.set (FinSet.ins c l)) := by
  obtain ⟨w, m⟩ := finish_spec l h1
  obtain ⟨r', e, w', m', _⟩ := Rep.with_spec (finish l) w (finish_norm l h1) c h2
  simp only [withV, repOfV, e, Outcome.map]
  congr 1
  show V.set r'.den = V.set (FinSet.ins c l)
  congr 1
  apply den_eq_of_members r' _ (FinSet.sorted_ins c l hl)
  intro x
  rw [m', m, FinSet.mem_ins]

/-- every subset built along the way, and every element added to it, is admissible: no two values at
one index of a sequence, no byte array with a gap (the classes KF-superimposed / KF-bytes-holes) -/
def PowerAdm (ms : List V) : Prop :=
  ∀ l c, Sorted l → (∀ y, y ∈ l → y ∈ ms) → c ∈ ms → FinishAdm l ∧ RepWithAdm (finish l) c

theorem powerStep_spec (c : V) : ∀ ss : List V,
    (∀ s, s ∈ ss → ∃ l, s = .set l ∧ Sorted l ∧ FinishAdm l ∧ RepWithAdm (finish l) c) →
    ∀ acc : Rep, acc.WF → acc.Norm → ∃ r, powerStep c ss acc = .ok r ∧ r.WF ∧ r.Norm ∧
      ∀ x, x ∈ r.members ↔ x ∈ acc.members ∨ ∃ l, V.set l ∈ ss ∧ x = .set (FinSet.ins c l) := by
  refine forall_mem_rec (fun acc hw hn => ⟨acc, rfl, hw, hn, by simp⟩) ?_
  rintro _ r ⟨l, rfl, hl, a1, a2⟩ ih acc hw hn
  have e1 := withV_spec l hl c a1 a2
  obtain ⟨acc', e2, w2, m2, n2⟩ := Rep.with_spec acc hw hn (.set (FinSet.ins c l))
    (repWithAdm_of_nontuple acc _ (Or.inr ⟨_, rfl⟩))
  obtain ⟨r', e3, w3, n3, m3⟩ := ih acc' w2 n2
  refine ⟨r', ?_, w3, n3, ?_⟩
  · simp only [powerStep, e1, e2]; exact e3
  · intro x
    rw [m3, m2]
    constructor
    · rintro ((rfl | h1) | ⟨l', hl', rfl⟩)
      · exact Or.inr ⟨l, by simp, rfl⟩
      · exact Or.inl h1
      · exact Or.inr ⟨l', List.mem_cons_of_mem _ hl', rfl⟩
    · rintro (h1 | ⟨l', hl', rfl⟩)
      · exact Or.inl (Or.inr h1)
      · rcases List.mem_cons.1 hl' with he | hl''
        · cases he; exact Or.inl (Or.inl rfl)
        · exact Or.inr ⟨l', hl'', rfl⟩

/-! ## the outer loop -/

/-- the accumulated result holds exactly the (canonical) subsets of the members processed so far -/
def PowerInv (done : List V) (result : Rep) : Prop :=
  result.WF ∧ result.Norm ∧
  ∀ x, x ∈ result.members ↔ ∃ l, x = V.set l ∧ Sorted l ∧ ∀ y, y ∈ l → y ∈ done

theorem powerLoop_spec (ms : List V) (hadm : PowerAdm ms) : ∀ cs : List V, (∀ y, y ∈ cs → y ∈ ms) →
    ∀ (done : List V) (result : Rep), PowerInv done result → (∀ y, y ∈ done → y ∈ ms) →
    ∃ r, powerLoop cs result = .ok r ∧ PowerInv (cs.reverse ++ done) r := by
  refine forall_mem_rec (fun _ result hinv _ => ⟨result, rfl, hinv⟩) ?_
  rintro c r hcm ih done result ⟨hw, hn, hm⟩ hd
  -- the inner loop over the members of the accumulated result
  have hss : ∀ s, s ∈ result.members → ∃ l, s = .set l ∧ Sorted l ∧ FinishAdm l ∧ RepWithAdm (finish l) c := by
    intro s hs
    obtain ⟨l, rfl, hl, hsub⟩ := (hm s).1 hs
    obtain ⟨a1, a2⟩ := hadm l c hl (fun y hy => hd y (hsub y hy)) hcm
    exact ⟨l, rfl, hl, a1, a2⟩
  obtain ⟨newSets, e1, w1, n1, m1⟩ := powerStep_spec c result.members hss (.plain .empty) trivial (Or.inl rfl)
  have hsets1 : ∀ x, x ∈ result.members → ∃ xs, x = V.set xs := by
    intro x hx; obtain ⟨l, rfl, _⟩ := (hm x).1 hx; exact ⟨l, rfl⟩
  have hsets2 : ∀ x, x ∈ newSets.members → ∃ xs, x = V.set xs := by
    intro x hx
    rcases (m1 x).1 hx with h1 | ⟨l, _, rfl⟩
    · simp [Rep.members, Plain.members] at h1
    · exact ⟨_, rfl⟩
  obtain ⟨p, rfl⟩ := plain_of_one_bucket result hw .generic (fun x hx => by
    obtain ⟨xs, rfl⟩ := hsets1 x hx; rfl)
  obtain ⟨q, rfl⟩ := plain_of_one_bucket newSets w1 .generic (fun x hx => by
    obtain ⟨xs, rfl⟩ := hsets2 x hx; rfl)
  obtain ⟨result', e2, w2, m2, n2⟩ := union_spec (.plain p) (.plain q) hw w1 hn n1
    (withAllAdm_of_nontuples _ _ fun x hx => Or.inr (hsets2 x hx))
  have hinv' : PowerInv (c :: done) result' := by
    refine ⟨w2, n2, ?_⟩
    · intro x
      rw [m2, hm, m1]
      constructor
      · rintro (⟨l, rfl, hl, hsub⟩ | h1 | ⟨l, hl', rfl⟩)
        · exact ⟨l, rfl, hl, fun y hy => List.mem_cons_of_mem _ (hsub y hy)⟩
        · simp [Rep.members, Plain.members] at h1
        · obtain ⟨l2, he, hl2, hsub⟩ := (hm _).1 hl'
          cases he
          refine ⟨_, rfl, FinSet.sorted_ins c l hl2, ?_⟩
          intro y hy
          rcases (FinSet.mem_ins c y l).1 hy with rfl | hy'
          · simp
          · exact List.mem_cons_of_mem _ (hsub y hy')
      · rintro ⟨l, rfl, hl, hsub⟩
        by_cases hcl : c ∈ l
        · right; right
          refine ⟨FinSet.erase l c, (hm _).2 ⟨_, rfl, FinSet.sorted_erase l c hl, ?_⟩, ?_⟩
          · intro y hy
            obtain ⟨h1, h2⟩ := (FinSet.mem_erase l c y).1 hy
            rcases List.mem_cons.1 (hsub y h1) with he | hd'
            · exact absurd he h2
            · exact hd'
          · rw [ins_erase_of_mem l hl c hcl]
        · left
          refine ⟨l, rfl, hl, ?_⟩
          intro y hy
          rcases List.mem_cons.1 (hsub y hy) with he | hd'
          · subst he; exact absurd hy hcl
          · exact hd'
  obtain ⟨rf, e3, i3⟩ := ih (c :: done) result' hinv'
    (fun y hy => by rcases List.mem_cons.1 hy with rfl | h1; exact hcm; exact hd y h1)
  refine ⟨rf, by simp only [powerLoop, e1, e2]; exact e3, ?_⟩
  rw [List.reverse_cons, List.append_assoc]
  exact i3

/-- `PowerSet` of any representation is the power set of the set denoted -/
theorem powerSet_spec (r : Rep) (h : r.WF) (hadm : PowerAdm r.members) :
    ∃ r', powerSet r = .ok r' ∧ r'.WF ∧ r'.den = FS.powerset r.den ∧ r'.Norm := by
  have init : PowerInv [] (finish [.set []]) := by
    obtain ⟨w, m⟩ := finish_spec [.set []] (finishAdm_single _)
    refine ⟨w, finish_norm _ (finishAdm_single _), ?_⟩
    intro x
    rw [m]
    simp only [List.mem_singleton, List.not_mem_nil, imp_false]
    constructor
    · rintro rfl; exact ⟨[], rfl, FinSet.sorted_nil, fun y hy => by cases hy⟩
    · rintro ⟨l, rfl, _, hsub⟩
      cases l with
      | nil => rfl
      | cons a t => exact absurd (by simp) (hsub a)
  have loop : ∃ r', powerLoop r.members (finish [.set []]) = .ok r' ∧ r'.WF ∧ r'.den = FS.powerset r.den ∧ r'.Norm := by
    obtain ⟨r', e, w, n, m⟩ := powerLoop_spec r.members hadm r.members (fun y hy => hy) [] _ init (by simp)
    refine ⟨r', e, w, den_eq_of_members r' _ (FS.sorted_powerset _) fun x => ?_, n⟩
    rw [m, show r.den = FinSet.mk r.members from rfl, FS.mem_powerset _ (FinSet.sorted_mk _)]
    simp only [List.append_nil, List.mem_reverse, FinSet.mem_mk]
  unfold powerSet
  split
  · -- EmptySet: the loop body never runs
    simpa [powerLoop, Rep.members, Plain.members] using loop
  · rename_i xs
    refine ⟨_, rfl, ?_, ?_, (fromFrozen_norm _).rep⟩
    · apply fromFrozen_wf _ (FinSet.sorted_mk _)
      intro x hx
      obtain ⟨l, _, rfl⟩ := List.mem_map.1 ((FinSet.mem_mk _ x).1 hx)
      rfl
    · apply den_eq_of_members _ _ (FS.sorted_powerset _)
      intro x
      show x ∈ (fromFrozen _).members ↔ _
      rw [fromFrozen_members]
      have : (Rep.plain (Plain.generic xs)).den = xs := mk_of_sorted xs h.1
      rw [this]
      rfl
  · exact loop

end Arrai.C01
