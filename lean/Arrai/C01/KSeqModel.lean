/-
  Keyed sequences: slots `List (Option α)` read from an offset — what a String (runes with a hole marker), a
  Bytes and an Array of rel/value_set_{str,bytes,array}.go hold. A keyed sequence denotes the finite partial
  function index ↦ element (`kden`). The definitions are those of the C01 model (Arrai/C01/Model.lean imports
  them); they stand in a file of their own because the lemma library about them (Arrai/C01/KSeq.lean) also
  serves C02, C03 and C05. Core-only.
-/
namespace Arrai.C01

/-! ## Keyed sequences: `List (Option α)` + offset (String: runes with a hole marker, Bytes, Array) -/
namespace KSeq
variable {α : Type}

/-- the (index, element) pairs a keyed sequence denotes -/
def kden : List (Option α) → Int → List (Int × α)
  | [], _ => []
  | some x :: r, i => (i, x) :: kden r (i + 1)
  | none :: r, i => kden r (i + 1)

/-- element at list position `i` (a hole and out-of-range both give `none`) -/
def kget (vs : List (Option α)) (i : Nat) : Option α := (vs[i]?).join

/-- element at index `at` of a sequence starting at `off` -/
def kat (vs : List (Option α)) (off ix : Int) : Option α :=
  if off ≤ ix ∧ ix < off + vs.length then kget vs (ix - off).toNat else none

def setAt (vs : List (Option α)) (i : Nat) (x : Option α) : List (Option α) := vs.set i x
def eraseAt (vs : List (Option α)) (i : Nat) : List (Option α) := vs.set i none

def kcount : List (Option α) → Nat
  | [] => 0
  | some _ :: r => kcount r + 1
  | none :: r => kcount r
def kholes : List (Option α) → Nat
  | [] => 0
  | some _ :: r => kholes r
  | none :: r => kholes r + 1

/-- drop leading holes, advancing the offset -/
def trimFront : List (Option α) → Int → List (Option α) × Int
  | none :: r, off => trimFront r (off + 1)
  | vs, off => (vs, off)
/-- drop trailing holes -/
def trimBack : List (Option α) → List (Option α)
  | [] => []
  | x :: r =>
    match trimBack r with
    | [] => if x.isSome then [x] else []
    | r' => x :: r'

def minAt : List (Int × α) → Int → Int
  | [], m => m
  | (i, _) :: r, m => minAt r (if i < m then i else m)
def maxAt : List (Int × α) → Int → Int
  | [], m => m
  | (i, _) :: r, m => maxAt r (if m < i then i else m)
/-- `str[t.at-minAt] = t.char` for every pair, in order (a later pair overwrites an earlier one) -/
def fill (lo : Int) : List (Int × α) → List (Option α) → List (Option α)
  | [], base => base
  | (i, x) :: r, base => fill lo r (base.set (i - lo).toNat (some x))
/-- `asString`/`asArray`: the slice from the lowest to the highest index, holes elsewhere -/
def build : List (Int × α) → List (Option α) × Int
  | [] => ([], 0)
  | (i, x) :: r =>
    let lo := minAt r i
    let hi := maxAt r i
    (fill lo ((i, x) :: r) (List.replicate (hi - lo + 1).toNat none), lo)

end KSeq

end Arrai.C01
