/-
  C01 — set algebra is exact for every mix of value representations.

  `Spec`: the set operators on `V` through `FinSet` (strictly sorted lists), lifted to an expression
  language `E` over literal operands.
  `Impl`: the Go set representations (rel/value_set_*.go) with their With/Without/Has/Count/Where,
  the SetBuilder (rel/value_set_builder.go), the operator dispatch of rel/ops_set.go and the subset
  comparisons of syntax/expr_set_compare.go, transliterated (same branches, same order of tests, same
  fall-backs) from the *repaired* code of /repo.

  Modelling decision (trusted, see lib/props_c01.py): the members held by a representation are
  modelled by their meaning (`V`); Go's `Equal`/`Hash` on members is taken to be equality of meaning
  (that is property C02).  `frozen.Set`/`frozen.Map` are finite sets/maps (sorted lists / association
  lists here).  Core-only.
-/
import Arrai.Core.Lit
import Arrai.C01.KSeqModel

namespace Arrai.C01
open Arrai

/-! ## Outcomes -/

inductive Outcome (α : Type) where
  | ok (a : α)
  | err                 -- arr.ai error value
  | unspec              -- the property does not say (ill-typed operands, `<` on non-numbers)
  | panic               -- a Go panic site
  deriving Inhabited, DecidableEq

namespace Outcome
def bind {α β} : Outcome α → (α → Outcome β) → Outcome β
  | ok a, f => f a
  | err, _ => err
  | unspec, _ => unspec
  | panic, _ => panic
def map {α β} (f : α → β) : Outcome α → Outcome β
  | ok a => ok (f a)
  | err => err
  | unspec => unspec
  | panic => panic
instance : Monad Outcome where
  pure := ok
  bind := bind
end Outcome

/-! ## Finite-set extras on strictly sorted lists (Core has ins/mk/union/inter/diff/symdiff/erase/subset/card) -/
namespace FS

def filter (p : V → Bool) (a : List V) : List V := a.filter p
def image (f : V → V) (a : List V) : List V := FinSet.mk (a.map f)
/-- all sub-lists (as sub-sequences): the subsets of a strictly sorted list, each strictly sorted -/
def sublists : List V → List (List V)
  | [] => [[]]
  | x :: xs => sublists xs ++ (sublists xs).map (x :: ·)
def powerset (a : List V) : List V := FinSet.mk ((sublists a).map V.set)
/-- proper subset -/
def ssubset (a b : List V) : Bool := FinSet.subset a b && !FinSet.subset b a

end FS

/-! ## Values as members: which bucket the SetBuilder routes a value to (`getBucket`) -/

inductive Bucket where
  | generic | strChar | bytesByte | arrItem | dictEntry
  | rel (names : List String)
  deriving DecidableEq, Inhabited

def maxRune : Int := 1114111

/-- `(@: i, name: x)` with the attributes in canonical (sorted) order: `"@"` sorts first -/
def pairV (name : String) (i x : V) : V := .tup [("@", i), (name, x)]
def charV (i : Int) (c : Nat) : V := pairV "@char" (.num i) (.num (Int.ofNat c))
def byteV (i : Int) (b : Nat) : V := pairV "@byte" (.num i) (.num (Int.ofNat b))
def itemV (i : Int) (x : V) : V := pairV "@item" (.num i) x
def entryV (k x : V) : V := pairV "@value" k x

/-- `(@: at, @char: c)` that `NewTuple` specialises to a `StringCharTuple` exactly -/
def asChar : V → Option (Int × Nat)
  | .tup [(n1, .num i), (n2, .num c)] =>
    if n1 = "@" ∧ n2 = "@char" ∧ 0 ≤ c ∧ c ≤ maxRune then some (i, c.toNat) else none
  | _ => none
def asByte : V → Option (Int × Nat)
  | .tup [(n1, .num i), (n2, .num b)] =>
    if n1 = "@" ∧ n2 = "@byte" ∧ 0 ≤ b ∧ b ≤ 255 then some (i, b.toNat) else none
  | _ => none
def asItem : V → Option (Int × V)
  | .tup [(n1, .num i), (n2, x)] => if n1 = "@" ∧ n2 = "@item" then some (i, x) else none
  | _ => none
def asEntry : V → Option (V × V)
  | .tup [(n1, k), (n2, x)] => if n1 = "@" ∧ n2 = "@value" then some (k, x) else none
  | _ => none

/-- `Value.getBucket`: sets and numbers and `()` go to the generic bucket, the four specialised
tuples to their own bucket, every other tuple to the relation bucket of its (sorted) names -/
def bucketOf (v : V) : Bucket :=
  match v with
  | .num _ => .generic
  | .set _ => .generic
  | .tup [] => .generic
  | .tup as =>
    if (asChar v).isSome then .strChar
    else if (asByte v).isSome then .bytesByte
    else if (asItem v).isSome then .arrItem
    else if (asEntry v).isSome then .dictEntry
    else .rel (as.map (·.1))

open KSeq

/-! ## The representations -/

/-- a Dict value: one value, or `multipleValues` (a frozen set of ≥ 2 values) -/
inductive DVal where
  | one (v : V)
  | many (vs : List V)
  deriving Inhabited, DecidableEq

/-- every set representation except UnionSet -/
inductive Plain where
  | empty                                                      -- EmptySet
  | true_                                                      -- TrueSet
  | generic (xs : List V)                                      -- GenericSet (frozen.Set)
  | str (s : List (Option Nat)) (off : Int) (holes : Nat)      -- String: runes, −1 = hole
  | bytes (b : List Nat) (off : Int)                           -- Bytes
  | arr (vs : List (Option V)) (off : Int) (count : Nat)       -- Array: nil = hole
  | dict (m : List (V × DVal))                                 -- Dict (frozen.Map key ↦ value | multipleValues)
  | rel (names : List String) (rows : List V)                  -- Relation (identity projector)
  deriving Inhabited, DecidableEq

inductive Rep where
  | plain (p : Plain)
  | union (bs : List (Bucket × Plain))                         -- UnionSet (frozen.Map bucket ↦ subset)
  deriving Inhabited, DecidableEq

/-! ### enumeration and denotation -/

def DVal.vals : DVal → List V
  | .one v => [v]
  | .many vs => vs

def dictMembers : List (V × DVal) → List V
  | [] => []
  | (k, d) :: r => d.vals.map (entryV k) ++ dictMembers r

def Plain.members : Plain → List V
  | .empty => []
  | .true_ => [.tup []]
  | .generic xs => xs
  | .str s off _ => (kden s off).map (fun p => charV p.1 p.2)
  | .bytes b off => (kden (b.map some) off).map (fun p => byteV p.1 p.2)
  | .arr vs off _ => (kden vs off).map (fun p => itemV p.1 p.2)
  | .dict m => dictMembers m
  | .rel _ rows => rows

def bucketsMembers : List (Bucket × Plain) → List V
  | [] => []
  | (_, p) :: r => p.members ++ bucketsMembers r

def Rep.members : Rep → List V
  | .plain p => p.members
  | .union bs => bucketsMembers bs

/-- the finite set a representation denotes -/
def Plain.den (p : Plain) : List V := FinSet.mk p.members
def Rep.den (r : Rep) : List V := FinSet.mk r.members
def Rep.denV (r : Rep) : V := .set r.den

/-- `unionSetSubsetBucket` -/
def Plain.bucket : Plain → Bucket
  | .empty => .generic
  | .true_ => .generic
  | .generic _ => .generic
  | .str .. => .strChar
  | .bytes .. => .bytesByte
  | .arr .. => .arrItem
  | .dict _ => .dictEntry
  | .rel names _ => .rel names

/-- `IsTrue` (String/Bytes panic on an empty slice: they are never constructed empty) -/
def Plain.isTrue : Plain → Bool
  | .empty => false
  | .true_ => true
  | .generic xs => !xs.isEmpty
  | .str .. => true
  | .bytes .. => true
  | .arr _ _ count => decide (count > 0)
  | .dict m => !m.isEmpty
  | .rel _ rows => !rows.isEmpty

def Rep.isTrue : Rep → Bool
  | .plain p => p.isTrue
  | .union bs => !bs.isEmpty

/-! ### association lists (frozen.Map) -/
namespace AL
variable {κ β : Type} [DecidableEq κ]
def get (k : κ) : List (κ × β) → Option β
  | [] => none
  | (k', v) :: r => if k' = k then some v else get k r
/-- `Map.With`: replace in place, else append -/
def put (k : κ) (v : β) : List (κ × β) → List (κ × β)
  | [] => [(k, v)]
  | (k', v') :: r => if k' = k then (k, v) :: r else (k', v') :: put k v r
def remove (k : κ) : List (κ × β) → List (κ × β)
  | [] => []
  | (k', v') :: r => if k' = k then r else (k', v') :: remove k r
end AL

/-! ### the set builder -/

/-- `newSetFromFrozenSet` -/
def fromFrozen (xs : List V) : Plain :=
  match xs with
  | [] => .empty
  | [x] => if x = .tup [] then .true_ else .generic [x]
  | _ => .generic xs

def charPairs : List V → List (Int × Nat)
  | [] => []
  | v :: r => match asChar v with
    | some p => p :: charPairs r
    | none => charPairs r
def bytePairs : List V → List (Int × Nat)
  | [] => []
  | v :: r => match asByte v with
    | some p => p :: bytePairs r
    | none => bytePairs r
def itemPairs : List V → List (Int × V)
  | [] => []
  | v :: r => match asItem v with
    | some p => p :: itemPairs r
    | none => itemPairs r

/-- `asString` (repaired: the holes are counted on the result) -/
def asString (ps : List (Int × Nat)) : Plain :=
  let r := build ps
  .str r.1 r.2 (kholes r.1)

/-- `asBytes`: no holes — a missing index reads as byte 0 -/
def asBytes (ps : List (Int × Nat)) : Plain :=
  let r := build ps
  .bytes (r.1.map (fun o => o.getD 0)) r.2

/-- `asArray` -/
def asArray (ps : List (Int × V)) : Plain :=
  let r := build ps
  .arr r.1 r.2 (kcount r.1)

/-- `newMultipleValues`: a frozen set of the values; a single value stays a plain value -/
def newMultipleValues (vs : List V) : DVal :=
  match FinSet.mk vs with
  | [v] => .one v
  | l => .many l

/-- one step of `NewDict(true, …)` / `Dict.With` for the entry `(k, x)` -/
def dictAdd (m : List (V × DVal)) (k x : V) : List (V × DVal) :=
  match AL.get k m with
  | some (.many vs) => AL.put k (.many (FinSet.ins x vs)) m
  | some (.one u) => AL.put k (newMultipleValues [u, x]) m
  | none => AL.put k (.one x) m

def dictAddAll (m : List (V × DVal)) : List V → List (V × DVal)
  | [] => m
  | v :: r => match asEntry v with
    | some (k, x) => dictAddAll (dictAdd m k x) r
    | none => dictAddAll m r

/-- `NewDict(true, entries…)` -/
def newDict (vs : List V) : Plain :=
  match vs with
  | [] => .empty
  | _ => .dict (dictAddAll [] vs)

/-- the `finish` function of the builder of bucket `b` -/
def finishBucket (b : Bucket) (vs : List V) : Plain :=
  match b with
  | .generic => fromFrozen (FinSet.mk vs)
  | .strChar => asString (charPairs vs)
  | .bytesByte => asBytes (bytePairs vs)
  | .arrItem => asArray (itemPairs vs)
  | .dictEntry => newDict vs
  | .rel names => .rel names (FinSet.mk vs)

/-- `SetBuilder.Add`: append to the value list of the value's bucket (buckets in order of first use) -/
def addToBucket (v : V) : List (Bucket × List V) → List (Bucket × List V)
  | [] => [(bucketOf v, [v])]
  | (b, vs) :: r => if b = bucketOf v then (b, vs ++ [v]) :: r else (b, vs) :: addToBucket v r

def groupBuckets (acc : List (Bucket × List V)) : List V → List (Bucket × List V)
  | [] => acc
  | v :: r => groupBuckets (addToBucket v acc) r

def finishGroups : List (Bucket × List V) → List (Bucket × Plain)
  | [] => []
  | (b, vs) :: r => (b, finishBucket b vs) :: finishGroups r

/-- `newSetFromBuckets` -/
def fromBuckets (bs : List (Bucket × Plain)) : Rep :=
  match bs with
  | [] => .plain .empty
  | [(_, p)] => .plain p
  | _ => .union bs

/-- `SetBuilder.Finish` after `Add`ing `xs` in order (0 buckets: None; 1: its set; else a UnionSet) -/
def finish (xs : List V) : Rep := fromBuckets (finishGroups (groupBuckets [] xs))

/-- `MustNewSet(v)`: always a single bucket -/
def single (v : V) : Plain := finishBucket (bucketOf v) [v]

/-- `toUnionSetWithItem` -/
def toUnionSetWithItem (s : Plain) (v : V) : Outcome Rep :=
  if bucketOf v = s.bucket then .panic
  else .ok (fromBuckets [(s.bucket, s), (bucketOf v, single v)])

/-- `newGenericSetFromSet` -/
def newGenericSetFromSet (p : Plain) : Plain := fromFrozen (FinSet.mk p.members)

/-! ### String -/

/-- `String.index` / `Bytes.index` -/
def seqIndex (len : Nat) (off pos : Int) : Int :=
  let p := pos - off
  if 0 ≤ p ∧ p ≤ len then p else -1

def strHas (s : List (Option Nat)) (off : Int) (v : V) : Bool :=
  match asChar v with
  | some (ix, c) => if off ≤ ix ∧ ix < off + s.length then kget s (ix - off).toNat == some c else false
  | none => false

def strCount (s : List (Option Nat)) (holes : Nat) : Nat := s.length - holes

/-- `String.with` (repaired) -/
def strWith (s : List (Option Nat)) (off : Int) (holes : Nat) (ix : Int) (c : Nat) : Outcome Rep :=
  let i := seqIndex s.length off ix
  if 0 ≤ i ∧ i < s.length ∧ kget s i.toNat = some c then .ok (.plain (.str s off holes))
  else if i = s.length then .ok (.plain (.str (s ++ [some c]) off holes))
  else if ix = off - 1 then .ok (.plain (.str (some c :: s) (off - 1) holes))
  else if 0 ≤ i ∧ i < s.length ∧ (kget s i.toNat).isSome then
    -- occupied by another char: `newGenericSetFromSet(s).With(tuple)`
    toUnionSetWithItem (newGenericSetFromSet (.str s off holes)) (charV ix c)
  else .ok (finish ((Plain.str s off holes).members ++ [charV ix c]))

/-- the three slicing cases of `String.Without` (first char, last char, a char in between) -/
def strWithoutCore (s : List (Option Nat)) (off : Int) (holes : Nat) (v : V) : List (Option Nat) × Int × Nat :=
  match asChar v with
  | some (ix, c) =>
    let i := seqIndex s.length off ix
    if i = 0 ∧ kget s 0 = some c then (s.drop 1, off + 1, holes)
    else if i = (s.length : Int) - 1 ∧ kget s (s.length - 1) = some c then (s.take (s.length - 1), off, holes)
    else if 0 < i ∧ i < (s.length : Int) - 1 ∧ kget s i.toNat = some c then (eraseAt s i.toNat, off, holes + 1)
    else (s, off, holes)
  | none => (s, off, holes)

/-- `String.trimHoles`: drop the holes at both ends (each one dropped leaves the hole count) -/
def strTrim (r : List (Option Nat) × Int × Nat) : List (Option Nat) × Int × Nat :=
  let f := trimFront r.1 r.2.1
  let t := trimBack f.1
  (t, f.2, r.2.2 - (r.1.length - t.length))

def strWithout (s : List (Option Nat)) (off : Int) (holes : Nat) (v : V) : Plain :=
  let r := match asChar v with
    | some _ => strTrim (strWithoutCore s off holes v)
    | none => (s, off, holes)
  if strCount r.1 r.2.2 = 0 then .empty else .str r.1 r.2.1 r.2.2

/-! ### Bytes -/

def bytesHas (b : List Nat) (off : Int) (v : V) : Bool :=
  match asByte v with
  | some (pos, x) => if off ≤ pos ∧ pos < off + b.length then b[(pos - off).toNat]? == some x else false
  | none => false

/-- `Bytes.with` -/
def bytesWith (b : List Nat) (off : Int) (index : Int) (x : Nat) : Outcome Rep :=
  let i := seqIndex b.length off index
  if 0 ≤ i ∧ i < b.length ∧ b[i.toNat]? = some x then .ok (.plain (.bytes b off))
  else if i = b.length then .ok (.plain (.bytes (b ++ [x]) off))
  else if index = off - 1 then .ok (.plain (.bytes (x :: b) (off - 1)))
  else toUnionSetWithItem (newGenericSetFromSet (.bytes b off)) (byteV index x)

/-- `Bytes.Without` (repaired); the middle case leaves a GenericSet of byte tuples -/
def bytesWithout (b : List Nat) (off : Int) (v : V) : Plain :=
  match asByte v with
  | some (pos, x) =>
    let i := seqIndex b.length off pos
    if 0 ≤ i ∧ i < b.length ∧ b[i.toNat]? = some x then
      if b.length = 1 then .empty
      else if i = 0 then .bytes (b.drop 1) (off + 1)
      else if i = (b.length : Int) - 1 then .bytes (b.take i.toNat) off
      else fromFrozen (FinSet.erase (FinSet.mk (Plain.bytes b off).members) v)
    else .bytes b off
  | none => .bytes b off

/-! ### Array -/

/-- `NewOffsetArray`: trim holes from both ends, count the rest; nothing but holes is the empty set -/
def newOffsetArray (off : Int) (vs : List (Option V)) : Plain :=
  let f := trimFront vs off
  let t := trimBack f.1
  if t.isEmpty then .empty else .arr t f.2 (kcount t)

def arrHas (vs : List (Option V)) (off : Int) (v : V) : Bool :=
  match asItem v with
  | some (ix, x) => if off ≤ ix ∧ ix < off + vs.length then kget vs (ix - off).toNat == some x else false
  | none => false

/-- `Array.withItem`: grows at either end, fills a hole; an occupied index falls back to a generic set -/
def arrWithItem (vs : List (Option V)) (off : Int) (count : Nat) (index : Int) (item : V) : Outcome Rep :=
  let i := index - off
  if i < 0 then
    .ok (.plain (.arr (some item :: (List.replicate ((-i).toNat - 1) none ++ vs)) (off + i) (count + 1)))
  else if i ≥ vs.length then
    .ok (.plain (.arr (vs ++ List.replicate (i.toNat - vs.length) none ++ [some item]) off (count + 1)))
  else if kget vs i.toNat = some item then .ok (.plain (.arr vs off count))
  else if (kget vs i.toNat).isSome then
    -- occupied by another item: `newGenericSetFromSet(a).With(tuple)`
    toUnionSetWithItem (newGenericSetFromSet (.arr vs off count)) (itemV index item)
  else .ok (.plain (.arr (setAt vs i.toNat (some item)) off (count + 1)))

def arrWithout (vs : List (Option V)) (off : Int) (count : Nat) (v : V) : Plain :=
  match asItem v with
  | some (ix, x) =>
    let i := ix - off
    if 0 ≤ i ∧ i < vs.length ∧ kget vs i.toNat = some x then
      if ix = off then newOffsetArray (off + 1) (vs.drop 1)
      else if ix = off + vs.length - 1 then newOffsetArray off (vs.take (vs.length - 1))
      else if count - 1 = 0 then .empty
      else .arr (eraseAt vs i.toNat) off (count - 1)
    else .arr vs off count
  | none => .arr vs off count

/-- `Array.Where`: nil out the rejected items, then trim both ends -/
def arrKeep (p : V → Bool) : List (Option V) → Int → List (Option V)
  | [], _ => []
  | some x :: r, i => (if p (itemV i x) then some x else none) :: arrKeep p r (i + 1)
  | none :: r, i => none :: arrKeep p r (i + 1)

def arrFilter (vs : List (Option V)) (off : Int) (count : Nat) (p : V → Bool) : Plain :=
  let kept := arrKeep p vs off
  let n := count - (kcount vs - kcount kept)      -- `result.count--` for every rejected item
  if n = 0 then .empty
  else
    let f := trimFront kept off
    .arr (trimBack f.1) f.2 n

/-! ### Dict (repaired: multi-valued keys are honoured) -/

def dictCount : List (V × DVal) → Nat
  | [] => 0
  | (_, .many vs) :: r => vs.length + dictCount r
  | (_, .one _) :: r => 1 + dictCount r

def dictHas (m : List (V × DVal)) (v : V) : Bool :=
  match asEntry v with
  | some (k, x) =>
    match AL.get k m with
    | some (.many vs) => decide (x ∈ vs)
    | some (.one w) => decide (x = w)
    | none => false
  | none => false

def dictWith (m : List (V × DVal)) (v : V) : Outcome Rep :=
  match asEntry v with
  | some (k, x) => .ok (.plain (.dict (dictAdd m k x)))
  | none => toUnionSetWithItem (.dict m) v

def dictWithout (m : List (V × DVal)) (v : V) : Plain :=
  match asEntry v with
  | some (k, x) =>
    match AL.get k m with
    | some (.many vs) =>
      if x ∈ vs then .dict (AL.put k (newMultipleValues (FinSet.erase vs x)) m) else .dict m
    | some (.one w) =>
      if x = w then (if (AL.remove k m).isEmpty then .empty else .dict (AL.remove k m)) else .dict m
    | none => .dict m
  | none => .dict m

/-! ### the Set interface on Plain -/

def Plain.has (p : Plain) (v : V) : Bool :=
  match p with
  | .empty => false
  | .true_ => decide (v = .tup [])
  | .generic xs => decide (v ∈ xs)
  | .str s off _ => strHas s off v
  | .bytes b off => bytesHas b off v
  | .arr vs off _ => arrHas vs off v
  | .dict m => dictHas m v
  | .rel names rows =>
    match v with
    | .tup as => decide (as.map (·.1) = names) && decide (v ∈ rows)
    | _ => false

def Plain.count (p : Plain) : Nat :=
  match p with
  | .empty => 0
  | .true_ => 1
  | .generic xs => xs.length
  | .str s _ holes => strCount s holes
  | .bytes b _ => b.length
  | .arr _ _ count => count
  | .dict m => dictCount m
  | .rel _ rows => rows.length

def Plain.with_ (p : Plain) (v : V) : Outcome Rep :=
  match p with
  | .empty => if v = .tup [] then .ok (.plain .true_) else .ok (.plain (single v))
  | .true_ => if v = .tup [] then .ok (.plain .true_) else .ok (finish [.tup [], v])
  | .generic xs =>
    if bucketOf v = .generic then .ok (.plain (.generic (FinSet.ins v xs)))
    else toUnionSetWithItem (.generic xs) v
  | .str s off holes =>
    match asChar v with
    | some (ix, c) => strWith s off holes ix c
    | none => toUnionSetWithItem (.str s off holes) v
  | .bytes b off =>
    match asByte v with
    | some (i, x) => bytesWith b off i x
    | none => toUnionSetWithItem (.bytes b off) v
  | .arr vs off count =>
    match asItem v with
    | some (i, x) => arrWithItem vs off count i x
    | none => toUnionSetWithItem (.arr vs off count) v
  | .dict m => dictWith m v
  | .rel names rows =>
    match v with
    | .tup as =>
      -- a row only if the tuple has the relation's names *and* is routed to the relation's bucket
      if as.map (·.1) = names ∧ bucketOf v = .rel names then .ok (.plain (.rel names (FinSet.ins v rows)))
      else toUnionSetWithItem (.rel names rows) v
    | _ => toUnionSetWithItem (.rel names rows) v

/-- `Relation.newBody` -/
def relBody (names : List String) (rows : List V) : Plain :=
  if rows.isEmpty then .empty else .rel names rows

def Plain.without (p : Plain) (v : V) : Plain :=
  match p with
  | .empty => .empty
  | .true_ => if v = .tup [] then .empty else .true_
  | .generic xs => fromFrozen (FinSet.erase xs v)
  | .str s off holes => strWithout s off holes v
  | .bytes b off => bytesWithout b off v
  | .arr vs off count => arrWithout vs off count v
  | .dict m => dictWithout m v
  | .rel names rows =>
    match v with
    | .tup as => if as.map (·.1) = names then relBody names (FinSet.erase rows v) else .rel names rows
    | _ => .rel names rows

/-- the result of `Where` with a predicate that cannot fail.  String/Bytes/Dict re-build through the
SetBuilder/NewDict, Array nils out and trims, the others filter their frozen set. -/
def Plain.filter (p : Plain) (f : V → Bool) : Plain :=
  match p with
  | .empty => .empty
  | .true_ => if f (.tup []) then .true_ else .empty
  | .generic xs => fromFrozen (xs.filter f)
  | .str s off holes =>
    match (Plain.str s off holes).members.filter f with
    | [] => .empty
    | l => asString (charPairs l)
  | .bytes b off =>
    match (Plain.bytes b off).members.filter f with
    | [] => .empty
    | l => asBytes (bytePairs l)
  | .arr vs off count => arrFilter vs off count f
  | .dict m => newDict ((Plain.dict m).members.filter f)
  | .rel names rows => relBody names (rows.filter f)

/-! ### UnionSet -/

def getSubset (bs : List (Bucket × Plain)) (b : Bucket) : Plain := (AL.get b bs).getD .empty

def unionHas (bs : List (Bucket × Plain)) (v : V) : Bool :=
  match AL.get (bucketOf v) bs with
  | some p => p.has v
  | none => false

def unionCount : List (Bucket × Plain) → Nat
  | [] => 0
  | (_, p) :: r => p.count + unionCount r

/-- a subset stored in a UnionSet must be a plain set; anything else is outside the model -/
def asPlain : Outcome Rep → Outcome Plain
  | .ok (.plain p) => .ok p
  | .ok (.union _) => .unspec
  | .err => .err
  | .unspec => .unspec
  | .panic => .panic

def unionWith (bs : List (Bucket × Plain)) (v : V) : Outcome Rep :=
  match asPlain ((getSubset bs (bucketOf v)).with_ v) with
  | .ok p => .ok (fromBuckets (AL.put (bucketOf v) p bs))
  | .err => .err
  | .unspec => .unspec
  | .panic => .panic

def unionWithout (bs : List (Bucket × Plain)) (v : V) : Rep :=
  if !unionHas bs v then .union bs
  else
    let newSet := (getSubset bs (bucketOf v)).without v
    if !newSet.isTrue then fromBuckets (AL.remove (bucketOf v) bs)
    else fromBuckets (AL.put (bucketOf v) newSet bs)

def unionFilterBuckets (f : V → Bool) : List (Bucket × Plain) → List (Bucket × Plain)
  | [] => []
  | (b, p) :: r =>
    let q := p.filter f
    if q.isTrue then (b, q) :: unionFilterBuckets f r else unionFilterBuckets f r

/-! ### the Set interface on Rep -/

def Rep.has : Rep → V → Bool
  | .plain p, v => p.has v
  | .union bs, v => unionHas bs v

def Rep.count : Rep → Nat
  | .plain p => p.count
  | .union bs => unionCount bs

def Rep.with_ : Rep → V → Outcome Rep
  | .plain p, v => p.with_ v
  | .union bs, v => unionWith bs v

def Rep.without : Rep → V → Rep
  | .plain p, v => .plain (p.without v)
  | .union bs, v => unionWithout bs v

def Rep.filter : Rep → (V → Bool) → Rep
  | .plain p, f => .plain (p.filter f)
  | .union bs, f => fromBuckets (unionFilterBuckets f bs)

/-- `CanonicalSet`: a GenericSet is re-built through the SetBuilder -/
def canonicalSet : Rep → Rep
  | .plain (.generic xs) => finish xs
  | r => r

/-! ## rel/ops_set.go -/

def isEmptySet : Rep → Bool
  | .plain .empty => true
  | _ => false

/-- `Intersect` on two sets that are not UnionSets -/
def interPP (a b : Plain) : Plain :=
  match a, b with
  | .empty, _ => .empty
  | _, .empty => .empty
  | .generic xs, .generic ys => fromFrozen (FinSet.inter xs ys)
  | a, b => a.filter b.has

def interBuckets (bu : List (Bucket × Plain)) : List (Bucket × Plain) → List (Bucket × Plain)
  | [] => []
  | (k, p) :: r =>
    match AL.get k bu with
    | some q =>
      let s := interPP p q
      if s.isTrue then (k, s) :: interBuckets bu r else interBuckets bu r
    | none => interBuckets bu r

def inter : Rep → Rep → Rep
  | .plain a, .plain b => .plain (interPP a b)
  | .union au, .union bu => fromBuckets (interBuckets bu au)
  | .union au, .plain b => if b = .empty then .plain .empty else .plain (interPP (getSubset au b.bucket) b)
  | .plain a, .union bu => if a = .empty then .plain .empty else .plain (interPP (getSubset bu a.bucket) a)

/-- `Difference` on two sets that are not UnionSets -/
def diffPP (a b : Plain) : Plain :=
  match a, b with
  | .empty, _ => .empty
  | a, .empty => a
  | .generic xs, .generic ys => fromFrozen (FinSet.diff xs ys)
  | a, b => a.filter (fun v => !b.has v)

def diffBuckets (bu : List (Bucket × Plain)) : List (Bucket × Plain) → List (Bucket × Plain)
  | [] => []
  | (k, p) :: r =>
    let d := diffPP p (getSubset bu k)
    if d.isTrue then (k, d) :: diffBuckets bu r else diffBuckets bu r

def diff : Rep → Rep → Rep
  | .plain a, .plain b => .plain (diffPP a b)
  | .union au, .union bu => fromBuckets (diffBuckets bu au)
  | .union au, .plain b =>
    if b = .empty then .union au
    else
      let d := diffPP (getSubset au b.bucket) b
      if d.isTrue then fromBuckets (AL.put b.bucket d au) else fromBuckets (AL.remove b.bucket au)
  | .plain a, .union bu => if a = .empty then .plain .empty else .plain (diffPP a (getSubset bu a.bucket))

/-- the loop `for e in b { a = a.With(e) }` -/
def withAll : Rep → List V → Outcome Rep
  | a, [] => .ok a
  | a, v :: r =>
    match a.with_ v with
    | .ok a' => withAll a' r
    | .err => .err
    | .unspec => .unspec
    | .panic => .panic

/-- `Union` on two sets that are not UnionSets -/
def unionPP (a b : Plain) : Outcome Rep :=
  match a, b with
  | .empty, b => .ok (.plain b)
  | a, .empty => .ok (.plain a)
  | .generic xs, .generic ys => .ok (canonicalSet (.plain (fromFrozen (FinSet.union xs ys))))
  | a, b =>
    if a.bucket ≠ b.bucket then .ok (fromBuckets [(a.bucket, a), (b.bucket, b)])
    else (withAll (.plain a) b.members).map canonicalSet

/-- `Map.Merge(bu.m, Union)`: keys of `au` first (merged where `bu` has them), then the rest of `bu` -/
def mergeBuckets (bu : List (Bucket × Plain)) : List (Bucket × Plain) → Outcome (List (Bucket × Plain))
  | [] => .ok []
  | (k, p) :: r =>
    match mergeBuckets bu r with
    | .ok r' =>
      match AL.get k bu with
      | some q =>
        match asPlain (unionPP p q) with
        | .ok s => .ok ((k, s) :: r')
        | .err => .err
        | .unspec => .unspec
        | .panic => .panic
      | none => .ok ((k, p) :: r')
    | o => o

def restBuckets (au : List (Bucket × Plain)) : List (Bucket × Plain) → List (Bucket × Plain)
  | [] => []
  | (k, q) :: r => if (AL.get k au).isSome then restBuckets au r else (k, q) :: restBuckets au r

/-- `UnionSet.unionWithSubset` -/
def unionWithSubset (au : List (Bucket × Plain)) (b : Plain) : Outcome Rep :=
  match asPlain (unionPP (getSubset au b.bucket) b) with
  | .ok s => .ok (fromBuckets (AL.put b.bucket s au))
  | .err => .err
  | .unspec => .unspec
  | .panic => .panic

def union : Rep → Rep → Outcome Rep
  | .plain a, .plain b => unionPP a b
  | .union au, .union bu =>
    match mergeBuckets bu au with
    | .ok m => .ok (fromBuckets (m ++ restBuckets au bu))
    | .err => .err
    | .unspec => .unspec
    | .panic => .panic
  | .union au, .plain b => if b = .empty then .ok (.union au) else unionWithSubset au b
  | .plain a, .union bu => if a = .empty then .ok (.union bu) else unionWithSubset bu a

def bothGeneric : Rep → Rep → Option (List V × List V)
  | .plain (.generic xs), .plain (.generic ys) => some (xs, ys)
  | _, _ => none

def symdiff (a b : Rep) : Outcome Rep :=
  if isEmptySet a then .ok b
  else if isEmptySet b then .ok a
  else match bothGeneric a b with
    | some (xs, ys) => .ok (.plain (fromFrozen (FinSet.symdiff xs ys)))
    | none => union (diff a b) (diff b a)

/-! ### members that are sets: their representation is re-derived from their meaning (members are
canonical values, C02) -/

def repOfV : V → Outcome Rep
  | .set xs => .ok (finish xs)
  | _ => .err

/-- `s.Current().(Set).With(c)` for a member `s` of the accumulated power set -/
def withV (s c : V) : Outcome V :=
  match repOfV s with
  | .ok r => (r.with_ c).map Rep.denV
  | .err => .panic
  | .unspec => .unspec
  | .panic => .panic

/-- the inner loop of `PowerSet`: `newSets = newSets.With(s.With(c))` for every `s` of `result` -/
def powerStep (c : V) : List V → Rep → Outcome Rep
  | [], acc => .ok acc
  | s :: r, acc =>
    match withV s c with
    | .ok s' =>
      match acc.with_ s' with
      | .ok acc' => powerStep c r acc'
      | o => o
    | .err => .err
    | .unspec => .unspec
    | .panic => .panic

def powerLoop : List V → Rep → Outcome Rep
  | [], result => .ok result
  | c :: r, result =>
    match powerStep c result.members (.plain .empty) with
    | .ok newSets =>
      match union result newSets with
      | .ok result' => powerLoop r result'
      | o => o
    | o => o

/-- `PowerSet` -/
def powerSet (s : Rep) : Outcome Rep :=
  match s with
  | .plain .empty => .ok (finish [.set []])
  | .plain (.generic xs) => .ok (.plain (fromFrozen (FinSet.mk ((FS.sublists xs).map V.set))))
  | s => powerLoop s.members (finish [.set []])

/-! ### syntax/expr_set_compare.go -/

def subsetI (s t : Rep) : Bool :=
  if t.count = 0 then false
  else s.members.all t.has && decide (s.count < t.count)

def subsetOrEqualI (s t : Rep) : Bool :=
  if t.count = 0 then decide (s.count = 0)
  else s.members.all t.has && decide (s.count ≤ t.count)

/-- `Equal` on two sets: equality of meaning (trusted here; it is property C02) -/
def equalI (a b : Rep) : Bool := decide (a.den = b.den)

def subsetOrSupersetI (a b : Rep) : Bool := subsetI a b || (subsetI b a && !equalI a b)
def subsetSupersetOrEqualI (a b : Rep) : Bool := subsetI a b || subsetI b a || equalI a b

/-! ## The expression language -/

/-- first-order terms over `.` -/
inductive T where
  | dot
  | const (l : Lit)
  | attr (t : T) (name : String)
  | add (a b : T)
  | sub (a b : T)
  | mul (a b : T)
  | tup1 (n : String) (a : T)
  | tup2 (n1 : String) (a : T) (n2 : String) (b : T)
  | set1 (a : T)
  deriving Inhabited

/-- first-order predicates over `.` -/
inductive P where
  | tt
  | eq (a b : T)
  | ne (a b : T)
  | lt (a b : T)
  | le (a b : T)
  | and (p q : P)
  | or (p q : P)
  | not (p : P)
  deriving Inhabited

inductive BinOp where
  | union | inter | diff | symdiff | with_ | without
  deriving DecidableEq, Inhabited

inductive CmpOp where
  | mem | nmem                       -- <:  !<:
  | sub | sup | sube | supe          -- (<) (>) (<=) (>=)
  | comp | compe                     -- (<>) (<>=)
  | nsub | nsup | nsube | nsupe | ncomp | ncompe
  deriving DecidableEq, Inhabited

inductive E where
  | lit (l : Lit)
  | bin (op : BinOp) (a b : E)
  | cmp (op : CmpOp) (a b : E)
  | count (a : E)
  | where_ (a : E) (p : P)
  | darrow (a : E) (f : T)
  | pow (a : E)
  /-- a relation *computed* by natural joins of projections of itself (each column a key, so the joins
  are lossless): the same value as the literal `{|names| rows}`, held with another physical column
  order; `src` is the join expression -/
  | relj (names : List String) (rows : List (List Lit)) (src : String)
  deriving Inhabited

/-! ### source text -/

def T.src : T → String
  | .dot => "."
  | .const l => l.src
  | .attr .dot name => "." ++ Lit.nameSrc name
  | .attr t name => "(" ++ t.src ++ ")." ++ Lit.nameSrc name
  | .add a b => "(" ++ a.src ++ " + " ++ b.src ++ ")"
  | .sub a b => "(" ++ a.src ++ " - " ++ b.src ++ ")"
  | .mul a b => "(" ++ a.src ++ " * " ++ b.src ++ ")"
  | .tup1 n a => "(" ++ Lit.nameSrc n ++ ": " ++ a.src ++ ")"
  | .tup2 n1 a n2 b => "(" ++ Lit.nameSrc n1 ++ ": " ++ a.src ++ ", " ++ Lit.nameSrc n2 ++ ": " ++ b.src ++ ")"
  | .set1 a => "{" ++ a.src ++ "}"

def P.src : P → String
  | .tt => "true"
  | .eq a b => "(" ++ a.src ++ " = " ++ b.src ++ ")"
  | .ne a b => "(" ++ a.src ++ " != " ++ b.src ++ ")"
  | .lt a b => "(" ++ a.src ++ " < " ++ b.src ++ ")"
  | .le a b => "(" ++ a.src ++ " <= " ++ b.src ++ ")"
  | .and p q => "(" ++ p.src ++ " && " ++ q.src ++ ")"
  | .or p q => "(" ++ p.src ++ " || " ++ q.src ++ ")"
  | .not p => "(!" ++ p.src ++ ")"

def BinOp.src : BinOp → String
  | .union => "|" | .inter => "&" | .diff => "&~" | .symdiff => "~~" | .with_ => "with" | .without => "without"

def CmpOp.src : CmpOp → String
  | .mem => "<:" | .nmem => "!<:"
  | .sub => "(<)" | .sup => "(>)" | .sube => "(<=)" | .supe => "(>=)" | .comp => "(<>)" | .compe => "(<>=)"
  | .nsub => "!(<)" | .nsup => "!(>)" | .nsube => "!(<=)" | .nsupe => "!(>=)" | .ncomp => "!(<>)"
  | .ncompe => "!(<>=)"

def E.src : E → String
  | .lit l => l.src
  | .bin op a b => "(" ++ a.src ++ " " ++ op.src ++ " " ++ b.src ++ ")"
  | .cmp op a b => "(" ++ a.src ++ " " ++ op.src ++ " " ++ b.src ++ ")"
  | .count a => "(" ++ a.src ++ " count)"
  | .where_ a p => "(" ++ a.src ++ " where " ++ p.src ++ ")"
  | .darrow a f => "(" ++ a.src ++ " => " ++ f.src ++ ")"
  | .pow a => "(^(" ++ a.src ++ "))"
  | .relj _ _ src => src

/-! ### evaluation of terms and predicates (shared by Spec and Impl: closures are not under test) -/

def getAttr (name : String) : V → Outcome V
  | .tup as =>
    match as.lookup name with
    | some v => .ok v
    | none => .err
  | .set _ => .unspec       -- deprecated: `.` on a singleton set reaches into its only member
  | _ => .err

/-- a tuple with a sugar heading whose `@` (or `@char`/`@byte`) is not a number: `NewTuple` panics
(asserted by the existing suite — KF-pinned-panics of C10); cases that reach it are not generated -/
def pinnedPanic (n1 : String) (a : V) (n2 : String) (b : V) : Bool :=
  let chk (ni : String) (i : V) (nx : String) (x : V) : Bool :=
    ni == "@" && (nx == "@char" || nx == "@byte" || nx == "@item") &&
      (!(match i with | .num _ => true | _ => false) ||
       ((nx == "@char" || nx == "@byte") && !(match x with | .num _ => true | _ => false)))
  chk n1 a n2 b || chk n2 b n1 a

def T.eval (x : V) : T → Outcome V
  | .dot => .ok x
  | .const l => .ok l.den
  | .attr t name => (t.eval x).bind (getAttr name)
  | .add a b =>
    (a.eval x).bind fun u => (b.eval x).bind fun w =>
      match u, w with
      | .num m, .num n => .ok (.num (m + n))
      | _, _ => .unspec
  | .sub a b =>
    (a.eval x).bind fun u => (b.eval x).bind fun w =>
      match u, w with
      | .num m, .num n => .ok (.num (m - n))
      | _, _ => .err
  | .mul a b =>
    (a.eval x).bind fun u => (b.eval x).bind fun w =>
      match u, w with
      | .num m, .num n => .ok (.num (m * n))
      | _, _ => .err
  | .tup1 n a => (a.eval x).bind fun u => .ok (V.mkTup [(n, u)])
  | .tup2 n1 a n2 b =>
    (a.eval x).bind fun u => (b.eval x).bind fun w =>
      if pinnedPanic n1 u n2 w then .panic else .ok (V.mkTup [(n1, u), (n2, w)])
  | .set1 a => (a.eval x).bind fun u => .ok (V.mkSet [u])

def P.eval (x : V) : P → Outcome Bool
  | .tt => .ok true
  | .eq a b => (a.eval x).bind fun u => (b.eval x).bind fun w => .ok (decide (u = w))
  | .ne a b => (a.eval x).bind fun u => (b.eval x).bind fun w => .ok (!decide (u = w))
  | .lt a b =>
    (a.eval x).bind fun u => (b.eval x).bind fun w =>
      match u, w with
      | .num m, .num n => .ok (decide (m < n))
      | _, _ => .unspec
  | .le a b =>
    (a.eval x).bind fun u => (b.eval x).bind fun w =>
      match u, w with
      | .num m, .num n => .ok (decide (m ≤ n))
      | _, _ => .unspec
  | .and p q =>
    match p.eval x with
    | .ok true => q.eval x
    | o => o
  | .or p q =>
    match p.eval x with
    | .ok false => q.eval x
    | o => o
  | .not p => (p.eval x).map (!·)

/-- run a callback over the members: a panic anywhere wins, else an error anywhere, else an
unspecified answer anywhere, else all the results -/
def mapAll {β} (f : V → Outcome β) : List V → Outcome (List β)
  | [] => .ok []
  | x :: r =>
    match f x, mapAll f r with
    | .panic, _ => .panic
    | _, .panic => .panic
    | .err, _ => .err
    | _, .err => .err
    | .unspec, _ => .unspec
    | _, .unspec => .unspec
    | .ok y, .ok ys => .ok (y :: ys)

/-- filter by a list of verdicts -/
def keepBy : List V → List Bool → List V
  | x :: xs, b :: bs => if b then x :: keepBy xs bs else keepBy xs bs
  | _, _ => []

/-! ## Spec -/
namespace Spec

def binop (op : BinOp) (x y : V) : Outcome V :=
  match op, x, y with
  | .union, .set a, .set b => .ok (.set (FinSet.union a b))
  | .inter, .set a, .set b => .ok (.set (FinSet.inter a b))
  | .diff, .set a, .set b => .ok (.set (FinSet.diff a b))
  | .symdiff, .set a, .set b => .ok (.set (FinSet.symdiff a b))
  | .with_, .set a, v => .ok (.set (FinSet.ins v a))
  | .without, .set a, v => .ok (.set (FinSet.erase a v))
  | _, _, _ => .unspec

def comparable (a b : List V) : Bool := FS.ssubset a b || FS.ssubset b a

def cmpop (op : CmpOp) (x y : V) : Outcome Bool :=
  match op, x, y with
  | .mem, v, .set b => .ok (decide (v ∈ b))
  | .nmem, v, .set b => .ok (!decide (v ∈ b))
  | .mem, _, _ => .unspec
  | .nmem, _, _ => .unspec
  | op, .set a, .set b =>
    .ok (match op with
      | .sub => FS.ssubset a b | .sup => FS.ssubset b a
      | .sube => FinSet.subset a b | .supe => FinSet.subset b a
      | .comp => comparable a b | .compe => comparable a b || decide (a = b)
      | .nsub => !FS.ssubset a b | .nsup => !FS.ssubset b a
      | .nsube => !FinSet.subset a b | .nsupe => !FinSet.subset b a
      | .ncomp => !comparable a b | .ncompe => !(comparable a b || decide (a = b))
      | .mem => false | .nmem => false)
  | _, _, _ => .unspec         -- a non-set operand: an error (`setOperands`)

def eval : E → Outcome V
  | .lit l => .ok l.den
  | .bin op a b => (eval a).bind fun x => (eval b).bind fun y => binop op x y
  | .cmp op a b => (eval a).bind fun x => (eval b).bind fun y => (cmpop op x y).map V.bool
  | .count a =>
    (eval a).bind fun x =>
      match x with
      | .set xs => .ok (.num (FinSet.card xs))
      | _ => .unspec
  | .where_ a p =>
    (eval a).bind fun x =>
      match x with
      | .set xs => (mapAll (fun v => p.eval v) xs).map fun bs => .set (keepBy xs bs)
      | _ => .unspec
  | .darrow a f =>
    (eval a).bind fun x =>
      match x with
      | .set xs => (mapAll (fun v => f.eval v) xs).map fun ys => .set (FinSet.mk ys)
      | _ => .unspec
  | .pow a =>
    (eval a).bind fun x =>
      match x with
      | .set xs => .ok (.set (FS.powerset xs))
      | _ => .unspec
  | .relj names rows _ => .ok (Lit.rel names rows).den

end Spec

/-! ## Impl: evaluation on representations -/
namespace Impl

/-- an evaluated value: a number or tuple (by meaning), or a set (by representation) -/
inductive IV where
  | val (v : V)
  | set (r : Rep)
  deriving Inhabited

def IV.toV : IV → V
  | .val v => v
  | .set r => r.denV

/-- how a literal is represented once evaluated -/
def litIV (l : Lit) : IV :=
  match l with
  | .num n => .val (.num n)
  | .tup _ => .val l.den
  | .str off cs => .set (.plain (if cs.isEmpty then .empty else .str (cs.map some) off 0))
  | .bytes off bs => .set (.plain (if bs.isEmpty then .empty else .bytes bs off))
  | .arr off xs => .set (.plain (newOffsetArray off (Lit.denOpts xs)))
  | .dict kvs => .set (.plain (newDict (Lit.denPairs kvs)))
  | .set xs => .set (finish (Lit.denList xs))
  | .rel names rows => .set (finish (Lit.denRows names rows))
  | .tt => .set (.plain .true_)
  | .ff => .set (.plain .empty)

def normTrue (r : Rep) : Rep := if r.isTrue then r else .plain .empty

def binop (op : BinOp) (x y : IV) : Outcome IV :=
  match op, x, y with
  | .union, .set a, .set b => (union a b).map .set
  | .inter, .set a, .set b => .ok (.set (inter a b))
  | .diff, .set a, .set b => .ok (.set (diff a b))
  | .symdiff, .set a, .set b => (symdiff a b).map .set
  | .with_, .set a, v => (a.with_ v.toV).map .set
  | .without, .set a, v => .ok (.set (normTrue (a.without v.toV)))
  | _, _, _ => .err

def cmpop (op : CmpOp) (x y : IV) : Outcome Bool :=
  match op, x, y with
  | .mem, v, .set b => .ok (b.has v.toV)
  | .nmem, v, .set b => .ok (!b.has v.toV)
  | .mem, _, _ => .err
  | .nmem, _, _ => .err
  | op, .set a, .set b =>
    .ok (match op with
      | .sub => subsetI a b | .sup => subsetI b a
      | .sube => subsetOrEqualI a b | .supe => subsetOrEqualI b a
      | .comp => subsetOrSupersetI a b | .compe => subsetSupersetOrEqualI b a
      | .nsub => !subsetI a b | .nsup => !subsetI b a
      | .nsube => !subsetOrEqualI a b | .nsupe => !subsetOrEqualI b a
      | .ncomp => !subsetOrSupersetI a b | .ncompe => !subsetSupersetOrEqualI b a
      | .mem => false | .nmem => false)
  | _, _, _ => .err

def eval : E → Outcome IV
  | .lit l => .ok (litIV l)
  | .bin op a b => (eval a).bind fun x => (eval b).bind fun y => binop op x y
  | .cmp op a b =>
    (eval a).bind fun x => (eval b).bind fun y => (cmpop op x y).map fun t => .set (.plain (if t then .true_ else .empty))
  | .count a =>
    (eval a).bind fun x =>
      match x with
      | .set r => .ok (.val (.num r.count))
      | _ => .err
  | .where_ a p =>
    (eval a).bind fun x =>
      match x with
      | .set r =>
        (mapAll (fun v => p.eval v) r.members).map fun bs =>
          .set (normTrue (r.filter (fun v => (keepBy r.members bs).contains v)))
      | _ => .err
  | .darrow a f =>
    (eval a).bind fun x =>
      match x with
      | .set r => (mapAll (fun v => f.eval v) r.members).map fun ys => .set (finish ys)
      | _ => .err
  | .pow a =>
    (eval a).bind fun x =>
      match x with
      | .set r => (powerSet r).map .set
      | _ => .err
  | .relj names rows _ => .ok (litIV (.rel names rows))

end Impl

/-! ## Observables -/

def obsV : Outcome V → String
  | .ok v => v.canon
  | .err => "error"
  | .unspec => "!panic"
  | .panic => "panic"

def obsI : Outcome Impl.IV → String
  | .ok v => v.toV.canon
  | .err => "error"
  | .unspec => "?"
  | .panic => "panic"

/-! ## Known-finding classes (decidable, evaluated on what the *specification* computes) -/

/-- `(attribute name, index)` of a sequence-sugar pair `(@: i, @char|@byte|@item: _)` -/
def sugarKey : V → Option (String × V)
  | .tup [(n1, i), (n2, _)] =>
    if n1 = "@" ∧ (n2 = "@char" ∨ n2 = "@byte" ∨ n2 = "@item") then some (n2, i) else none
  | _ => none

/-- two different members sit at one index of one sequence kind -/
def superimposedIn : List V → Bool
  | [] => false
  | x :: r =>
    (match sugarKey x with
     | some k => r.any (fun y => decide (sugarKey y = some k) && !decide (y = x))
     | none => false) || superimposedIn r

/-- the indices of the byte pairs among the members -/
def byteIdx (xs : List V) : List Int := (bytePairs xs).map (·.1)
def minInt : List Int → Int → Int
  | [], m => m
  | i :: r, m => minInt r (if i < m then i else m)
def maxInt : List Int → Int → Int
  | [], m => m
  | i :: r, m => maxInt r (if m < i then i else m)
/-- the byte pairs among the members do not cover a contiguous range of indices (their indices are
pairwise distinct unless the set is superimposed) -/
def bytesGapIn (xs : List V) : Bool :=
  match (byteIdx xs).eraseDups with
  | [] => false
  | i :: r => decide (maxInt r i - minInt r i + 1 ≠ (r.length + 1 : Nat))

/-- a `(@, @char)`/`(@, @byte)` pair whose character/byte is outside the range the specialised
tuple can hold: it stays a generic tuple (repair #20) -/
def badRangeTuple : V → Bool
  | .tup [(n1, .num _), (n2, .num c)] =>
    n1 == "@" && ((n2 == "@char" && (c < 0 || c > maxRune)) || (n2 == "@byte" && (c < 0 || c > 255)))
  | _ => false

mutual
def deepAny (f : V → Bool) : V → Bool
  | .num n => f (.num n)
  | .tup as => f (.tup as) || deepAnyAttrs f as
  | .set xs => f (.set xs) || deepAnyList f xs
def deepAnyAttrs (f : V → Bool) : List (String × V) → Bool
  | [] => false
  | (_, v) :: r => deepAny f v || deepAnyAttrs f r
def deepAnyList (f : V → Bool) : List V → Bool
  | [] => false
  | v :: r => deepAny f v || deepAnyList f r
end

def isSuper (v : V) : Bool := deepAny (fun x => match x with | .set xs => superimposedIn xs | _ => false) v
def isBytesGap (v : V) : Bool := deepAny (fun x => match x with | .set xs => bytesGapIn xs | _ => false) v
def isBadRange (v : V) : Bool := deepAny badRangeTuple v

/-- `Union` adds the right operand's members one at a time: two contiguous byte ranges whose lowest
indices are more than one apart pass through a set with a gap (either operand may be the one added) -/
def unionBytesGap (a b : List V) : Bool :=
  match (byteIdx a), (byteIdx b) with
  | i :: r, j :: s =>
    let la := minInt r i
    let lb := minInt s j
    decide (lb < la - 1) || decide (la < lb - 1)
  | _, _ => false

/-- `Relation.With` adds any tuple with the relation's names to the relation, also one that the
SetBuilder would route to a String/Bytes/Array bucket (possible only when the relation's heading is
(@, @char|@byte|@item), i.e. it holds a pair that cannot be specialised) -/
def relWithSugar (xs : List V) (v : V) : Bool :=
  match v with
  | .tup as =>
    xs.any (fun m => decide (bucketOf m = .rel (as.map (·.1)))) && !decide (bucketOf v = .rel (as.map (·.1)))
  | _ => false

structure Flags where
  super : Bool := false
  bytesGap : Bool := false
  relWith : Bool := false
  panic : Bool := false       -- a pinned Go panic (never generated)
  deriving Inhabited

def Flags.or (a b : Flags) : Flags :=
  ⟨a.super || b.super, a.bytesGap || b.bytesGap, a.relWith || b.relWith, a.panic || b.panic⟩

def flagsOfV (v : V) : Flags := ⟨isSuper v, isBytesGap v, false, false⟩

def flagsOfOutcome : Outcome V → Flags
  | .ok v => flagsOfV v
  | .panic => { panic := true }
  | _ => {}

def setOf : Outcome V → List V
  | .ok (.set xs) => xs
  | _ => []

/-- the flags of every sub-result of `e` as computed by the specification (plus the intermediate
sets of `~~` and the element-wise paths of `|`) -/
def flags : E → Flags
  | .lit l => flagsOfV l.den
  | .bin op a b =>
    let fa := flags a
    let fb := flags b
    let x := setOf (Spec.eval a)
    let y := setOf (Spec.eval b)
    let extra : Flags :=
      match op with
      | .union => { bytesGap := unionBytesGap x y }
      | .symdiff =>
        let d1 := FinSet.diff x y
        let d2 := FinSet.diff y x
        (flagsOfV (.set d1)).or ((flagsOfV (.set d2)).or { bytesGap := unionBytesGap d1 d2 })
      | _ => {}
    (fa.or fb).or (extra.or (flagsOfOutcome (Spec.eval (.bin op a b))))
  | .cmp op a b => ((flags a).or (flags b)).or (flagsOfOutcome (Spec.eval (.cmp op a b)))
  | .count a => flags a
  | .where_ a p => (flags a).or (flagsOfOutcome (Spec.eval (.where_ a p)))
  | .darrow a f => (flags a).or (flagsOfOutcome (Spec.eval (.darrow a f)))
  | .pow a => (flags a).or (flagsOfOutcome (Spec.eval (.pow a)))
  | .relj names rows _ => flagsOfV (Lit.rel names rows).den

def classOfFlags (f : Flags) : String :=
  if f.super then "KF-superimposed"
  else if f.bytesGap then "KF-bytes-holes"
  else "good"

def classOf (e : E) : String := classOfFlags (flags e)

end Arrai.C01
