/-
  C01: whole programs — literals are represented well-formedly, and the
  evaluator on representations refines the specification along every admissible evaluation.
-/
import Arrai.C01.PowerSet

namespace Arrai.C01
open Arrai Arrai.FinSet KSeq

/-! ## fit representations -/

/-- an evaluated value is fit for further operators: a non-set value, or a well-formed set in normal form -/
def IVOK : Impl.IV → Prop
  | .val v => ∀ xs, v ≠ .set xs
  | .set r => r.WF ∧ r.Norm

def Fits (iv : Impl.IV) (v : V) : Prop := IVOK iv ∧ iv.toV = v

theorem Fits.of_members {r : Rep} (w : r.WF) (n : r.Norm) {l : List V} (hl : Sorted l)
    (m : ∀ z, z ∈ r.members ↔ z ∈ l) : Fits (.set r) (.set l) :=
  ⟨⟨w, n⟩, congrArg V.set (den_eq_of_members r l hl m)⟩

theorem Fits.mkSet {r : Rep} (w : r.WF) (n : r.Norm) {l : List V} (m : ∀ z, z ∈ r.members ↔ z ∈ l) :
    Fits (.set r) (V.mkSet l) :=
  Fits.of_members w n (FinSet.sorted_mk l) fun z => (m z).trans (FinSet.mem_mk l z).symm

theorem Fits.exists_rep {iv : Impl.IV} {a : List V} (h : Fits iv (.set a)) : ∃ r, iv = .set r ∧ r.den = a ∧ r.WF ∧ r.Norm := by
  obtain ⟨hok, ht⟩ := h
  cases iv with
  | val v => exact absurd ht (hok a)
  | set r => exact ⟨r, rfl, V.set.inj ht, hok.1, hok.2⟩

theorem Fits.bool (t : Bool) : Fits (.set (.plain (if t then Plain.true_ else Plain.empty))) (V.bool t) := by
  cases t
  · exact ⟨⟨trivial, Or.inl rfl⟩, rfl⟩
  · exact ⟨⟨trivial, Or.inr (by simp [Rep.members, Plain.members])⟩, rfl⟩

theorem Fits.normTrue {r : Rep} (w : r.WF) {l : List V} (hl : Sorted l) (m : ∀ z, z ∈ r.members ↔ z ∈ l) :
    Fits (.set (Impl.normTrue r)) (.set l) := by
  unfold Impl.normTrue
  split
  · rename_i ht
    exact Fits.of_members w (Or.inr ((Rep.isTrue_iff r w).1 ht)) hl m
  · rename_i ht
    have hemp : r.members = [] := Classical.byContradiction fun hne => ht ((Rep.isTrue_iff r w).2 hne)
    exact Fits.of_members (r := .plain .empty) trivial (Or.inl rfl) hl fun z => by rw [← m, hemp]; exact Iff.rfl

/-! ## literals -/

/-- what a literal must satisfy to be represented exactly.  `litIV_spec` does not use the distinct keys of a dictionary:
`newDict` keeps several values under one key (`newDict_spec`) -/
def LitAdm : Lit → Prop
  | .str _ cs => ∀ c, c ∈ cs → (c : Int) ≤ maxRune
  | .bytes _ bs => ∀ b, b ∈ bs → (b : Int) ≤ 255
  | .dict kvs => (kvs.map (fun kv => kv.1.den)).Nodup
  | .set xs => FinishAdm (Lit.denList xs)
  | .rel names rows => FinishAdm (Lit.denRows names rows)
  | _ => True

theorem newOffsetArray_norm (off : Int) (vs : List (Option V)) : (newOffsetArray off vs).Norm := by
  unfold newOffsetArray
  simp only
  split
  · exact Or.inl rfl
  · rename_i hne
    right
    have hpos := trimBack_kcount_pos (trimFront vs off).1 (by simpa using hne)
    intro hc
    have := congrArg List.length hc
    simp only [Plain.members, List.length_map, length_kden, List.length_nil] at this
    omega

theorem denPairs_entries (kvs : List (Lit × Lit)) : ∀ v, v ∈ Lit.denPairs kvs → (asEntry v).isSome = true := by
  induction kvs with
  | nil => intro v hv; simp [Lit.denPairs] at hv
  | cons kv r ih =>
    obtain ⟨k, x⟩ := kv
    intro v hv
    simp only [Lit.denPairs, List.mem_cons] at hv
    rcases hv with rfl | hv
    · rw [V.mkTup_at "@value" _ _ (by decide)]
      show (asEntry (entryV k.den x.den)).isSome = true
      rw [asEntry_entryV]; rfl
    · exact ih v hv

theorem seqMembers_nums (name : String) (h : "@" < name) (off : Int) (cs : List Nat) :
    V.seqMembers name off (cs.map fun c => some (.num (Int.ofNat c))) =
      (kden (cs.map some) off).map fun p => pairV name (.num p.1) (.num (Int.ofNat p.2)) := by
  rw [seqMembers_eq_tagged name h, kden_map_some_map, List.map_map]; rfl

theorem litIV_spec (l : Lit) (h : LitAdm l) : Fits (Impl.litIV l) l.den := by
  cases l with
  | num n => exact ⟨fun xs hc => by simp at hc, by simp [Impl.litIV, Impl.IV.toV, Lit.den]⟩
  | tup kvs => exact ⟨fun xs hc => by simp [Lit.den, V.mkTup] at hc, rfl⟩
  | tt => exact ⟨⟨trivial, Or.inr (by simp [Rep.members, Plain.members])⟩, rfl⟩
  | ff => exact ⟨⟨trivial, Or.inl rfl⟩, rfl⟩
  | str off cs =>
    cases cs with
    | nil => exact ⟨⟨trivial, Or.inl rfl⟩, rfl⟩
    | cons c r =>
      show Fits (.set (.plain (.str ((c :: r).map some) off 0))) (V.mkSet (V.seqMembers "@char" off _))
      rw [seqMembers_nums "@char" (by decide)]
      refine Fits.mkSet (r := .plain (.str ((c :: r).map some) off 0)) ⟨(kholes_map_some _).symm, ?_, fun d hd => ?_⟩
        (Or.inr (by simp [Rep.members, Plain.members, kden])) fun z => Iff.rfl
      · rw [kcount_map_some']; exact Nat.succ_pos _
      · obtain ⟨d', hd', he⟩ := List.mem_map.1 hd
        cases he
        exact h _ hd'
  | bytes off bs =>
    cases bs with
    | nil => exact ⟨⟨trivial, Or.inl rfl⟩, rfl⟩
    | cons c r =>
      show Fits (.set (.plain (.bytes (c :: r) off))) (V.mkSet (V.seqMembers "@byte" off _))
      rw [seqMembers_nums "@byte" (by decide)]
      exact Fits.mkSet (r := .plain (.bytes (c :: r) off)) ⟨List.cons_ne_nil _ _, h⟩
        (Or.inr (by simp [Rep.members, Plain.members, kden])) fun z => Iff.rfl
  | arr off xs =>
    obtain ⟨w, m⟩ := newOffsetArray_spec off (Lit.denOpts xs)
    show Fits _ (V.mkSet (V.seqMembers "@item" off _))
    rw [seqMembers_eq_tagged "@item" (by decide)]
    exact Fits.mkSet (r := .plain _) w (newOffsetArray_norm _ _).rep fun z => by rw [Rep.members, m]; rfl
  | dict kvs =>
    obtain ⟨w, m⟩ := newDict_spec (Lit.denPairs kvs) (denPairs_entries kvs)
    refine Fits.mkSet (r := .plain _) w ?_ m
    cases hk : Lit.denPairs kvs with
    | nil => exact Or.inl (by simp [newDict])
    | cons a r => exact Or.inr (hk ▸ List.ne_nil_of_mem ((m a).2 (hk ▸ List.mem_cons_self)))
  | set xs => exact Fits.mkSet (finish_spec _ h).1 (finish_norm _ h) (finish_spec _ h).2
  | rel names rows => exact Fits.mkSet (finish_spec _ h).1 (finish_norm _ h) (finish_spec _ h).2

/-! ## callbacks over the members -/

/-- the statement of `Theorems.spec_count_with` (Proofs/C01.lean) decides its `v ∈ a` through this instance, under the
name `instLawfulBEqV` -/
instance : LawfulBEq V where
  eq_of_beq := by intro a b h; exact of_decide_eq_true h
  rfl := by intro a; exact decide_eq_true rfl

theorem mapAll_cons_ok {β : Type} (f : V → Outcome β) (x : V) (r : List V) (ys : List β)
    (h : mapAll f (x :: r) = .ok ys) : ∃ y ys', f x = .ok y ∧ mapAll f r = .ok ys' ∧ ys = y :: ys' := by
  unfold mapAll at h
  -- of the sixteen combinations of outcomes only `ok`, `ok` answers `ok`
  cases hf : f x <;> cases hr : mapAll f r <;> simp only [hf, hr] at h <;> try (cases h; done)
  rename_i y ys'
  exact ⟨y, ys', rfl, rfl, by cases h; rfl⟩

theorem mapAll_ok_mem {β : Type} (f : V → Outcome β) (l : List V) (ys : List β) (h : mapAll f l = .ok ys) :
    (∀ x, x ∈ l → ∃ y, f x = .ok y) ∧ (∀ y, y ∈ ys ↔ ∃ x, x ∈ l ∧ f x = .ok y) := by
  induction l generalizing ys with
  | nil =>
    have : ys = [] := by simp [mapAll] at h; exact h
    subst this
    simp
  | cons a r ih =>
    obtain ⟨y, ys', hf, hr, rfl⟩ := mapAll_cons_ok f a r ys h
    obtain ⟨i1, i2⟩ := ih ys' hr
    refine ⟨?_, ?_⟩
    · intro x hx
      rcases List.mem_cons.1 hx with rfl | hx
      · exact ⟨y, hf⟩
      · exact i1 x hx
    · intro z
      simp only [List.mem_cons, i2]
      constructor
      · rintro (rfl | ⟨x, hx, hfx⟩)
        · exact ⟨a, Or.inl rfl, hf⟩
        · exact ⟨x, Or.inr hx, hfx⟩
      · rintro ⟨x, (rfl | hx), hfx⟩
        · rw [hf] at hfx; cases hfx; exact Or.inl rfl
        · exact Or.inr ⟨x, hx, hfx⟩

/-- the evaluator enumerates the representation, the specification the denoted set -/
theorem mapAll_ok_of_subset {β : Type} (f : V → Outcome β) {l : List V} {ys : List β} (h : mapAll f l = .ok ys) :
    ∀ l' : List V, (∀ x, x ∈ l' → x ∈ l) → ∃ ys', mapAll f l' = .ok ys' := by
  refine forall_mem_rec ⟨[], rfl⟩ ?_
  rintro a r ha ⟨ys', hys⟩
  obtain ⟨y, hy⟩ := (mapAll_ok_mem f l ys h).1 a ha
  exact ⟨y :: ys', by simp [mapAll, hy, hys]⟩

theorem keepBy_eq_filter (f : V → Outcome Bool) (l : List V) (bs : List Bool) (h : mapAll f l = .ok bs) :
    keepBy l bs = l.filter (fun x => decide (f x = .ok true)) := by
  induction l generalizing bs with
  | nil => cases bs <;> simp [keepBy]
  | cons a r ih =>
    obtain ⟨b, bs', hf, hr, rfl⟩ := mapAll_cons_ok f a r bs h
    simp only [keepBy, List.filter_cons, hf, ih bs' hr]
    cases b <;> simp

/-! ## outcomes and refinement -/

theorem bind_ok {α β : Type} (o : Outcome α) (f : α → Outcome β) (v : β) (h : o.bind f = .ok v) :
    ∃ x, o = .ok x ∧ f x = .ok v := by
  cases o with
  | ok a => exact ⟨a, rfl, h⟩
  | err => cases h
  | unspec => cases h
  | panic => cases h

theorem map_ok {α β : Type} (o : Outcome α) (f : α → β) (v : β) (h : o.map f = .ok v) :
    ∃ x, o = .ok x ∧ f x = v := by
  cases o with
  | ok a => exact ⟨a, rfl, by cases h; rfl⟩
  | err => cases h
  | unspec => cases h
  | panic => cases h

def Refines (s : Outcome V) (i : Outcome Impl.IV) : Prop := ∀ v, s = .ok v → ∃ iv, i = .ok iv ∧ Fits iv v

theorem Refines.ok {iv : Impl.IV} {v : V} (h : Fits iv v) : Refines (.ok v) (.ok iv) := by
  intro w hw; cases hw; exact ⟨iv, rfl, h⟩

theorem Refines.of_rep {o : Outcome Rep} {v : V} (h : ∃ r, o = .ok r ∧ Fits (.set r) v) :
    Refines (.ok v) (o.map .set) := by
  obtain ⟨r, rfl, f⟩ := h
  exact Refines.ok f

theorem Refines.bind {s : Outcome V} {i : Outcome Impl.IV} {f : V → Outcome V} {g : Impl.IV → Outcome Impl.IV}
    (h : Refines s i) (hfg : ∀ iv v, i = .ok iv → Fits iv v → Refines (f v) (g iv)) :
    Refines (s.bind f) (i.bind g) := by
  intro w hw
  obtain ⟨v, rfl, hw⟩ := bind_ok s f w hw
  obtain ⟨iv, rfl, hiv⟩ := h v rfl
  exact hfg iv v rfl hiv w hw

theorem Refines.bind_set {s : Outcome V} {i : Outcome Impl.IV} {f : List V → Outcome V} {g : Rep → Outcome Impl.IV}
    (h : Refines s i) (hfg : ∀ r, i = .ok (.set r) → r.WF → Refines (f r.den) (g r)) :
    Refines (s.bind fun x => match x with | .set xs => f xs | _ => .unspec)
      (i.bind fun x => match x with | .set r => g r | _ => .err) := by
  refine h.bind fun x vx e hx w hw => ?_
  cases vx with
  | num n => cases hw
  | tup as => cases hw
  | set xs =>
    obtain ⟨r, rfl, rfl, wf, _⟩ := hx.exists_rep
    exact hfg r e wf w hw

/-- a callback over the members: the specification enumerates the denoted set, the evaluator the representation -/
theorem Refines.mapAll {β : Type} (f : V → Outcome β) (r : Rep) {S : List β → V} {I : List β → Impl.IV}
    (h : ∀ ys ys', mapAll f r.den = .ok ys → mapAll f r.members = .ok ys' → Fits (I ys') (S ys)) :
    Refines ((mapAll f r.den).map S) ((mapAll f r.members).map I) := by
  intro w hw
  obtain ⟨ys, hys, rfl⟩ := map_ok _ _ _ hw
  obtain ⟨ys', hys'⟩ := mapAll_ok_of_subset _ hys r.members fun z => (Rep.mem_den r z).2
  rw [hys']
  exact ⟨_, rfl, h ys ys' hys hys'⟩

/-! ## one step of each operator -/

theorem union_step (a b : Rep) (ha : a.WF) (hb : b.WF) (hna : a.Norm) (hnb : b.Norm) (hadm : UnionAdm a b) :
    ∃ r, union a b = .ok r ∧ Fits (.set r) (.set (FinSet.union a.den b.den)) := by
  obtain ⟨r, e, w, m, n⟩ := union_spec a b ha hb hna hnb hadm
  exact ⟨r, e, Fits.of_members w n (FinSet.sorted_union _ _ (FinSet.sorted_mk _))
    fun z => by rw [m, FinSet.mem_union, Rep.mem_den, Rep.mem_den]⟩

theorem inter_step (a b : Rep) (ha : a.WF) (hb : b.WF) (hadm : InterAdm a b) :
    Fits (.set (inter a b)) (.set (FinSet.inter a.den b.den)) := by
  obtain ⟨w, m, n⟩ := inter_spec a b ha hb hadm
  exact Fits.of_members w n (FinSet.sorted_inter _ _ (FinSet.sorted_mk _))
    fun z => by rw [m, FinSet.mem_inter, Rep.mem_den, Rep.mem_den]

theorem diff_step (a b : Rep) (ha : a.WF) (hb : b.WF) (hna : a.Norm) (hadm : DiffAdm a b) :
    Fits (.set (diff a b)) (.set (FinSet.diff a.den b.den)) := by
  obtain ⟨w, m, n⟩ := diff_spec a b ha hb hadm
  exact Fits.of_members w (n hna) (FinSet.sorted_diff _ _ (FinSet.sorted_mk _))
    fun z => by rw [m, FinSet.mem_diff, Rep.mem_den, Rep.mem_den]

theorem symdiff_step (a b : Rep) (ha : a.WF) (hb : b.WF) (hna : a.Norm) (hnb : b.Norm) (hadm : SymdiffAdm a b) :
    ∃ r, symdiff a b = .ok r ∧ Fits (.set r) (.set (FinSet.symdiff a.den b.den)) := by
  obtain ⟨r, e, w, m, n⟩ := symdiff_spec a b ha hb hna hnb hadm
  exact ⟨r, e, Fits.of_members w n (FinSet.sorted_symdiff _ _ (FinSet.sorted_mk _))
    fun z => by rw [m, FinSet.mem_symdiff, Rep.mem_den, Rep.mem_den]⟩

theorem with_step (a : Rep) (ha : a.WF) (hna : a.Norm) (v : V) (hadm : RepWithAdm a v) :
    ∃ r, a.with_ v = .ok r ∧ Fits (.set r) (.set (FinSet.ins v a.den)) := by
  obtain ⟨r, e, w, m, n⟩ := Rep.with_spec a ha hna v hadm
  exact ⟨r, e, Fits.of_members w n (FinSet.sorted_ins _ _ (FinSet.sorted_mk _))
    fun z => by rw [m, FinSet.mem_ins, Rep.mem_den]⟩

theorem without_step (a : Rep) (ha : a.WF) (v : V) (hadm : RepWithoutAdm a v) :
    Fits (.set (Impl.normTrue (a.without v))) (.set (FinSet.erase a.den v)) := by
  obtain ⟨w, m⟩ := Rep.without_spec a ha v hadm
  exact Fits.normTrue w (FinSet.sorted_erase _ _ (FinSet.sorted_mk _)) fun z => by rw [m, FinSet.mem_erase, Rep.mem_den]

theorem spec_binop_ok (op : BinOp) (x y v : V) (h : Spec.binop op x y = .ok v) :
    (∃ a, x = .set a) ∧ (op ≠ .with_ → op ≠ .without → ∃ b, y = .set b) := by
  unfold Spec.binop at h
  split at h
  · exact ⟨⟨_, rfl⟩, fun _ _ => ⟨_, rfl⟩⟩
  · exact ⟨⟨_, rfl⟩, fun _ _ => ⟨_, rfl⟩⟩
  · exact ⟨⟨_, rfl⟩, fun _ _ => ⟨_, rfl⟩⟩
  · exact ⟨⟨_, rfl⟩, fun _ _ => ⟨_, rfl⟩⟩
  · exact ⟨⟨_, rfl⟩, fun h1 _ => absurd rfl h1⟩
  · exact ⟨⟨_, rfl⟩, fun _ h2 => absurd rfl h2⟩
  · cases h

theorem spec_cmpop_ok (op : CmpOp) (x y : V) (t : Bool) (h : Spec.cmpop op x y = .ok t) :
    (∃ b, y = .set b) ∧ (op ≠ .mem → op ≠ .nmem → ∃ a, x = .set a) := by
  unfold Spec.cmpop at h
  split at h
  · exact ⟨⟨_, rfl⟩, fun h1 _ => absurd rfl h1⟩
  · exact ⟨⟨_, rfl⟩, fun _ h2 => absurd rfl h2⟩
  · cases h
  · cases h
  · exact ⟨⟨_, rfl⟩, fun _ _ => ⟨_, rfl⟩⟩
  · cases h

theorem den_eq_of_members' (r : Rep) (l : List V) (hl : Sorted l) (h : ∀ x, x ∈ r.members ↔ x ∈ l) : r.den = l :=
  den_eq_of_members r l hl h

/-- the admissibility hypothesis of one binary operator on two evaluated operands -/
def OpAdm (op : BinOp) (x y : Impl.IV) : Prop :=
  match x with
  | .val _ => True
  | .set a =>
    match op with
    | .with_ => RepWithAdm a y.toV
    | .without => RepWithoutAdm a y.toV
    | .union => match y with | .set b => UnionAdm a b | .val _ => True
    | .inter => match y with | .set b => InterAdm a b | .val _ => True
    | .diff => match y with | .set b => DiffAdm a b | .val _ => True
    | .symdiff => match y with | .set b => SymdiffAdm a b | .val _ => True

theorem binop_step (op : BinOp) (x y : Impl.IV) (vx vy : V) (hx : Fits x vx) (hy : Fits y vy)
    (hadm : OpAdm op x y) : Refines (Spec.binop op vx vy) (Impl.binop op x y) := by
  intro v hs
  obtain ⟨⟨sa, rfl⟩, hsb⟩ := spec_binop_ok op vx vy v hs
  obtain ⟨a, rfl, rfl, wa, na⟩ := hx.exists_rep
  have sets : op ≠ .with_ → op ≠ .without → ∃ b, y = .set b ∧ vy = .set b.den ∧ b.WF ∧ b.Norm := fun h1 h2 => by
    obtain ⟨sb, rfl⟩ := hsb h1 h2
    obtain ⟨b, rfl, rfl, wb, nb⟩ := hy.exists_rep
    exact ⟨b, rfl, rfl, wb, nb⟩
  cases op with
  | union =>
    obtain ⟨b, rfl, rfl, wb, nb⟩ := sets nofun nofun
    exact Refines.of_rep (union_step a b wa wb na nb hadm) v hs
  | inter =>
    obtain ⟨b, rfl, rfl, wb, nb⟩ := sets nofun nofun
    exact Refines.ok (inter_step a b wa wb hadm) v hs
  | diff =>
    obtain ⟨b, rfl, rfl, wb, nb⟩ := sets nofun nofun
    exact Refines.ok (diff_step a b wa wb na hadm) v hs
  | symdiff =>
    obtain ⟨b, rfl, rfl, wb, nb⟩ := sets nofun nofun
    exact Refines.of_rep (symdiff_step a b wa wb na nb hadm) v hs
  | with_ => rw [← hy.2] at hs; exact Refines.of_rep (with_step a wa na y.toV hadm) v hs
  | without => rw [← hy.2] at hs; exact Refines.ok (without_step a wa y.toV hadm) v hs

/-- the subset comparisons on well-formed representations (the evaluator's step agrees with the spec) -/
theorem cmpop_set_eq (op : CmpOp) (a b : Rep) (ha : a.WF) (hb : b.WF) (hop : op ≠ .mem ∧ op ≠ .nmem) :
    Impl.cmpop op (.set a) (.set b) = Spec.cmpop op a.denV b.denV := by
  have h1 := subsetI_eq a b ha hb
  have h2 := subsetOrEqualI_eq a b ha hb
  have h3 := subsetOrSupersetI_eq a b ha hb
  have h4 := subsetSupersetOrEqualI_eq a b ha hb
  have g1 := subsetI_eq b a hb ha
  have g2 := subsetOrEqualI_eq b a hb ha
  cases op with
  | mem => exact absurd rfl hop.1
  | nmem => exact absurd rfl hop.2
  | sub => show Outcome.ok (subsetI a b) = Outcome.ok (FS.ssubset a.den b.den); rw [h1]
  | sup => show Outcome.ok (subsetI b a) = Outcome.ok (FS.ssubset b.den a.den); rw [g1]
  | sube => show Outcome.ok (subsetOrEqualI a b) = Outcome.ok (FinSet.subset a.den b.den); rw [h2]
  | supe => show Outcome.ok (subsetOrEqualI b a) = Outcome.ok (FinSet.subset b.den a.den); rw [g2]
  | comp => show Outcome.ok (subsetOrSupersetI a b) = Outcome.ok (Spec.comparable a.den b.den); rw [h3]
  | compe =>
    show Outcome.ok (subsetSupersetOrEqualI b a) =
      Outcome.ok (Spec.comparable a.den b.den || decide (a.den = b.den))
    rw [h4]
  | nsub => show Outcome.ok (!subsetI a b) = Outcome.ok (!FS.ssubset a.den b.den); rw [h1]
  | nsup => show Outcome.ok (!subsetI b a) = Outcome.ok (!FS.ssubset b.den a.den); rw [g1]
  | nsube => show Outcome.ok (!subsetOrEqualI a b) = Outcome.ok (!FinSet.subset a.den b.den); rw [h2]
  | nsupe => show Outcome.ok (!subsetOrEqualI b a) = Outcome.ok (!FinSet.subset b.den a.den); rw [g2]
  | ncomp => show Outcome.ok (!subsetOrSupersetI a b) = Outcome.ok (!Spec.comparable a.den b.den); rw [h3]
  | ncompe =>
    show Outcome.ok (!subsetSupersetOrEqualI b a) =
      Outcome.ok (!(Spec.comparable a.den b.den || decide (a.den = b.den)))
    rw [h4]

theorem mem_step (b : Rep) (hb : b.WF) (v : Impl.IV) :
    Impl.cmpop .mem v (.set b) = Spec.cmpop .mem v.toV b.denV ∧
    Impl.cmpop .nmem v (.set b) = Spec.cmpop .nmem v.toV b.denV := by
  have : b.has v.toV = decide (v.toV ∈ b.den) := by
    rw [Bool.eq_iff_iff, Rep.has_iff_den b hb]; simp
  constructor
  · show Outcome.ok (b.has v.toV) = Outcome.ok (decide (v.toV ∈ b.den))
    rw [this]
  · show Outcome.ok (!b.has v.toV) = Outcome.ok (!decide (v.toV ∈ b.den))
    rw [this]

theorem cmp_step (op : CmpOp) (x y : Impl.IV) (vx vy : V) (hx : Fits x vx) (hy : Fits y vy) :
    Refines ((Spec.cmpop op vx vy).map V.bool)
      ((Impl.cmpop op x y).map fun t => .set (.plain (if t then .true_ else .empty))) := by
  intro v hs
  obtain ⟨t, ht, rfl⟩ := map_ok _ _ _ hs
  obtain ⟨⟨sb, rfl⟩, hsa⟩ := spec_cmpop_ok op vx vy t ht
  obtain ⟨b, rfl, rfl, wb, _⟩ := hy.exists_rep
  have key : Impl.cmpop op x (.set b) = .ok t := by
    by_cases hm : op = .mem
    · subst hm; rw [(mem_step b wb x).1, hx.2]; exact ht
    · by_cases hn : op = .nmem
      · subst hn; rw [(mem_step b wb x).2, hx.2]; exact ht
      · obtain ⟨sa, rfl⟩ := hsa hm hn
        obtain ⟨a, rfl, rfl, wa, _⟩ := hx.exists_rep
        rw [cmpop_set_eq op a b wa wb ⟨hm, hn⟩]; exact ht
  rw [key]
  exact ⟨_, rfl, Fits.bool t⟩

theorem count_step (r : Rep) (w : r.WF) : Refines (.ok (.num (FinSet.card r.den))) (.ok (.val (.num r.count))) :=
  Refines.ok ⟨(fun ys hc => by cases hc), by rw [← Rep.count_eq_card r w]; rfl⟩

theorem pow_step (r : Rep) (w : r.WF) (hadm : PowerAdm r.members) :
    Refines (.ok (.set (FS.powerset r.den))) ((powerSet r).map .set) := by
  obtain ⟨r', e, w', d', n'⟩ := powerSet_spec r w hadm
  exact Refines.of_rep ⟨r', e, ⟨w', n'⟩, congrArg V.set d'⟩

/-! ## admissible programs -/

/-- the step hypotheses along the evaluation of `e`; each one excludes a known-finding class (two values at one index, a
byte array with a gap) -/
def Adm : E → Prop
  | .lit l => LitAdm l
  | .bin op a b => Adm a ∧ Adm b ∧ ∀ x y, Impl.eval a = .ok x → Impl.eval b = .ok y → OpAdm op x y
  | .cmp _ a b => Adm a ∧ Adm b
  | .count a => Adm a
  | .where_ a p => Adm a ∧ ∀ r bs, Impl.eval a = .ok (.set r) →
      mapAll (fun v => p.eval v) r.members = .ok bs →
      RepFilterAdm r (fun v => (keepBy r.members bs).contains v)
  | .darrow a f => Adm a ∧ ∀ r ys, Impl.eval a = .ok (.set r) →
      mapAll (fun v => f.eval v) r.members = .ok ys → FinishAdm ys
  | .pow a => Adm a ∧ ∀ r, Impl.eval a = .ok (.set r) → PowerAdm r.members
  | .relj names rows _ => LitAdm (.rel names rows)

theorem Refines.of_adm (e : E) (h : Adm e) : Refines (Spec.eval e) (Impl.eval e) := by
  induction e with
  | lit l => exact Refines.ok (litIV_spec l h)
  | bin op a b iha ihb =>
    obtain ⟨ha, hb, hop⟩ := h
    show Refines ((Spec.eval a).bind _) ((Impl.eval a).bind _)
    exact (iha ha).bind fun x vx e1 hx => (ihb hb).bind fun y vy e2 hy => binop_step op x y vx vy hx hy (hop x y e1 e2)
  | cmp op a b iha ihb =>
    show Refines ((Spec.eval a).bind _) ((Impl.eval a).bind _)
    exact (iha h.1).bind fun x vx _ hx => (ihb h.2).bind fun y vy _ hy => cmp_step op x y vx vy hx hy
  | count a iha => exact (iha h).bind_set fun r _ wf => count_step r wf
  | where_ a p iha =>
    refine (iha h.1).bind_set fun r e1 wf => Refines.mapAll _ r fun bs bs' hbs hbs' => ?_
    obtain ⟨fw, fm⟩ := Rep.filter_spec r wf _ (h.2 r bs' e1 hbs')
    rw [keepBy_eq_filter _ r.den bs hbs]
    refine Fits.normTrue fw (FinSet.sorted_filter _ _ (FinSet.sorted_mk _)) fun z => ?_
    rw [fm, keepBy_eq_filter _ r.members bs' hbs']
    simp only [List.contains_iff_mem, List.mem_filter, decide_eq_true_eq, Rep.den, FinSet.mem_mk]
    exact ⟨fun ⟨h1, _, h2⟩ => ⟨h1, h2⟩, fun ⟨h1, h2⟩ => ⟨h1, h1, h2⟩⟩
  | darrow a f iha =>
    refine (iha h.1).bind_set fun r e1 _ => Refines.mapAll _ r fun ys ys' hys hys' => ?_
    have hadm := h.2 r ys' e1 hys'
    obtain ⟨fw, fm⟩ := finish_spec ys' hadm
    refine Fits.of_members fw (finish_norm ys' hadm) (FinSet.sorted_mk _) fun z => ?_
    rw [fm, FinSet.mem_mk, (mapAll_ok_mem _ _ ys hys).2, (mapAll_ok_mem _ _ ys' hys').2]
    simp only [Rep.mem_den]
  | pow a iha => exact (iha h.1).bind_set fun r e1 wf => pow_step r wf (h.2 r e1)
  | relj names rows src => exact Refines.ok (litIV_spec (.rel names rows) h)

theorem eval_refines (e : E) (h : Adm e) (v : V) (hs : Spec.eval e = .ok v) :
    ∃ iv, Impl.eval e = .ok iv ∧ IVOK iv ∧ iv.toV = v := Refines.of_adm e h v hs

end Arrai.C01
