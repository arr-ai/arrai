/-
  C01: With/Without on UnionSets, CanonicalSet, Union, SymmetricDifference and the
  subset comparisons — proved from the interface contracts.
-/
import Arrai.C01.With

namespace Arrai.C01
open Arrai Arrai.FinSet KSeq

/-! ## UnionSet.With / UnionSet.Without -/

def RepWithAdm : Rep → V → Prop
  | .plain p, v => WithAdm p v
  | .union bs, v => WithAdm (getSubset bs (bucketOf v)) v

theorem getSubset_norm (bs : List (Bucket × Plain)) (h : BucketsWF bs) (k : Bucket) : (getSubset bs k).Norm := by
  unfold getSubset
  cases hg : AL.get k bs with
  | none => exact Or.inl rfl
  | some p => exact Or.inr (h.of_get hg).2.1

theorem Rep.with_spec (r : Rep) (h : r.WF) (hne : r.Norm) (v : V) (hadm : RepWithAdm r v) :
    ∃ r', r.with_ v = .ok r' ∧ r'.WF ∧ (∀ x, x ∈ r'.members ↔ x = v ∨ x ∈ r.members) ∧ r'.Norm := by
  cases r with
  | plain p =>
    obtain ⟨r', e, w, m⟩ := Plain.with_spec p h hne.plain v hadm
    exact ⟨r', e, w, m, Or.inr (List.ne_nil_of_mem ((m v).2 (Or.inl rfl)))⟩
  | union bs =>
    simp only [Rep.with_, unionWith]
    obtain ⟨r', e1, w1, m1⟩ := Plain.with_spec (getSubset bs (bucketOf v)) (getSubset_wf bs h.1 _)
      (getSubset_norm bs h.1 _) v hadm
    obtain ⟨p', rfl, w, m, n⟩ := setSubset_grow_spec bs h.1 (bucketOf v) r' w1 (· = v) ⟨v, rfl⟩
      (fun x => (m1 x).trans Or.comm) fun x hx => by rw [hx]
    rw [e1]
    exact ⟨_, rfl, w, fun x => (m x).trans Or.comm, n⟩

def RepWithoutAdm : Rep → V → Prop
  | .plain p, v => WithoutAdm p v
  | .union bs, v => WithoutAdm (getSubset bs (bucketOf v)) v

theorem Rep.without_spec (r : Rep) (h : r.WF) (v : V) (hadm : RepWithoutAdm r v) :
    (r.without v).WF ∧ ∀ x, x ∈ (r.without v).members ↔ x ∈ r.members ∧ x ≠ v := by
  cases r with
  | plain p =>
    obtain ⟨w1, w2⟩ := Plain.without_spec p h v
    exact ⟨w1 hadm, w2⟩
  | union bs =>
    simp only [Rep.without, unionWithout]
    by_cases hv : unionHas bs v = true
    · rw [if_neg (by rw [hv]; exact Bool.noConfusion)]
      obtain ⟨w1, w2⟩ := Plain.without_spec (getSubset bs (bucketOf v)) (getSubset_wf bs h.1 _) v
      have w1 := w1 hadm
      obtain ⟨w, m, _⟩ := setSubset_filter_spec bs h.1 (bucketOf v) _ w1 (· ≠ v) w2
        fun x hx he => hx (by rw [he])
      rw [ite_bnot]
      exact ⟨w, m⟩
    · rw [if_pos (by rw [Bool.not_eq_true] at hv; rw [hv]; rfl)]
      exact ⟨h, mem_and_ne_of_not_mem fun hm => hv ((Rep.has_iff (.union bs) h v).2 hm)⟩

/-! ## CanonicalSet -/

theorem canonicalSet_spec (r : Rep) (h : r.WF) :
    (canonicalSet r).WF ∧ (∀ x, x ∈ (canonicalSet r).members ↔ x ∈ r.members) ∧ (r.Norm → (canonicalSet r).Norm) := by
  unfold canonicalSet
  split
  · rename_i xs
    -- the members of a GenericSet are of none of the sequence kinds
    have hadm : FinishAdm xs := finishAdm_of_no_seq xs fun x hx => by
      have := bucketOf_cases (h.2.2.2 x hx)
      exact ⟨this.1, this.2.1, this.2.2.1⟩
    obtain ⟨w, m⟩ := finish_spec xs hadm
    exact ⟨w, m, fun _ => Or.inr (ne_nil_of_subset h.2.1 fun a => (m a).2)⟩
  · exact ⟨h, fun x => Iff.rfl, id⟩

/-! ## Union: the loop `for e in b { a = a.With(e) }`, then `CanonicalSet` -/

/-- every step of the element-wise loop is admissible (no superimposed index, no byte gap) -/
def WithAllAdm : Rep → List V → Prop
  | _, [] => True
  | a, v :: r => RepWithAdm a v ∧ ∀ a', a.with_ v = .ok a' → WithAllAdm a' r

theorem withAll_spec (vs : List V) (a : Rep) (h : a.WF) (hne : a.Norm) (hadm : WithAllAdm a vs) :
    ∃ r, withAll a vs = .ok r ∧ r.WF ∧ r.Norm ∧ ∀ x, x ∈ r.members ↔ x ∈ a.members ∨ x ∈ vs := by
  induction vs generalizing a with
  | nil => exact ⟨a, rfl, h, hne, by simp⟩
  | cons v r ih =>
    obtain ⟨ad1, ad2⟩ := hadm
    obtain ⟨a', e1, w1, m1, n1⟩ := Rep.with_spec a h hne v ad1
    obtain ⟨r', e2, w2, n2, m2⟩ := ih a' w1 n1 (ad2 a' e1)
    refine ⟨r', ?_, w2, n2, ?_⟩
    · simp only [withAll, e1]; exact e2
    · intro x
      rw [m2, m1, List.mem_cons]
      exact or_assoc.trans or_left_comm

theorem unionPP_spec (a b : Plain) (ha : a.WF) (hb : b.WF) (hna : a.Norm) (hnb : b.Norm)
    (hadm : WithAllAdm (.plain a) b.members) :
    ∃ r, unionPP a b = .ok r ∧ r.WF ∧ (∀ x, x ∈ r.members ↔ x ∈ a.members ∨ x ∈ b.members) ∧ r.Norm := by
  unfold unionPP
  split
  · exact ⟨_, rfl, hb, by simp [Rep.members, Plain.members], hnb.rep⟩
  · exact ⟨_, rfl, ha, by simp [Rep.members, Plain.members], hna.rep⟩
  · rename_i xs ys
    have hw : (Rep.plain (fromFrozen (FinSet.union xs ys))).WF :=
      fromFrozen_wf _ (FinSet.sorted_union xs ys hb.1) fun x hx =>
        ((FinSet.mem_union xs ys x).1 hx).elim (ha.2.2.2 x) (hb.2.2.2 x)
    obtain ⟨c1, c2, c3⟩ := canonicalSet_spec _ hw
    refine ⟨_, rfl, c1, fun x => ?_, c3 (fromFrozen_norm _).rep⟩
    rw [c2]
    show x ∈ (fromFrozen _).members ↔ _
    rw [fromFrozen_members]
    exact FinSet.mem_union xs ys x
  · rename_i n1 n2 n3
    have hna' : a.members ≠ [] := hna.resolve_left n1
    have hnb' : b.members ≠ [] := hnb.resolve_left n2
    split
    · rename_i hbk
      have hw : BucketsWF [(a.bucket, a), (b.bucket, b)] := by
        refine ⟨?_, fun kp hm => ?_⟩
        · simpa using hbk
        · rcases List.mem_cons.1 hm with rfl | hm
          · exact ⟨ha, hna', rfl⟩
          · cases List.mem_singleton.1 hm; exact ⟨hb, hnb', rfl⟩
      refine ⟨_, rfl, fromBuckets_wf _ hw, fun x => ?_, fromBuckets_norm _ hw⟩
      rw [fromBuckets_members]
      simp [bucketsMembers]
    · obtain ⟨r, e1, w1, n1, m1⟩ := withAll_spec b.members (.plain a) ha hna.rep hadm
      obtain ⟨c1, c2, c3⟩ := canonicalSet_spec r w1
      exact ⟨canonicalSet r, by rw [e1]; rfl, c1, fun x => by rw [c2, m1]; rfl, c3 n1⟩

/-- admissibility of `Union`: the element-wise paths stay representable -/
def UnionAdm : Rep → Rep → Prop
  | .plain a, .plain b => WithAllAdm (.plain a) b.members
  | .union au, .union bu => ∀ k p q, (k, p) ∈ au → AL.get k bu = some q → WithAllAdm (.plain p) q.members
  | .union au, .plain b => WithAllAdm (.plain (getSubset au b.bucket)) b.members
  | .plain a, .union bu => WithAllAdm (.plain (getSubset bu a.bucket)) a.members

theorem unionWithSubset_spec (au : List (Bucket × Plain)) (hau : BucketsWF au) (b : Plain) (hb : b.WF)
    (hbn : b.members ≠ []) (hadm : WithAllAdm (.plain (getSubset au b.bucket)) b.members) :
    ∃ r, unionWithSubset au b = .ok r ∧ r.WF ∧ (∀ x, x ∈ r.members ↔ x ∈ bucketsMembers au ∨ x ∈ b.members) ∧
      r.Norm := by
  unfold unionWithSubset
  obtain ⟨r, e1, w1, m1, _⟩ := unionPP_spec (getSubset au b.bucket) b (getSubset_wf au hau _) hb
    (getSubset_norm au hau _) (Or.inr hbn) hadm
  obtain ⟨p', rfl, s⟩ := setSubset_grow_spec au hau b.bucket r w1 (· ∈ b.members) (List.exists_mem_of_ne_nil _ hbn) m1
    (Plain.members_bucket b hb)
  rw [e1]
  exact ⟨_, rfl, s⟩

/-! ## Union of two UnionSets: `Map.Merge` per bucket -/

theorem bucketsMembers_append (a b : List (Bucket × Plain)) :
    bucketsMembers (a ++ b) = bucketsMembers a ++ bucketsMembers b := by
  induction a with
  | nil => rfl
  | cons q r ih => obtain ⟨k, p⟩ := q; simp [bucketsMembers, ih]

/-- what `Map.Merge(bu.m, Union)` stores under a key `k` of the left map that holds `p` -/
def merged (bu : List (Bucket × Plain)) (k : Bucket) (p : Plain) : Plain :=
  match AL.get k bu with
  | some q => match unionPP p q with | .ok (.plain s) => s | _ => p
  | none => p

theorem merged_spec (bu : List (Bucket × Plain)) (hbu : BucketsWF bu) (k : Bucket) (p : Plain)
    (hp : p.WF ∧ p.members ≠ [] ∧ p.bucket = k)
    (hadm : ∀ q, AL.get k bu = some q → WithAllAdm (.plain p) q.members) :
    (∀ q, AL.get k bu = some q → unionPP p q = .ok (.plain (merged bu k p))) ∧
    ((merged bu k p).WF ∧ (merged bu k p).members ≠ [] ∧ ∀ x, x ∈ (merged bu k p).members → bucketOf x = k) ∧
    ∀ x, x ∈ (merged bu k p).members ↔ x ∈ p.members ∨ (x ∈ bucketsMembers bu ∧ bucketOf x = k) := by
  obtain ⟨hw, hne, hb⟩ := hp
  have hsub := mem_getSubset bu hbu k
  unfold merged getSubset at *
  cases hg : AL.get k bu with
  | none =>
    rw [hg] at hsub
    exact ⟨nofun, ⟨hw, hne, fun x hx => (Plain.members_bucket p hw x hx).trans hb⟩,
      fun x => by rw [← hsub]; simp [Plain.members]⟩
  | some q =>
    rw [hg] at hsub
    obtain ⟨hqw, hqne, _⟩ := hbu.of_get hg
    obtain ⟨s, e1, w1, m1, _⟩ := unionPP_spec p q hw hqw (Or.inr hne) (Or.inr hqne) (hadm q hg)
    have hall : ∀ x, x ∈ s.members → bucketOf x = k := fun x hx =>
      ((m1 x).1 hx).elim (fun h1 => (Plain.members_bucket p hw x h1).trans hb) (fun h1 => ((hsub x).1 h1).2)
    obtain ⟨s', rfl⟩ := plain_of_one_bucket s w1 _ hall
    simp only [e1]
    exact ⟨fun q' hq' => by cases hq'; exact e1, ⟨w1, ne_nil_of_subset hne fun y hy => (m1 y).2 (Or.inl hy), hall⟩,
      fun x => (m1 x).trans (by rw [← hsub]; rfl)⟩

theorem mergeBuckets_eq (bu : List (Bucket × Plain)) : ∀ au : List (Bucket × Plain),
    (∀ kp, kp ∈ au → ∀ q, AL.get kp.1 bu = some q → unionPP kp.2 q = .ok (.plain (merged bu kp.1 kp.2))) →
    mergeBuckets bu au = .ok (au.map fun kp => (kp.1, merged bu kp.1 kp.2)) := by
  refine forall_mem_rec rfl ?_
  rintro ⟨k, p⟩ r hk ih
  unfold mergeBuckets
  rw [ih]
  cases hg : AL.get k bu with
  | none =>
    have : merged bu k p = p := by unfold merged; rw [hg]
    rw [List.map_cons, this]
  | some q =>
    dsimp only
    rw [hk q hg]
    rfl

theorem mergeBuckets_spec (bu : List (Bucket × Plain)) (hbu : BucketsWF bu) (au : List (Bucket × Plain))
    (hau : BucketsWF au)
    (hadm : ∀ k p q, (k, p) ∈ au → AL.get k bu = some q → WithAllAdm (.plain p) q.members) :
    ∃ m, mergeBuckets bu au = .ok m ∧ BucketsWF m ∧ m.map (·.1) = au.map (·.1) ∧
      ∀ x, x ∈ bucketsMembers m ↔
        x ∈ bucketsMembers au ∨ (x ∈ bucketsMembers bu ∧ bucketOf x ∈ au.map (·.1)) := by
  have hm := fun kp (hkp : kp ∈ au) => merged_spec bu hbu kp.1 kp.2 (hau.2 kp hkp) fun q => hadm kp.1 kp.2 q hkp
  obtain ⟨w, m⟩ := bucketsWF_map au (merged bu) hau.1 fun kp hkp => (hm kp hkp).2.1
  refine ⟨_, mergeBuckets_eq bu au fun kp hkp => (hm kp hkp).1, w, by rw [List.map_map]; rfl, fun x => (m x).trans ?_⟩
  rw [mem_bucketsMembers]
  constructor
  · rintro ⟨kp, hkp, hx⟩
    rcases ((hm kp hkp).2.2 x).1 hx with h1 | ⟨h1, h2⟩
    · exact Or.inl ⟨_, _, hkp, h1⟩
    · exact Or.inr ⟨h1, h2 ▸ List.mem_map.2 ⟨kp, hkp, rfl⟩⟩
  · rintro (⟨k, p, hkp, h1⟩ | ⟨h1, h2⟩)
    · exact ⟨(k, p), hkp, ((hm _ hkp).2.2 x).2 (Or.inl h1)⟩
    · obtain ⟨kp, hkp, he⟩ := List.mem_map.1 h2
      exact ⟨kp, hkp, ((hm kp hkp).2.2 x).2 (Or.inr ⟨h1, he.symm⟩)⟩

theorem restBuckets_eq (au bu : List (Bucket × Plain)) :
    restBuckets au bu = bu.filter fun kq => !(AL.get kq.1 au).isSome := by
  induction bu with
  | nil => rfl
  | cons kq r ih =>
    obtain ⟨k, q⟩ := kq
    unfold restBuckets
    rw [List.filter_cons, ih]
    cases (AL.get k au).isSome <;> rfl

theorem restBuckets_spec (au : List (Bucket × Plain)) (bu : List (Bucket × Plain)) (hbu : BucketsWF bu) :
    BucketsWF (restBuckets au bu) ∧
    (∀ k, k ∈ (restBuckets au bu).map (·.1) → k ∉ au.map (·.1)) ∧
    ∀ x, x ∈ bucketsMembers (restBuckets au bu) ↔ x ∈ bucketsMembers bu ∧ bucketOf x ∉ au.map (·.1) := by
  have hP : ∀ k, (!(AL.get k au).isSome) = true ↔ k ∉ au.map (·.1) := fun k => by
    rw [← AL.get_eq_none_iff]; cases AL.get k au <;> simp
  rw [restBuckets_eq]
  refine ⟨hbu.filter _, fun k hk => ?_, fun x => ?_⟩
  · obtain ⟨kp, hkp, rfl⟩ := List.mem_map.1 hk
    exact (hP kp.1).1 (List.mem_filter.1 hkp).2
  · rw [mem_bucketsMembers_filter hbu fun k => !(AL.get k au).isSome, hP]

theorem union_spec (a b : Rep) (ha : a.WF) (hb : b.WF) (hna : a.Norm) (hnb : b.Norm) (hadm : UnionAdm a b) :
    ∃ r, union a b = .ok r ∧ r.WF ∧ (∀ x, x ∈ r.members ↔ x ∈ a.members ∨ x ∈ b.members) ∧ r.Norm := by
  cases a with
  | plain p =>
    cases b with
    | plain q => exact unionPP_spec p q ha hb hna.plain hnb.plain hadm
    | union bu =>
      simp only [union]
      by_cases he : p = .empty
      · subst he
        rw [if_pos rfl]
        exact ⟨_, rfl, hb, by simp [Rep.members, Plain.members], hnb⟩
      · rw [if_neg he]
        obtain ⟨r, e1, w1, m1, n1⟩ := unionWithSubset_spec bu hb.1 p ha (hna.plain.resolve_left he) hadm
        exact ⟨r, e1, w1, fun x => (m1 x).trans Or.comm, n1⟩
  | union au =>
    cases b with
    | plain q =>
      simp only [union]
      by_cases he : q = .empty
      · subst he
        rw [if_pos rfl]
        exact ⟨_, rfl, ha, by simp [Rep.members, Plain.members], hna⟩
      · rw [if_neg he]
        exact unionWithSubset_spec au ha.1 q hb (hnb.plain.resolve_left he) hadm
    | union bu =>
      simp only [union]
      obtain ⟨m, e1, w1, k1, m1⟩ := mergeBuckets_spec bu hb.1 au ha.1 hadm
      obtain ⟨r1, r2, r3⟩ := restBuckets_spec au bu hb.1
      rw [e1]
      have hw : BucketsWF (m ++ restBuckets au bu) := by
        refine ⟨?_, fun kp hm => (List.mem_append.1 hm).elim (w1.2 kp) (r1.2 kp)⟩
        rw [List.map_append, List.nodup_append]
        refine ⟨w1.1, r1.1, fun x hx y hy hxy => ?_⟩
        subst hxy
        rw [k1] at hx
        exact r2 x hy hx
      refine ⟨_, rfl, fromBuckets_wf _ hw, fun x => ?_, fromBuckets_norm _ hw⟩
      rw [fromBuckets_members, bucketsMembers_append, List.mem_append, m1, r3]
      -- under a key of `au` or not: the two parts of `bu` make up the whole
      rw [or_assoc, ← and_or_left, and_iff_left (Classical.em _)]
      rfl

/-! ## SymmetricDifference -/

def SymdiffAdm (a b : Rep) : Prop := DiffAdm a b ∧ DiffAdm b a ∧ UnionAdm (diff a b) (diff b a)

theorem symdiff_spec (a b : Rep) (ha : a.WF) (hb : b.WF) (hna : a.Norm) (hnb : b.Norm) (hadm : SymdiffAdm a b) :
    ∃ r, symdiff a b = .ok r ∧ r.WF ∧
      (∀ x, x ∈ r.members ↔ (x ∈ a.members ∧ x ∉ b.members) ∨ (x ∈ b.members ∧ x ∉ a.members)) ∧ r.Norm := by
  have empty_of : ∀ r : Rep, isEmptySet r = true → r = .plain .empty := by
    intro r he
    unfold isEmptySet at he
    split at he
    · rfl
    · cases he
  unfold symdiff
  split
  · rename_i he
    cases empty_of a he
    exact ⟨_, rfl, hb, by simp [Rep.members, Plain.members], hnb⟩
  · split
    · rename_i _ he
      cases empty_of b he
      exact ⟨_, rfl, ha, by simp [Rep.members, Plain.members], hna⟩
    · split
      · rename_i xs ys hg
        obtain ⟨rfl, rfl⟩ : a = .plain (.generic xs) ∧ b = .plain (.generic ys) := by
          unfold bothGeneric at hg
          split at hg
          · cases hg; exact ⟨rfl, rfl⟩
          · cases hg
        refine ⟨_, rfl, ?_, fun x => ?_, (fromFrozen_norm _).rep⟩
        · exact fromFrozen_wf _ (FinSet.sorted_symdiff xs ys hb.1) fun x hx =>
            ((FinSet.mem_symdiff xs ys x).1 hx).elim (fun h => ha.2.2.2 x h.1) (fun h => hb.2.2.2 x h.1)
        · show x ∈ (fromFrozen _).members ↔ _
          rw [fromFrozen_members]
          exact FinSet.mem_symdiff xs ys x
      · obtain ⟨d1, d2, d3⟩ := hadm
        obtain ⟨w1, m1, n1⟩ := diff_spec a b ha hb d1
        obtain ⟨w2, m2, n2⟩ := diff_spec b a hb ha d2
        obtain ⟨r, e, w, m, n⟩ := union_spec _ _ w1 w2 (n1 hna) (n2 hnb) d3
        exact ⟨r, e, w, fun x => by rw [m, m1, m2], n⟩

/-! ## the subset comparisons of syntax/expr_set_compare.go -/

theorem all_has_eq_subset (s t : Rep) (ht : t.WF) :
    s.members.all t.has = FinSet.subset s.den t.den := by
  rw [Bool.eq_iff_iff, FinSet.subset_iff, List.all_eq_true]
  constructor
  · intro h x hx
    rw [Rep.mem_den] at hx ⊢
    exact (Rep.has_iff t ht x).1 (h x hx)
  · intro h x hx
    exact (Rep.has_iff t ht x).2 ((Rep.mem_den t x).1 (h x ((Rep.mem_den s x).2 hx)))

theorem length_lt_iff_of_subset (a b : List V) (ha : Sorted a) (hb : Sorted b) (hsub : ∀ x, x ∈ a → x ∈ b) :
    a.length < b.length ↔ ¬ ∀ x, x ∈ b → x ∈ a := by
  have hsl := FS.sublist_of_sorted_subset b a ha hb hsub
  have hle := hsl.length_le
  constructor
  · intro hlt hba
    have := (FS.sublist_of_sorted_subset a b hb ha hba).length_le
    omega
  · intro hn
    apply Classical.byContradiction
    intro hge
    have heq : a.length = b.length := by omega
    have := hsl.eq_of_length heq
    subst this
    exact hn (fun x hx => hx)

theorem subsetI_eq (s t : Rep) (hs : s.WF) (ht : t.WF) : subsetI s t = FS.ssubset s.den t.den := by
  unfold subsetI FS.ssubset
  rw [Rep.count_eq_card s hs, Rep.count_eq_card t ht, all_has_eq_subset s t ht]
  simp only [FinSet.card]
  by_cases h0 : t.den.length = 0
  · simp only [h0, if_true]
    have : t.den = [] := List.eq_nil_of_length_eq_zero h0
    rw [this]
    simp [FinSet.subset]
  · simp only [h0, if_false]
    cases hsub : FinSet.subset s.den t.den with
    | false => simp
    | true =>
      simp only [Bool.true_and]
      have h1 := (FinSet.subset_iff _ _).1 hsub
      have := length_lt_iff_of_subset s.den t.den (FinSet.sorted_mk _) (FinSet.sorted_mk _) h1
      rw [Bool.eq_iff_iff]
      simp only [decide_eq_true_eq, Bool.not_eq_true', this]
      constructor
      · intro hn
        cases hh : FinSet.subset t.den s.den with
        | false => rfl
        | true => exact absurd ((FinSet.subset_iff _ _).1 hh) hn
      · intro hf hall
        rw [(FinSet.subset_iff _ _).2 hall] at hf; cases hf

theorem subsetOrEqualI_eq (s t : Rep) (hs : s.WF) (ht : t.WF) :
    subsetOrEqualI s t = FinSet.subset s.den t.den := by
  unfold subsetOrEqualI
  rw [Rep.count_eq_card s hs, Rep.count_eq_card t ht, all_has_eq_subset s t ht]
  simp only [FinSet.card]
  by_cases h0 : t.den.length = 0
  · simp only [h0, if_true]
    have : t.den = [] := List.eq_nil_of_length_eq_zero h0
    rw [this, Bool.eq_iff_iff]
    simp only [decide_eq_true_eq, FinSet.subset_iff, List.not_mem_nil, imp_false]
    constructor
    · intro hl x hx
      rw [List.eq_nil_of_length_eq_zero (of_decide_eq_true hl)] at hx; cases hx
    · intro hall
      cases hd : s.den with
      | nil => simp
      | cons a r => rw [hd] at hall; exact absurd (by simp) (hall a)
  · simp only [h0, if_false]
    cases hsub : FinSet.subset s.den t.den with
    | false => simp
    | true =>
      simp only [Bool.true_and, decide_eq_true_eq]
      have h1 := (FinSet.subset_iff _ _).1 hsub
      exact decide_eq_true
        (FS.sublist_of_sorted_subset t.den s.den (FinSet.sorted_mk _) (FinSet.sorted_mk _) h1).length_le

theorem subsetOrSupersetI_eq (a b : Rep) (ha : a.WF) (hb : b.WF) :
    subsetOrSupersetI a b = Spec.comparable a.den b.den := by
  unfold subsetOrSupersetI Spec.comparable equalI
  rw [subsetI_eq a b ha hb, subsetI_eq b a hb ha]
  cases h1 : FS.ssubset a.den b.den with
  | true => simp
  | false =>
    cases h2 : FS.ssubset b.den a.den with
    | false => simp
    | true =>
      simp only [Bool.false_or, Bool.true_and, Bool.not_eq_true', decide_eq_false_iff_not]
      intro he
      rw [he] at h2
      simp [FS.ssubset] at h2

/-- stated for `(b a)`: that is how `Impl.cmpop` calls it for `(<>=)` -/
theorem subsetSupersetOrEqualI_eq (a b : Rep) (ha : a.WF) (hb : b.WF) :
    subsetSupersetOrEqualI b a = (Spec.comparable a.den b.den || decide (a.den = b.den)) := by
  unfold subsetSupersetOrEqualI Spec.comparable equalI
  rw [subsetI_eq a b ha hb, subsetI_eq b a hb ha]
  cases FS.ssubset a.den b.den <;> cases FS.ssubset b.den a.den <;> simp [eq_comm]

end Arrai.C01
