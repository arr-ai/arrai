/-
  C01: the interface contract for `With` on a plain set, i.e. on each of the eight representations other than UnionSet
  (`Plain.with_spec`, under `WithAdm`; UnionSet.With is `Rep.with_spec` in C01/Union), and `MustNewSet` /
  `toUnionSetWithItem`, through which a set takes a value that is not of its kind.
-/
import Arrai.C01.Builder

namespace Arrai.C01
open Arrai Arrai.FinSet KSeq

/-! ## `MustNewSet(v)` and `toUnionSetWithItem` -/

theorem single_spec (v : V) : (single v).WF ∧ ∀ x, x ∈ (single v).members ↔ x = v := by
  obtain ⟨w, m⟩ := finishBucket_spec (bucketOf v) [v] (by simp) (fun x hx => by rw [List.mem_singleton.1 hx])
    (finishAdm_single v)
  exact ⟨w, fun x => (m x).trans List.mem_singleton⟩

theorem toUnionSetWithItem_spec (s : Plain) (hs : s.WF) (hn : s.Norm) (he : s ≠ .empty) (v : V)
    (hb : bucketOf v ≠ s.bucket) :
    ∃ r, toUnionSetWithItem s v = .ok r ∧ r.WF ∧ ∀ x, x ∈ r.members ↔ x = v ∨ x ∈ s.members := by
  obtain ⟨w1, w2⟩ := single_spec v
  have w3 : (single v).members ≠ [] := List.ne_nil_of_mem ((w2 v).2 rfl)
  unfold toUnionSetWithItem
  simp only [hb, if_false]
  refine ⟨_, rfl, ?_, ?_⟩
  · apply fromBuckets_wf
    refine ⟨?_, ?_⟩
    · simp only [List.map_cons, List.map_nil, List.nodup_cons, List.mem_singleton, List.not_mem_nil,
        not_false_eq_true, List.nodup_nil, and_true]
      exact fun hc => hb hc.symm
    · intro kp hm
      simp only [List.mem_cons, List.not_mem_nil, or_false] at hm
      rcases hm with rfl | rfl
      · exact ⟨hs, hn.resolve_left he, rfl⟩
      · exact ⟨w1, w3, Plain.bucket_eq w1 w3 fun x hx => by rw [(w2 x).1 hx]⟩
  · intro x
    rw [fromBuckets_members]
    simp only [bucketsMembers, List.append_nil, List.mem_append, w2]
    exact Or.comm

/-! ## admissibility of `With` on a plain set -/

/-- the added value must not sit on an index held by a different value (KF-superimposed), a byte
must extend the array contiguously (KF-bytes-holes) -/
def WithAdm (p : Plain) (v : V) : Prop :=
  match p with
  | .str s off _ => ∀ ix c, asChar v = some (ix, c) → ∀ d, (ix, d) ∈ kden s off → d = c
  | .bytes b off => ∀ ix x, asByte v = some (ix, x) →
      off - 1 ≤ ix ∧ ix ≤ off + (b.length : Int) ∧ ∀ d, (ix, d) ∈ kden (b.map some) off → d = x
  | .arr vs off _ => ∀ ix x, asItem v = some (ix, x) → ∀ d, (ix, d) ∈ kden vs off → d = x
  | _ => True

theorem eq_or_mem_of_mem {l : List V} {v : V} (hv : v ∈ l) (x : V) : x ∈ l ↔ x = v ∨ x ∈ l :=
  ⟨Or.inr, fun h => h.elim (fun he => he ▸ hv) id⟩

/-! ## String.with -/

theorem strWith_spec (s : List (Option Nat)) (off : Int) (holes : Nat) (h : (Plain.str s off holes).WF)
    (ix : Int) (c : Nat) (hc : (c : Int) ≤ maxRune) (hadm : ∀ d, (ix, d) ∈ kden s off → d = c) :
    ∃ r, strWith s off holes ix c = .ok r ∧ r.WF ∧
      ∀ x, x ∈ r.members ↔ x = charV ix c ∨ x ∈ (Plain.str s off holes).members := by
  generalize hr : strWith s off holes ix c = o
  unfold strWith at hr
  simp only at hr
  have hit := seqIndex_hit_iff s _ rfl off ix
  rcases ite_cases hr with ⟨h1, rfl⟩ | ⟨n1, hr⟩
  · exact ⟨_, rfl, h, eq_or_mem_of_mem ((mem_tagged_self charV_inj _ ix c).2 ((hit c).1 h1))⟩
  rcases ite_cases hr with ⟨h2, rfl⟩ | ⟨n2, hr⟩
  · obtain rfl := seqIndex_eq_nat h2
    refine ⟨_, rfl, ⟨?_, ?_, fun d hd => ?_⟩, tagged_insert charV (mem_kden_push_back s off c)⟩
    · rw [kholes_append, h.1]; rfl
    · rw [kcount_append]; exact Nat.succ_pos _
    · rcases List.mem_append.1 hd with hd | hd
      · exact h.2.2 d hd
      · cases List.mem_singleton.1 hd; exact hc
  rcases ite_cases hr with ⟨h3, rfl⟩ | ⟨n3, hr⟩
  · subst h3
    refine ⟨_, rfl, ⟨h.1, Nat.succ_pos _, fun d hd => ?_⟩, tagged_insert charV (mem_kden_push_front s off c)⟩
    rcases List.mem_cons.1 hd with hd | hd
    · cases hd; exact hc
    · exact h.2.2 d hd
  rcases ite_cases hr with ⟨h4, _⟩ | ⟨n4, rfl⟩
  · -- the index holds a char: by admissibility it is `c`, the first case
    obtain ⟨d, hd⟩ := Option.isSome_iff_exists.1 h4.2.2
    obtain rfl := hadm d ((hit d).1 ⟨h4.1, h4.2.1, hd⟩)
    exact absurd ⟨h4.1, h4.2.1, hd⟩ n1
  · have hfree : ∀ d, (ix, d) ∉ kden s off := fun d hm => by
      obtain ⟨g1, g2, g3⟩ := (hit d).2 hm
      exact n4 ⟨g1, g2, by rw [g3]; rfl⟩
    -- a pair at a free index keeps the pairs functional
    have hf : Functional (kden s off ++ [(ix, c)]) := by
      rintro ⟨i, a⟩ ⟨j, b⟩ ha hb (rfl : i = j)
      rcases List.mem_append.1 ha with ha | ha <;> rcases List.mem_append.1 hb with hb | hb
      · exact kden_functional s off _ _ ha hb rfl
      · cases List.mem_singleton.1 hb; exact absurd ha (hfree _)
      · cases List.mem_singleton.1 ha; exact absurd hb (hfree _)
      · cases List.mem_singleton.1 ha; cases List.mem_singleton.1 hb; rfl
    obtain ⟨w1, w2⟩ := finish_spec _ (finishAdm_chars _ hf)
    rw [List.map_append] at w1 w2
    exact ⟨_, rfl, w1, fun x => (w2 x).trans (List.mem_append.trans (Or.comm.trans (or_congr_left List.mem_singleton)))⟩

/-! ## Bytes.with -/

theorem kcount_map_some (l : List Nat) : kcount (l.map some) = l.length := kcount_map_some' l

theorem bytesWith_spec (b : List Nat) (off : Int) (h : (Plain.bytes b off).WF)
    (ix : Int) (x : Nat) (hx : (x : Int) ≤ 255)
    (hadm : off - 1 ≤ ix ∧ ix ≤ off + (b.length : Int) ∧ ∀ d, (ix, d) ∈ kden (b.map some) off → d = x) :
    ∃ r, bytesWith b off ix x = .ok r ∧ r.WF ∧
      ∀ v, v ∈ r.members ↔ v = byteV ix x ∨ v ∈ (Plain.bytes b off).members := by
  obtain ⟨hlo, hhi, hsame⟩ := hadm
  generalize hr : bytesWith b off ix x = o
  unfold bytesWith at hr
  simp only [← kget_map_some] at hr
  have hit := seqIndex_hit_iff (b.map some) b.length (List.length_map _) off ix
  rcases ite_cases hr with ⟨h1, rfl⟩ | ⟨n1, hr⟩
  · exact ⟨_, rfl, h, eq_or_mem_of_mem ((mem_tagged_self byteV_inj _ ix x).2 ((hit x).1 h1))⟩
  rcases ite_cases hr with ⟨h2, rfl⟩ | ⟨n2, hr⟩
  · obtain rfl := seqIndex_eq_nat h2
    refine ⟨_, rfl, ⟨List.append_ne_nil_of_right_ne_nil _ (List.cons_ne_nil _ _), fun d hd => ?_⟩,
      tagged_insert byteV fun j y => ?_⟩
    · rcases List.mem_append.1 hd with hd | hd
      · exact h.2 d hd
      · cases List.mem_singleton.1 hd; exact hx
    · rw [List.map_append, ← List.length_map (as := b) some]
      exact mem_kden_push_back (b.map some) off x j y
  rcases ite_cases hr with ⟨h3, rfl⟩ | ⟨n3, rfl⟩
  · subst h3
    refine ⟨_, rfl, ⟨List.cons_ne_nil _ _, fun d hd => ?_⟩, tagged_insert byteV (mem_kden_push_front (b.map some) off x)⟩
    rcases List.mem_cons.1 hd with hd | hd
    · cases hd; exact hx
    · exact h.2 d hd
  · -- the index lies inside the array: it holds a byte, by admissibility `x`, the first case
    have hne : ix ≠ off + ((b.length : Nat) : Int) := fun e => n2 (e ▸ seqIndex_add _ _ _ (Nat.le_refl _))
    obtain ⟨n, rfl, hn⟩ : ∃ n : Nat, ix = off + n ∧ n < b.length := ⟨(ix - off).toNat, by omega, by omega⟩
    have hm := mem_kden_at off ((kget_map_some b n).trans (List.getElem?_eq_getElem hn))
    exact absurd ((hit _).2 (hsame _ hm ▸ hm)) n1

/-! ## Array.withItem -/

theorem arrWithItem_spec (vs : List (Option V)) (off : Int) (count : Nat) (h : (Plain.arr vs off count).WF)
    (ix : Int) (item : V) (hadm : ∀ d, (ix, d) ∈ kden vs off → d = item) :
    ∃ r, arrWithItem vs off count ix item = .ok r ∧ r.WF ∧
      ∀ v, v ∈ r.members ↔ v = itemV ix item ∨ v ∈ (Plain.arr vs off count).members := by
  have hcount : count = kcount vs := h
  generalize hr : arrWithItem vs off count ix item = o
  unfold arrWithItem at hr
  simp only at hr
  rcases ite_cases hr with ⟨h1, rfl⟩ | ⟨n1, hr⟩
  · rw [show off + (ix - off) = ix by omega]
    refine ⟨_, rfl, ?_, tagged_insert itemV (mem_kden_pad_front vs off item (by omega))⟩
    show count + 1 = kcount (some item :: (List.replicate ((-(ix - off)).toNat - 1) none ++ vs))
    rw [kcount, kcount_append, kcount_replicate_none, Nat.zero_add, hcount]
  rcases ite_cases hr with ⟨h2, rfl⟩ | ⟨n2, hr⟩
  · refine ⟨_, rfl, ?_, tagged_insert itemV (mem_kden_pad_back vs off item (by omega))⟩
    show count + 1 = kcount (vs ++ List.replicate ((ix - off).toNat - vs.length) none ++ [some item])
    rw [kcount_append, kcount_append, kcount_replicate_none, hcount]; rfl
  obtain ⟨n, hn⟩ := Int.eq_ofNat_of_zero_le (Int.not_lt.1 n1)
  obtain rfl : ix = off + (n : Int) := by omega
  rw [hn, Int.toNat_natCast] at hr
  have hlt : n < vs.length := by omega
  rcases ite_cases hr with ⟨h3, rfl⟩ | ⟨n3, hr⟩
  · exact ⟨_, rfl, h, eq_or_mem_of_mem ((mem_tagged_self itemV_inj _ _ item).2 (mem_kden_at off h3))⟩
  cases hk : kget vs n with
  | some d => exact absurd (hadm d (mem_kden_at off hk) ▸ hk) n3
  | none =>
    rw [hk] at hr
    cases hr
    refine ⟨_, rfl, ?_, tagged_insert itemV (mem_kden_setAt_hole vs off n item hlt hk)⟩
    show count + 1 = kcount (setAt vs n (some item))
    rw [kcount_setAt_hole vs _ item hlt hk, hcount]


/-! ## the interface contract: with -/

theorem Plain.with_spec (p : Plain) (h : p.WF) (hne : p.Norm) (v : V) (hadm : WithAdm p v) :
    ∃ r, p.with_ v = .ok r ∧ r.WF ∧ ∀ x, x ∈ r.members ↔ x = v ∨ x ∈ p.members := by
  cases p with
  | empty =>
    simp only [Plain.with_]
    by_cases hv : v = .tup []
    · subst hv
      simp only [if_true]
      exact ⟨_, rfl, trivial, by simp [Rep.members, Plain.members]⟩
    · simp only [hv, if_false]
      obtain ⟨w1, w2⟩ := single_spec v
      refine ⟨_, rfl, w1, ?_⟩
      intro x
      show x ∈ (single v).members ↔ _
      rw [w2]
      simp [Plain.members]
  | true_ =>
    simp only [Plain.with_]
    by_cases hv : v = .tup []
    · subst hv
      simp only [if_true]
      exact ⟨_, rfl, trivial, by simp [Rep.members, Plain.members]⟩
    · simp only [hv, if_false]
      -- `()` contributes no char, byte or item pair: the pairs of `[(), v]` unfold to those of `[v]`
      obtain ⟨w1, w2⟩ := finish_spec [.tup [], v] (finishAdm_single v)
      refine ⟨_, rfl, w1, ?_⟩
      intro x
      rw [w2]
      simp only [List.mem_cons, List.not_mem_nil, or_false, Plain.members, List.mem_singleton]
      exact Or.comm
  | generic xs =>
    simp only [Plain.with_]
    by_cases hb : bucketOf v = .generic
    · simp only [hb, if_true]
      exact ⟨_, rfl, ⟨sorted_ins v xs h.1, ins_ne_nil v xs, ins_ne_singleton h.1 h.2.1 h.2.2.1, forall_mem_ins hb h.2.2.2⟩,
        fun x => mem_ins v x xs⟩
    · simp only [hb, if_false]
      exact toUnionSetWithItem_spec _ h hne nofun v hb
  | str s off holes =>
    simp only [Plain.with_]
    cases hc : asChar v with
    | none =>
      simp only
      exact toUnionSetWithItem_spec _ h hne nofun v (bucketOf_ne_of_none hc)
    | some q =>
      obtain ⟨ix, c⟩ := q
      obtain ⟨rfl, hcr⟩ := (asChar_eq_some v ix c).1 hc
      exact strWith_spec s off holes h ix c hcr (hadm ix c hc)
  | bytes b off =>
    simp only [Plain.with_]
    cases hc : asByte v with
    | none =>
      simp only
      exact toUnionSetWithItem_spec _ h hne nofun v (bucketOf_ne_of_none hc)
    | some q =>
      obtain ⟨ix, c⟩ := q
      obtain ⟨rfl, hcr⟩ := (asByte_eq_some v ix c).1 hc
      exact bytesWith_spec b off h ix c hcr (hadm ix c hc)
  | arr vs off count =>
    simp only [Plain.with_]
    cases hc : asItem v with
    | none =>
      simp only
      exact toUnionSetWithItem_spec _ h hne nofun v (bucketOf_ne_of_none hc)
    | some q =>
      obtain ⟨ix, c⟩ := q
      have := (asItem_eq_some v ix c).1 hc
      subst this
      exact arrWithItem_spec vs off count h ix c (hadm ix c hc)
  | dict m =>
    simp only [Plain.with_, dictWith]
    cases hc : asEntry v with
    | none =>
      simp only
      exact toUnionSetWithItem_spec _ h hne nofun v (bucketOf_ne_of_none hc)
    | some q =>
      obtain ⟨k, x⟩ := q
      have := (asEntry_eq_some v k x).1 hc
      subst this
      obtain ⟨d1, d2, d3⟩ := dictAdd_spec m h.2 k x
      exact ⟨_, rfl, ⟨d2, d1⟩, d3⟩
  | rel names rows =>
    simp only [Plain.with_]
    cases v with
    | num n =>
      exact toUnionSetWithItem_spec _ h hne nofun _ (by simp [bucketOf, Plain.bucket])
    | set xs =>
      exact toUnionSetWithItem_spec _ h hne nofun _ (by simp [bucketOf, Plain.bucket])
    | tup as =>
      simp only
      split
      · rename_i hnb
        exact ⟨_, rfl, ⟨sorted_ins _ rows h.1, ins_ne_nil _ rows, forall_mem_ins hnb.2 h.2.2⟩, fun x => mem_ins _ x rows⟩
      · rename_i hn
        exact toUnionSetWithItem_spec _ h hne nofun _ fun hb => hn ⟨bucketOf_tup_rel hb, hb⟩

end Arrai.C01
