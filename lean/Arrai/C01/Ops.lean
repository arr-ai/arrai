/-
  C01: well-formedness of a UnionSet and of any representation (`BucketsWF`, `Rep.WF`), the interface contract on `Rep`
  (members distinct, has / count / isTrue, `den`), and the three operators that keep some of the members of a set —
  `Where`, `Intersect` (`a.Where(b.Has)` by default) and `Difference` — for every mix of representations, from the contracts
  of the plain sets.  UnionSets go through two facts about bucket lists: every bucket mapped and the emptied ones dropped
  (`bucketwise_spec`), one bucket replaced or removed (`setSubset_spec`).
-/
import Arrai.C01.Contracts

namespace Arrai.C01
open Arrai Arrai.FinSet KSeq

/-! ## UnionSet well-formedness -/

/-- every bucket holds a well-formed, non-empty set of the bucket's own kind, keys are distinct -/
def BucketsWF (bs : List (Bucket × Plain)) : Prop :=
  (bs.map (·.1)).Nodup ∧ ∀ kp, kp ∈ bs → kp.2.WF ∧ kp.2.members ≠ [] ∧ kp.2.bucket = kp.1

def Rep.WF : Rep → Prop
  | .plain p => p.WF
  | .union bs => BucketsWF bs ∧ 2 ≤ bs.length

theorem mem_bucketsMembers (bs : List (Bucket × Plain)) (v : V) :
    v ∈ bucketsMembers bs ↔ ∃ k p, (k, p) ∈ bs ∧ v ∈ p.members := by
  induction bs with
  | nil => simp [bucketsMembers]
  | cons q r ih =>
    obtain ⟨k, p⟩ := q
    simp only [bucketsMembers, List.mem_append, ih, List.mem_cons, Prod.mk.injEq]
    constructor
    · rintro (h | ⟨k', p', hm, hv⟩)
      · exact ⟨k, p, Or.inl ⟨rfl, rfl⟩, h⟩
      · exact ⟨k', p', Or.inr hm, hv⟩
    · rintro ⟨k', p', (⟨rfl, rfl⟩ | hm), hv⟩
      · exact Or.inl hv
      · exact Or.inr ⟨k', p', hm, hv⟩

theorem BucketsWF.bucketOf_eq {bs : List (Bucket × Plain)} (h : BucketsWF bs) {k : Bucket} {p : Plain}
    (hm : (k, p) ∈ bs) {v : V} (hv : v ∈ p.members) : bucketOf v = k :=
  (Plain.members_bucket p (h.2 _ hm).1 v hv).trans (h.2 _ hm).2.2

theorem BucketsWF.all {bs : List (Bucket × Plain)} (h : BucketsWF bs) :
    AL.All (fun k (p : Plain) => p.WF ∧ p.members ≠ [] ∧ p.bucket = k) bs := h

theorem BucketsWF.of_get {bs : List (Bucket × Plain)} (h : BucketsWF bs) {k : Bucket} {p : Plain}
    (hg : AL.get k bs = some p) : p.WF ∧ p.members ≠ [] ∧ p.bucket = k := h.all.of_get hg

/-- under the invariant a member is found in the bucket of its own kind -/
theorem mem_bucketsMembers_get (bs : List (Bucket × Plain)) (h : BucketsWF bs) (v : V) :
    v ∈ bucketsMembers bs ↔ ∃ p, AL.get (bucketOf v) bs = some p ∧ v ∈ p.members := by
  rw [mem_bucketsMembers]
  constructor
  · rintro ⟨k, p, hm, hv⟩
    obtain rfl := h.bucketOf_eq hm hv
    exact ⟨p, (AL.get_eq_some_iff bs h.1 _ p).2 hm, hv⟩
  · rintro ⟨p, hg, hv⟩
    exact ⟨_, p, (AL.get_eq_some_iff bs h.1 _ p).1 hg, hv⟩

theorem fromBuckets_members (bs : List (Bucket × Plain)) : (fromBuckets bs).members = bucketsMembers bs := by
  unfold fromBuckets
  split
  · rfl
  · simp [Rep.members, bucketsMembers]
  · rfl

theorem fromBuckets_wf (bs : List (Bucket × Plain)) (h : BucketsWF bs) : (fromBuckets bs).WF := by
  unfold fromBuckets
  split
  · trivial
  · rename_i k p
    exact (h.2 (k, p) (by simp)).1
  · rename_i h1 h2
    refine ⟨h, ?_⟩
    cases bs with
    | nil => exact absurd rfl h1
    | cons a r =>
      cases r with
      | nil => obtain ⟨k, p⟩ := a; exact absurd rfl (h2 k p)
      | cons b t => simp

/-! ## the interface contract on `Rep` -/

theorem Rep.members_bucket_plain (p : Plain) (h : p.WF) : ∀ x, x ∈ p.members → bucketOf x = p.bucket :=
  Plain.members_bucket p h

theorem nodup_bucketsMembers (bs : List (Bucket × Plain)) (h : BucketsWF bs) : (bucketsMembers bs).Nodup := by
  induction bs with
  | nil => simp [bucketsMembers]
  | cons q r ih =>
    obtain ⟨k, p⟩ := q
    have hk := h.1
    simp only [List.map_cons, List.nodup_cons] at hk
    have hr : BucketsWF r := ⟨hk.2, fun kp hm => h.2 kp (List.mem_cons_of_mem _ hm)⟩
    simp only [bucketsMembers]
    rw [List.nodup_append]
    refine ⟨Plain.members_nodup p (h.2 (k, p) List.mem_cons_self).1, ih hr, ?_⟩
    intro a ha b hb' hab
    subst hab
    obtain ⟨k', p', hm, hv⟩ := (mem_bucketsMembers r a).1 hb'
    obtain rfl : k' = k := (hr.bucketOf_eq hm hv).symm.trans (h.bucketOf_eq List.mem_cons_self ha)
    exact hk.1 (List.mem_map.2 ⟨(k', p'), hm, rfl⟩)

theorem Rep.members_nodup (r : Rep) (h : r.WF) : r.members.Nodup := by
  cases r with
  | plain p => exact Plain.members_nodup p h
  | union bs => exact nodup_bucketsMembers bs h.1

theorem Rep.has_iff (r : Rep) (h : r.WF) (v : V) : r.has v = true ↔ v ∈ r.members := by
  cases r with
  | plain p => exact Plain.has_iff p h v
  | union bs =>
    simp only [Rep.has, Rep.members, unionHas]
    rw [mem_bucketsMembers_get bs h.1]
    cases hg : AL.get (bucketOf v) bs with
    | none => simp
    | some p =>
      simp only [Option.some.injEq, exists_eq_left']
      exact Plain.has_iff p (h.1.of_get hg).1 v

theorem length_bucketsMembers : ∀ bs : List (Bucket × Plain), (∀ kp, kp ∈ bs → kp.2.WF) →
    (bucketsMembers bs).length = unionCount bs := by
  refine forall_mem_rec rfl ?_
  rintro ⟨k, p⟩ r hp ih
  simp only [bucketsMembers, unionCount, List.length_append]
  rw [ih, Plain.count_eq p hp]

theorem Rep.count_eq (r : Rep) (h : r.WF) : r.count = r.members.length := by
  cases r with
  | plain p => exact Plain.count_eq p h
  | union bs =>
    simp only [Rep.count, Rep.members]
    exact (length_bucketsMembers bs (fun kp hm => (h.1.2 kp hm).1)).symm

/-- `count` is the number of distinct members: the cardinality of the denoted set -/
theorem Rep.count_eq_card (r : Rep) (h : r.WF) : r.count = FinSet.card r.den := by
  rw [Rep.count_eq r h]
  simp only [FinSet.card, Rep.den]
  exact (length_mk_of_nodup _ (Rep.members_nodup r h)).symm

theorem Rep.mem_den (r : Rep) (v : V) : v ∈ r.den ↔ v ∈ r.members := FinSet.mem_mk _ _

theorem den_eq_of_members (r : Rep) (l : List V) (hl : Sorted l) (h : ∀ x, x ∈ r.members ↔ x ∈ l) : r.den = l :=
  FinSet.sorted_ext _ _ (FinSet.sorted_mk _) hl (fun x => by rw [Rep.mem_den]; exact h x)

theorem Rep.has_iff_den (r : Rep) (h : r.WF) (v : V) : r.has v = true ↔ v ∈ r.den := by
  rw [Rep.has_iff r h, Rep.mem_den]

theorem Rep.isTrue_iff (r : Rep) (h : r.WF) : r.isTrue = true ↔ r.members ≠ [] := by
  cases r with
  | plain p => exact Plain.isTrue_iff p h
  | union bs =>
    simp only [Rep.isTrue, Rep.members]
    cases bs with
    | nil => have := h.2; simp at this
    | cons q r =>
      obtain ⟨k, p⟩ := q
      simp only [List.isEmpty_cons, Bool.not_false, true_iff, bucketsMembers]
      intro hc
      have := (h.1.2 (k, p) (by simp)).2.1
      exact this (List.append_eq_nil_iff.1 hc).1

theorem Plain.Norm.rep {p : Plain} (h : p.Norm) : (Rep.plain p).Norm :=
  h.imp (fun e => by rw [e]) id

theorem Rep.Norm.plain {p : Plain} (h : (Rep.plain p).Norm) : p.Norm :=
  h.imp (fun e => by cases e; rfl) id

theorem fromBuckets_norm (bs : List (Bucket × Plain)) (h : BucketsWF bs) : (fromBuckets bs).Norm := by
  cases bs with
  | nil => exact Or.inl rfl
  | cons q r =>
    right
    rw [fromBuckets_members]
    exact fun hc => (h.2 q List.mem_cons_self).2.1 (List.append_eq_nil_iff.1 hc).1

/-! ## Intersect and Difference of two plain sets; the subset of one bucket -/

theorem interPP_spec (a b : Plain) (ha : a.WF) (hb : b.WF) (hadm : b ≠ .empty → FilterAdm a b.has) :
    (interPP a b).WF ∧ (∀ v, v ∈ (interPP a b).members ↔ v ∈ a.members ∧ v ∈ b.members) ∧ (interPP a b).Norm := by
  unfold interPP
  split
  · exact ⟨trivial, by simp [Plain.members], Or.inl rfl⟩
  · exact ⟨trivial, by simp [Plain.members], Or.inl rfl⟩
  · rename_i xs ys
    refine ⟨fromFrozen_wf _ (FinSet.sorted_inter xs ys ha.1) ?_, ?_, fromFrozen_norm _⟩
    · intro x hx; exact ha.2.2.2 x ((FinSet.mem_inter xs ys x).1 hx).1
    · intro v; rw [fromFrozen_members]; exact FinSet.mem_inter xs ys v
  · rename_i _ hne _
    obtain ⟨w1, w2, w3⟩ := Plain.filter_spec a ha b.has (hadm hne)
    exact ⟨w1, fun v => by rw [w2, Plain.has_iff b hb], w3⟩

theorem diffPP_spec (a b : Plain) (ha : a.WF) (hb : b.WF) (hadm : FilterAdm a (fun v => !b.has v)) :
    (diffPP a b).WF ∧ (∀ v, v ∈ (diffPP a b).members ↔ v ∈ a.members ∧ v ∉ b.members) ∧
    (a.Norm → (diffPP a b).Norm) := by
  unfold diffPP
  split
  · exact ⟨trivial, by simp [Plain.members], fun _ => Or.inl rfl⟩
  · exact ⟨ha, by simp [Plain.members], id⟩
  · rename_i xs ys
    refine ⟨fromFrozen_wf _ (FinSet.sorted_diff xs ys ha.1) ?_, ?_, fun _ => fromFrozen_norm _⟩
    · intro x hx; exact ha.2.2.2 x ((FinSet.mem_diff xs ys x).1 hx).1
    · intro v; rw [fromFrozen_members]; exact FinSet.mem_diff xs ys v
  · obtain ⟨w1, w2, w4⟩ := Plain.filter_spec a ha _ hadm
    refine ⟨w1, fun v => ?_, fun _ => w4⟩
    rw [w2, ← Plain.has_iff b hb v]
    cases b.has v <;> simp

theorem getSubset_wf (bs : List (Bucket × Plain)) (h : BucketsWF bs) (k : Bucket) : (getSubset bs k).WF := by
  unfold getSubset
  cases hg : AL.get k bs with
  | none => trivial
  | some p => exact (h.of_get hg).1

/-- the members of a UnionSet that live in bucket `k` are the members of `getSubset k` -/
theorem mem_getSubset (bs : List (Bucket × Plain)) (h : BucketsWF bs) (k : Bucket) (v : V) :
    v ∈ (getSubset bs k).members ↔ v ∈ bucketsMembers bs ∧ bucketOf v = k := by
  unfold getSubset
  rw [mem_bucketsMembers_get bs h]
  cases hg : AL.get k bs with
  | none =>
    simp only [Option.getD_none, Plain.members, List.not_mem_nil, false_iff]
    rintro ⟨⟨p, hp, _⟩, hk⟩
    rw [hk, hg] at hp; cases hp
  | some p =>
    obtain ⟨hw, _, hb⟩ := h.of_get hg
    simp only [Option.getD_some]
    constructor
    · intro hv
      have hk : bucketOf v = k := (Plain.members_bucket p hw v hv).trans hb
      exact ⟨⟨p, by rw [hk]; exact hg, hv⟩, hk⟩
    · rintro ⟨⟨q, hq, hv⟩, hk⟩
      rw [hk, hg] at hq
      cases hq
      exact hv

theorem mem_getSubset_of_bucket (bs : List (Bucket × Plain)) (h : BucketsWF bs) {k : Bucket} {v : V}
    (hk : bucketOf v = k) : v ∈ (getSubset bs k).members ↔ v ∈ bucketsMembers bs :=
  (mem_getSubset bs h k v).trans (and_iff_left hk)

/-! ## bucket lists: every bucket mapped, the emptied ones dropped -/

theorem bucketsWF_mapKeep {β : Type} (src : List (Bucket × β)) (G : Bucket → β → Plain) (hk : (src.map (·.1)).Nodup)
    (hG : ∀ kx, kx ∈ src → (G kx.1 kx.2).WF ∧ ∀ v, v ∈ (G kx.1 kx.2).members → bucketOf v = kx.1) :
    BucketsWF ((src.map fun kx => (kx.1, G kx.1 kx.2)).filter fun kp => kp.2.isTrue) ∧
    ∀ v, v ∈ bucketsMembers ((src.map fun kx => (kx.1, G kx.1 kx.2)).filter fun kp => kp.2.isTrue) ↔
      ∃ kx, kx ∈ src ∧ v ∈ (G kx.1 kx.2).members := by
  refine ⟨⟨?_, fun kp hm => ?_⟩, fun v => ?_⟩
  · refine List.Nodup.sublist (List.filter_sublist.map _) ?_
    rwa [List.map_map]
  · obtain ⟨hm, ht⟩ := List.mem_filter.1 hm
    obtain ⟨kx, hkx, rfl⟩ := List.mem_map.1 hm
    have hne := (Plain.isTrue_iff _ (hG kx hkx).1).1 ht
    exact ⟨(hG kx hkx).1, hne, Plain.bucket_eq (hG kx hkx).1 hne (hG kx hkx).2⟩
  · rw [mem_bucketsMembers]
    constructor
    · rintro ⟨k, p, hm, hv⟩
      obtain ⟨kx, hkx, he⟩ := List.mem_map.1 (List.mem_filter.1 hm).1
      cases he
      exact ⟨kx, hkx, hv⟩
    · rintro ⟨kx, hkx, hv⟩
      exact ⟨_, _, List.mem_filter.2 ⟨List.mem_map.2 ⟨kx, hkx, rfl⟩,
        (Plain.isTrue_iff _ (hG kx hkx).1).2 (List.ne_nil_of_mem hv)⟩, hv⟩

theorem bucketsWF_map {β : Type} (src : List (Bucket × β)) (G : Bucket → β → Plain) (hk : (src.map (·.1)).Nodup)
    (hG : ∀ kx, kx ∈ src → (G kx.1 kx.2).WF ∧ (G kx.1 kx.2).members ≠ [] ∧
      ∀ v, v ∈ (G kx.1 kx.2).members → bucketOf v = kx.1) :
    BucketsWF (src.map fun kx => (kx.1, G kx.1 kx.2)) ∧
    ∀ v, v ∈ bucketsMembers (src.map fun kx => (kx.1, G kx.1 kx.2)) ↔ ∃ kx, kx ∈ src ∧ v ∈ (G kx.1 kx.2).members := by
  have h := bucketsWF_mapKeep src G hk fun kx hm => ⟨(hG kx hm).1, (hG kx hm).2.2⟩
  rwa [List.filter_eq_self.2 fun kp hm => ?_] at h
  obtain ⟨kx, hkx, rfl⟩ := List.mem_map.1 hm
  exact (Plain.isTrue_iff _ (hG kx hkx).1).2 (hG kx hkx).2.1

theorem bucketwise_spec (g : Bucket → Plain → Plain) (P : V → Prop) (bs : List (Bucket × Plain)) (h : BucketsWF bs)
    (hg : ∀ k p, (k, p) ∈ bs → (g k p).WF ∧ ∀ v, v ∈ (g k p).members ↔ v ∈ p.members ∧ P v) :
    BucketsWF ((bs.map fun kp => (kp.1, g kp.1 kp.2)).filter fun kp => kp.2.isTrue) ∧
    ∀ v, v ∈ bucketsMembers ((bs.map fun kp => (kp.1, g kp.1 kp.2)).filter fun kp => kp.2.isTrue) ↔
      v ∈ bucketsMembers bs ∧ P v := by
  obtain ⟨w, m⟩ := bucketsWF_mapKeep bs g h.1 fun kp hm =>
    ⟨(hg _ _ hm).1, fun v hv => h.bucketOf_eq hm (((hg _ _ hm).2 v).1 hv).1⟩
  refine ⟨w, fun v => (m v).trans ?_⟩
  rw [mem_bucketsMembers]
  exact ⟨fun ⟨kp, hm, hv⟩ => ⟨⟨_, _, hm, (((hg _ _ hm).2 v).1 hv).1⟩, (((hg _ _ hm).2 v).1 hv).2⟩,
    fun ⟨⟨k, p, hm, hv⟩, hP⟩ => ⟨(k, p), hm, ((hg _ _ hm).2 v).2 ⟨hv, hP⟩⟩⟩

theorem interPP_empty (p : Plain) : interPP p .empty = .empty := by cases p <;> rfl

theorem interBuckets_eq (bu au : List (Bucket × Plain)) :
    interBuckets bu au =
      (au.map fun kp => (kp.1, interPP kp.2 (getSubset bu kp.1))).filter fun kp => kp.2.isTrue := by
  induction au with
  | nil => rfl
  | cons kp r ih =>
    obtain ⟨k, p⟩ := kp
    unfold interBuckets
    rw [List.map_cons, List.filter_cons, ih]
    unfold getSubset
    cases AL.get k bu with
    | none => rw [Option.getD_none, interPP_empty]; rfl
    | some q => rfl

theorem diffBuckets_eq (bu au : List (Bucket × Plain)) :
    diffBuckets bu au =
      (au.map fun kp => (kp.1, diffPP kp.2 (getSubset bu kp.1))).filter fun kp => kp.2.isTrue := by
  induction au with
  | nil => rfl
  | cons kp r ih => obtain ⟨k, p⟩ := kp; unfold diffBuckets; rw [List.map_cons, List.filter_cons, ih]

theorem unionFilterBuckets_eq (f : V → Bool) (bs : List (Bucket × Plain)) :
    unionFilterBuckets f bs = (bs.map fun kp => (kp.1, kp.2.filter f)).filter fun kp => kp.2.isTrue := by
  induction bs with
  | nil => rfl
  | cons kp r ih => obtain ⟨k, p⟩ := kp; unfold unionFilterBuckets; rw [List.map_cons, List.filter_cons, ih]

/-! ## bucket lists: one bucket replaced or removed -/

/-- replacing the subset of bucket `k` by a well-formed non-empty set of the same kind -/
theorem BucketsWF.put {bs : List (Bucket × Plain)} (h : BucketsWF bs) (k : Bucket) (p : Plain)
    (hw : p.WF) (hne : p.members ≠ []) (hb : p.bucket = k) : BucketsWF (AL.put k p bs) :=
  h.all.put ⟨hw, hne, hb⟩

theorem BucketsWF.remove {bs : List (Bucket × Plain)} (h : BucketsWF bs) (k : Bucket) :
    BucketsWF (AL.remove k bs) := h.all.remove k

theorem BucketsWF.filter {bs : List (Bucket × Plain)} (h : BucketsWF bs) (P : Bucket × Plain → Bool) :
    BucketsWF (bs.filter P) := h.all.filter P

theorem mem_bucketsMembers_filter {bs : List (Bucket × Plain)} (h : BucketsWF bs) (P : Bucket → Bool) (v : V) :
    v ∈ bucketsMembers (bs.filter fun kp => P kp.1) ↔ v ∈ bucketsMembers bs ∧ P (bucketOf v) = true := by
  simp only [mem_bucketsMembers, List.mem_filter]
  constructor
  · rintro ⟨k, p, ⟨hm, hP⟩, hv⟩
    exact ⟨⟨k, p, hm, hv⟩, by rw [h.bucketOf_eq hm hv]; exact hP⟩
  · rintro ⟨⟨k, p, hm, hv⟩, hP⟩
    exact ⟨k, p, ⟨hm, by rw [← h.bucketOf_eq hm hv]; exact hP⟩, hv⟩

theorem mem_bucketsMembers_put (bs : List (Bucket × Plain)) (h : BucketsWF bs) (k : Bucket) (p : Plain) (v : V) :
    v ∈ bucketsMembers (AL.put k p bs) ↔ v ∈ p.members ∨ (v ∈ bucketsMembers bs ∧ bucketOf v ≠ k) := by
  simp only [mem_bucketsMembers, AL.mem_put bs k p h.1]
  constructor
  · rintro ⟨k', p', he | ⟨hm, hne⟩, hv⟩
    · cases he; exact Or.inl hv
    · exact Or.inr ⟨⟨k', p', hm, hv⟩, fun hc => hne ((h.bucketOf_eq hm hv).symm.trans hc)⟩
  · rintro (hv | ⟨⟨k', p', hm, hv⟩, hne⟩)
    · exact ⟨k, p, Or.inl rfl, hv⟩
    · exact ⟨k', p', Or.inr ⟨hm, fun hc => hne ((h.bucketOf_eq hm hv).trans hc)⟩, hv⟩

theorem mem_bucketsMembers_remove (bs : List (Bucket × Plain)) (h : BucketsWF bs) (k : Bucket) (v : V) :
    v ∈ bucketsMembers (AL.remove k bs) ↔ v ∈ bucketsMembers bs ∧ bucketOf v ≠ k := by
  rw [AL.remove_eq_filter k bs h.1, mem_bucketsMembers_filter h fun b => !decide (b = k)]; simp

/-- there is no definition `setSubset`: the name stands for the expression in which `unionWithout` and `diff` end, and, with
a `d` that is not empty, `unionWith` and `unionWithSubset` -/
theorem setSubset_spec (bs : List (Bucket × Plain)) (h : BucketsWF bs) (k : Bucket) (d : Plain) (hw : d.WF)
    (hk : ∀ x, x ∈ d.members → bucketOf x = k) :
    (if d.isTrue then fromBuckets (AL.put k d bs) else fromBuckets (AL.remove k bs)).WF ∧
    (∀ x, x ∈ (if d.isTrue then fromBuckets (AL.put k d bs) else fromBuckets (AL.remove k bs)).members ↔
      x ∈ d.members ∨ (x ∈ bucketsMembers bs ∧ bucketOf x ≠ k)) ∧
    (if d.isTrue then fromBuckets (AL.put k d bs) else fromBuckets (AL.remove k bs)).Norm := by
  by_cases ht : d.isTrue = true
  · rw [if_pos ht]
    have hne := (Plain.isTrue_iff d hw).1 ht
    have hb := h.put k d hw hne (Plain.bucket_eq hw hne hk)
    exact ⟨fromBuckets_wf _ hb, fun x => by rw [fromBuckets_members, mem_bucketsMembers_put bs h],
      fromBuckets_norm _ hb⟩
  · rw [if_neg ht]
    have hemp : d.members = [] := Classical.byContradiction fun hne => ht ((Plain.isTrue_iff d hw).2 hne)
    refine ⟨fromBuckets_wf _ (h.remove k), fun x => ?_, fromBuckets_norm _ (h.remove k)⟩
    rw [fromBuckets_members, mem_bucketsMembers_remove bs h, hemp]
    simp

theorem setSubset_filter_spec (bs : List (Bucket × Plain)) (h : BucketsWF bs) (k : Bucket) (d : Plain) (hw : d.WF)
    (P : V → Prop) (hd : ∀ x, x ∈ d.members ↔ x ∈ (getSubset bs k).members ∧ P x)
    (hP : ∀ x, bucketOf x ≠ k → P x) :
    (if d.isTrue then fromBuckets (AL.put k d bs) else fromBuckets (AL.remove k bs)).WF ∧
    (∀ x, x ∈ (if d.isTrue then fromBuckets (AL.put k d bs) else fromBuckets (AL.remove k bs)).members ↔
      x ∈ bucketsMembers bs ∧ P x) ∧
    (if d.isTrue then fromBuckets (AL.put k d bs) else fromBuckets (AL.remove k bs)).Norm := by
  obtain ⟨w, m, n⟩ := setSubset_spec bs h k d hw fun x hx => ((mem_getSubset bs h k x).1 ((hd x).1 hx).1).2
  refine ⟨w, fun x => ?_, n⟩
  rw [m, hd, mem_getSubset bs h]
  constructor
  · rintro (⟨⟨h1, _⟩, h2⟩ | ⟨h1, h2⟩)
    · exact ⟨h1, h2⟩
    · exact ⟨h1, hP x h2⟩
  · rintro ⟨h1, h2⟩
    by_cases hk : bucketOf x = k
    · exact Or.inl ⟨⟨h1, hk⟩, h2⟩
    · exact Or.inr ⟨h1, hk⟩

/-- a well-formed set all of whose members are of one kind is not a UnionSet -/
theorem plain_of_one_bucket (r : Rep) (h : r.WF) (b : Bucket) (hb : ∀ x, x ∈ r.members → bucketOf x = b) :
    ∃ p, r = .plain p := by
  cases r with
  | plain p => exact ⟨p, rfl⟩
  | union bs =>
    obtain ⟨hw, hl⟩ := h
    -- every bucket has a member, which is of the bucket's kind and of kind `b`
    have key : ∀ k p, (k, p) ∈ bs → k = b := fun k p hm => by
      obtain ⟨x, hx⟩ := List.exists_mem_of_ne_nil _ (hw.2 _ hm).2.1
      exact (hw.bucketOf_eq hm hx).symm.trans (hb x ((mem_bucketsMembers bs x).2 ⟨k, p, hm, hx⟩))
    have hk := hw.1
    cases bs with
    | nil => cases hl
    | cons q1 r1 =>
      cases r1 with
      | nil => simp at hl
      | cons q2 r2 =>
        rw [List.map_cons, List.map_cons, List.nodup_cons] at hk
        exact absurd (List.mem_cons.2 (Or.inl ((key _ _ List.mem_cons_self).trans
          (key _ _ (List.mem_cons_of_mem _ List.mem_cons_self)).symm))) hk.1

/-- `r`: what `With` or `Union` answered on the subset of bucket `k`; `P`: the values it added -/
theorem setSubset_grow_spec (bs : List (Bucket × Plain)) (h : BucketsWF bs) (k : Bucket) (r : Rep) (hw : r.WF)
    (P : V → Prop) (hex : ∃ x, P x) (hd : ∀ x, x ∈ r.members ↔ x ∈ (getSubset bs k).members ∨ P x)
    (hP : ∀ x, P x → bucketOf x = k) :
    ∃ d, r = .plain d ∧ (fromBuckets (AL.put k d bs)).WF ∧
      (∀ x, x ∈ (fromBuckets (AL.put k d bs)).members ↔ x ∈ bucketsMembers bs ∨ P x) ∧
      (fromBuckets (AL.put k d bs)).Norm := by
  have hk : ∀ x, x ∈ r.members → bucketOf x = k := fun x hx =>
    ((hd x).1 hx).elim (fun h1 => ((mem_getSubset bs h k x).1 h1).2) (hP x)
  obtain ⟨d, rfl⟩ := plain_of_one_bucket r hw k hk
  change ∀ x, x ∈ d.members ↔ _ at hd
  obtain ⟨y, hy⟩ := hex
  obtain ⟨w, m, n⟩ := setSubset_spec bs h k d hw hk
  rw [if_pos ((Plain.isTrue_iff d hw).2 (List.ne_nil_of_mem ((hd y).2 (Or.inr hy))))] at w m n
  refine ⟨d, rfl, w, fun x => ?_, n⟩
  -- of kind `k` or not: the two parts of the UnionSet make up the whole
  rw [m, hd, mem_getSubset bs h, or_right_comm, ← and_or_left, and_iff_left (Classical.em _)]

/-! ## Where -/

def RepFilterAdm : Rep → (V → Bool) → Prop
  | .plain p, f => FilterAdm p f
  | .union bs, f => ∀ k p, (k, p) ∈ bs → FilterAdm p f

theorem Rep.filter_spec (r : Rep) (h : r.WF) (f : V → Bool) (hadm : RepFilterAdm r f) :
    (r.filter f).WF ∧ ∀ v, v ∈ (r.filter f).members ↔ v ∈ r.members ∧ f v = true := by
  cases r with
  | plain p =>
    obtain ⟨w1, w2, _⟩ := Plain.filter_spec p h f hadm
    exact ⟨w1, w2⟩
  | union bs =>
    rw [show (Rep.union bs).filter f = fromBuckets _ from congrArg fromBuckets (unionFilterBuckets_eq f bs)]
    obtain ⟨w1, w3⟩ := bucketwise_spec _ (f · = true) bs h.1 fun k p hm => by
      obtain ⟨s1, s2, _⟩ := Plain.filter_spec p (h.1.2 _ hm).1 f (hadm k p hm)
      exact ⟨s1, s2⟩
    exact ⟨fromBuckets_wf _ w1, fun v => by rw [fromBuckets_members]; exact w3 v⟩

/-! ## Intersect -/

/-- admissibility of `Intersect`/`Difference`: a filtered byte array must stay gap-free -/
def InterAdm : Rep → Rep → Prop
  | .plain a, .plain b => FilterAdm a b.has
  | .union au, .union bu => ∀ k p q, (k, p) ∈ au → AL.get k bu = some q → FilterAdm p q.has
  | .union au, .plain b => FilterAdm (getSubset au b.bucket) b.has
  | .plain a, .union bu => FilterAdm (getSubset bu a.bucket) a.has

theorem inter_plain_union (a : Plain) (bu : List (Bucket × Plain)) :
    inter (.plain a) (.union bu) = .plain (interPP (getSubset bu a.bucket) a) := by
  simp only [inter]
  by_cases he : a = .empty
  · subst he; rw [if_pos rfl, interPP_empty]
  · rw [if_neg he]

theorem inter_union_plain (au : List (Bucket × Plain)) (b : Plain) :
    inter (.union au) (.plain b) = .plain (interPP (getSubset au b.bucket) b) := by
  simp only [inter]
  by_cases he : b = .empty
  · subst he; rw [if_pos rfl, interPP_empty]
  · rw [if_neg he]

theorem interPP_getSubset_spec (bs : List (Bucket × Plain)) (hbs : BucketsWF bs) (p : Plain) (hp : p.WF)
    (hadm : FilterAdm (getSubset bs p.bucket) p.has) :
    (interPP (getSubset bs p.bucket) p).WF ∧
    (∀ v, v ∈ (interPP (getSubset bs p.bucket) p).members ↔ v ∈ bucketsMembers bs ∧ v ∈ p.members) ∧
    (interPP (getSubset bs p.bucket) p).Norm := by
  obtain ⟨w1, w2, w4⟩ := interPP_spec (getSubset bs p.bucket) p (getSubset_wf bs hbs _) hp fun _ => hadm
  exact ⟨w1, fun v => (w2 v).trans
    (and_congr_left fun hv => mem_getSubset_of_bucket bs hbs (Plain.members_bucket p hp v hv)), w4⟩

theorem inter_spec (a b : Rep) (ha : a.WF) (hb : b.WF) (hadm : InterAdm a b) :
    (inter a b).WF ∧ (∀ v, v ∈ (inter a b).members ↔ v ∈ a.members ∧ v ∈ b.members) ∧ (inter a b).Norm := by
  cases a with
  | plain p =>
    cases b with
    | plain q =>
      obtain ⟨w1, w2, w4⟩ := interPP_spec p q ha hb fun _ => hadm
      exact ⟨w1, w2, w4.rep⟩
    | union bu =>
      rw [inter_plain_union]
      obtain ⟨w1, w2, w3⟩ := interPP_getSubset_spec bu hb.1 p ha hadm
      exact ⟨w1, fun v => (w2 v).trans And.comm, w3.rep⟩
  | union au =>
    cases b with
    | plain q =>
      rw [inter_union_plain]
      obtain ⟨w1, w2, w3⟩ := interPP_getSubset_spec au ha.1 q hb hadm
      exact ⟨w1, w2, w3.rep⟩
    | union bu =>
      simp only [inter]
      rw [interBuckets_eq]
      obtain ⟨w1, w3⟩ := bucketwise_spec _ (· ∈ bucketsMembers bu) au ha.1 fun k p hm => by
        have hw := (ha.1.2 (k, p) hm).1
        have hadm' : getSubset bu k ≠ .empty → FilterAdm p (getSubset bu k).has := by
          unfold getSubset
          cases hg : AL.get k bu with
          | none => exact fun hne => absurd rfl hne
          | some q => exact fun _ => hadm k p q hm hg
        obtain ⟨s1, s2, _⟩ := interPP_spec p (getSubset bu k) hw (getSubset_wf bu hb.1 k) hadm'
        exact ⟨s1, fun v => (s2 v).trans
          (and_congr_right fun hv => mem_getSubset_of_bucket bu hb.1 (ha.1.bucketOf_eq hm hv))⟩
      exact ⟨fromBuckets_wf _ w1, fun v => by rw [fromBuckets_members]; exact w3 v, fromBuckets_norm _ w1⟩

/-! ## Difference -/

def DiffAdm : Rep → Rep → Prop
  | .plain a, .plain b => FilterAdm a (fun v => !b.has v)
  | .union au, .union bu => ∀ k p, (k, p) ∈ au → FilterAdm p (fun v => !(getSubset bu k).has v)
  | .union au, .plain b => FilterAdm (getSubset au b.bucket) (fun v => !b.has v)
  | .plain a, .union bu => FilterAdm a (fun v => !(getSubset bu a.bucket).has v)

theorem diff_plain_union (a : Plain) (bu : List (Bucket × Plain)) :
    diff (.plain a) (.union bu) = .plain (diffPP a (getSubset bu a.bucket)) := by
  simp only [diff]
  by_cases he : a = .empty
  · subst he; rw [if_pos rfl]; rfl
  · rw [if_neg he]

theorem diff_spec (a b : Rep) (ha : a.WF) (hb : b.WF) (hadm : DiffAdm a b) :
    (diff a b).WF ∧ (∀ v, v ∈ (diff a b).members ↔ v ∈ a.members ∧ v ∉ b.members) ∧
    (a.Norm → (diff a b).Norm) := by
  cases a with
  | plain p =>
    cases b with
    | plain q =>
      obtain ⟨w1, w2, w4⟩ := diffPP_spec p q ha hb hadm
      exact ⟨w1, w2, fun hn => (w4 hn.plain).rep⟩
    | union bu =>
      rw [diff_plain_union]
      obtain ⟨w1, w2, w4⟩ := diffPP_spec p (getSubset bu p.bucket) ha (getSubset_wf bu hb.1 _) hadm
      refine ⟨w1, fun v => ?_, fun hn => (w4 hn.plain).rep⟩
      exact (w2 v).trans (and_congr_right fun hv =>
        not_congr (mem_getSubset_of_bucket bu hb.1 (Plain.members_bucket p ha v hv)))
  | union au =>
    cases b with
    | plain q =>
      simp only [diff]
      by_cases he : q = .empty
      · subst he; rw [if_pos rfl]
        exact ⟨ha, by simp [Rep.members, Plain.members], id⟩
      · rw [if_neg he]
        obtain ⟨w1, w2, _⟩ := diffPP_spec (getSubset au q.bucket) q (getSubset_wf au ha.1 _) hb hadm
        obtain ⟨w, m, n⟩ := setSubset_filter_spec au ha.1 q.bucket _ w1 (· ∉ q.members) w2
          fun x hx hc => hx (Plain.members_bucket q hb x hc)
        exact ⟨w, m, fun _ => n⟩
    | union bu =>
      simp only [diff]
      rw [diffBuckets_eq]
      obtain ⟨w1, w3⟩ := bucketwise_spec _ (· ∉ bucketsMembers bu) au ha.1 fun k p hm => by
        obtain ⟨s1, s2, _⟩ := diffPP_spec p (getSubset bu k) (ha.1.2 (k, p) hm).1 (getSubset_wf bu hb.1 k) (hadm k p hm)
        exact ⟨s1, fun v => (s2 v).trans (and_congr_right fun hv =>
          not_congr (mem_getSubset_of_bucket bu hb.1 (ha.1.bucketOf_eq hm hv)))⟩
      exact ⟨fromBuckets_wf _ w1, fun v => by rw [fromBuckets_members]; exact w3 v, fun _ => fromBuckets_norm _ w1⟩

end Arrai.C01
