/-
  C01: the SetBuilder — grouping by bucket, the per-bucket finish functions and `Finish` (`finish_spec`), under `FinishAdm`;
  criteria for `FinishAdm` by membership (`finishAdm_intro`, `finishAdm_of_no_seq`, `finishAdm_single`, `finishAdm_chars`).
-/
import Arrai.C01.Ops

namespace Arrai.C01
open Arrai Arrai.FinSet KSeq

/-! ## grouping by bucket -/

abbrev GroupsOK (g : List (Bucket × List V)) : Prop := AL.All (fun b vs => vs ≠ [] ∧ ∀ x, x ∈ vs → bucketOf x = b) g

def groupMem (g : List (Bucket × List V)) (x : V) : Prop := ∃ bv, bv ∈ g ∧ x ∈ bv.2

theorem GroupsOK.nil : GroupsOK [] := ⟨List.nodup_nil, nofun⟩

theorem addToBucket_eq (v : V) (g : List (Bucket × List V)) :
    addToBucket v g = AL.put (bucketOf v) ((AL.get (bucketOf v) g).getD [] ++ [v]) g := by
  induction g with
  | nil => rfl
  | cons q r ih =>
    obtain ⟨b, vs⟩ := q
    unfold addToBucket AL.put AL.get
    by_cases hb : b = bucketOf v
    · subst hb; rw [if_pos rfl, if_pos rfl, if_pos rfl]; rfl
    · rw [if_neg hb, if_neg hb, if_neg hb, ih]

theorem addToBucket_spec (v : V) (g : List (Bucket × List V)) (h : GroupsOK g) :
    GroupsOK (addToBucket v g) ∧ ∀ x, groupMem (addToBucket v g) x ↔ x = v ∨ groupMem g x := by
  rw [addToBucket_eq]
  have hold : ∀ x, x ∈ (AL.get (bucketOf v) g).getD [] ↔ ∃ vs, (bucketOf v, vs) ∈ g ∧ x ∈ vs := by
    intro x
    cases hg : AL.get (bucketOf v) g with
    | none =>
      refine ⟨fun hx => absurd hx List.not_mem_nil, fun ⟨vs, hm, _⟩ => ?_⟩
      exact absurd (List.mem_map.2 ⟨_, hm, rfl⟩) ((AL.get_eq_none_iff g _).1 hg)
    | some vs =>
      refine ⟨fun hx => ⟨vs, (AL.get_eq_some_iff g h.1 _ vs).1 hg, hx⟩, fun ⟨vs', hm, hx⟩ => ?_⟩
      cases (AL.get_eq_some_iff g h.1 _ vs').2 hm ▸ hg
      exact hx
  refine ⟨h.put ⟨List.append_ne_nil_of_right_ne_nil _ (List.cons_ne_nil _ _), fun x hx => ?_⟩, fun x => ?_⟩
  · rcases List.mem_append.1 hx with hx | hx
    · obtain ⟨vs, hm, hxv⟩ := (hold x).1 hx
      exact (h.2 _ hm).2 x hxv
    · cases List.mem_singleton.1 hx; rfl
  · simp only [groupMem, AL.mem_put g _ _ h.1]
    constructor
    · rintro ⟨bv, rfl | ⟨hm, _⟩, hx⟩
      · rcases List.mem_append.1 hx with hx | hx
        · obtain ⟨vs, hm, hxv⟩ := (hold x).1 hx
          exact Or.inr ⟨_, hm, hxv⟩
        · exact Or.inl (List.mem_singleton.1 hx)
      · exact Or.inr ⟨bv, hm, hx⟩
    · rintro (rfl | ⟨bv, hm, hx⟩)
      · exact ⟨_, Or.inl rfl, List.mem_append.2 (Or.inr (List.mem_singleton.2 rfl))⟩
      · by_cases hk : bv.1 = bucketOf v
        · exact ⟨_, Or.inl rfl, List.mem_append.2 (Or.inl ((hold x).2 ⟨bv.2, hk ▸ hm, hx⟩))⟩
        · exact ⟨bv, Or.inr ⟨hm, hk⟩, hx⟩

theorem groupBuckets_spec (xs : List V) (g : List (Bucket × List V)) (h : GroupsOK g) :
    GroupsOK (groupBuckets g xs) ∧ ∀ x, groupMem (groupBuckets g xs) x ↔ groupMem g x ∨ x ∈ xs := by
  induction xs generalizing g with
  | nil => exact ⟨h, by simp [groupBuckets]⟩
  | cons v r ih =>
    obtain ⟨a1, a2⟩ := addToBucket_spec v g h
    obtain ⟨i1, i2⟩ := ih (addToBucket v g) a1
    refine ⟨i1, ?_⟩
    intro x
    simp only [groupBuckets]
    rw [i2, a2, List.mem_cons]
    exact or_assoc.trans or_left_comm

/-! ## the per-bucket finish functions -/

/-- what the builder cannot represent: two values at one index (KF-superimposed), a byte array with a
gap (KF-bytes-holes) -/
def FinishAdm (xs : List V) : Prop :=
  Functional (charPairs xs) ∧ Functional (bytePairs xs) ∧ NoGap (bytePairs xs) ∧ Functional (itemPairs xs)

theorem charPairs_nil_of (l : List V) (h : ∀ x, x ∈ l → asChar x = none) : charPairs l = [] := by
  rw [charPairs_eq]; exact List.filterMap_eq_nil_iff.2 h

theorem finishAdm_of_no_seq (xs : List V)
    (h : ∀ x, x ∈ xs → asChar x = none ∧ asByte x = none ∧ asItem x = none) : FinishAdm xs := by
  unfold FinishAdm
  rw [charPairs_nil_of xs fun x hx => (h x hx).1, bytePairs_eq, itemPairs_eq,
    List.filterMap_eq_nil_iff.2 fun x hx => (h x hx).2.1, List.filterMap_eq_nil_iff.2 fun x hx => (h x hx).2.2]
  exact ⟨Functional.nil, Functional.nil, NoGap.nil, Functional.nil⟩

/-- membership-level criterion for `FinishAdm` -/
theorem finishAdm_intro (xs : List V)
    (hc : ∀ i c d, charV i c ∈ xs → charV i d ∈ xs → c = d)
    (hb : ∀ i c d, byteV i c ∈ xs → byteV i d ∈ xs → c = d)
    (hg : ∀ i j k c d, byteV i c ∈ xs → byteV k d ∈ xs → (c : Int) ≤ 255 → (d : Int) ≤ 255 → i ≤ j → j ≤ k →
      ∃ e, byteV j e ∈ xs ∧ (e : Int) ≤ 255)
    (hi : ∀ i c d, itemV i c ∈ xs → itemV i d ∈ xs → c = d) : FinishAdm xs := by
  refine ⟨?_, ?_, ?_, ?_⟩
  · rintro ⟨i, c⟩ ⟨j, d⟩ hp hq hpq
    simp only at hpq; subst hpq
    exact hc i c d ((mem_charPairs _ _ _).1 hp).1 ((mem_charPairs _ _ _).1 hq).1
  · rintro ⟨i, c⟩ ⟨j, d⟩ hp hq hpq
    simp only at hpq; subst hpq
    exact hb i c d ((mem_bytePairs _ _ _).1 hp).1 ((mem_bytePairs _ _ _).1 hq).1
  · rintro j ⟨⟨i, c⟩, ⟨k, d⟩, hp, hq, h1, h2⟩
    obtain ⟨p1, p2⟩ := (mem_bytePairs _ _ _).1 hp
    obtain ⟨q1, q2⟩ := (mem_bytePairs _ _ _).1 hq
    obtain ⟨e, he, he2⟩ := hg i j k c d p1 q1 p2 q2 h1 h2
    exact ⟨e, (mem_bytePairs _ _ _).2 ⟨he, he2⟩⟩
  · rintro ⟨i, c⟩ ⟨j, d⟩ hp hq hpq
    simp only at hpq; subst hpq
    exact hi i c d ((mem_itemPairs _ _ _).1 hp) ((mem_itemPairs _ _ _).1 hq)

theorem finishAdm_single (v : V) : FinishAdm [v] := by
  apply finishAdm_intro
  · intro i c d h1 h2
    simp only [List.mem_singleton] at h1 h2
    exact (charV_inj (h1.trans h2.symm)).2
  · intro i c d h1 h2
    simp only [List.mem_singleton] at h1 h2
    exact (byteV_inj (h1.trans h2.symm)).2
  · intro i j k c d h1 h2 hc _ hij hjk
    simp only [List.mem_singleton] at h1 h2
    have := (byteV_inj (h1.trans h2.symm)).1
    have hj : j = i := by omega
    subst hj
    exact ⟨c, by simp [h1], hc⟩
  · intro i c d h1 h2
    simp only [List.mem_singleton] at h1 h2
    exact (itemV_inj (h1.trans h2.symm)).2

theorem byteV_ne_charV {i j : Int} {b c : Nat} : byteV i b ≠ charV j c := by simp [byteV, charV, pairV]
theorem itemV_ne_charV {i j : Int} {x : V} {c : Nat} : itemV i x ≠ charV j c := by simp [itemV, charV, pairV]

/-- chars, at most one per index, are admissible to the builder: no byte and no item is among them -/
theorem finishAdm_chars (ps : List (Int × Nat)) (hf : Functional ps) : FinishAdm (ps.map fun p => charV p.1 p.2) := by
  have hch : ∀ {x}, x ∈ ps.map (fun p => charV p.1 p.2) → ∃ i c, x = charV i c := fun hx =>
    let ⟨i, c, e, _⟩ := (mem_tagged charV ps _).1 hx
    ⟨i, c, e⟩
  refine finishAdm_intro _ (fun i a b ha hb => ?_) (fun i a b ha _ => ?_) (fun i j k a b ha => ?_) (fun i a b ha _ => ?_)
  · exact hf _ _ ((mem_tagged_self charV_inj ps i a).1 ha) ((mem_tagged_self charV_inj ps i b).1 hb) rfl
  · obtain ⟨_, _, e⟩ := hch ha; exact absurd e byteV_ne_charV
  · obtain ⟨_, _, e⟩ := hch ha; exact absurd e byteV_ne_charV
  · obtain ⟨_, _, e⟩ := hch ha; exact absurd e itemV_ne_charV

theorem finishBucket_spec (b : Bucket) (vs : List V) (hne : vs ≠ []) (hb : ∀ x, x ∈ vs → bucketOf x = b)
    (hadm : FinishAdm vs) :
    (finishBucket b vs).WF ∧ ∀ x, x ∈ (finishBucket b vs).members ↔ x ∈ vs := by
  cases b with
  | generic =>
    refine ⟨fromFrozen_wf _ (FinSet.sorted_mk _) fun x hx => hb x ((FinSet.mem_mk _ x).1 hx), fun x => ?_⟩
    show x ∈ (fromFrozen _).members ↔ _
    rw [fromFrozen_members]; exact FinSet.mem_mk _ x
  | strChar => exact asString_charPairs vs hne hb hadm.1
  | bytesByte => exact asBytes_bytePairs vs hne hb hadm.2.1 hadm.2.2.1
  | arrItem => exact asArray_itemPairs vs hb hadm.2.2.2
  | dictEntry => exact newDict_spec vs (fun v hv => bucketOf_cases (hb v hv))
  | rel names =>
    exact ⟨⟨FinSet.sorted_mk _, ne_nil_of_subset hne fun a => (FinSet.mem_mk vs a).2,
      fun x hx => hb x ((FinSet.mem_mk _ x).1 hx)⟩, fun x => FinSet.mem_mk _ x⟩

/-! ## SetBuilder.Finish -/

theorem FinishAdm.subset {xs vs : List V} (h : FinishAdm xs) (hsub : ∀ x, x ∈ vs → x ∈ xs)
    (hbytes : (∀ x, x ∈ xs → bucketOf x = .bytesByte → x ∈ vs) ∨ (∀ x, x ∈ vs → bucketOf x ≠ .bytesByte)) :
    FinishAdm vs := by
  obtain ⟨h1, h2, h3, h4⟩ := h
  have hc : ∀ p, p ∈ charPairs vs → p ∈ charPairs xs := fun ⟨i, c⟩ hp =>
    (mem_charPairs _ i c).2 ⟨hsub _ ((mem_charPairs _ i c).1 hp).1, ((mem_charPairs _ i c).1 hp).2⟩
  have hb : ∀ p, p ∈ bytePairs vs → p ∈ bytePairs xs := fun ⟨i, c⟩ hp =>
    (mem_bytePairs _ i c).2 ⟨hsub _ ((mem_bytePairs _ i c).1 hp).1, ((mem_bytePairs _ i c).1 hp).2⟩
  have hi : ∀ p, p ∈ itemPairs vs → p ∈ itemPairs xs := fun ⟨i, c⟩ hp =>
    (mem_itemPairs _ i c).2 (hsub _ ((mem_itemPairs _ i c).1 hp))
  refine ⟨fun p q hp hq => h1 p q (hc p hp) (hc q hq), fun p q hp hq => h2 p q (hb p hp) (hb q hq), ?_,
    fun p q hp hq => h4 p q (hi p hp) (hi q hq)⟩
  rintro i ⟨p, q, hp, hq, h5, h6⟩
  obtain ⟨x, hx⟩ := h3 i ⟨p, q, hb p hp, hb q hq, h5, h6⟩
  have hx' := (mem_bytePairs xs i x).1 hx
  rcases hbytes with hbytes | hbytes
  · exact ⟨x, (mem_bytePairs vs i x).2 ⟨hbytes _ hx'.1 (bucketOf_byteV i x hx'.2), hx'.2⟩⟩
  · have hp' := (mem_bytePairs vs p.1 p.2).1 hp
    exact absurd (bucketOf_byteV p.1 p.2 hp'.2) (hbytes _ hp'.1)

theorem finishGroups_eq (g : List (Bucket × List V)) :
    finishGroups g = g.map fun bv => (bv.1, finishBucket bv.1 bv.2) := by
  induction g with
  | nil => rfl
  | cons q r ih => obtain ⟨b, vs⟩ := q; unfold finishGroups; rw [ih]; rfl

theorem finishGroups_spec (g : List (Bucket × List V)) (h : GroupsOK g)
    (hadm : ∀ bv, bv ∈ g → FinishAdm bv.2) :
    BucketsWF (finishGroups g) ∧ ∀ x, x ∈ bucketsMembers (finishGroups g) ↔ groupMem g x := by
  have hG := fun bv (hm : bv ∈ g) => finishBucket_spec bv.1 bv.2 (h.2 bv hm).1 (h.2 bv hm).2 (hadm bv hm)
  rw [finishGroups_eq]
  obtain ⟨w, m⟩ := bucketsWF_map g finishBucket h.1 fun bv hm => ⟨(hG bv hm).1,
    ne_nil_of_subset (h.2 bv hm).1 fun x => ((hG bv hm).2 x).2, fun x hx => (h.2 bv hm).2 x (((hG bv hm).2 x).1 hx)⟩
  exact ⟨w, fun x => (m x).trans
    ⟨fun ⟨bv, hm, hx⟩ => ⟨bv, hm, ((hG bv hm).2 x).1 hx⟩, fun ⟨bv, hm, hx⟩ => ⟨bv, hm, ((hG bv hm).2 x).2 hx⟩⟩⟩

/-- `SetBuilder.Finish` denotes exactly the values added and returns a well-formed set -/
theorem finish_spec (xs : List V) (hadm : FinishAdm xs) :
    (finish xs).WF ∧ ∀ x, x ∈ (finish xs).members ↔ x ∈ xs := by
  obtain ⟨g1, g2⟩ := groupBuckets_spec xs [] GroupsOK.nil
  have hmem : ∀ x, groupMem (groupBuckets [] xs) x ↔ x ∈ xs := by
    intro x; rw [g2]; simp [groupMem]
  have hadm' : ∀ bv, bv ∈ groupBuckets [] xs → FinishAdm bv.2 := by
    intro bv hbv
    apply hadm.subset
    · intro x hx; exact (hmem x).1 ⟨bv, hbv, hx⟩
    · by_cases hb : bv.1 = .bytesByte
      · left
        intro x hx hxb
        obtain ⟨bv', hbv', hx'⟩ := (hmem x).2 hx
        have e1 : bucketOf x = bv'.1 := (g1.2 bv' hbv').2 x hx'
        have hk : bv'.1 = bv.1 := by rw [← e1, hxb, hb]
        obtain ⟨k1, l1⟩ := bv'
        obtain ⟨k2, l2⟩ := bv
        cases (show k1 = k2 from hk)
        have e := ((AL.get_eq_some_iff _ g1.1 _ _).2 hbv').symm.trans ((AL.get_eq_some_iff _ g1.1 _ _).2 hbv)
        cases e
        exact hx'
      · right
        intro x hx hxb
        exact hb (by rw [← (g1.2 bv hbv).2 x hx, hxb])
  obtain ⟨f1, f3⟩ := finishGroups_spec _ g1 hadm'
  unfold finish
  refine ⟨fromBuckets_wf _ f1, ?_⟩
  intro x
  rw [fromBuckets_members, f3, hmem]

theorem finish_norm (xs : List V) (hadm : FinishAdm xs) : (finish xs).Norm := by
  cases xs with
  | nil => exact Or.inl rfl
  | cons a r => exact Or.inr (List.ne_nil_of_mem (((finish_spec (a :: r) hadm).2 a).2 List.mem_cons_self))

end Arrai.C01
