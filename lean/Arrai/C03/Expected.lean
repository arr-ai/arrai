/-
  C03 — hand-written expectations about the WRITE SITES of rel/*.go and syntax/std_seq*.go
  (`x[i] = v`, `append(x, …)`, `copy(x, …)`), against which `extract/facts_c03.go`'s regenerated
  tables are compared by kernel evaluation (`rfl`) in Arrai/Proofs/C03.lean on every run.

  `nonfreshNoted`: every site whose destination is NOT storage allocated in the same function
  (classes param / field / local / call), each with a note: `.model …` = the heap model covers it (and how),
  `.na …` = reviewed, not the payload of a value.  On the tree as found this list had three more rows —
  ("rel/value_set_str.go", "String.with", "append s.s", "param"),
  ("rel/value_set_bytes.go", "Bytes.with", "append b.b", "param") — repaired by
  "fix: String.with and Bytes.with copy before appending at the end" — and
  ("rel/value_set_rel.go", "Relation.Join", "append leftOutput", "param") — a relation's heading is part of the value;
  repaired by the C04 fix (theorem rel_alias_heading_before_repair is its witness in the heap model).
  `summary`: number of write sites per file and class.
  `callees`: for every function whose RESULT a write site's destination comes from (class `call`, or a `local` defined
  by a call), plus the slice-returning helpers the heap model relies on and the accessors that hand out a value's own
  slice: the classification of every return statement ("fresh" = all of them return make / composite literal /
  append(make…) / a local defined only so).  `assumedFresh`: the ones whose freshness the model (and the safety of a
  write site) depends on.
-/
namespace Arrai.C03.Expected

/-- how a non-fresh write site is accounted for -/
inductive Cover
  | model (by_ : String) (why : String)   -- transliterated in the heap model (Impl.…)
  | na (why : String)                      -- reviewed: not the payload of a value
  deriving Inhabited

def Cover.isModel : Cover → Bool
  | .model _ _ => true
  | .na _ => false

def nonfreshNoted : List ((String × String × String × String) × Cover) := [
  (("rel/expr_reduce_median.go", "float64Heap.Push", "append *h", "param"),
    .na "container/heap of float64 inside `median`; never a value's payload"),
  (("rel/expr_reduce_median.go", "float64Heap.Swap", "store h[i]", "param"),
    .na "container/heap of float64 inside `median`; never a value's payload"),
  (("rel/expr_reduce_median.go", "float64Heap.Swap", "store h[j]", "param"),
    .na "container/heap of float64 inside `median`; never a value's payload"),
  (("rel/ops_rel.go", "GenericJoin", "store slots[slotKey]", "local"),
    .na "a Go map local to the join"),
  (("rel/ops_set.go", "OrderBy", "store o.keys[i]", "field"),
    .na "`orderer` allocated two lines above with make(); scratch for sort"),
  (("rel/ops_set.go", "OrderBy", "store o.values[i]", "field"),
    .na "`orderer` allocated two lines above with make(); scratch for sort"),
  (("rel/ops_set.go", "orderer.Swap", "store o.keys[i]", "param"),
    .na "sort.Interface over OrderBy's scratch slices"),
  (("rel/ops_set.go", "orderer.Swap", "store o.keys[j]", "param"),
    .na "sort.Interface over OrderBy's scratch slices"),
  (("rel/ops_set.go", "orderer.Swap", "store o.values[i]", "param"),
    .na "sort.Interface over OrderBy's scratch slices"),
  (("rel/ops_set.go", "orderer.Swap", "store o.values[j]", "param"),
    .na "sort.Interface over OrderBy's scratch slices"),
  (("rel/ops_set_rank.go", "newRanker", "append r.entries", "field"),
    .na "ranker scratch, `r` allocated in the same function"),
  (("rel/ops_set_rank.go", "rankerSlice.Swap", "store o.entries[i]", "param"),
    .na "sort.Interface over the ranker's scratch"),
  (("rel/ops_set_rank.go", "rankerSlice.Swap", "store o.entries[j]", "param"),
    .na "sort.Interface over the ranker's scratch"),
  (("rel/value.go", "arraiTags", "store tags[i]", "local"),
    .na "local string slice returned by strings.Split"),
  (("rel/value_kind.go", "registerKind", "store kinds[kind]", "local"),
    .na "package-level kind registry (a map), written at init"),
  (("rel/value_set_array.go", "Array.Where", "store result.values[i]", "field"),
    .model "Impl.arrWhere" "`result := a.clone()`; the store goes to the clone"),
  (("rel/value_set_array.go", "Array.Without", "store result.values[i]", "field"),
    .model "Impl.arrWithout" "`result := a.clone()`; the store goes to the clone"),
  (("rel/value_set_builder.go", "SetBuilder.Add", "store b.buckets[bucket]", "param"),
    .na "the builder's bucket map; a builder is not a value"),
  (("rel/value_set_builder.go", "genericSetBuilder.Add", "append b.values", "param"),
    .model "Impl.finishV/asSeq" "the builder's own value list, copied into a fresh array by Finish"),
  (("rel/value_set_dict.go", "dictEntryTupleSort.Swap", "store s[a]", "param"),
    .na "sort.Interface over the fresh slice built by Dict.OrderedEntries"),
  (("rel/value_set_dict.go", "dictEntryTupleSort.Swap", "store s[b]", "param"),
    .na "sort.Interface over the fresh slice built by Dict.OrderedEntries"),
  (("rel/value_set_generic.go", "ValueList.Swap", "store vl[i]", "param"),
    .na "sort.Interface over slices produced by OrderedValues (fresh per call)"),
  (("rel/value_set_generic.go", "ValueList.Swap", "store vl[j]", "param"),
    .na "sort.Interface over slices produced by OrderedValues (fresh per call)"),
  (("rel/value_set_relpos.go", "positionalRelation.JoinKeepEverything", "append leftVal.project(leftOutput).values()", "call"),
    .model "Rel.Impl.keepEverything" "the append target is the result of `projectedValues.values()`: safe only because that callee returns a slice of its own on every path — see `callees` / `callees_assumed_fresh` (a `values()` that returns `pv.v` makes this append write into a shared row: theorem rel_alias_rows_if_values_returns_row)"),
  (("rel/value_tuple.go", "NewTuple", "store attrs[0]", "param"),
    .na "swaps the two Attr of the caller's variadic argument list; attrs are copied into the tuple builder"),
  (("rel/value_tuple.go", "NewTuple", "store attrs[1]", "param"),
    .na "swaps the two Attr of the caller's variadic argument list; attrs are copied into the tuple builder"),
  (("rel/value_tuple.go", "TupleOrderedNames", "append t.names", "param"),
    .na "memoised sorted name list inside a GenericTuple (sync.Once); does not change what the tuple denotes"),
  (("syntax/std_seq_array_helper.go", "arraySub", "append append(result,newArray.Values()...)", "call"),
    .model "Op.sub" "`result` is make([]Value, 0, n) in the same function; the inner append(result, …) is the argument of the outer one"),
  (("syntax/std_seq_array_helper.go", "arraySub", "append append(result,subjectVals[:i]...)", "call"),
    .model "Op.sub" "`result` is make([]Value, 0, n) in the same function; the inner append(result, …) is the argument of the outer one")
]

def nonfresh : List (String × String × String × String) := nonfreshNoted.map (·.1)

def summary : List (String × Nat) := [
  ("rel/astnode_value.go fresh", 6),
  ("rel/expr.go fresh", 1),
  ("rel/expr_array.go fresh", 2),
  ("rel/expr_bytes.go fresh", 3),
  ("rel/expr_dict.go fresh", 2),
  ("rel/expr_reduce_median.go param", 3),
  ("rel/expr_rel.go fresh", 11),
  ("rel/expr_seqmap.go fresh", 5),
  ("rel/expr_tuple.go fresh", 4),
  ("rel/json.go fresh", 9),
  ("rel/names.go fresh", 2),
  ("rel/ops_rel.go local", 1),
  ("rel/ops_set.go field", 2),
  ("rel/ops_set.go fresh", 1),
  ("rel/ops_set.go param", 4),
  ("rel/ops_set_rank.go field", 1),
  ("rel/ops_set_rank.go fresh", 1),
  ("rel/ops_set_rank.go param", 2),
  ("rel/ops_tuple.go fresh", 4),
  ("rel/pattern_array.go fresh", 3),
  ("rel/pattern_dict.go fresh", 5),
  ("rel/pattern_expr.go fresh", 1),
  ("rel/pattern_set.go fresh", 3),
  ("rel/pattern_tuple.go fresh", 2),
  ("rel/scope.go fresh", 1),
  ("rel/value.go fresh", 7),
  ("rel/value.go local", 1),
  ("rel/value_kind.go local", 1),
  ("rel/value_set_array.go field", 2),
  ("rel/value_set_array.go fresh", 8),
  ("rel/value_set_builder.go param", 2),
  ("rel/value_set_bytes.go fresh", 6),
  ("rel/value_set_dict.go fresh", 2),
  ("rel/value_set_dict.go param", 2),
  ("rel/value_set_generic.go fresh", 1),
  ("rel/value_set_generic.go param", 2),
  ("rel/value_set_rel.go fresh", 14),
  ("rel/value_set_relpos.go call", 1),
  ("rel/value_set_relpos.go fresh", 3),
  ("rel/value_set_str.go fresh", 9),
  ("rel/value_set_union.go fresh", 2),
  ("rel/value_tuple.go fresh", 6),
  ("rel/value_tuple.go param", 3),
  ("rel/value_values.go fresh", 5),
  ("syntax/std_seq.go fresh", 3),
  ("syntax/std_seq_array_helper.go call", 2),
  ("syntax/std_seq_array_helper.go fresh", 9),
  ("syntax/std_seq_bytes_helper.go fresh", 3)
]

/-- (file, function, verdict): "fresh", or `class:expr` for every return statement -/
def callees : List (String × String × String) := [
  ("rel/value_set_array.go", "Array.Values", "param:a.values"),
  ("rel/value_set_array.go", "Array.clone", "param:a"),
  ("rel/value_set_array.go", "asArray", "fresh"),
  ("rel/value_set_bytes.go", "Bytes.Bytes", "param:b.b"),
  ("rel/value_set_bytes.go", "asBytes", "fresh"),
  ("rel/value_set_rel.go", "Relation.AttrsName", "param:r.attrs"),
  ("rel/value_set_rel.go", "Relation.getIndices", "fresh"),
  ("rel/value_set_rel.go", "Relation.tupleToValues", "fresh"),
  ("rel/value_set_rel.go", "RelationValuesEnumerator.Values", "call:e.i.Values().project(e.p).values()"),
  ("rel/value_set_relpos.go", "positionalRelationValuesEnumerator.Values", "local:e.i.Value().(Values)"),
  ("rel/value_set_str.go", "asString", "fresh"),
  ("rel/value_tuple.go", "NamesSlice.GetSorted", "fresh"),
  ("rel/value_tuple.go", "NamesSlice.intersect", "fresh"),
  ("rel/value_tuple.go", "NamesSlice.minus", "fresh"),
  ("rel/value_values.go", "projectedValues.values", "fresh"),
  ("rel/value_values.go", "valueProjector.compose", "fresh"),
  ("rel/value_values.go", "valueProjector.mapper", "local:func(elinterface{})interface{}{returnel.; local:func(elinterface{})interface{}{v:=make(V")
]

/-- callees that MUST return storage of their own: a write site (`JoinKeepEverything`'s append onto `values()`) or the
heap model (`Rel.Impl.projValues`, `allocNames`, `tupleToValues`, `asSeq`) relies on it.  `Array.clone` returns its
receiver copy with `values` replaced by a slice made in the call (classified `param:a` syntactically): covered by
`Impl.clone` and listed in `callees` so that any change shows. -/
def assumedFresh : List String :=
  ["projectedValues.values", "NamesSlice.minus", "NamesSlice.intersect", "NamesSlice.GetSorted",
   "valueProjector.compose", "Relation.getIndices", "Relation.tupleToValues", "asString", "asBytes", "asArray"]

/-- "copy constructors" of rel/: functions that derive a value by copying an existing struct value and re-assigning some
fields — (type, function, fields assigned, REFERENCE fields (pointer / map / slice / func / chan / sync.*) left shared with the
original).  A shared reference is harmless only if nothing is ever written through it after construction:
`Array.Shift` shares `values` (never written: C03_history); `Relation.newBody` shares `attrs`, `p` (read only: Rel.lean) and
`attrMap` (filled once in `newRelation`, read only afterwards).  A lazily filled memo added to such a struct (e.g. a
`canon *canonicalRows` behind a sync.Once) shows up here as a new shared field of `newBody` and must be reset there. -/
def copyCtors : List (String × String × String × String) := [
  ("Array", "Array.Shift", "offset", "values:slice"),
  ("Array", "Array.clone", "values", ""),
  ("Array", "Array.withItem", "count,offset,values", ""),
  ("Relation", "Relation.newBody", "rows", "attrMap:map,attrs:slice,p:slice")
]

end Arrai.C03.Expected
