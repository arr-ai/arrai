/-
  C03 — the set builder is faithful: `asString` / `asBytes` / `asArray` (Impl.asSeq) and `SetBuilder.Finish`
  (Impl.finishV) yield a value that DENOTES the set of tuples handed in — provided no two tuples sit at the same
  index with different values (the "superimposed" case the representation cannot hold) and, for byte arrays, there is
  no gap (asBytes fills gaps with 0).  The loop of stores, read back through the slice, is the keyed-sequence library's
  `fill` over the fresh cells (`read_foldStore`); what `fill` denotes is `mem_kden_fill` (Arrai/C01/KSeq.lean).
-/
import Arrai.C03.Refine

namespace Arrai.C03
open Impl Arrai.C01.KSeq

theorem read_foldStore (t : Slice) (lo : Int) : ∀ (ps : List (Int × V)) (h1 : Heap),
    read (ps.foldl (fun hh iv => store hh t (iv.1 - lo).toNat [some iv.2]) h1) t = fill lo ps (read h1 t)
  | [], _ => rfl
  | p :: r, h1 => by
    rw [List.foldl_cons, read_foldStore t lo r, read_store_one]
    rfl

theorem minIdx_le : ∀ (ps : List (Int × V)) (p : Int × V), p ∈ ps → minIdx ps ≤ p.1
  | [], p, hp => by simp at hp
  | [(i, _)], p, hp => by simp at hp; subst hp; simp [minIdx]
  | (i, x) :: q :: r, p, hp => by
    have ih := minIdx_le (q :: r)
    simp only [minIdx]
    rcases List.mem_cons.1 hp with rfl | hp
    · exact Int.min_le_left _ _
    · exact Int.le_trans (Int.min_le_right _ _) (ih p hp)

theorem le_maxIdx : ∀ (ps : List (Int × V)) (p : Int × V), p ∈ ps → p.1 ≤ maxIdx ps
  | [], p, hp => by simp at hp
  | [(i, _)], p, hp => by simp at hp; subst hp; simp [maxIdx]
  | (i, x) :: q :: r, p, hp => by
    have ih := le_maxIdx (q :: r)
    simp only [maxIdx]
    rcases List.mem_cons.1 hp with rfl | hp
    · exact Int.le_max_left _ _
    · exact Int.le_trans (ih p hp) (Int.le_max_right _ _)

/-- no two entries at one index with different values -/
def Functional (ps : List (Int × V)) : Prop := ∀ a b, a ∈ ps → b ∈ ps → a.1 = b.1 → a.2 = b.2

/-- every index between the smallest and the largest is taken -/
def Gapless (ps : List (Int × V)) : Prop := ∀ i : Int, minIdx ps ≤ i → i ≤ maxIdx ps → ∃ p, p ∈ ps ∧ p.1 = i

/-- `asString` / `asArray` / `asBytes` denote the tuples they were given -/
theorem asSeq_faithful (k : Kind) (h : Heap) (ps : List (Int × V)) (hne : ps ≠ []) (hf : Functional ps)
    (hb : k = .B → Gapless ps) :
    snap (asSeq k h ps).1 (asSeq k h ps).2 = V.mkSet (ps.map (fun p => tup k p.1 p.2)) := by
  cases ps with
  | nil => exact absurd rfl hne
  | cons p0 r0 =>
    unfold asSeq
    simp only [snap]
    generalize p0 :: r0 = ps at *
    have hr : ∀ p, p ∈ ps → minIdx ps ≤ p.1 ∧
        p.1 < minIdx ps + (List.replicate (maxIdx ps - minIdx ps + 1).toNat k.fill).length := fun p hp => by
      have h1 := minIdx_le ps p hp; have h2 := le_maxIdx ps p hp
      rw [List.length_replicate]; omega
    rw [read_foldStore, read_mkSlice_self]
    rw [mkSeq_eq]
    apply V.mkSet_congr
    intro x
    simp only [mem_tagged, mem_kden_fill _ ps _ hf hr]
    refine exists_congr fun i => exists_congr fun v => and_congr_right fun _ => ⟨fun h => h.elim id fun h => ?_, Or.inl⟩
    -- a cell no pair names holds `k.fill`: a hole — except for bytes, which have a pair for every cell
    cases k with
    | B =>
      have lo := kden_lower _ _ _ h.1
      have hi := kden_upper h.1
      rw [List.length_replicate] at hi
      obtain ⟨p, hp, rfl⟩ := hb rfl i lo (by simp only at hi; omega)
      exact absurd hp (h.2 p.2)
    | S => rw [show Kind.fill .S = none from rfl, kden_replicate_none] at h; exact nomatch h.1
    | A => rw [show Kind.fill .A = none from rfl, kden_replicate_none] at h; exact nomatch h.1

/-! ### decoding -/

theorem decodeAll_tuples (k : Kind) : ∀ (ps : List (Int × V)), (∀ p, p ∈ ps → validElem k p.2 = true) →
    decodeAll k (ps.map (fun p => tup k p.1 p.2)) = some ps := by
  refine forall_mem_rec rfl ?_
  rintro p r hp ih
  simp only [List.map_cons, decodeAll, decodeTuple_tup, ih, hp, and_self, if_true]

theorem decodeAll_spec (k : Kind) : ∀ (ms : List V) (ps : List (Int × V)), decodeAll k ms = some ps →
    ms = ps.map (fun p => tup k p.1 p.2)
  | [], ps, h => by simp [decodeAll] at h; subst h; rfl
  | t :: r, ps, h => by
    simp only [decodeAll] at h
    split at h
    · rename_i k' i x ps' ht hr
      split at h
      · rename_i hc
        simp at h; subst h
        obtain ⟨rfl, _⟩ := hc
        simp [decodeTuple_some ht, decodeAll_spec k' r ps' hr]
      · simp at h
    · simp at h

theorem decodeSeq_spec {v : V} {k : Kind} {ps : List (Int × V)} (h : decodeSeq v = some (k, ps)) :
    members v = ps.map (fun p => tup k p.1 p.2) ∧ ps ≠ [] := by
  unfold decodeSeq at h
  split at h
  · simp at h
  · rename_i t r hm
    split at h
    · rename_i k' _ _ ht
      simp only [Option.map_eq_some_iff] at h
      obtain ⟨ps', hd, e⟩ := h
      simp at e
      obtain ⟨rfl, rfl⟩ := e
      have := decodeAll_spec k' (t :: r) ps' hd
      rw [hm]
      refine ⟨this, ?_⟩
      intro e; subst e; simp at this
    · simp at h

/-- `SetBuilder.Finish`, given a set in canonical form (`V.mkSet l`) -/
theorem finishV_faithful (h : Heap) (l : List V)
    (hf : ∀ k ps, decodeSeq (V.mkSet l) = some (k, ps) → Functional ps ∧ (k = .B → Gapless ps)) :
    snap (finishV h (V.mkSet l)).1 (finishV h (V.mkSet l)).2 = V.mkSet l := by
  unfold finishV
  split
  · rename_i k ps hd
    obtain ⟨hm, hne⟩ := decodeSeq_spec hd
    rw [asSeq_faithful k h ps hne (hf k ps hd).1 (hf k ps hd).2, ← hm]
    apply V.mkSet_congr
    intro x
    exact mem_members_mkSet l x
  · rfl

end Arrai.C03
