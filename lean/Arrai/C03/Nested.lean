/-
  C03 — nested payloads: why array ITEMS may be held as denotations.

  In Go an Array's backing array holds REFERENCES (interface values) to its items; an item that is itself a String,
  Bytes or Array has a payload slice of its own, somewhere else in the heap.  The heap model (Model.lean) does not follow
  these references: an array cell holds the item's denotation `V`, computed when the cell is written.

  `NVal` is the reference-following view: a tree whose nodes carry the payload slices.  `nden h x` reads it through the
  heap `h` (descending into the items), `NLive h x` says that every slice of the tree lies in `h`, `Agrees h x` says that
  the model's cells of every array node are exactly the denotations of the items referred to.

  The reduction: an operation only ever READS or COPIES item references; the only stores it makes go to arrays it
  allocated itself (`Frame`, proved for every operation in Ops.lean).  Hence (`nden_frame`) following the references
  through any later heap yields what it yielded before, and (`agrees_frame`, `snap_eq_nden`) the model's frozen
  denotations coincide with the reference-following reading at every later time, to any depth of nesting.
-/
import Arrai.C03.Model

namespace Arrai.C03

/-- a value with its references followed -/
inductive NVal where
  | atom (v : V)                                              -- no payload slice (numbers, tuples, generic sets, {})
  | flat (k : Kind) (s : Slice) (off : Int)                   -- String / Bytes / an Array of atoms: cells are atoms
  | arr (s : Slice) (off : Int) (kids : List (Option NVal))   -- Array: cell i of `s` refers to kids[i] (none = nil)

mutual
/-- the denotation, following references through the heap -/
def nden (h : Heap) : NVal → V
  | .atom v => v
  | .flat k s off => V.mkSeq k.attr off (read h s)
  | .arr _ off kids => V.mkSeq "@item" off (ndenList h kids)
def ndenList (h : Heap) : List (Option NVal) → List (Option V)
  | [] => []
  | none :: r => none :: ndenList h r
  | some x :: r => some (nden h x) :: ndenList h r
end

mutual
/-- every slice of the tree lies in the heap -/
def NLive (h : Heap) : NVal → Prop
  | .atom _ => True
  | .flat _ s _ => s.arr < h.length
  | .arr s _ kids => s.arr < h.length ∧ NLiveList h kids
def NLiveList (h : Heap) : List (Option NVal) → Prop
  | [] => True
  | none :: r => NLiveList h r
  | some x :: r => NLive h x ∧ NLiveList h r
end

mutual
/-- the model's cells of every array node are the denotations of the items referred to -/
def Agrees (h : Heap) : NVal → Prop
  | .atom _ => True
  | .flat _ _ _ => True
  | .arr s _ kids => read h s = ndenList h kids ∧ AgreesList h kids
def AgreesList (h : Heap) : List (Option NVal) → Prop
  | [] => True
  | none :: r => AgreesList h r
  | some x :: r => Agrees h x ∧ AgreesList h r
end

/-- what the heap model holds for the root of the tree; `aux` is a dummy 0 (`snap` does not look at it; `AuxOK` would) -/
def NVal.toH : NVal → HVal
  | .atom v => .other v
  | .flat k s off => .seq k s off 0
  | .arr s off _ => .seq .A s off 0

mutual
/-- following the references through a later heap gives what it gave before: no operation writes into an item's payload -/
theorem nden_frame {h h' : Heap} (f : Frame h.length h h') (x : NVal) (l : NLive h x) : nden h' x = nden h x := by
  cases x with
  | atom v => rfl
  | flat k s off =>
    simp only [NLive] at l
    simp only [nden, read_frame f s l]
  | arr s off kids =>
    simp only [NLive] at l
    simp only [nden, ndenList_frame f kids l.2]
theorem ndenList_frame {h h' : Heap} (f : Frame h.length h h') (xs : List (Option NVal)) (l : NLiveList h xs) :
    ndenList h' xs = ndenList h xs := by
  cases xs with
  | nil => rfl
  | cons x r =>
    cases x with
    | none =>
      simp only [NLiveList] at l
      simp only [ndenList, ndenList_frame f r l]
    | some y =>
      simp only [NLiveList] at l
      simp only [ndenList, nden_frame f y l.1, ndenList_frame f r l.2]
end

mutual
theorem nlive_mono {h h' : Heap} (hl : h.length ≤ h'.length) (x : NVal) (l : NLive h x) : NLive h' x := by
  cases x with
  | atom v => trivial
  | flat k s off => simp only [NLive] at l ⊢; omega
  | arr s off kids =>
    simp only [NLive] at l ⊢
    exact ⟨by omega, nliveList_mono hl kids l.2⟩
theorem nliveList_mono {h h' : Heap} (hl : h.length ≤ h'.length) (xs : List (Option NVal)) (l : NLiveList h xs) :
    NLiveList h' xs := by
  cases xs with
  | nil => trivial
  | cons x r =>
    cases x with
    | none => simp only [NLiveList] at l ⊢; exact nliveList_mono hl r l
    | some y => simp only [NLiveList] at l ⊢; exact ⟨nlive_mono hl y l.1, nliveList_mono hl r l.2⟩
end

mutual
/-- … and the model's frozen item denotations keep coinciding with the items referred to -/
theorem agrees_frame {h h' : Heap} (f : Frame h.length h h') (x : NVal) (l : NLive h x) (a : Agrees h x) : Agrees h' x := by
  cases x with
  | atom v => trivial
  | flat k s off => trivial
  | arr s off kids =>
    simp only [NLive] at l
    simp only [Agrees] at a ⊢
    exact ⟨by rw [read_frame f s l.1, ndenList_frame f kids l.2]; exact a.1, agreesList_frame f kids l.2 a.2⟩
theorem agreesList_frame {h h' : Heap} (f : Frame h.length h h') (xs : List (Option NVal)) (l : NLiveList h xs)
    (a : AgreesList h xs) : AgreesList h' xs := by
  cases xs with
  | nil => trivial
  | cons x r =>
    cases x with
    | none =>
      simp only [NLiveList] at l
      simp only [AgreesList] at a ⊢
      exact agreesList_frame f r l a
    | some y =>
      simp only [NLiveList] at l
      simp only [AgreesList] at a ⊢
      exact ⟨agrees_frame f y l.1 a.1, agreesList_frame f r l.2 a.2⟩
end

/-- where the model agrees with the tree, its snapshot IS the reference-following denotation -/
theorem snap_eq_nden {h : Heap} (x : NVal) (a : Agrees h x) : snap h x.toH = nden h x := by
  cases x with
  | atom v => rfl
  | flat k s off => rfl
  | arr s off kids =>
    simp only [Agrees] at a
    simp only [NVal.toH, snap, nden, Kind.attr, a.1]

/-- putting an item into an array: a node whose cells are the items' current denotations agrees, if the items do -/
theorem agrees_arr {h : Heap} (s : Slice) (off : Int) (kids : List (Option NVal)) (hc : read h s = ndenList h kids)
    (ak : AgreesList h kids) : Agrees h (.arr s off kids) := by
  simp only [Agrees]; exact ⟨hc, ak⟩

end Arrai.C03
