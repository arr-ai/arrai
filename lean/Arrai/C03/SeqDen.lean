/-
  C03 — what a run of cells denotes.  The cells of a String, Bytes or Array are a keyed sequence (Arrai/C01/KSeq.lean):
  read from an offset they denote the finite partial function index ↦ element `kden cs off`, and `V.mkSeq` is the set of
  its pairs written as tuples (`mkSeq_eq`).  `Spec.with_` and `Spec.without` on such sets are one pair more, one pair fewer
  in that function (`with_kden`, `without_kden`).
-/
import Arrai.C03.Model
import Arrai.C01.KSeq
import Arrai.Core.CanonLemmas

namespace Arrai.C03
open Arrai.C01.KSeq

theorem mem_members_mkSet (l : List V) (x : V) : x ∈ members (V.mkSet l) ↔ x ∈ l := by
  simp only [members, V.mkSet]; exact FinSet.mem_mk l x

/-- The tuple `(@: i, @char|@byte|@item: x)` in normal form: what the model's `tupleOf k i x` comes to (`tupleOf_eq`).  Not the
constructor `V.tup`. -/
def tup (k : Kind) (i : Int) (x : V) : V := .tup [("@", .num i), (k.attr, x)]

theorem at_lt_attr (k : Kind) : "@" < k.attr := by cases k <;> decide +kernel

theorem tupleOf_eq (k : Kind) (i : Int) (x : V) : tupleOf k i x = tup k i x := V.mkTup_at k.attr _ x (at_lt_attr k)

theorem decodeTuple_tup (k : Kind) (i : Int) (x : V) : decodeTuple (tup k i x) = some (k, i, x) := by
  cases k <;> simp [tup, decodeTuple, kindOfAttr, Kind.attr]

theorem tup_inj {k k' : Kind} {i j : Int} {x y : V} (h : tup k i x = tup k' j y) : k = k' ∧ i = j ∧ x = y := by
  have e := congrArg decodeTuple h
  rw [decodeTuple_tup, decodeTuple_tup] at e
  simpa using e

theorem kindOfAttr_some {n : String} {k : Kind} (h : kindOfAttr n = some k) : n = k.attr := by
  unfold kindOfAttr at h
  split at h
  · simp at h; subst h; assumption
  · split at h
    · simp at h; subst h; assumption
    · split at h
      · simp at h; subst h; assumption
      · simp at h

theorem decodeTuple_some {t : V} {k : Kind} {i : Int} {x : V} (h : decodeTuple t = some (k, i, x)) : t = tup k i x := by
  unfold decodeTuple at h
  split at h
  · rename_i i' n x'
    simp only [Option.map_eq_some_iff] at h
    obtain ⟨k', hk, e⟩ := h
    simp at e
    obtain ⟨rfl, rfl, rfl⟩ := e
    rw [kindOfAttr_some hk]; rfl
  · simp at h

theorem seqMembers_eq_kden (k : Kind) (off : Int) (cs : List Cell) :
    V.seqMembers k.attr off cs = (kden cs off).map (fun p => tup k p.1 p.2) :=
  seqMembers_eq_tagged k.attr (at_lt_attr k) cs off

theorem mkSeq_eq (k : Kind) (off : Int) (cs : List Cell) :
    V.mkSeq k.attr off cs = V.mkSet ((kden cs off).map (fun p => tup k p.1 p.2)) := by
  unfold V.mkSeq; rw [seqMembers_eq_kden]

theorem seqMembers_append (k : Kind) (off : Int) (a b : List Cell) :
    V.seqMembers k.attr off (a ++ b) = V.seqMembers k.attr off a ++ V.seqMembers k.attr (off + a.length) b := by
  simp only [seqMembers_eq_kden, kden_append, List.map_append]

theorem members_mkSeq (k : Kind) (off : Int) (cs : List Cell) :
    members (V.mkSeq k.attr off cs) = (kden cs off).map (fun p => tup k p.1 p.2) := by
  simp only [mkSeq_eq, V.mkSet, members]
  refine FinSet.mk_of_sorted _ ?_
  unfold FinSet.Sorted
  rw [List.pairwise_map]
  exact (kden_pairwise cs off).imp fun h => V.cmp_keyed_lt k.attr _ _ h

theorem isSet_mkSeq (name : String) (off : Int) (cs : List Cell) : Spec.isSet (V.mkSeq name off cs) = true := rfl

theorem mem_kden_cells (cs : List Cell) (off a : Int) (v : V) :
    (a, v) ∈ kden cs off ↔ ∃ j : Nat, cs[j]? = some (some v) ∧ a = off + j := by
  simp only [mem_kden_nat, kget_eq_some]
  exact ⟨fun ⟨j, e, h⟩ => ⟨j, h, e⟩, fun ⟨j, h, e⟩ => ⟨j, e, h⟩⟩

/-! ### with: one pair more -/

theorem with_kden (k : Kind) {off off' : Int} {cs cs' : List Cell} {i : Int} {x : V}
    (h : ∀ j y, (j, y) ∈ kden cs' off' ↔ (j = i ∧ y = x) ∨ (j, y) ∈ kden cs off) :
    Spec.with_ (V.mkSeq k.attr off cs) (tupleOf k i x) = some (V.mkSeq k.attr off' cs') := by
  simp only [Spec.with_, isSet_mkSeq, if_true, Option.some.injEq]
  rw [tupleOf_eq, mkSeq_eq k off' cs']
  apply V.mkSet_congr
  intro y
  rw [List.mem_cons, members_mkSeq, tagged_insert (tup k) h]

/-- adding `(@: i, x)` to a sequence, in terms of cells: the result cells `cs'` (at `off'`) hold what `cs` held, plus `x` at `i` -/
theorem with_refines (k : Kind) (off off' : Int) (cs cs' : List Cell) (i : Int) (x : V)
    (h : ∀ (a : Int) (v : V), (∃ j : Nat, cs'[j]? = some (some v) ∧ a = off' + j) ↔
      ((∃ j : Nat, cs[j]? = some (some v) ∧ a = off + j) ∨ (a = i ∧ v = x))) :
    Spec.with_ (V.mkSeq k.attr off cs) (tupleOf k i x) = some (V.mkSeq k.attr off' cs') :=
  with_kden k fun a v => by rw [mem_kden_cells, mem_kden_cells, h]; exact Or.comm

/-! ### without: one pair fewer -/

theorem without_kden (k : Kind) {off off' : Int} {cs cs' : List Cell} {i : Int} {x : V}
    (h : ∀ j y, (j, y) ∈ kden cs' off' ↔ (j, y) ∈ kden cs off ∧ ¬ (j = i ∧ y = x)) :
    Spec.without (V.mkSeq k.attr off cs) (tupleOf k i x) = some (V.mkSeq k.attr off' cs') := by
  simp only [Spec.without, isSet_mkSeq, if_true, Option.some.injEq]
  rw [tupleOf_eq, mkSeq_eq k off' cs']
  apply V.mkSet_congr
  intro y
  simp only [List.mem_filter, members_mkSeq, mem_tagged, h, Bool.not_eq_true',
    decide_eq_false_iff_not]
  constructor
  · rintro ⟨⟨a, v, rfl, hm⟩, hne⟩
    exact ⟨a, v, rfl, hm, fun e => hne (by rw [e.1, e.2])⟩
  · rintro ⟨a, v, rfl, hm, hne⟩
    exact ⟨⟨a, v, rfl, hm⟩, fun e => hne (V.keyed_inj.1 e)⟩

theorem without_refines (k : Kind) (off off' : Int) (cs cs' : List Cell) (i : Int) (x : V)
    (h : ∀ (a : Int) (v : V), (∃ j : Nat, cs'[j]? = some (some v) ∧ a = off' + j) ↔
      ((∃ j : Nat, cs[j]? = some (some v) ∧ a = off + j) ∧ ¬ (a = i ∧ v = x))) :
    Spec.without (V.mkSeq k.attr off cs) (tupleOf k i x) = some (V.mkSeq k.attr off' cs') :=
  without_kden k fun a v => by rw [mem_kden_cells, mem_kden_cells, h]

theorem without_at (k : Kind) {off off' : Int} {cs cs' : List Cell} {i : Int} {x : V} (hx : (i, x) ∈ kden cs off)
    (h : ∀ j y, (j, y) ∈ kden cs' off' ↔ (j, y) ∈ kden cs off ∧ j ≠ i) :
    Spec.without (V.mkSeq k.attr off cs) (tupleOf k i x) = some (V.mkSeq k.attr off' cs') :=
  without_kden k fun j y => (h j y).trans <| and_congr_right fun hm =>
    ⟨fun hne e => hne e.1, fun hne e => hne ⟨e, kden_functional cs off _ _ hm hx e⟩⟩

end Arrai.C03
