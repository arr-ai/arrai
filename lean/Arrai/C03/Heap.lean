/-
  C03 — the heap of Go backing arrays.

  A Go slice is a window `{arr, lo, len, cap}` onto a backing array; several slices may look at
  the same array.  `append` writes IN PLACE when `len < cap` and otherwise copies to a fresh
  array whose capacity the runtime chooses (here: an ORACLE, so that nothing proved depends on
  Go's growth policy).  Re-slicing `s[i:j]`, `copy`, `make` and indexed stores complete the
  vocabulary in which rel/value_set_{str,bytes,array}.go manipulate the payload of strings,
  byte arrays and arrays.

  Cells hold `Option V`: a rune/byte/item is `some v`; a hole (rune -1 in a String, `nil` in an
  Array) is `none`.  Core-only.
-/
import Arrai.Core.Canon

namespace Arrai.C03

abbrev Cell := Option V
abbrev Heap := List (List Cell)

structure Slice where
  arr : Nat
  lo : Nat
  len : Nat
  cap : Nat
  deriving DecidableEq, Inhabited, Repr

/-- spare capacity the runtime adds to allocation number `n` (= number of arrays allocated so far) -/
abbrev Oracle := Nat → Nat

/-- the elements seen through a slice -/
def read (h : Heap) (s : Slice) : List Cell := ((h.getD s.arr []).drop s.lo).take s.len

/-- overwrite `xs[k], xs[k+1], …` with `vs` (never changes the length: an array cannot grow) -/
def overwrite : List Cell → Nat → List Cell → List Cell
  | [], _, _ => []
  | x :: xs, 0, [] => x :: xs
  | _ :: xs, 0, v :: vs => v :: overwrite xs 0 vs
  | x :: xs, k + 1, vs => x :: overwrite xs k vs

def updArr : Heap → Nat → (List Cell → List Cell) → Heap
  | [], _, _ => []
  | x :: r, 0, f => f x :: r
  | x :: r, a + 1, f => x :: updArr r a f

/-- `s[i], s[i+1], … = vs…` : the only primitive that writes -/
def store (h : Heap) (s : Slice) (i : Nat) (vs : List Cell) : Heap :=
  updArr h s.arr (fun a => overwrite a (s.lo + i) vs)

/-- `make([]T, n, n + spare)` -/
def mkSlice (h : Heap) (zero : Cell) (n spare : Nat) : Heap × Slice :=
  (h ++ [List.replicate (n + spare) zero], { arr := h.length, lo := 0, len := n, cap := n + spare })

/-- `s[i:j]` -/
def reslice (s : Slice) (i j : Nat) : Slice :=
  { arr := s.arr, lo := s.lo + i, len := j - i, cap := s.cap - i }

/-- Go's `append(s, vs...)` -/
def append (orc : Oracle) (zero : Cell) (h : Heap) (s : Slice) (vs : List Cell) : Heap × Slice :=
  if s.len + vs.length ≤ s.cap then
    (store h s s.len vs, { s with len := s.len + vs.length })
  else
    let p := mkSlice h zero (s.len + vs.length) (orc h.length)
    (store p.1 p.2 0 (read h s ++ vs), p.2)

/-- Go's `copy(dst, src)` (`src` already read) -/
def copy (h : Heap) (dst : Slice) (src : List Cell) : Heap := store h dst 0 (src.take dst.len)

/-- a slice conversion / literal: a fresh array holding `cells` plus the oracle's spare room (holes here, the kind's zero
in `mkSlice`: no cell beyond the length is read before `append` has stored into it) -/
def allocWith (orc : Oracle) (h : Heap) (cells : List Cell) : Heap × Slice :=
  (h ++ [cells ++ List.replicate (orc h.length) none],
   { arr := h.length, lo := 0, len := cells.length, cap := cells.length + orc h.length })

/-! ## frame: which arrays an action may have written -/

/-- `h'` extends `h` and every array with index below `base` is untouched -/
def Frame (base : Nat) (h h' : Heap) : Prop :=
  h.length ≤ h'.length ∧ ∀ a, a < base → h'.getD a [] = h.getD a []

theorem Frame.refl (base : Nat) (h : Heap) : Frame base h h := ⟨Nat.le_refl _, fun _ _ => rfl⟩

theorem Frame.trans {base : Nat} {h₁ h₂ h₃ : Heap} (a : Frame base h₁ h₂) (b : Frame base h₂ h₃) :
    Frame base h₁ h₃ :=
  ⟨Nat.le_trans a.1 b.1, fun i hi => (b.2 i hi).trans (a.2 i hi)⟩

theorem Frame.seq {h₁ h₂ h₃ : Heap} (a : Frame h₁.length h₁ h₂) (b : Frame h₂.length h₂ h₃) : Frame h₁.length h₁ h₃ :=
  ⟨Nat.le_trans a.1 b.1, fun i hi => (b.2 i (Nat.lt_of_lt_of_le hi a.1)).trans (a.2 i hi)⟩

theorem ite_ind {α : Type} {Q : α → Prop} {c : Prop} [Decidable c] {a b : α} (ha : c → Q a) (hb : ¬c → Q b) :
    Q (if c then a else b) := by
  split
  · exact ha ‹_›
  · exact hb ‹_›

section
variable {σ ω β : Type} (hp : σ → Heap) (vals : σ → List β) (step : σ → ω → σ)
  (frame : ∀ st op, Frame (hp st).length (hp st) (hp (step st op)))
  (snoc : ∀ st op, ∃ y, vals (step st op) = vals st ++ [y])
include frame snoc

theorem history_keeps : ∀ (ops : List ω) (st : σ),
    Frame (hp st).length (hp st) (hp (ops.foldl step st)) ∧
    ∀ (k : Nat) (x : β), (vals st)[k]? = some x → (vals (ops.foldl step st))[k]? = some x
  | [], _ => ⟨Frame.refl _ _, fun _ _ hk => hk⟩
  | op :: r, st => by
    obtain ⟨y, e1⟩ := snoc st op
    obtain ⟨f2, v2⟩ := history_keeps r (step st op)
    refine ⟨(frame st op).seq f2, fun k x hk => v2 k x ?_⟩
    rw [e1, List.getElem?_append_left (List.getElem?_eq_some_iff.1 hk).1]
    exact hk

theorem history_append (st : σ) (pre post : List ω) :
    Frame (hp (pre.foldl step st)).length (hp (pre.foldl step st)) (hp ((pre ++ post).foldl step st)) ∧
      ∀ (k : Nat) (x : β), (vals (pre.foldl step st))[k]? = some x → (vals ((pre ++ post).foldl step st))[k]? = some x := by
  rw [List.foldl_append]
  exact history_keeps hp vals step frame snoc post _

end

theorem length_updArr (h : Heap) (a : Nat) (f : List Cell → List Cell) : (updArr h a f).length = h.length := by
  induction h generalizing a with
  | nil => rfl
  | cons x r ih => cases a <;> simp [updArr, ih]

theorem getD_updArr_ne (h : Heap) (a b : Nat) (f : List Cell → List Cell) (hne : b ≠ a) :
    (updArr h a f).getD b [] = h.getD b [] := by
  induction h generalizing a b with
  | nil => rfl
  | cons x r ih =>
    cases a with
    | zero =>
      cases b with
      | zero => exact absurd rfl hne
      | succ b => simp [updArr]
    | succ a =>
      cases b with
      | zero => simp [updArr]
      | succ b =>
        have : b ≠ a := fun e => hne (by omega)
        simpa [updArr] using ih a b this

theorem frame_store (base : Nat) (h : Heap) (s : Slice) (i : Nat) (vs : List Cell) (hs : base ≤ s.arr) :
    Frame base h (store h s i vs) :=
  ⟨by simp [store, length_updArr], fun a ha => getD_updArr_ne h s.arr a _ (by omega)⟩

theorem getD_append_lt (h : Heap) (x : List Cell) (a : Nat) (ha : a < h.length) :
    (h ++ [x]).getD a [] = h.getD a [] := by
  simp [List.getD, List.getElem?_append_left ha]

theorem frame_snoc (base : Nat) (h : Heap) (x : List Cell) (hb : base ≤ h.length) : Frame base h (h ++ [x]) :=
  ⟨by simp, fun a ha => getD_append_lt h x a (by omega)⟩

theorem frame_mkSlice (base : Nat) (h : Heap) (z : Cell) (n sp : Nat) (hb : base ≤ h.length) :
    Frame base h (mkSlice h z n sp).1 := frame_snoc base h _ hb

theorem frame_allocWith (base : Nat) (orc : Oracle) (h : Heap) (cs : List Cell) (hb : base ≤ h.length) :
    Frame base h (allocWith orc h cs).1 := frame_snoc base h _ hb

@[simp] theorem mkSlice_arr (h : Heap) (z : Cell) (n sp : Nat) : (mkSlice h z n sp).2.arr = h.length := rfl
@[simp] theorem mkSlice_len (h : Heap) (z : Cell) (n sp : Nat) : (mkSlice h z n sp).1.length = h.length + 1 := by
  simp [mkSlice]
@[simp] theorem allocWith_arr (orc : Oracle) (h : Heap) (cs : List Cell) : (allocWith orc h cs).2.arr = h.length := rfl
@[simp] theorem allocWith_len (orc : Oracle) (h : Heap) (cs : List Cell) :
    (allocWith orc h cs).1.length = h.length + 1 := by simp [allocWith]
@[simp] theorem store_len (h : Heap) (s : Slice) (i : Nat) (vs : List Cell) : (store h s i vs).length = h.length := by
  simp [store, length_updArr]
@[simp] theorem copy_len (h : Heap) (s : Slice) (vs : List Cell) : (copy h s vs).length = h.length := by
  simp [copy]
@[simp] theorem reslice_arr (s : Slice) (i j : Nat) : (reslice s i j).arr = s.arr := rfl

theorem frame_copy (base : Nat) (h : Heap) (s : Slice) (vs : List Cell) (hs : base ≤ s.arr) :
    Frame base h (copy h s vs) := frame_store base h s 0 _ hs

/-- `append` to a slice that lives in an array allocated at or after `base` leaves everything below `base` alone;
the result again lives at or after `base`, inside the new heap -/
theorem frame_append (base : Nat) (orc : Oracle) (z : Cell) (h : Heap) (s : Slice) (vs : List Cell)
    (hb : base ≤ h.length) (hs : base ≤ s.arr) (hl : s.arr < h.length) :
    Frame base h (append orc z h s vs).1 ∧ base ≤ (append orc z h s vs).2.arr ∧
      (append orc z h s vs).2.arr < (append orc z h s vs).1.length := by
  unfold append
  split
  · exact ⟨frame_store base h s _ vs hs, hs, by simpa using hl⟩
  · refine ⟨(frame_mkSlice base h z _ _ hb).trans (frame_store base _ _ _ _ (by simpa using hb)), by simpa using hb, ?_⟩
    simp

/-- reading through a slice whose array is below `base` is unaffected by a framed action -/
theorem read_frame {base : Nat} {h h' : Heap} (f : Frame base h h') (s : Slice) (hs : s.arr < base) :
    read h' s = read h s := by
  unfold read
  rw [f.2 s.arr hs]

end Arrai.C03
