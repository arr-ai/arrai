/-
  C03 — the heap of backing arrays: what the primitives of Heap.lean keep, and what is read after them.
-/
import Arrai.C03.Heap

namespace Arrai.C03

/-- the slice lies inside its backing array -/
structure Slice.WF (h : Heap) (s : Slice) : Prop where
  arr : s.arr < h.length
  inb : s.lo + s.cap ≤ (h.getD s.arr []).length
  len : s.len ≤ s.cap

/-- `h'` has at least the arrays of `h`, with the same lengths -/
def Shape (h h' : Heap) : Prop :=
  h.length ≤ h'.length ∧ ∀ a, a < h.length → (h'.getD a []).length = (h.getD a []).length

theorem Shape.trans {h₁ h₂ h₃ : Heap} (a : Shape h₁ h₂) (b : Shape h₂ h₃) : Shape h₁ h₃ :=
  ⟨Nat.le_trans a.1 b.1, fun i hi => (b.2 i (Nat.lt_of_lt_of_le hi a.1)).trans (a.2 i hi)⟩

theorem Slice.WF.shape {h h' : Heap} {s : Slice} (w : s.WF h) (sh : Shape h h') : s.WF h' :=
  ⟨Nat.lt_of_lt_of_le w.arr sh.1, by rw [sh.2 _ w.arr]; exact w.inb, w.len⟩

theorem Frame.shape {h h' : Heap} (f : Frame h.length h h') : Shape h h' :=
  ⟨f.1, fun a ha => by rw [f.2 a ha]⟩

theorem length_overwrite (xs : List Cell) (k : Nat) (vs : List Cell) : (overwrite xs k vs).length = xs.length := by
  induction xs generalizing k vs with
  | nil => rfl
  | cons x r ih =>
    cases k with
    | zero => cases vs <;> simp [overwrite, ih]
    | succ k => simp [overwrite, ih]

theorem getD_updArr_eq (h : Heap) (a : Nat) (f : List Cell → List Cell) (ha : a < h.length) :
    (updArr h a f).getD a [] = f (h.getD a []) := by
  induction h generalizing a with
  | nil => simp at ha
  | cons x r ih =>
    cases a with
    | zero => simp [updArr]
    | succ a => simpa [updArr] using ih a (by simpa using ha)

theorem getD_updArr_ge (h : Heap) (a : Nat) (f : List Cell → List Cell) (ha : h.length ≤ a) : updArr h a f = h := by
  induction h generalizing a with
  | nil => rfl
  | cons x r ih =>
    cases a with
    | zero => simp at ha
    | succ a => simp [updArr, ih a (by simpa using ha)]

theorem shape_store (h : Heap) (s : Slice) (i : Nat) (vs : List Cell) : Shape h (store h s i vs) := by
  refine ⟨by simp, fun a ha => ?_⟩
  unfold store
  by_cases e : a = s.arr
  · subst e; rw [getD_updArr_eq _ _ _ ha, length_overwrite]
  · rw [getD_updArr_ne _ _ _ _ e]

theorem shape_copy (h : Heap) (s : Slice) (vs : List Cell) : Shape h (copy h s vs) := shape_store h s 0 _

theorem shape_mkSlice (h : Heap) (z : Cell) (n sp : Nat) : Shape h (mkSlice h z n sp).1 :=
  (frame_mkSlice _ h z n sp (Nat.le_refl _)).shape

theorem shape_append (orc : Oracle) (z : Cell) (h : Heap) (s : Slice) (vs : List Cell) : Shape h (append orc z h s vs).1 := by
  unfold append
  split
  · exact shape_store _ _ _ _
  · exact (shape_mkSlice h z _ _).trans (shape_store _ _ _ _)

theorem getD_snoc_self' (h : Heap) (x : List Cell) : (h ++ [x]).getD h.length [] = x := by simp [List.getD]

theorem wf_mkSlice (h : Heap) (z : Cell) (n sp : Nat) : (mkSlice h z n sp).2.WF (mkSlice h z n sp).1 :=
  ⟨by simp, by simp [mkSlice], by simp [mkSlice]⟩

theorem wf_allocWith (orc : Oracle) (h : Heap) (cs : List Cell) : (allocWith orc h cs).2.WF (allocWith orc h cs).1 :=
  ⟨by simp, by simp [allocWith], by simp [allocWith]⟩

theorem wf_append (orc : Oracle) (z : Cell) (h : Heap) (s : Slice) (vs : List Cell) (w : s.WF h) :
    (append orc z h s vs).2.WF (append orc z h s vs).1 := by
  unfold append
  split
  · rename_i hfit
    have w' := w.shape (shape_store h s s.len vs)
    exact ⟨w'.arr, w'.inb, hfit⟩
  · exact (wf_mkSlice h z _ _).shape (shape_store _ _ _ _)

/-- `s[i:j]` of a well-formed slice, with Go's own bounds check `i ≤ j ≤ cap` -/
theorem wf_reslice {h : Heap} {s : Slice} (w : s.WF h) (i j : Nat) (hij : i ≤ j) (hj : j ≤ s.cap) : (reslice s i j).WF h :=
  ⟨w.arr, by have := w.inb; simp only [reslice]; omega, by simp only [reslice]; omega⟩

theorem read_length_le (h : Heap) (s : Slice) : (read h s).length ≤ s.len := List.length_take_le _ _

theorem read_eq_nil (h : Heap) {s : Slice} (h0 : s.len = 0) : read h s = [] :=
  List.eq_nil_of_length_eq_zero (Nat.le_zero.1 (h0 ▸ read_length_le h s))

theorem read_length {h : Heap} {s : Slice} (w : s.WF h) : (read h s).length = s.len := by
  have := w.inb; have := w.len
  simp only [read, List.length_take, List.length_drop]; omega

theorem getElem?_read (h : Heap) (s : Slice) (j : Nat) :
    (read h s)[j]? = if j < s.len then (h.getD s.arr [])[s.lo + j]? else none := by
  simp only [read, List.getElem?_take]
  split
  · simp [List.getElem?_drop]
  · rfl

/-! ### read-after-write -/

theorem overwrite_nil (k : Nat) (vs : List Cell) : overwrite [] k vs = [] := by
  cases k <;> cases vs <;> rfl

theorem getElem?_overwrite (xs : List Cell) (k : Nat) (vs : List Cell) (j : Nat) :
    (overwrite xs k vs)[j]? = if k ≤ j ∧ j < k + vs.length ∧ j < xs.length then vs[j - k]? else xs[j]? := by
  induction xs generalizing k vs j with
  | nil => simp [overwrite]
  | cons x r ih =>
    cases k with
    | zero =>
      cases vs with
      | nil => simp [overwrite]
      | cons v vr =>
        cases j with
        | zero => simp [overwrite]
        | succ j => simp [overwrite, ih]
    | succ k =>
      cases j with
      | zero => simp [overwrite]
      | succ j =>
        simp only [overwrite, List.getElem?_cons_succ, ih, List.length_cons, Nat.add_le_add_iff_right,
          Nat.add_lt_add_iff_right, Nat.add_sub_add_right, Nat.add_right_comm k 1]

theorem overwrite_one (xs : List Cell) (i : Nat) (x : Cell) : overwrite xs i [x] = xs.set i x := by
  induction xs generalizing i with
  | nil => simp [overwrite_nil]
  | cons y r ih =>
    cases i with
    | zero => cases r <;> simp [overwrite]
    | succ i => simp [overwrite, ih]

theorem overwrite_append (a b vs : List Cell) (hl : vs.length = b.length) : overwrite (a ++ b) a.length vs = a ++ vs := by
  induction a with
  | nil =>
    induction b generalizing vs with
    | nil => cases vs <;> simp_all [overwrite]
    | cons y r ih =>
      cases vs with
      | nil => simp at hl
      | cons v vr => simp [overwrite]; exact ih vr (by simpa using hl)
  | cons x r ih => simpa [overwrite] using ih

theorem drop_overwrite (xs : List Cell) (lo i : Nat) (vs : List Cell) :
    (overwrite xs (lo + i) vs).drop lo = overwrite (xs.drop lo) i vs := by
  induction lo generalizing xs with
  | zero => simp
  | succ lo ih =>
    cases xs with
    | nil => simp [overwrite_nil]
    | cons x r => rw [Nat.add_right_comm]; exact ih r

theorem take_overwrite (xs : List Cell) (n i : Nat) (vs : List Cell) :
    (overwrite xs i vs).take n = overwrite (xs.take n) i vs := by
  induction xs generalizing n i vs with
  | nil => simp [overwrite_nil]
  | cons x r ih =>
    cases n with
    | zero => simp [overwrite_nil]
    | succ n =>
      cases i with
      | zero => cases vs <;> simp [overwrite, ih]
      | succ i => simp [overwrite, ih]

theorem read_store (h : Heap) (t : Slice) (i : Nat) (vs : List Cell) :
    read (store h t i vs) t = overwrite (read h t) i vs := by
  unfold read store
  rw [← take_overwrite, ← drop_overwrite]
  by_cases ha : t.arr < h.length
  · rw [getD_updArr_eq _ _ _ ha]
  · have ha : h.length ≤ t.arr := Nat.le_of_not_lt ha
    rw [getD_updArr_ge _ _ _ ha, List.getD, List.getElem?_eq_none ha, Option.getD_none, overwrite_nil]

/-- reading a slice of another array is unaffected by a store -/
theorem read_store_other (h : Heap) (t : Slice) (i : Nat) (vs : List Cell) (s : Slice) (hne : s.arr ≠ t.arr) :
    read (store h t i vs) s = read h s := by
  unfold read store
  rw [getD_updArr_ne _ _ _ _ hne]

theorem read_store_all {h : Heap} {t : Slice} {vs : List Cell} (w : t.WF h) (hl : vs.length = t.len) :
    read (store h t 0 vs) t = vs := by
  rw [read_store]
  exact overwrite_append [] _ vs (hl.trans (read_length w).symm)

theorem read_store_one (h : Heap) (t : Slice) (i : Nat) (x : Cell) : read (store h t i [x]) t = (read h t).set i x := by
  rw [read_store, overwrite_one]

theorem read_mkSlice_self (h : Heap) (z : Cell) (n sp : Nat) : read (mkSlice h z n sp).1 (mkSlice h z n sp).2 = List.replicate n z := by
  simp [read, mkSlice, List.take_replicate]

theorem read_allocWith_self (orc : Oracle) (h : Heap) (cs : List Cell) : read (allocWith orc h cs).1 (allocWith orc h cs).2 = cs := by
  simp [read, allocWith]

theorem read_mkSlice_old (h : Heap) (z : Cell) (n sp : Nat) (s : Slice) (hs : s.arr < h.length) :
    read (mkSlice h z n sp).1 s = read h s := read_frame (frame_mkSlice _ h z n sp (Nat.le_refl _)) s hs

theorem read_allocWith_old (orc : Oracle) (h : Heap) (cs : List Cell) (s : Slice) (hs : s.arr < h.length) :
    read (allocWith orc h cs).1 s = read h s := read_frame (frame_allocWith _ orc h cs (Nat.le_refl _)) s hs

theorem read_reslice (h : Heap) (s : Slice) (i j : Nat) (hj : j ≤ s.len) :
    read h (reslice s i j) = ((read h s).drop i).take (j - i) := by
  simp only [read, reslice, List.drop_take, List.drop_drop, List.take_take, Nat.min_eq_left (Nat.sub_le_sub_right hj i)]

theorem read_reslice_from (h : Heap) (s : Slice) (i : Nat) : read h (reslice s i s.len) = (read h s).drop i := by
  rw [read_reslice h s i s.len (Nat.le_refl _)]
  exact List.take_of_length_le (by have := read_length_le h s; simp only [List.length_drop]; omega)

theorem read_reslice_to (h : Heap) (s : Slice) (j : Nat) (hj : j ≤ s.len) : read h (reslice s 0 j) = (read h s).take j :=
  read_reslice h s 0 j hj

theorem store_reslice (h : Heap) (s : Slice) (m j : Nat) (vs : List Cell) : store h (reslice s m j) 0 vs = store h s m vs := by
  simp [store, reslice]

theorem copy_eq_store (h : Heap) {t : Slice} {cs : List Cell} (hfit : cs.length ≤ t.len) :
    copy h t cs = store h t 0 cs := by
  unfold copy; rw [List.take_of_length_le hfit]

theorem read_copy_mkSlice_store (h : Heap) (z : Cell) {n : Nat} (sp : Nat) {cs : List Cell} (hn : cs.length = n) (i : Nat)
    (x : Cell) :
    read (store (copy (mkSlice h z n sp).1 (mkSlice h z n sp).2 cs) (mkSlice h z n sp).2 i [x]) (mkSlice h z n sp).2
      = cs.set i x := by
  rw [read_store_one, copy_eq_store _ (by simp [mkSlice, hn]), read_store_all (wf_mkSlice h z n sp) (by simp [mkSlice, hn])]

theorem read_widen {h : Heap} {s : Slice} (w : s.WF h) {n : Nat} (hn : s.len + n ≤ s.cap) :
    ∃ b, b.length = n ∧ read h { s with len := s.len + n } = read h s ++ b := by
  refine ⟨(((h.getD s.arr []).drop s.lo).drop s.len).take n, ?_, ?_⟩
  · have := w.inb; simp only [List.length_take, List.length_drop]; omega
  · simp only [read, List.take_add]

/-- Go's `append`: whichever branch is taken, the result reads as the old contents followed by the new elements -/
theorem read_append (orc : Oracle) (z : Cell) (h : Heap) (s : Slice) (vs : List Cell) (w : s.WF h) :
    read (append orc z h s vs).1 (append orc z h s vs).2 = read h s ++ vs := by
  unfold append
  split
  · rename_i hfit
    -- in place: `store` looks at `arr` and `lo` only, so storing through the widened slice is the same store
    obtain ⟨b, hb, e⟩ := read_widen w hfit
    rw [show store h s s.len vs = store h { s with len := s.len + vs.length } s.len vs from rfl, read_store, e,
      ← read_length w]
    exact overwrite_append _ _ _ hb.symm
  · -- moved: a fresh array holding exactly the old contents and the new elements
    exact read_store_all (wf_mkSlice h z (s.len + vs.length) (orc h.length)) (by simp [read_length w, mkSlice])

theorem read_mk_append2 (orc : Oracle) (z : Cell) (h : Heap) (n : Nat) (a b : List Cell) :
    read (append orc z (append orc z (mkSlice h z 0 n).1 (mkSlice h z 0 n).2 a).1
        (append orc z (mkSlice h z 0 n).1 (mkSlice h z 0 n).2 a).2 b).1
      (append orc z (append orc z (mkSlice h z 0 n).1 (mkSlice h z 0 n).2 a).1
        (append orc z (mkSlice h z 0 n).1 (mkSlice h z 0 n).2 a).2 b).2 = a ++ b := by
  have w1 := wf_mkSlice h z 0 n
  rw [read_append orc z _ _ b (wf_append orc z _ _ a w1), read_append orc z _ _ a w1, read_mkSlice_self]
  rfl

end Arrai.C03
