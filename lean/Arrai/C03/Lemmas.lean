/-
  C03 — the two invariants of a history: every value's slice points into the heap (`Live`, `Inv`) and lies inside its
  backing array (`WFH`, `InvWF`), and what reading through a later heap keeps.  They are `Holds` (Ops.lean) at "the array
  exists" (`Live` by definition) and at `Slice.WF` (`wfh_iff`), so `yields_run1` is the step theorem for both.
  `OpOK` is `Yields` at "the array exists"; `FW` keeps of `Made` the bounds, with `Shape` in place of the frame: the theorems
  go through `Yields` and `Made`, not through these.
-/
import Arrai.C03.Ops

namespace Arrai.C03

/-- the value's slice (if it has one) points into the heap -/
def Live (h : Heap) (x : HVal) : Prop := ∀ s, x.slice? = some s → s.arr < h.length

def OpOK (h : Heap) (p : Heap × HVal) : Prop := Frame h.length h p.1 ∧ Live p.1 p.2

theorem Live.mono {h h' : Heap} {x : HVal} (l : Live h x) (hl : h.length ≤ h'.length) : Live h' x :=
  fun s hs => Nat.lt_of_lt_of_le (l s hs) hl

/-- reading a live value through a heap that differs only in newer arrays -/
theorem snap_frame {h h' : Heap} (f : Frame h.length h h') {x : HVal} (l : Live h x) : snap h' x = snap h x := by
  cases x with
  | seq k s off aux => simp only [snap]; rw [read_frame f s (l s rfl)]
  | other v => rfl
  | err => rfl

theorem cells_frame {h h' : Heap} (f : Frame h.length h h') {x : HVal} (l : Live h x) : cells h' x = cells h x := by
  cases x with
  | seq k s off aux => simp only [cells]; rw [read_frame f s (l s rfl)]
  | other v => rfl
  | err => rfl

theorem OpOK.frame_live {h h' : Heap} {x : HVal} (f : Frame h.length h h') (l : Live h' x) : OpOK h (h', x) := ⟨f, l⟩

/-! ### the invariant of a history: every slice points into the heap … -/

/-- every value created so far lives in the heap -/
def Inv (st : Impl.St) : Prop := ∀ x, x ∈ st.vals → Live st.h x

theorem inv_init : Inv Impl.init := by intro x hx; simp [Impl.init] at hx

theorem Inv.step {st : Impl.St} (inv : Inv st) (orc : Oracle) (op : Op) : Inv (Impl.step true orc st op) :=
  have ⟨f, l⟩ := yields_run1 SliceInv.inHeap orc st inv op
  forall_mem_snoc (fun x hx => (inv x hx).mono f.1) l

theorem Inv.run {st : Impl.St} (inv : Inv st) (orc : Oracle) (ops : List Op) : Inv (Impl.runAll true orc ops st) :=
  foldl_inv (fun _ op inv => inv.step orc op) ops inv

theorem history_frame (orc : Oracle) (st : Impl.St) (pre post : List Op) :
    Frame (Impl.runAll true orc pre st).h.length (Impl.runAll true orc pre st).h (Impl.runAll true orc (pre ++ post) st).h ∧
      ∀ (k : Nat) (x : HVal), (Impl.runAll true orc pre st).vals[k]? = some x →
        (Impl.runAll true orc (pre ++ post) st).vals[k]? = some x :=
  history_append (fun st : Impl.St => st.h) (fun st => st.vals) (Impl.step true orc) (run1_frame orc)
    (fun _ _ => ⟨_, rfl⟩) st pre post

/-! ### … and lies inside its backing array -/

/-- By cases on the value and not `Holds Slice.WF` (`wfh_iff`), so that at a `.seq` it IS `s.WF h`: the refinement lemmas take
and pass it on as such. -/
def WFH (h : Heap) : HVal → Prop
  | .seq _ s _ _ => s.WF h
  | _ => True

theorem wfh_other (h : Heap) (v : V) : WFH h (.other v) := trivial
theorem wfh_err (h : Heap) : WFH h .err := trivial

theorem wfh_iff {h : Heap} {x : HVal} : WFH h x ↔ Holds Slice.WF h x := by
  cases x with
  | seq k s off aux => exact holds_seq.symm
  | other v => exact ⟨fun _ => holds_other _ h v, fun _ => trivial⟩
  | err => exact ⟨fun _ => holds_err _ h, fun _ => trivial⟩

theorem WFH.shape {h h' : Heap} {x : HVal} (w : WFH h x) (sh : Shape h h') : WFH h' x :=
  wfh_iff.2 ((wfh_iff.1 w).grow SliceInv.wf sh)

/-- a well-formed slice produced on the way from `h` -/
structure FW (h : Heap) (p : Heap × Slice) : Prop where
  shape : Shape h p.1
  wf : p.2.WF p.1

theorem FW.append {h : Heap} {p : Heap × Slice} (f : FW h p) (orc : Oracle) (z : Cell) (vs : List Cell) :
    FW h (Arrai.C03.append orc z p.1 p.2 vs) :=
  ⟨f.shape.trans (shape_append orc z p.1 p.2 vs), wf_append orc z p.1 p.2 vs f.wf⟩

theorem FW.reslice {h : Heap} {p : Heap × Slice} (f : FW h p) (i j : Nat) (hij : i ≤ j) (hj : j ≤ p.2.cap) :
    FW h (p.1, Arrai.C03.reslice p.2 i j) := ⟨f.shape, wf_reslice f.wf i j hij hj⟩

def InvWF (st : Impl.St) : Prop := ∀ x, x ∈ st.vals → WFH st.h x

theorem InvWF.getD {st : Impl.St} (inv : InvWF st) (i : Nat) : WFH st.h (st.vals.getD i .err) :=
  getD_of_forall (wfh_err st.h) inv i

end Arrai.C03
