/-
  C03 — refinement, heap level: `snapO (operation over the heap) = Spec.operation (snapshots of the operands)` for
  `String.with` / `Bytes.with` (as repaired), `Array.withItem`, the three `Without`s, the `NewOffset…` constructors and
  `OffsetExpr`, and for whatever is computed as "specification, then the set builder" (`viaBuilder_refines`).  Go's test
  "the element is there" is membership in `kden` (`hit_index`, `hit_sub`), which hands the position over as a natural number
  `n`; `String.Without` asks three separate questions instead, and `strWithout_hit` / `strWithout_miss` bring it to that form.
  From there each branch is: what the result's slice reads (`read_reslice*`) and the one lemma of Refine.lean that says what
  those cells denote.
-/
import Arrai.C03.Builder

namespace Arrai.C03
open Impl
open Arrai.C01.KSeq (kden kget mem_kden_at kget_eq_some kget_some_lt kden_functional mem_tagged)

theorem snapO_finishV (h : Heap) (v : V) : snapO (finishV h v) = some (snap (finishV h v).1 (finishV h v).2) := by
  apply snapO_of_ne_err
  split
  · rename_i k ps _
    unfold asSeq
    cases ps <;> simp [hnone]
  · simp

/-- the set-builder branch of `String.with` (filling a hole, adding beyond an end): faithful because the new index is free -/
theorem finishV_with_free (h : Heap) (k : Kind) (hk : k ≠ .B) (off : Int) (cs : List Cell) (at_ : Int) (c : V)
    (hfree : ∀ v, (at_, v) ∉ kden cs off) :
    snap (finishV h (V.mkSet (tupleOf k at_ c :: members (V.mkSeq k.attr off cs)))).1
         (finishV h (V.mkSet (tupleOf k at_ c :: members (V.mkSeq k.attr off cs)))).2
      = V.mkSet (tupleOf k at_ c :: members (V.mkSeq k.attr off cs)) := by
  apply finishV_faithful
  intro k' ps hd
  obtain ⟨hm, hne⟩ := decodeSeq_spec hd
  have hmem : ∀ i v, (i, v) ∈ ps → k' = k ∧ ((i = at_ ∧ v = c) ∨ (i, v) ∈ kden cs off) := by
    intro i v hp
    have : tup k' i v ∈ members (V.mkSet (tupleOf k at_ c :: members (V.mkSeq k.attr off cs))) := by
      rw [hm]; exact List.mem_map.2 ⟨(i, v), hp, rfl⟩
    rw [mem_members_mkSet, List.mem_cons, tupleOf_eq, members_mkSeq, mem_tagged] at this
    rcases this with e | ⟨j, y, e, hjy⟩
    · obtain ⟨rfl, hi⟩ := tup_inj e
      exact ⟨rfl, Or.inl hi⟩
    · obtain ⟨rfl, rfl, rfl⟩ := tup_inj e
      exact ⟨rfl, Or.inr hjy⟩
  constructor
  · rintro ⟨i, a⟩ ⟨j, b⟩ ha hb (rfl : i = j)
    rcases (hmem i a ha).2 with ⟨ei, rfl⟩ | ha' <;> rcases (hmem i b hb).2 with ⟨ei', rfl⟩ | hb'
    · rfl
    · exact absurd (ei ▸ hb') (hfree b)
    · exact absurd (ei' ▸ ha') (hfree a)
    · exact kden_functional cs off _ _ ha' hb' rfl
  · intro hB
    cases ps with
    | nil => exact absurd rfl hne
    | cons p r => exact absurd ((hmem p.1 p.2 (by simp)).1 ▸ hB) hk

/-- `x.With(t)` for the empty set -/
theorem finishV_single (h : Heap) (t : V) : snap (finishV h (V.mkSet [t])).1 (finishV h (V.mkSet [t])).2 = V.mkSet [t] := by
  apply finishV_faithful
  intro k ps hd
  -- one member, so one pair
  match ps, (decodeSeq_spec hd).1 with
  | [p], _ =>
    refine ⟨fun a b ha hb _ => by simp at ha hb; rw [ha, hb], fun _ i h1 h2 => ⟨p, by simp, ?_⟩⟩
    simp [minIdx, maxIdx] at h1 h2; omega

/-- the repaired `String.with` / `Bytes.with` at the end: two appends onto a slice made for the result -/
theorem seqWith_end_cells (orc : Oracle) (k : Kind) (h : Heap) (s : Slice) (off : Int) (aux : Nat) (c : V) :
    cells (seqWith true orc k h s off aux (off + s.len) c).1 (seqWith true orc k h s off aux (off + s.len) c).2
      = read h s ++ [some c] := by
  have hi : index off s.len (off + s.len) = s.len := by
    have e : off + (s.len : Int) - off = (s.len : Int) := by omega
    simp [index, e]
  have h1 : ¬ ((0:Int) ≤ (s.len:Int) ∧ (s.len:Int) < (s.len:Int) ∧ (read h s)[(s.len:Int).toNat]? = some (some c)) := by
    intro hh; omega
  unfold seqWith
  simp only [hi, if_neg h1, if_true, cells]
  exact read_mk_append2 orc k.zero h (1 + s.len) (read h s) [some c]

theorem seqWith_refines (orc : Oracle) (k : Kind) (h : Heap) (s : Slice) (off : Int) (aux : Nat) (at_ : Int) (c : V)
    (w : s.WF h) :
    snapO (seqWith true orc k h s off aux at_ c) = Spec.with_ (V.mkSeq k.attr off (read h s)) (tupleOf k at_ c) := by
  have hl := read_length w
  unfold seqWith
  simp only [if_true]
  refine snapO_ite (fun hc => ?_) fun _ => snapO_ite (fun he => ?_) fun _ => snapO_ite (fun hf => ?_) fun _ =>
    snapO_ite (fun hb => ?_) fun _ => ?_
  · -- already there
    rw [snapO_seq]
    exact (with_present k ((hit_index (read_length_le h s)).1 hc)).symm
  · -- at the end: a copy followed by the new element
    have hi := index_eq (by rw [he]; omega : 0 ≤ index off s.len at_)
    have hat : at_ = off + ((read h s).length : Int) := by rw [hl]; omega
    rw [snapO_seq, read_mk_append2, hat]
    exact (with_end k off (read h s) c).symm
  · -- just before the front
    rw [snapO_seq, read_mk_append2, hf]
    exact (with_front k off (read h s) c).symm
  · -- String: rebuilt through the set builder (the index is free)
    have hfree : ∀ v, (at_, v) ∉ kden (read h s) off := fun v hm =>
      have hit := (hit_index (read_length_le h s)).2 hm
      hb.2 ⟨hit.1, hit.2.1, by rw [hit.2.2]; simp⟩
    have hk : k ≠ .B := by rw [hb.1]; decide
    rw [snapO_finishV, finishV_with_free h k hk off (read h s) at_ c hfree]
    simp only [Spec.with_, isSet_mkSeq, if_true]
  · -- a generic set
    rw [snapO_other]
    simp [Spec.with_, isSet_mkSeq]

/-! ### Bytes.Without -/

theorem bytesWithout_refines (h : Heap) (s : Slice) (off : Int) (at_ : Int) (c : V) (w : s.WF h) :
    snapO (bytesWithout h s off at_ c) = Spec.without (V.mkSeq (Kind.attr .B) off (read h s)) (tupleOf .B at_ c) := by
  have hl := read_length w
  unfold bytesWithout
  simp only []
  refine snapO_ite (fun hc => ?_) fun hc => ?_
  · -- the byte sits in cell `n`
    obtain ⟨n, hcn, rfl⟩ := (mem_kden_cells ..).1 ((hit_index (read_length_le h s)).1 hc)
    have hnl := lt_length_of_getElem? hcn
    rw [index_at (hl ▸ hnl) rfl]
    refine snapO_ite (fun h1 => ?_) fun _ => snapO_ite (fun h0 => ?_) fun _ => snapO_ite (fun hlast => ?_) fun _ => ?_
    · -- the only byte
      rw [without_front .B off hcn (by omega), List.drop_eq_nil_of_le (by omega)]
      rfl
    · rw [snapO_seq, read_reslice_from, without_front .B off hcn (by omega)]
    · rw [snapO_seq, Int.toNat_natCast, read_reslice_to h s n (by omega), without_end .B off hcn (by omega)]
    · rw [snapO_other]
      simp [Spec.without, isSet_mkSeq]
  · rw [snapO_seq, without_absent _ (mt (hit_index (read_length_le h s)).2 hc)]

/-! ### NewOffsetString, NewOffsetBytes, NewOffsetArray -/

theorem snapO_newOffsetString (h : Heap) (s : Slice) (off : Int) :
    snapO (h, newOffsetString h s off) = some (V.mkSeq (Kind.attr .S) off (read h s)) := by
  unfold newOffsetString
  split
  · rename_i h0; rw [read_eq_nil h h0]; rfl
  · rfl

theorem snapO_newOffsetBytes (h : Heap) (s : Slice) (off : Int) :
    snapO (h, newOffsetBytes s off) = some (V.mkSeq (Kind.attr .B) off (read h s)) := by
  unfold newOffsetBytes
  split
  · rename_i h0; rw [read_eq_nil h h0]; rfl
  · rfl

theorem mkSeq_trimFront {h : Heap} {s : Slice} (w : s.WF h) (off : Int) :
    V.mkSeq (Kind.attr .A) (trimFront h s off).2 (read h (trimFront h s off).1) = V.mkSeq (Kind.attr .A) off (read h s) := by
  have hl := read_length w
  unfold trimFront
  simp only []
  split
  · rename_i hc
    rw [read_reslice_from h s _]
    exact mkSeq_drop_leadingNone .A off (read h s)
  · rfl

theorem mkSeq_trimBack {h : Heap} {s : Slice} (w : s.WF h) (off : Int) :
    V.mkSeq (Kind.attr .A) off (read h (trimBack h s)) = V.mkSeq (Kind.attr .A) off (read h s) := by
  have hl := read_length w
  unfold trimBack
  simp only []
  split
  · rename_i hc
    rw [read_reslice_to h s _ (by omega), ← hl]
    exact mkSeq_take_trailingNone .A off (read h s)
  · rfl

/-- `NewOffsetArray(offset, values...)` denotes the array of its cells at that offset -/
theorem snap_newOffsetArray {h : Heap} {s : Slice} (w : s.WF h) (off : Int) :
    snap h (newOffsetArray h off s) = V.mkSeq (Kind.attr .A) off (read h s) := by
  have e : V.mkSeq (Kind.attr .A) (trimFront h s off).2 (read h (trimBack h (trimFront h s off).1))
      = V.mkSeq (Kind.attr .A) off (read h s) := by
    rw [mkSeq_trimBack (keeps_trimFront SliceInv.wf w off), mkSeq_trimFront w]
  unfold newOffsetArray
  simp only []
  split
  · rename_i h0
    rw [← e, read_eq_nil h h0]; rfl
  · split
    · rename_i _ h0
      rw [← e, mkSeq_no_some .A _ _ h0]; rfl
    · exact e

theorem newOffsetArray_ne_err (h : Heap) (off : Int) (s : Slice) : newOffsetArray h off s ≠ .err := by
  unfold newOffsetArray
  simp only []
  split
  · simp [hnone]
  · split <;> simp [hnone]

theorem snapO_newOffsetArray {h : Heap} {s : Slice} (w : s.WF h) (off : Int) :
    snapO (h, newOffsetArray h off s) = some (V.mkSeq (Kind.attr .A) off (read h s)) := by
  rw [snapO_of_ne_err (newOffsetArray_ne_err h off s), snap_newOffsetArray w]

/-! ### Array.Without -/

theorem arrWithout_refines (h : Heap) (s : Slice) (off : Int) (count : Nat) (at_ : Int) (item : V) (w : s.WF h)
    (hcount : count = countSome (read h s)) :
    snapO (arrWithout h s off count at_ item) = Spec.without (V.mkSeq (Kind.attr .A) off (read h s)) (tupleOf .A at_ item) := by
  have hl := read_length w
  have hlen := w.len
  unfold arrWithout
  simp only []
  refine snapO_ite (fun hc => ?_) fun hc => ?_
  · -- the item sits in cell `n`
    obtain ⟨n, hcn, rfl⟩ := (mem_kden_cells ..).1 ((hit_sub (read_length_le h s)).1 hc)
    have hnl := lt_length_of_getElem? hcn
    rw [Arrai.C01.toNat_add_sub_self]
    refine snapO_ite (fun h0 => ?_) fun hf => snapO_ite (fun hlast => ?_) fun hlast => ?_
    · -- the first item: NewOffsetArray(offset+1, values[1:]...)
      rw [snapO_newOffsetArray (wf_reslice w 1 s.len (by omega) hlen), read_reslice_from,
        without_front .A off hcn (by omega)]
    · -- the last item
      obtain rfl : n = s.len - 1 := by omega
      rw [snapO_newOffsetArray (wf_reslice w 0 (s.len - 1) (Nat.zero_le _) (by omega)),
        read_reslice_to h s _ (by omega), without_end .A off hcn (by omega)]
    · -- in the middle: a clone with the cell blanked
      rw [without_mid .A off hcn]
      refine snapO_ite (fun hz => ?_) fun _ => ?_
      · -- `count - 1 = 0`: the cell blanked was the only item
        rw [mkSeq_no_some .A _ _ (by have := (counts_set_none hcn).2; omega)]
        rfl
      · have hcells : read (store (clone h s).1 (clone h s).2 n [none]) (clone h s).2 = (read h s).set n none :=
          read_copy_mkSlice_store h none 0 hl n none
        rw [snapO_seq, hcells]
  · rw [snapO_seq, without_absent _ (mt (hit_sub (read_length_le h s)).2 hc)]

/-! ### Array.withItem -/

/-- `Array.withItem`: prepending with a gap, appending with a gap, an item that is there, filling a hole, and the generic
set for a second item at an occupied index -/
theorem withItem_refines (h : Heap) (s : Slice) (off : Int) (count : Nat) (at_ : Int) (item : V) (w : s.WF h) :
    snapO (withItem h s off count at_ item) = Spec.with_ (V.mkSeq (Kind.attr .A) off (read h s)) (tupleOf .A at_ item) := by
  have hl := read_length w
  unfold withItem
  simp only []
  refine snapO_ite (fun hneg => ?_) fun hnn => ?_
  · -- before the front
    rw [snapO_seq, copy_eq_store _ (by simp [reslice, mkSlice, hl]), store_reslice, read_store_one, read_store,
      read_mkSlice_self]
    exact (with_placed (by omega) (by omega) (by omega) (by omega) (fun j v hj => by omega)).symm
  · -- from the front on: the position as a natural number `n`
    generalize hn : (at_ - off).toNat = n
    have hat : at_ = off + (n : Int) := by omega
    clear hn
    subst hat
    refine snapO_ite (fun hge => ?_) fun hlt => snapO_ite (fun hc => ?_) fun hne => snapO_ite (fun hhole => ?_) fun _ => ?_
    · -- beyond the end
      rw [snapO_seq, copy_eq_store _ (by simp [mkSlice, hl]; omega), read_store_one, read_store, read_mkSlice_self]
      exact (with_placed (by omega) (by omega) (by omega) rfl (fun j v hj => by have := kget_some_lt hj; omega)).symm
    · -- the item is there
      rw [snapO_seq]
      exact (with_present .A (mem_kden_at off (kget_eq_some.2 (by simpa using hc)))).symm
    · -- filling a hole
      rw [snapO_seq, copy_eq_store _ (by simp [mkSlice, hl]), read_store_one, read_store, read_mkSlice_self]
      exact (with_placed (by omega) (by omega) (by omega) rfl (fun j v hj e => by
          have hj := kget_eq_some.1 hj
          rw [Nat.zero_add] at e; rw [e, hhole] at hj; simp at hj)).symm
    · -- a generic set
      rw [snapO_other]
      simp [Spec.with_, isSet_mkSeq]

/-! ### String.Without (with trimHoles) -/

theorem countNone_le (cs : List Cell) : countNone cs ≤ cs.length := by
  simp [countNone]; exact List.length_filter_le _ _

theorem trimHoles_spec {h : Heap} {s : Slice} (w : s.WF h) (off : Int) (holes : Nat) (hh : holes = countNone (read h s)) :
    V.mkSeq (Kind.attr .S) (trimHoles h s off holes).2.1 (read h (trimHoles h s off holes).1) = V.mkSeq (Kind.attr .S) off (read h s) ∧
    (trimHoles h s off holes).2.2 = countNone (read h (trimHoles h s off holes).1) ∧
    (read h (trimHoles h s off holes).1).length = (trimHoles h s off holes).1.len := by
  have hl := read_length w
  have hle := leadingNone_le (read h s)
  have w1 : (reslice s (leadingNone (read h s)) s.len).WF h := wf_reslice w _ _ (by omega) w.len
  have r1 := read_reslice_from h s (leadingNone (read h s))
  have hl1 := read_length w1
  have hle1 := leadingNone_le (read h (reslice s (leadingNone (read h s)) s.len)).reverse
  simp only [List.length_reverse] at hle1
  have w2 : (trimHoles h s off holes).1.WF h := keeps_trimHoles SliceInv.wf w off holes
  have r2 : read h (trimHoles h s off holes).1 = ((read h s).drop (leadingNone (read h s))).take
      (((read h s).drop (leadingNone (read h s))).length - leadingNone ((read h s).drop (leadingNone (read h s))).reverse) := by
    unfold trimHoles
    simp only []
    rw [read_reslice_to h _ _ (by omega), r1]
    congr 1
    rw [← r1, hl1]
  refine ⟨?_, ?_, read_length w2⟩
  · rw [r2]
    show V.mkSeq _ (off + (leadingNone (read h s) : Int)) _ = _
    rw [mkSeq_take_trailingNone, mkSeq_drop_leadingNone]
  · -- the hole count follows the trimming
    rw [r2]
    show holes - leadingNone (read h s) - leadingNone (read h (reslice s (leadingNone (read h s)) s.len)).reverse = _
    rw [r1]
    have := countNone_drop_leadingNone (read h s)
    have := countNone_take_trailingNone ((read h s).drop (leadingNone (read h s)))
    omega

/-- what `String.Without` does once the char is out: `trimHoles`, then None when nothing is left -/
def strTrimmed (r : Heap × Slice × Int × Nat) : Heap × HVal :=
  let t := trimHoles r.1 r.2.1 r.2.2.1 r.2.2.2
  if t.1.len - t.2.2 = 0 then (r.1, hnone) else (r.1, .seq .S t.1 t.2.1 t.2.2)

theorem snapO_strTrimmed {h : Heap} {s : Slice} {off : Int} {holes : Nat} (w : s.WF h) (hh : holes = countNone (read h s)) :
    snapO (strTrimmed (h, s, off, holes)) = some (V.mkSeq (Kind.attr .S) off (read h s)) := by
  obtain ⟨e1, e2, e3⟩ := trimHoles_spec w off holes hh
  dsimp only [strTrimmed]
  refine snapO_ite (fun hz => ?_) fun _ => ?_
  · rw [← e1, mkSeq_no_some .S _ _ (by have := countSome_add_countNone (read h (trimHoles h s off holes).1); omega)]
    rfl
  · rw [snapO_seq, e1]

theorem strWithout_hit (h : Heap) (s : Slice) (off : Int) (holes : Nat) {n : Nat} {c : V}
    (hc : (read h s)[n]? = some (some c)) :
    strWithout h s off holes (off + n) c = strTrimmed (
      if n = 0 then (h, reslice s 1 s.len, off + 1, holes)
      else if n + 1 = s.len then (h, reslice s 0 n, off, holes)
      else
        let p := mkSlice h (Kind.zero .S) s.len 0
        (store (copy p.1 p.2 (read h s)) p.2 n [none], p.2, off, holes + 1)) := by
  have hn : n < s.len := Nat.lt_of_lt_of_le (lt_length_of_getElem? hc) (read_length_le h s)
  have hi : index off s.len (off + n) = n := index_at hn rfl
  unfold strWithout
  extract_lets cs i p h2 h3 r t
  show strTrimmed r = _
  refine congrArg strTrimmed ?_
  simp only [r, h3, h2, i, cs, hi, Int.toNat_natCast]
  by_cases h0 : n = 0
  · subst h0; rw [if_pos ⟨rfl, hc⟩, if_pos rfl]
  · rw [if_neg (fun e => h0 (by omega)), if_neg h0]
    by_cases h1 : n + 1 = s.len
    · obtain rfl : n = s.len - 1 := by omega
      rw [if_pos ⟨by omega, hc⟩, if_pos h1]
    · rw [if_neg (fun e => h1 (by omega)), if_neg h1, if_pos ⟨by omega, by omega, hc⟩]

theorem strWithout_miss (h : Heap) (s : Slice) (off : Int) (holes : Nat) {at_ : Int} {c : V}
    (hm : (at_, c) ∉ kden (read h s) off) : strWithout h s off holes at_ c = strTrimmed (h, s, off, holes) := by
  have no : ∀ n : Nat, index off s.len at_ = n → (read h s)[n]? ≠ some (some c) := fun n hi hc =>
    hm ((mem_kden_cells ..).2 ⟨n, hc, by have := index_eq (by omega : 0 ≤ index off s.len at_); omega⟩)
  unfold strWithout
  extract_lets cs i p h2 h3 r t
  show strTrimmed r = _
  refine congrArg strTrimmed ?_
  simp only [r, i, cs]
  rw [if_neg, if_neg, if_neg]
  · rintro ⟨h0, _, hc⟩; exact no _ (by omega) hc
  · rintro ⟨hi, hc⟩
    exact no (s.len - 1) (by have := lt_length_of_getElem? hc; have := read_length_le h s; omega) hc
  · rintro ⟨hi, hc⟩; exact no 0 hi hc

theorem strWithout_refines (h : Heap) (s : Slice) (off : Int) (holes : Nat) (at_ : Int) (c : V) (w : s.WF h)
    (hh : holes = countNone (read h s)) :
    snapO (strWithout h s off holes at_ c) = Spec.without (V.mkSeq (Kind.attr .S) off (read h s)) (tupleOf .S at_ c) := by
  have hl := read_length w
  by_cases hm : (at_, c) ∈ kden (read h s) off
  · obtain ⟨n, hc, rfl⟩ := (mem_kden_cells ..).1 hm
    have hn := lt_length_of_getElem? hc
    rw [strWithout_hit h s off holes hc]
    split
    · next h0 =>
      have r1 := read_reslice_from h s 1
      rw [snapO_strTrimmed (wf_reslice w 1 s.len (by omega) w.len) (by rw [r1, countNone_drop_one hc h0, hh]), r1,
        without_front .S off hc h0]
    · split
      · next h1 =>
        have r1 := read_reslice_to h s n (by omega)
        have h1 := h1.trans hl.symm
        rw [snapO_strTrimmed (wf_reslice w 0 n (Nat.zero_le _) (by have := w.len; omega))
          (by rw [r1, countNone_dropLast hc h1, hh]), r1, without_end .S off hc h1]
      · -- in the middle: cell `n` blanked in a copy
        have r1 := read_copy_mkSlice_store h (Kind.zero .S) 0 hl n none
        rw [snapO_strTrimmed (((wf_mkSlice h (Kind.zero .S) s.len 0).shape (shape_copy _ _ _)).shape (shape_store _ _ _ _))
          (by rw [r1, (counts_set_none hc).1, hh]), r1, without_mid .S off hc]
  · rw [strWithout_miss h s off holes hm, snapO_strTrimmed w hh, without_absent .S hm]

/-! ### assembling: `x.With(t)`, `x.Without(t)`, the set builder -/

/-- whatever is computed as "specification, then the set builder" denotes the specified set — when the builder can hold it -/
theorem viaBuilder_refines (h : Heap) (o : Option V) (hcanon : ∀ v, o = some v → ∃ l, v = V.mkSet l)
    (hf : ∀ v, o = some v → ∀ k ps, decodeSeq v = some (k, ps) → Functional ps ∧ (k = .B → Gapless ps)) :
    snapO (viaBuilder h o) = o := by
  cases o with
  | none => rfl
  | some v =>
    obtain ⟨l, rfl⟩ := hcanon v rfl
    show snapO (finishV h (V.mkSet l)) = some (V.mkSet l)
    rw [snapO_finishV, finishV_faithful h l (hf _ rfl)]

/-- `x.With(tuple)` -/
theorem withV_refines (orc : Oracle) (h : Heap) (x : HVal) (k : Kind) (at_ : Int) (c : V) (w : WFH h x) :
    snapO (withV true orc h x k at_ c) = (snapO (h, x)).bind (fun v => Spec.with_ v (tupleOf k at_ c)) := by
  unfold withV
  cases x with
  | seq k' s off aux =>
    simp only [snapO_seq, Option.bind_some]
    split
    · rename_i hk
      obtain ⟨rfl, _⟩ := hk
      cases k' with
      | S => exact seqWith_refines orc .S h s off aux at_ c w
      | B => exact seqWith_refines orc .B h s off aux at_ c w
      | A => exact withItem_refines h s off aux at_ c w
    · rw [snapO_other]
      simp [Spec.with_, isSet_mkSeq, snap]
  | other v =>
    simp only [snapO_other, Option.bind_some]
    split
    · rename_i hs
      split
      · rename_i he
        have hm : members v = [] := by simpa using he
        rw [snapO_finishV, finishV_single]
        simp only [Spec.with_, hs, if_true, hm]
      · rw [snapO_other]
        simp [Spec.with_, hs]
    · rename_i hs
      simp [snapO, Spec.with_, hs]
  | err => rfl

/-- The cached counts agree with the cells: `holes` of a String, `count` of an Array.  Assumed of the operand at each step that
needs it; not shown to be kept by the operations (so not an invariant of `runAll`). -/
def AuxOK (h : Heap) : HVal → Prop
  | .seq .S s _ aux => aux = countNone (read h s)
  | .seq .A s _ aux => aux = countSome (read h s)
  | _ => True

/-- `x.Without(tuple)` -/
theorem withoutV_refines (h : Heap) (x : HVal) (k : Kind) (at_ : Int) (c : V) (w : WFH h x) (ha : AuxOK h x)
    (hsame : ∀ k' s off aux, x = .seq k' s off aux → k' = k) :
    snapO (withoutV h x k at_ c) = (snapO (h, x)).bind (fun v => Spec.without v (tupleOf k at_ c)) := by
  unfold withoutV
  cases x with
  | seq k' s off aux =>
    have hk := hsame k' s off aux rfl
    subst hk
    simp only [snapO_seq, Option.bind_some, if_true]
    cases k' with
    | S => exact strWithout_refines h s off aux at_ c w ha
    | B => exact bytesWithout_refines h s off at_ c w
    | A => exact arrWithout_refines h s off aux at_ c w ha
  | other v =>
    simp only [snapO_other, Option.bind_some]
    split
    · rename_i hs
      rw [snapO_other]
      simp [Spec.without, hs]
    · rename_i hs
      simp [snapO, Spec.without, hs]
  | err => rfl

/-! ### OffsetExpr -/

/-- `n\x` on a String, Bytes or Array -/
theorem offsetV_refines (h : Heap) (k : Kind) (s : Slice) (off : Int) (aux : Nat) (n : Int) (w : s.WF h)
    (hseq : Spec.isSeqOrEmpty (V.mkSeq k.attr off (read h s)) = true) :
    snapO (h, offsetV h (.seq k s off aux) n) = Spec.offset n (V.mkSeq k.attr off (read h s)) := by
  unfold Spec.offset
  rw [if_pos hseq, offset_members]
  cases k with
  | S => exact snapO_newOffsetString h s (off + n)
  | B => exact snapO_newOffsetBytes h s (off + n)
  | A => exact snapO_newOffsetArray w (off + n)

end Arrai.C03
