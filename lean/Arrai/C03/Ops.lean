/-
  C03 — what every transliterated operation (as repaired) yields.  It stores only into arrays it allocated itself (`Frame`):
  this asks nothing of the state (`run1_frame`).  The slice of its result is either made by the operation, and then lies
  inside its array whatever the operands are like (`Made`), or a re-slice within the length of an operand's.  So, proved
  once for any property `P` that in-bounds slices have and that survives growth of the heap and such re-slicing
  (`SliceInv P`): if the operands' slices have `P`, so has the result's (`yields_run1`).
-/
import Arrai.C03.Model
import Arrai.C03.HeapLemmas
import Arrai.Core.ListLemmas

namespace Arrai.C03

/-! ### what bounds the re-slices -/

theorem leadingNone_le (cs : List Cell) : leadingNone cs ≤ cs.length := by
  induction cs with
  | nil => simp [leadingNone]
  | cons c r ih =>
    cases c with
    | none => simp [leadingNone]; omega
    | some v => simp [leadingNone]

theorem length_whereCells (p : Int → V → Bool) (off : Int) (cs : List Cell) :
    (Impl.whereCells p off cs).length = cs.length := by
  induction cs generalizing off with
  | nil => rfl
  | cons c r ih => cases c <;> simp [Impl.whereCells, ih]

theorem hasPrefix_length {p s : List V} (hp : hasPrefix p s = true) : p.length ≤ s.length := by
  induction p generalizing s with
  | nil => simp
  | cons a r ih =>
    cases s with
    | nil => simp [hasPrefix] at hp
    | cons b t =>
      simp only [hasPrefix, Bool.and_eq_true] at hp
      have := ih hp.2
      simp; omega

theorem searchFrom_bound (sub : List V) : ∀ (l : List V) (st r : Nat), searchFrom sub st l = some r →
    st ≤ r ∧ (r - st) + sub.length ≤ l.length
  | [], st, r, e => by
    simp only [searchFrom] at e
    split at e
    · rename_i he
      simp at e; subst e
      have : sub = [] := by simpa using he
      subst this; simp
    · simp at e
  | x :: xs, st, r, e => by
    simp only [searchFrom] at e
    split at e
    · rename_i hp
      simp at e; subst e
      have := hasPrefix_length hp
      simp at this ⊢; omega
    · have := searchFrom_bound sub xs (st + 1) r e
      simp; omega

theorem pieceBounds_bound (d : List V) : ∀ (fuel start : Nat) (s : List V) (a b : Nat),
    (a, b) ∈ pieceBounds d fuel start s → start ≤ a ∧ a ≤ b ∧ b ≤ start + s.length
  | 0, start, s, a, b, hm => by
    simp [pieceBounds] at hm; omega
  | fuel + 1, start, s, a, b, hm => by
    simp only [pieceBounds] at hm
    split at hm
    · rename_i i hs
      have hb := searchFrom_bound d s 0 i hs
      rcases List.mem_cons.1 hm with e | hm
      · simp at e; omega
      · have := pieceBounds_bound d fuel (start + i + d.length) (s.drop (i + d.length)) a b hm
        simp at this; omega
    · simp at hm; omega

/-- `reslice` asks `j ≤ s.len`, not Go's `j ≤ s.cap`: the model never re-slices into the spare capacity. -/
structure SliceInv (P : Heap → Slice → Prop) : Prop where
  ofWF : ∀ {h s}, s.WF h → P h s
  grow : ∀ {h h' s}, P h s → Shape h h' → P h' s
  reslice : ∀ {h s} i j, P h s → i ≤ j → j ≤ s.len → P h (Arrai.C03.reslice s i j)

theorem SliceInv.inHeap : SliceInv (fun h s => s.arr < h.length) where
  ofWF := fun w => w.arr
  grow := fun l sh => Nat.lt_of_lt_of_le l sh.1
  reslice := fun _ _ l _ _ => l

theorem SliceInv.wf : SliceInv Slice.WF where
  ofWF := id
  grow := fun w sh => w.shape sh
  reslice := fun i j w hij hj => wf_reslice w i j hij (Nat.le_trans hj w.len)

theorem SliceInv.any : SliceInv (fun _ _ => True) := ⟨fun _ => ⟨⟩, fun _ _ => ⟨⟩, fun _ _ _ _ _ => ⟨⟩⟩

def Holds (P : Heap → Slice → Prop) (h : Heap) (x : HVal) : Prop := ∀ s, x.slice? = some s → P h s

def Yields (P : Heap → Slice → Prop) (h : Heap) (p : Heap × HVal) : Prop := Frame h.length h p.1 ∧ Holds P p.1 p.2

/-- a slice in an array allocated since `h0` (whose length is `base`) -/
structure Fresh (base : Nat) (h0 : Heap) (p : Heap × Slice) : Prop where
  frame : Frame base h0 p.1
  ge : base ≤ p.2.arr
  lt : p.2.arr < p.1.length

/-- `Fresh` at `base = h.length`, with the bounds (`wf`) in place of `lt` -/
structure Made (h : Heap) (p : Heap × Slice) : Prop where
  frame : Frame h.length h p.1
  ge : h.length ≤ p.2.arr
  wf : p.2.WF p.1

variable {P : Heap → Slice → Prop}

theorem holds_other (P : Heap → Slice → Prop) (h : Heap) (v : V) : Holds P h (.other v) := by
  intro s hs; simp [HVal.slice?] at hs
theorem holds_err (P : Heap → Slice → Prop) (h : Heap) : Holds P h .err := by intro s hs; simp [HVal.slice?] at hs
theorem holds_hnone (P : Heap → Slice → Prop) (h : Heap) : Holds P h hnone := holds_other P h _
theorem holds_seq {h : Heap} {k : Kind} {s : Slice} {off : Int} {aux : Nat} : Holds P h (.seq k s off aux) ↔ P h s :=
  ⟨fun l => l s rfl, fun hs t ht => by simp only [HVal.slice?, Option.some.injEq] at ht; subst ht; exact hs⟩

theorem Holds.grow (I : SliceInv P) {h h' : Heap} {x : HVal} (l : Holds P h x) (sh : Shape h h') : Holds P h' x :=
  fun s hs => I.grow (l s hs) sh

/-- stated on the components, so that no projection of a pair has to be unified with anything -/
theorem Yields.mk {h h' : Heap} {x : HVal} (f : Frame h.length h h') (l : Holds P h' x) : Yields P h (h', x) := ⟨f, l⟩

theorem Yields.same {h : Heap} {x : HVal} (l : Holds P h x) : Yields P h (h, x) := ⟨Frame.refl _ _, l⟩

theorem Yields.other (h : Heap) (v : V) : Yields P h (h, .other v) := .same (holds_other P h v)
theorem Yields.err (h : Heap) : Yields P h (h, .err) := .same (holds_err P h)

/-- operations compose: a later operation's frame is relative to the heap it starts from -/
theorem Yields.trans {h : Heap} {p q : Heap × HVal} (a : Yields P h p) (b : Yields P p.1 q) : Yields P h q :=
  ⟨a.1.seq b.1, b.2⟩

theorem Fresh.append {base : Nat} {h0 : Heap} {p : Heap × Slice} (f : Fresh base h0 p) (orc : Oracle) (z : Cell)
    (vs : List Cell) : Fresh base h0 (Arrai.C03.append orc z p.1 p.2 vs) :=
  have a := frame_append base orc z p.1 p.2 vs (Nat.le_of_lt (Nat.lt_of_le_of_lt f.ge f.lt)) f.ge f.lt
  ⟨f.frame.trans a.1, a.2.1, a.2.2⟩

theorem Fresh.reslice {base : Nat} {h0 : Heap} {p : Heap × Slice} (f : Fresh base h0 p) (i j : Nat) :
    Fresh base h0 (p.1, Arrai.C03.reslice p.2 i j) := ⟨f.frame, f.ge, f.lt⟩

theorem Made.mkSlice (h : Heap) (z : Cell) (n sp : Nat) : Made h (mkSlice h z n sp) :=
  ⟨frame_mkSlice _ h z n sp (Nat.le_refl _), Nat.le_refl _, wf_mkSlice h z n sp⟩

theorem Made.allocWith (orc : Oracle) (h : Heap) (cs : List Cell) : Made h (allocWith orc h cs) :=
  ⟨frame_allocWith _ orc h cs (Nat.le_refl _), Nat.le_refl _, wf_allocWith orc h cs⟩

theorem Made.after {h h1 : Heap} {q : Heap × Slice} (m : Made h1 q) (f : Frame h.length h h1) : Made h q :=
  ⟨f.seq m.frame, Nat.le_trans f.1 m.ge, m.wf⟩

theorem Made.append {h : Heap} {p : Heap × Slice} (m : Made h p) (orc : Oracle) (z : Cell) (vs : List Cell) :
    Made h (Arrai.C03.append orc z p.1 p.2 vs) :=
  have f := Fresh.append ⟨m.frame, m.ge, m.wf.arr⟩ orc z vs
  ⟨f.frame, f.ge, wf_append orc z p.1 p.2 vs m.wf⟩

theorem Made.storeAt {h : Heap} {p : Heap × Slice} (m : Made h p) (t : Slice) (ht : t.arr = p.2.arr) (i : Nat)
    (vs : List Cell) : Made h (Arrai.C03.store p.1 t i vs, p.2) :=
  ⟨m.frame.trans (frame_store _ p.1 t i vs (ht ▸ m.ge)), m.ge, m.wf.shape (shape_store p.1 t i vs)⟩

theorem Made.store {h : Heap} {p : Heap × Slice} (m : Made h p) (i : Nat) (vs : List Cell) :
    Made h (Arrai.C03.store p.1 p.2 i vs, p.2) := m.storeAt p.2 rfl i vs

theorem Made.copy {h : Heap} {p : Heap × Slice} (m : Made h p) (vs : List Cell) :
    Made h (Arrai.C03.copy p.1 p.2 vs, p.2) := m.storeAt p.2 rfl 0 _

theorem Made.appendAll {h : Heap} (orc : Oracle) (z : Cell) (chunks : List (List Cell)) {p : Heap × Slice}
    (m : Made h p) : Made h (Impl.appendAll orc z p chunks) :=
  foldl_inv (fun _ c m => m.append orc z c) chunks m

/-- the cells after a loop of `append`s -/
theorem read_appendAll (orc : Oracle) (z : Cell) (chunks : List (List Cell)) (p : Heap × Slice) (w : p.2.WF p.1) :
    read (Impl.appendAll orc z p chunks).1 (Impl.appendAll orc z p chunks).2 = read p.1 p.2 ++ chunks.flatten := by
  unfold Impl.appendAll
  induction chunks generalizing p with
  | nil => simp
  | cons c r ih =>
    simp only [List.foldl_cons, List.flatten_cons]
    rw [ih _ (wf_append orc z p.1 p.2 c w), read_append orc z p.1 p.2 c w, List.append_assoc]

theorem Made.foldStore {h : Heap} {α : Type} (t : Slice) (g : α → Nat) (w : α → List Cell) (xs : List α) {hh : Heap}
    (m : Made h (hh, t)) : Made h (xs.foldl (fun a x => Arrai.C03.store a t (g x) (w x)) hh, t) :=
  foldl_inv (I := fun a => Made h (a, t)) (fun _ x m => m.store (g x) (w x)) xs m

theorem made_clone (h : Heap) (s : Slice) : Made h (Impl.clone h s) := (Made.mkSlice h none s.len 0).copy (read h s)

theorem Made.ok (I : SliceInv P) {h : Heap} {p : Heap × Slice} (m : Made h p) : P p.1 p.2 := I.ofWF m.wf

theorem Made.yields (I : SliceInv P) {h h' : Heap} {s : Slice} (m : Made h (h', s)) (k : Kind) (off : Int) (aux : Nat) :
    Yields P h (h', .seq k s off aux) := ⟨m.frame, holds_seq.2 (m.ok I)⟩

/-! ### what `denseCells` hands out -/

theorem mapM_id_eq : ∀ {l : List Cell} {xs : List V}, l.mapM id = some xs → l = xs.map some
  | [], xs, e => by simp at e; subst e; rfl
  | none :: r, xs, e => by simp at e
  | some v :: r, xs, e => by
    simp only [List.mapM_cons, id, Option.bind_eq_bind, Option.bind_some] at e
    cases hr : r.mapM id with
    | none => rw [hr] at e; simp at e
    | some ys =>
      rw [hr] at e
      simp at e
      subst e
      simp [mapM_id_eq hr]

/-- what `denseCells` hands out: the value is `.seq k s 0 _` and its cells are exactly `xs` -/
theorem denseCells_spec {h : Heap} {x : HVal} {k : Kind} {s : Slice} {xs : List V}
    (e : Impl.denseCells h x = some (k, s, xs)) : (∃ aux, x = .seq k s 0 aux) ∧ read h s = xs.map some := by
  unfold Impl.denseCells at e
  cases x with
  | seq k' s' off aux =>
    simp only [] at e
    split at e
    · rename_i h0
      simp only [Option.map_eq_some_iff] at e
      obtain ⟨ys, hm, e⟩ := e
      simp at e
      obtain ⟨rfl, rfl, rfl⟩ := e
      exact ⟨⟨aux, by rw [h0]⟩, mapM_id_eq hm⟩
    · simp at e
  | other v => simp at e
  | err => simp at e

theorem holds_dense {h : Heap} {x : HVal} {k : Kind} {s : Slice} {xs : List V} (l : Holds P h x)
    (e : Impl.denseCells h x = some (k, s, xs)) : P h s ∧ xs.length ≤ s.len := by
  obtain ⟨⟨aux, rfl⟩, hr⟩ := denseCells_spec e
  have := read_length_le h s
  rw [hr, List.length_map] at this
  exact ⟨holds_seq.1 l, this⟩

/-! ### constructors -/

theorem holds_newOffsetString {h : Heap} {s : Slice} (hs : P h s) (off : Int) :
    Holds P h (Impl.newOffsetString h s off) := by
  unfold Impl.newOffsetString; split
  · exact holds_hnone P h
  · exact holds_seq.2 hs

theorem holds_newOffsetBytes {h : Heap} {s : Slice} (hs : P h s) (off : Int) : Holds P h (Impl.newOffsetBytes s off) := by
  unfold Impl.newOffsetBytes; split
  · exact holds_hnone P h
  · exact holds_seq.2 hs

section
variable (I : SliceInv P)
include I

theorem keeps_trimFront {h : Heap} {s : Slice} (hs : P h s) (off : Int) : P h (Impl.trimFront h s off).1 := by
  unfold Impl.trimFront
  simp only []
  split
  · rename_i c
    exact I.reslice _ _ hs (by have := read_length_le h s; omega) (Nat.le_refl _)
  · exact hs

theorem keeps_trimBack {h : Heap} {s : Slice} (hs : P h s) : P h (Impl.trimBack h s) := by
  unfold Impl.trimBack
  simp only []
  split
  · exact I.reslice 0 _ hs (Nat.zero_le _) (Nat.sub_le _ _)
  · exact hs

theorem holds_newOffsetArray {h : Heap} {s : Slice} (hs : P h s) (off : Int) :
    Holds P h (Impl.newOffsetArray h off s) := by
  unfold Impl.newOffsetArray
  simp only []
  split
  · exact holds_hnone P h
  · split
    · exact holds_hnone P h
    · exact holds_seq.2 (keeps_trimBack I (keeps_trimFront I hs off))

theorem keeps_trimHoles {h : Heap} {s : Slice} (hs : P h s) (off : Int) (holes : Nat) :
    P h (Impl.trimHoles h s off holes).1 := by
  unfold Impl.trimHoles
  simp only []
  exact I.reslice 0 _ (I.reslice _ _ hs (Nat.le_trans (leadingNone_le _) (read_length_le h s)) (Nat.le_refl _))
    (Nat.zero_le _) (Nat.sub_le _ _)

theorem yields_asSeq (k : Kind) (h : Heap) (ps : List (Int × V)) : Yields P h (Impl.asSeq k h ps) := by
  unfold Impl.asSeq
  cases ps with
  | nil => exact Yields.other h _
  | cons p r =>
    exact (Made.foldStore _ (fun iv : Int × V => (iv.1 - minIdx (p :: r)).toNat) (fun iv => [some iv.2]) (p :: r)
      (Made.mkSlice h k.fill _ 0)).yields I _ _ _

theorem yields_finishV (h : Heap) (v : V) : Yields P h (Impl.finishV h v) := by
  unfold Impl.finishV
  split
  · exact yields_asSeq I _ _ _
  · exact Yields.other h v

theorem yields_viaBuilder (h : Heap) (o : Option V) : Yields P h (Impl.viaBuilder h o) := by
  cases o with
  | none => exact Yields.err h
  | some v => exact yields_finishV I h v

theorem yields_joinResult (h : Heap) (o : Option V) : Yields P h (Impl.joinResult h o) := by
  cases o with
  | none => exact Yields.err h
  | some v =>
    simp only [Impl.joinResult]
    split
    · exact yields_asSeq I _ _ _
    · exact Yields.other h v

theorem yields_freshSeq (orc : Oracle) (k : Kind) (h : Heap) (xs : List V) : Yields P h (Impl.freshSeq orc k h xs) := by
  unfold Impl.freshSeq
  split
  · exact Yields.other h _
  · exact (Made.allocWith orc h _).yields I _ _ _

theorem yields_freshOpt (orc : Oracle) (k : Kind) (h : Heap) (o : Option (List V)) :
    Yields P h (Impl.freshOpt orc k h o) := by
  cases o with
  | none => exact Yields.err h
  | some xs => exact yields_freshSeq I orc k h xs

/-- the repaired `String.with` / `Bytes.with` -/
theorem yields_seqWith (orc : Oracle) (k : Kind) (h : Heap) (s : Slice) (off : Int) (aux : Nat) (at_ : Int) (c : V)
    (hs : P h s) : Yields P h (Impl.seqWith true orc k h s off aux at_ c) := by
  unfold Impl.seqWith
  simp only [if_true]
  have m := Made.mkSlice h k.zero 0 (1 + s.len)
  refine ite_ind (fun _ => ?_) fun _ => ite_ind (fun _ => ?_) fun _ => ite_ind (fun _ => ?_) fun _ =>
    ite_ind (fun _ => ?_) fun _ => ?_
  · exact Yields.same (holds_seq.2 hs)
  · exact ((m.append orc k.zero _).append orc k.zero _).yields I _ _ _
  · exact ((m.append orc k.zero _).append orc k.zero _).yields I _ _ _
  · exact yields_finishV I _ _
  · exact Yields.other h _

theorem yields_strWithout (h : Heap) (s : Slice) (off : Int) (holes : Nat) (at_ : Int) (c : V) (hs : P h s) :
    Yields P h (Impl.strWithout h s off holes at_ c) := by
  unfold Impl.strWithout
  extract_lets cs i p h2 h3 r t
  -- in each case `r` holds a re-slice of the receiver's slice or the fresh copy; the result's slice is `trimHoles` of that
  let Q : Heap × Slice × Int × Nat → Prop := fun r' => Frame h.length h r'.1 ∧ P r'.1 r'.2.1
  have key : Q r := by
    refine ite_ind (Q := Q) (fun hc => ?_) fun _ => ite_ind (Q := Q) (fun _ => ?_) fun _ =>
      ite_ind (Q := Q) (fun _ => ?_) fun _ => ⟨Frame.refl _ h, hs⟩
    · show Frame h.length h h ∧ P h (reslice s 1 s.len)
      exact ⟨Frame.refl _ h, I.reslice 1 s.len hs
        (by have := read_length_le h s; have := lt_length_of_getElem? hc.2; simp only [cs] at this; omega) (Nat.le_refl _)⟩
    · show Frame h.length h h ∧ P h (reslice s 0 (s.len - 1))
      exact ⟨Frame.refl _ h, I.reslice 0 (s.len - 1) hs (Nat.zero_le _) (Nat.sub_le _ _)⟩
    · have m := ((Made.mkSlice h (Kind.zero .S) s.len 0).copy (read h s)).store (Impl.index off s.len at_).toNat [none]
      exact ⟨m.frame, m.ok I⟩
  exact ite_ind (fun _ => Yields.mk key.1 (holds_hnone P _)) fun _ =>
    Yields.mk key.1 (holds_seq.2 (keeps_trimHoles I key.2 _ _))

theorem yields_bytesWithout (h : Heap) (s : Slice) (off : Int) (at_ : Int) (c : V) (hs : P h s) :
    Yields P h (Impl.bytesWithout h s off at_ c) := by
  unfold Impl.bytesWithout
  simp only []
  -- `hc` (the byte is there) gives `1 ≤ len` for the two re-slices
  refine ite_ind (fun hc => ?_) fun _ => Yields.same (holds_seq.2 hs)
  have front : P h (reslice s 1 s.len) := I.reslice 1 s.len hs (by omega) (Nat.le_refl _)
  have back : P h (reslice s 0 (Impl.index off s.len at_).toNat) := I.reslice 0 _ hs (Nat.zero_le _) (by omega)
  exact ite_ind (fun _ => Yields.other h _) fun _ =>
    ite_ind (fun _ => Yields.same (holds_seq.2 front)) fun _ =>
    ite_ind (fun _ => Yields.same (holds_seq.2 back)) fun _ => Yields.other h _

theorem yields_withItem (h : Heap) (s : Slice) (off : Int) (count : Nat) (at_ : Int) (item : V) (hs : P h s) :
    Yields P h (Impl.withItem h s off count at_ item) := by
  unfold Impl.withItem
  simp only []
  have m := (Made.mkSlice h none s.len 0).copy (read h s)
  refine ite_ind (fun _ => ?_) fun _ => ite_ind (fun _ => ?_) fun _ => ite_ind (fun _ => ?_) fun _ =>
    ite_ind (fun _ => ?_) fun _ => ?_
  · -- before the front
    exact (((Made.mkSlice h none (s.len + (-(at_ - off)).toNat) 0).storeAt (reslice _ _ _) rfl 0 _).store 0
      [some item]).yields I _ _ _
  · -- beyond the end
    exact (((Made.mkSlice h none ((at_ - off).toNat + 1) 0).copy (read h s)).store _ [some item]).yields I _ _ _
  · exact Yields.same (holds_seq.2 hs)
  · exact (m.store _ [some item]).yields I _ _ _
  · exact Yields.mk m.frame (holds_other P _ _)            -- a generic set: the copy was made all the same

theorem yields_arrWithout (h : Heap) (s : Slice) (off : Int) (count : Nat) (at_ : Int) (item : V) (hs : P h s) :
    Yields P h (Impl.arrWithout h s off count at_ item) := by
  unfold Impl.arrWithout
  simp only []
  have m := (made_clone h s).store (at_ - off).toNat [none]
  refine ite_ind (fun hc => ?_) fun _ => Yields.same (holds_seq.2 hs)
  have front : P h (reslice s 1 s.len) := I.reslice 1 s.len hs (by omega) (Nat.le_refl _)
  have back : P h (reslice s 0 (s.len - 1)) := I.reslice 0 (s.len - 1) hs (Nat.zero_le _) (Nat.sub_le _ _)
  exact ite_ind (fun _ => Yields.same (holds_newOffsetArray I front _)) fun _ =>
    ite_ind (fun _ => Yields.same (holds_newOffsetArray I back _)) fun _ =>
    ite_ind (fun _ => Yields.mk m.frame (holds_hnone P _)) fun _ => m.yields I _ _ _

theorem yields_arrWhere (h : Heap) (s : Slice) (off : Int) (p : Int → V → Bool) :
    Yields P h (Impl.arrWhere h s off p) := by
  unfold Impl.arrWhere
  simp only []
  have m := (made_clone h s).store 0 (Impl.whereCells p off (read h s))
  split
  · exact Yields.mk m.frame (holds_hnone P _)
  · refine Yields.mk m.frame (holds_seq.2 ?_)
    have hle : leadingNone (Impl.whereCells p off (read h s)) ≤ s.len :=
      Nat.le_trans (leadingNone_le _) (by rw [length_whereCells]; exact read_length_le h s)
    have p1 := ite_ind (c := 0 < leadingNone (Impl.whereCells p off (read h s)))
      (fun _ => I.reslice _ (Impl.clone h s).2.len (m.ok I) hle (Nat.le_refl _)) (fun _ => m.ok I)
    exact ite_ind (fun _ => I.reslice 0 _ p1 (Nat.zero_le _) (Nat.sub_le _ _)) (fun _ => p1)

theorem yields_withV (orc : Oracle) (h : Heap) (x : HVal) (k : Kind) (at_ : Int) (c : V) (l : Holds P h x) :
    Yields P h (Impl.withV true orc h x k at_ c) := by
  unfold Impl.withV
  cases x with
  | seq k' s off aux =>
    have hs := holds_seq.1 l
    simp only []
    split
    · cases k with
      | S => exact yields_seqWith I orc _ h s off aux at_ c hs
      | B => exact yields_seqWith I orc _ h s off aux at_ c hs
      | A => exact yields_withItem I h s off aux at_ c hs
    · exact Yields.other h _
  | other v =>
    simp only []
    split
    · split
      · exact yields_finishV I h _
      · exact Yields.other h _
    · exact Yields.err h
  | err => exact Yields.err h

theorem yields_withoutV (h : Heap) (x : HVal) (k : Kind) (at_ : Int) (c : V) (l : Holds P h x) :
    Yields P h (Impl.withoutV h x k at_ c) := by
  unfold Impl.withoutV
  cases x with
  | seq k' s off aux =>
    have hs := holds_seq.1 l
    simp only []
    split
    · cases k with
      | S => exact yields_strWithout I h s off aux at_ c hs
      | B => exact yields_bytesWithout I h s off at_ c hs
      | A => exact yields_arrWithout I h s off aux at_ c hs
    · exact Yields.same l
  | other v =>
    simp only []
    split
    · exact Yields.other h _
    · exact Yields.err h
  | err => exact Yields.err h

theorem holds_offsetV (h : Heap) (x : HVal) (n : Int) (l : Holds P h x) : Holds P h (Impl.offsetV h x n) := by
  unfold Impl.offsetV
  cases x with
  | seq k s off aux =>
    have hs := holds_seq.1 l
    cases k with
    | S => exact holds_newOffsetString hs _
    | B => exact holds_newOffsetBytes hs _
    | A => exact holds_newOffsetArray I hs _
  | other v =>
    simp only []
    split
    · exact holds_hnone P h
    · exact holds_err P h
  | err => exact holds_err P h

theorem yields_whereV (h : Heap) (x : HVal) (p : Pred) : Yields P h (Impl.whereV h x p) := by
  unfold Impl.whereV
  split
  · split
    · exact yields_arrWhere I _ _ _ _
    · exact Yields.err h
  · exact yields_viaBuilder I _ _

theorem yields_smapV (h : Heap) (x : HVal) (f : Fn) : Yields P h (Impl.smapV h x f) := by
  unfold Impl.smapV
  cases x with
  | seq k s off aux =>
    simp only []
    split
    · rename_i cs' _
      have m := (Made.mkSlice h k.zero s.len 0).store 0 cs'
      refine Yields.mk m.frame ?_
      cases k with
      | S => exact holds_newOffsetString (m.ok I) _
      | B => exact holds_newOffsetBytes (m.ok I) _
      | A => exact holds_newOffsetArray I (m.ok I) _
    · exact Yields.err h
  | other v =>
    simp only []
    split
    · exact Yields.other h _
    · exact Yields.err h
  | err => exact Yields.err h

theorem yields_unionV (orc : Oracle) (h : Heap) (a b : HVal) (la : Holds P h a) (lb : Holds P h b) :
    Yields P h (Impl.unionV true orc h a b) := by
  unfold Impl.unionV
  split
  · exact Yields.err h
  · exact Yields.err h
  · split
    · exact foldl_inv (fun p iv a => a.trans (yields_withV I orc p.1 p.2 _ iv.1 iv.2 a.2)) _ (Yields.same la)
    · exact yields_viaBuilder I _ _
  · split
    · exact Yields.same lb
    · split
      · exact Yields.same la
      · exact yields_viaBuilder I _ _

theorem holds_restV (h : Heap) (x : HVal) (k : Nat) (e : Bool) (l : Holds P h x) : Holds P h (Impl.restV h x k e) := by
  unfold Impl.restV
  split
  · rename_i s _ count
    have hs := holds_seq.1 l
    split
    · rename_i hc
      split
      · exact holds_newOffsetArray I (I.reslice 0 (count - k) hs (Nat.zero_le _) (by have := hc.2.1; omega)) _
      · exact holds_newOffsetArray I (I.reslice k count hs hc.1 (Nat.le_of_eq hc.2.1)) _
    · exact holds_err P h
  · exact holds_err P h

/-- the loops of arraySub / arrayJoin / repeat: `append` chunk after chunk onto a slice made for the result -/
theorem yields_arrLoop (orc : Oracle) (h : Heap) (n : Nat) (chunks : List (List Cell)) :
    Yields P h ((Impl.appendAll orc none (mkSlice h none 0 n) chunks).1,
      Impl.newOffsetArray (Impl.appendAll orc none (mkSlice h none 0 n) chunks).1 0
        (Impl.appendAll orc none (mkSlice h none 0 n) chunks).2) :=
  have m := Made.appendAll orc none chunks (Made.mkSlice h none 0 n)
  Yields.mk m.frame (holds_newOffsetArray I (m.ok I) _)

/-! ### one step of a history -/

theorem yields_run1 (orc : Oracle) (st : Impl.St) (inv : ∀ x, x ∈ st.vals → Holds P st.h x) (op : Op) :
    Yields P st.h (Impl.run1 true orc st op) := by
  have get := getD_of_forall (holds_err P st.h) inv
  cases op with
  | root k off cs =>
    dsimp only [Impl.run1]
    have m := Made.allocWith orc st.h cs
    refine Yields.mk m.frame ?_
    cases k with
    | S => exact holds_newOffsetString (m.ok I) _
    | B => exact holds_newOffsetBytes (m.ok I) _
    | A => exact holds_newOffsetArray I (m.ok I) _
  | const v => exact Yields.other _ v
  | with_ i k at_ x => exact yields_withV I orc st.h _ k at_ x (get i)
  | without i k at_ x => exact yields_withoutV I st.h _ k at_ x (get i)
  | offset i n => exact Yields.same (holds_offsetV I st.h _ n (get i))
  | where_ i p => exact yields_whereV I st.h _ p
  | smap i f => exact yields_smapV I st.h _ f
  | concat i j => exact yields_viaBuilder I _ _
  | union i j => exact yields_unionV I orc st.h _ _ (get i) (get j)
  | join i j => exact yields_joinResult I _ _
  | rest i k => exact Yields.same (holds_restV I st.h _ k false (get i))
  | front i k => exact Yields.same (holds_restV I st.h _ k true (get i))
  | trimPrefix p s =>
    dsimp only [Impl.run1]
    split
    · rename_i kp _ xp ks ss xs e1 e2
      have ⟨hss, hlen⟩ := holds_dense (get s) e2
      refine ite_ind (fun _ => Yields.err _) fun _ => ?_
      cases ks with
      | S => exact yields_freshSeq I _ _ _ _
      | B =>
        simp only []
        split
        · rename_i hp
          exact Yields.same (holds_newOffsetBytes (I.reslice _ _ hss
            (by have := hasPrefix_length hp; omega) (Nat.le_refl _)) _)
        · exact Yields.same (holds_seq.2 hss)
      | A =>
        simp only []
        split
        · exact yields_viaBuilder I _ _
        · exact Yields.same (get s)
    · exact Yields.err _
  | trimSuffix p s =>
    dsimp only [Impl.run1]
    split
    · rename_i kp _ xp ks ss xs e1 e2
      have hss := (holds_dense (get s) e2).1
      refine ite_ind (fun _ => Yields.err _) fun _ => ?_
      cases ks with
      | S => exact yields_freshSeq I _ _ _ _
      | B =>
        simp only []
        split
        · exact Yields.same (holds_newOffsetBytes (I.reslice 0 _ hss (Nat.zero_le _) (Nat.sub_le _ _)) _)
        · exact Yields.same (holds_seq.2 hss)
      | A =>
        simp only []
        split
        · exact yields_viaBuilder I _ _
        · exact Yields.same (get s)
    · exact Yields.err _
  | sub o n s =>
    dsimp only [Impl.run1]
    split
    · rename_i ko _ xo kn _ xn ks _ xs e1 e2 e3
      refine ite_ind (fun _ => Yields.err _) fun _ => ?_
      cases ks with
      | S => exact yields_freshSeq I _ _ _ _
      | B => exact yields_freshSeq I _ _ _ _
      | A => exact yields_arrLoop I orc st.h _ _
    · exact Yields.err _
  | split d s =>
    dsimp only [Impl.run1]
    split
    · exact ite_ind (fun _ => Yields.err _) fun _ => yields_freshSeq I _ _ _ _
    · exact Yields.err _
  | piece d s k =>
    dsimp only [Impl.run1]
    split
    · rename_i kd _ xd ks ss xs e1 e2
      have ⟨hss, hlen⟩ := holds_dense (get s) e2
      refine ite_ind (fun _ => Yields.err _) fun _ => ?_
      cases ks with
      | S => exact yields_freshOpt I _ _ _ _
      | B => exact yields_freshOpt I _ _ _ _
      | A =>
        simp only []
        split
        · rename_i a b hab
          have hb := pieceBounds_bound xd (xs.length + 1) 0 xs a b (List.mem_of_getElem? hab)
          exact Yields.same (holds_newOffsetArray I (I.reslice a b hss hb.2.1
            (by omega)) _)
        · exact Yields.err _
    · exact Yields.err _
  | sjoin d s =>
    dsimp only [Impl.run1]
    split
    · rename_i kd _ xd _ items e1 e2
      split
      · cases kd with
        | S => exact yields_freshSeq I _ _ _ _
        | B => exact Yields.err _
        | A => exact yields_arrLoop I orc st.h _ _
      · exact Yields.err _
    · exact Yields.err _
  | repeat_ n i =>
    dsimp only [Impl.run1]
    split
    · exact yields_arrLoop I orc st.h _ _
    · exact yields_freshSeq I _ _ _ _
    · exact Yields.err _
  | sconcat i j =>
    dsimp only [Impl.run1]
    split
    · rename_i ki _ xi kj _ xj e1 e2
      refine ite_ind (fun _ => Yields.err _) fun _ => ?_
      cases ki with
      | S => exact yields_freshSeq I _ _ _ _
      | B => exact yields_viaBuilder I _ _
      | A => exact yields_viaBuilder I _ _
    · exact Yields.err _

end

theorem run1_frame (orc : Oracle) (st : Impl.St) (op : Op) : Frame st.h.length st.h (Impl.run1 true orc st op).1 :=
  (yields_run1 SliceInv.any orc st (fun _ _ _ _ => ⟨⟩) op).1

end Arrai.C03
