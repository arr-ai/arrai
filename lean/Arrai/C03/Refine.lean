/-
  C03 — refinement, list level: how the list operations the heap model performs on cells (append at the end, prepend,
  place on a fresh run of holes, drop the first / the last, blank one cell, trim holes, shift the offset) correspond to
  the `V`-level specification (`Spec.with_`, `Spec.without`, `Spec.offset`).  Each is the criterion of SeqDen.lean
  (`with_kden`, `without_at`, …) at what the keyed-sequence library (Arrai/C01/KSeq.lean) says the surgery does to the
  function the cells denote.
-/
import Arrai.C03.SeqDen
import Arrai.C03.Lemmas

namespace Arrai.C03
open Impl Arrai.C01.KSeq

/-- `some (snap …)` of a result, `none` for a failed evaluation -/
def snapO (p : Heap × HVal) : Option V :=
  match p.2 with
  | .err => none
  | x => some (snap p.1 x)

theorem snapO_seq (h : Heap) (k : Kind) (s : Slice) (off : Int) (aux : Nat) :
    snapO (h, .seq k s off aux) = some (V.mkSeq k.attr off (read h s)) := rfl
theorem snapO_other (h : Heap) (v : V) : snapO (h, .other v) = some v := rfl
theorem snapO_of_ne_err {h : Heap} {x : HVal} (hx : x ≠ .err) : snapO (h, x) = some (snap h x) := by
  unfold snapO; split
  · rename_i he; exact absurd he hx
  · rfl

theorem snapO_ite {c : Prop} [Decidable c] {a b : Heap × HVal} {r : Option V} (ha : c → snapO a = r)
    (hb : ¬c → snapO b = r) : snapO (if c then a else b) = r :=
  ite_ind (Q := fun p => snapO p = r) ha hb

/-! ### list facts -/

theorem getElem?_toNat_of {cs : List Cell} {i : Int} {c : V} (h0 : 0 ≤ i) (e : cs[i.toNat]? = some (some c)) :
    ∃ j : Nat, cs[j]? = some (some c) ∧ i = (j : Int) := ⟨i.toNat, e, by omega⟩

theorem leadingNone_split (cs : List Cell) :
    List.replicate (leadingNone cs) none ++ cs.drop (leadingNone cs) = cs := by
  induction cs with
  | nil => rfl
  | cons c r ih =>
    cases c with
    | some v => rfl
    | none => exact congrArg (none :: ·) ih

theorem trailingNone_split (cs : List Cell) :
    cs.take (cs.length - leadingNone cs.reverse) ++ List.replicate (leadingNone cs.reverse) none = cs := by
  have h := congrArg List.reverse (leadingNone_split cs.reverse)
  rw [List.reverse_append, List.reverse_replicate, List.drop_reverse, List.reverse_reverse, List.reverse_reverse] at h
  exact h

theorem mkSeq_drop_leadingNone (k : Kind) (off : Int) (cs : List Cell) :
    V.mkSeq k.attr (off + leadingNone cs) (cs.drop (leadingNone cs)) = V.mkSeq k.attr off cs := by
  conv => rhs; rw [← leadingNone_split cs]
  rw [mkSeq_eq, mkSeq_eq, kden_append, kden_replicate_none, List.length_replicate, List.nil_append]

theorem mkSeq_take_trailingNone (k : Kind) (off : Int) (cs : List Cell) :
    V.mkSeq k.attr off (cs.take (cs.length - leadingNone cs.reverse)) = V.mkSeq k.attr off cs := by
  conv => rhs; rw [← trailingNone_split cs]
  rw [mkSeq_eq, mkSeq_eq, kden_append, kden_replicate_none, List.append_nil]

/-! ### the cached counts -/

theorem countSome_eq_kcount (cs : List Cell) : countSome cs = kcount cs := by
  induction cs with
  | nil => rfl
  | cons c r ih => cases c <;> simp [countSome, kcount] at ih ⊢ <;> omega

theorem countNone_eq_kholes (cs : List Cell) : countNone cs = kholes cs := by
  induction cs with
  | nil => rfl
  | cons c r ih => cases c <;> simp [countNone, kholes] at ih ⊢ <;> omega

theorem countSome_add_countNone (cs : List Cell) : countSome cs + countNone cs = cs.length := by
  rw [countSome_eq_kcount, countNone_eq_kholes]; exact kcount_add_kholes cs

theorem mkSeq_no_some (k : Kind) (off : Int) (cs : List Cell) (h0 : countSome cs = 0) : V.mkSeq k.attr off cs = V.none := by
  rw [mkSeq_eq, kden_nil_of_kcount_zero cs off (countSome_eq_kcount cs ▸ h0)]; rfl

theorem counts_set_none {cs : List Cell} {i : Nat} {c : V} (hc : cs[i]? = some (some c)) :
    countNone (cs.set i none) = countNone cs + 1 ∧ countSome (cs.set i none) + 1 = countSome cs := by
  simp only [countNone_eq_kholes, countSome_eq_kcount]
  exact counts_eraseAt cs i c (kget_eq_some.2 hc)

theorem countNone_drop_one {cs : List Cell} {n : Nat} {c : V} (hc : cs[n]? = some (some c)) (h0 : n = 0) :
    countNone (cs.drop 1) = countNone cs := by
  simp only [countNone_eq_kholes]
  exact kholes_drop_one (kget_eq_some.2 (h0 ▸ hc))

theorem countNone_dropLast {cs : List Cell} {n : Nat} {c : V} (hc : cs[n]? = some (some c)) (h1 : n + 1 = cs.length) :
    countNone (cs.take n) = countNone cs := by
  simp only [countNone_eq_kholes]
  exact kholes_take_last (kget_eq_some.2 hc) h1.symm

theorem countNone_drop_leadingNone (cs : List Cell) : countNone (cs.drop (leadingNone cs)) + leadingNone cs = countNone cs := by
  rw [countNone_eq_kholes, countNone_eq_kholes]
  conv => rhs; rw [← leadingNone_split cs, kholes_append, kholes_replicate_none]
  exact Nat.add_comm _ _

theorem countNone_take_trailingNone (cs : List Cell) :
    countNone (cs.take (cs.length - leadingNone cs.reverse)) + leadingNone cs.reverse = countNone cs := by
  rw [countNone_eq_kholes, countNone_eq_kholes]
  conv => rhs; rw [← trailingNone_split cs, kholes_append, kholes_replicate_none]

/-! ### Go's index arithmetic (`With` and `Without` alike) -/

theorem index_eq {off : Int} {len : Nat} {at_ : Int} (h : 0 ≤ index off len at_) : index off len at_ = at_ - off := by
  unfold index at h ⊢
  split
  · rfl
  · rename_i c; rw [if_neg c] at h; omega

theorem index_at {off : Int} {len j : Nat} {at_ : Int} (hj : j < len) (e : at_ = off + j) : index off len at_ = j := by
  unfold index; rw [if_pos (by omega)]; omega

/-- Go's test "the element is there", as `Array.Without` writes it (`at_ - off`) … -/
theorem hit_sub {cs : List Cell} {off at_ : Int} {len : Nat} {c : V} (hl : cs.length ≤ len) :
    (0 ≤ at_ - off ∧ at_ - off < len ∧ cs[(at_ - off).toNat]? = some (some c)) ↔ (at_, c) ∈ kden cs off := by
  rw [mem_kden, kget_eq_some]
  constructor
  · rintro ⟨h0, _, e⟩; exact ⟨by omega, e⟩
  · rintro ⟨h0, e⟩
    have := lt_length_of_getElem? e
    exact ⟨by omega, by omega, e⟩

/-- … and as `String.with` and `Bytes.Without` write it (`s.index(at_)`) -/
theorem hit_index {cs : List Cell} {off at_ : Int} {len : Nat} {c : V} (hl : cs.length ≤ len) :
    (0 ≤ index off len at_ ∧ index off len at_ < len ∧ cs[(index off len at_).toNat]? = some (some c)) ↔
      (at_, c) ∈ kden cs off := by
  unfold index
  split
  · exact hit_sub hl
  · refine ⟨fun h => absurd h.1 (by omega), fun hm => ?_⟩
    have := (hit_sub hl).2 hm
    omega

/-! ### with -/

/-- `with` of an element that is already there: the value itself, and that is what the specification says -/
theorem with_present (k : Kind) {off : Int} {cs : List Cell} {at_ : Int} {c : V} (hc : (at_, c) ∈ kden cs off) :
    Spec.with_ (V.mkSeq k.attr off cs) (tupleOf k at_ c) = some (V.mkSeq k.attr off cs) :=
  with_kden k fun _ _ => ⟨Or.inr, fun h => h.elim (fun e => e.1 ▸ e.2 ▸ hc) id⟩

/-- `with` onto a fresh array: `cs` laid from position `m` on over `n` holes, then the new element set at position `q`, which no
element of `cs` occupies (before the front with a gap, beyond the end with a gap, into a hole) -/
theorem with_placed {k : Kind} {off off' : Int} {cs : List Cell} {n m q : Nat} {at_ : Int} {x : V}
    (hm : m + cs.length ≤ n) (hq : q < n) (hoff : off' = off - m) (hat : at_ = off' + q)
    (hfree : ∀ j v, kget cs j = some v → m + j ≠ q) :
    Spec.with_ (V.mkSeq k.attr off cs) (tupleOf k at_ x)
      = some (V.mkSeq k.attr off' ((overwrite (List.replicate n none) m cs).set q (some x))) := by
  have key : ∀ j, kget ((overwrite (List.replicate n none) m cs).set q (some x)) j
      = if j = q then some x else if m ≤ j then kget cs (j - m) else none := by
    intro j
    have hole : (if j < n then some (none : Cell) else none).join = none := by split <;> rfl
    rw [kget_set, length_overwrite, List.length_replicate]
    by_cases e : j = q
    · subst e; rw [if_pos ⟨rfl, hq⟩, if_pos rfl]
    · rw [if_neg (fun c => e c.1.symm), if_neg e]
      unfold kget
      rw [getElem?_overwrite, List.length_replicate, List.getElem?_replicate]
      by_cases c : m ≤ j ∧ j < m + cs.length
      · rw [if_pos ⟨c.1, c.2, by omega⟩, if_pos c.1]
      · rw [if_neg (by omega), hole]
        split
        · rw [List.getElem?_eq_none (by omega)]; rfl
        · rfl
  apply with_kden
  intro a v
  simp only [mem_kden_nat, key]
  constructor
  · rintro ⟨j, rfl, hj⟩
    split at hj
    · exact Or.inl ⟨by omega, (Option.some.inj hj).symm⟩
    · split at hj
      · exact Or.inr ⟨j - m, by omega, hj⟩
      · cases hj
  · rintro (⟨rfl, rfl⟩ | ⟨j, rfl, hj⟩)
    · exact ⟨q, by omega, by rw [if_pos rfl]⟩
    · exact ⟨m + j, by omega, by rw [if_neg (hfree j v hj), if_pos (by omega), show m + j - m = j by omega]; exact hj⟩

/-- `with` at the end: the cells followed by the new element -/
theorem with_end (k : Kind) (off : Int) (cs : List Cell) (c : V) :
    Spec.with_ (V.mkSeq k.attr off cs) (tupleOf k (off + cs.length) c) = some (V.mkSeq k.attr off (cs ++ [some c])) :=
  with_kden k (mem_kden_push_back cs off c)

/-- `with` just before the front: the new element followed by the cells, one index lower -/
theorem with_front (k : Kind) (off : Int) (cs : List Cell) (c : V) :
    Spec.with_ (V.mkSeq k.attr off cs) (tupleOf k (off - 1) c) = some (V.mkSeq k.attr (off - 1) (some c :: cs)) :=
  with_kden k (mem_kden_push_front cs off c)

/-! ### without -/

theorem without_front (k : Kind) (off : Int) {cs : List Cell} {n : Nat} {c : V} (hc : cs[n]? = some (some c)) (h0 : n = 0) :
    Spec.without (V.mkSeq k.attr off cs) (tupleOf k (off + n) c) = some (V.mkSeq k.attr (off + 1) (cs.drop 1)) :=
  without_at k (mem_kden_at off (kget_eq_some.2 hc)) fun j y => by
    rw [mem_kden_drop_one, h0, Int.natCast_zero, Int.add_zero]

theorem without_end (k : Kind) (off : Int) {cs : List Cell} {n : Nat} {c : V} (hc : cs[n]? = some (some c))
    (h1 : n + 1 = cs.length) :
    Spec.without (V.mkSeq k.attr off cs) (tupleOf k (off + n) c) = some (V.mkSeq k.attr off (cs.take n)) := by
  obtain rfl : n = cs.length - 1 := by omega
  exact without_at k (mem_kden_at off (kget_eq_some.2 hc)) (mem_kden_drop_last cs off)

/-- the middle case: a copy with `newS[i] = -1` / `result.values[i] = nil` -/
theorem without_mid (k : Kind) (off : Int) {cs : List Cell} {n : Nat} {c : V} (hc : cs[n]? = some (some c)) :
    Spec.without (V.mkSeq k.attr off cs) (tupleOf k (off + n) c) = some (V.mkSeq k.attr off (cs.set n none)) :=
  without_at k (mem_kden_at off (kget_eq_some.2 hc)) (mem_kden_eraseAt cs off n)

/-- removing something that is not there -/
theorem without_absent (k : Kind) {off : Int} {cs : List Cell} {at_ : Int} {c : V} (hno : (at_, c) ∉ kden cs off) :
    Spec.without (V.mkSeq k.attr off cs) (tupleOf k at_ c) = some (V.mkSeq k.attr off cs) :=
  without_kden k fun _ _ => ⟨fun hm => ⟨hm, fun e => hno (e.1 ▸ e.2 ▸ hm)⟩, And.left⟩

/-! ### OffsetExpr: the same cells under a shifted offset -/

theorem shiftAt_tup (n : Int) (k : Kind) (i : Int) (x : V) : Spec.shiftAt n (tup k i x) = tup k (i + n) x := by
  simp [Spec.shiftAt, decodeTuple_tup, tupleOf_eq]

/-- shifting every member by `n` is the same cells at offset `off + n` -/
theorem offset_members (k : Kind) (off n : Int) (cs : List Cell) :
    V.mkSet ((members (V.mkSeq k.attr off cs)).map (Spec.shiftAt n)) = V.mkSeq k.attr (off + n) cs := by
  rw [mkSeq_eq k (off + n)]
  apply V.mkSet_congr
  intro y
  rw [List.mem_map, mem_tagged]
  simp only [members_mkSeq, mem_tagged, mem_kden_nat]
  constructor
  · rintro ⟨_, ⟨_, v, rfl, j, rfl, hj⟩, rfl⟩
    exact ⟨_, v, shiftAt_tup n k _ v, j, by omega, hj⟩
  · rintro ⟨_, v, rfl, j, rfl, hj⟩
    exact ⟨tup k (off + j) v, ⟨_, v, rfl, j, rfl, hj⟩, by rw [shiftAt_tup]; congr 1; omega⟩

end Arrai.C03
