/-
  C03 — relations: what every transliterated relational operation (as repaired, and with `values()` copying as it does)
  yields, for any property `P` of slices as in Ops.lean (`SliceInv P`): it stores only into arrays it allocated itself (for
  any state: `run1_frame`), and the heading and all rows of its result satisfy `P` if those of the operands do (`yieldsR_run1`).
-/
import Arrai.C03.Rel
import Arrai.C03.Ops

namespace Arrai.C03.Rel
open Arrai.C03

def HoldsR (P : Heap → Slice → Prop) (h : Heap) (x : RVal) : Prop := ∀ s, s ∈ x.slices → P h s

def YieldsR (P : Heap → Slice → Prop) (h : Heap) (p : Heap × RVal) : Prop := Frame h.length h p.1 ∧ HoldsR P p.1 p.2

structure Rows (P : Heap → Slice → Prop) (h : Heap) (p : Heap × List Slice) : Prop where
  frame : Frame h.length h p.1
  ok : ∀ s, s ∈ p.2 → P p.1 s

variable {P : Heap → Slice → Prop}

theorem holdsR_other (P : Heap → Slice → Prop) (h : Heap) (v : V) : HoldsR P h (.other v) := by
  intro s hs; simp [RVal.slices] at hs
theorem holdsR_err (P : Heap → Slice → Prop) (h : Heap) : HoldsR P h .err := by intro s hs; simp [RVal.slices] at hs

theorem holdsR_rel {h : Heap} {r : RRel} (ha : P h r.attrs) (hr : ∀ s, s ∈ r.rows → P h s) : HoldsR P h (.rel r) := by
  intro s hs
  simp only [RVal.slices, List.mem_cons] at hs
  rcases hs with rfl | hs
  · exact ha
  · exact hr s hs

theorem HoldsR.attrs {h : Heap} {r : RRel} (l : HoldsR P h (.rel r)) : P h r.attrs := l _ (by simp [RVal.slices])
theorem HoldsR.row {h : Heap} {r : RRel} (l : HoldsR P h (.rel r)) {s : Slice} (hs : s ∈ r.rows) : P h s :=
  l _ (by simp [RVal.slices, hs])

theorem YieldsR.mk {h h' : Heap} {x : RVal} (f : Frame h.length h h') (l : HoldsR P h' x) : YieldsR P h (h', x) := ⟨f, l⟩
theorem YieldsR.same {h : Heap} {x : RVal} (l : HoldsR P h x) : YieldsR P h (h, x) := ⟨Frame.refl _ _, l⟩
theorem YieldsR.other (h : Heap) (v : V) : YieldsR P h (h, .other v) := .same (holdsR_other P h v)
theorem YieldsR.err (h : Heap) : YieldsR P h (h, .err) := .same (holdsR_err P h)
theorem YieldsR.trans {h : Heap} {p q : Heap × RVal} (a : YieldsR P h p) (b : YieldsR P p.1 q) : YieldsR P h q :=
  ⟨a.1.seq b.1, b.2⟩

theorem Rows.start {h h1 : Heap} (f : Frame h.length h h1) : Rows P h (h1, []) := ⟨f, fun _ hs => by simp at hs⟩

/-! ### slices the relational operations make -/

theorem made_appendEach {h : Heap} (orc : Oracle) (cs : List Cell) {q : Heap × Slice} (m : Made h q) :
    Made h (Impl.appendEach orc q cs) :=
  foldl_inv (fun _ c m => m.append orc none [c]) cs m

theorem made_allocNames (orc : Oracle) (h : Heap) (cap : Nat) (names : List Nat) :
    Made h (Impl.allocNames orc h cap names) := made_appendEach orc _ (Made.mkSlice h none 0 cap)

/-- `projectedValues.values()` as it is: every branch hands back a slice made in the call -/
theorem made_projValues (orc : Oracle) (h : Heap) (row : Slice) (p : List Nat) :
    Made h (Impl.projValues Impl.repaired orc h row p) := by
  unfold Impl.projValues
  simp only [Impl.repaired, Bool.not_true, Bool.false_and]
  split
  · exact Made.mkSlice h none 0 0
  · simp only [Bool.false_eq_true, if_false]
    split
    · exact (Made.mkSlice h none _ 0).copy _
    · exact made_appendEach orc _ (Made.mkSlice h none 0 p.length)

theorem made_tupleToValues (h : Heap) (r : RRel) (t : List (Nat × V)) : Made h (Impl.tupleToValues h r t) := by
  unfold Impl.tupleToValues
  simp only []
  exact Made.foldStore _ (fun np : Nat × Nat => np.2) (fun np => [(t.find? (·.1 = np.1)).map (·.2)]) _
    (Made.mkSlice h none _ 0)

/-- `Joiner`'s partition of the names only allocates (the two headings it hands to `Relation.Join` are read, never kept) -/
theorem frame_partition (o : JoinOp) (orc : Oracle) (h : Heap) (l r : RRel) (ln rn common : List Nat) :
    Frame h.length h (Impl.partition o orc h l r ln rn common).1 := by
  have e := fun (hh : Heap) => Made.mkSlice hh none 0 0
  have m := fun (hh : Heap) (a b : List Nat) => made_allocNames orc hh a.length (Impl.minusN a b)
  unfold Impl.partition
  simp only []
  cases o with
  | join =>
    simp only []
    split
    · exact (e h).frame
    · split
      · exact (e h).frame
      · exact (m h rn ln).frame
  | compose => exact (m h ln common).frame.seq (m _ rn common).frame
  | common => exact (made_allocNames orc h common.length common).frame.seq (e _).frame
  | exists_ => exact (e h).frame.seq (e _).frame
  | rmatch => exact (e h).frame
  | lmatch => exact (e h).frame
  | rresidue => exact (e h).frame.seq (m _ rn common).frame
  | lresidue => exact (m h ln common).frame.seq (e _).frame

section
variable (I : SliceInv P)
include I

theorem HoldsR.grow {h h' : Heap} {x : RVal} (l : HoldsR P h x) (sh : Shape h h') : HoldsR P h' x :=
  fun s hs => I.grow (l s hs) sh

theorem Rows.push {h : Heap} {p : Heap × List Slice} (a : Rows P h p) {q : Heap × Slice} (m : Made p.1 q) :
    Rows P h (q.1, p.2 ++ [q.2]) :=
  ⟨a.frame.seq m.frame, forall_mem_snoc (fun s hs => I.grow (a.ok s hs) m.frame.shape) (m.ok I)⟩

theorem rows_keepEverything {h h1 : Heap} (f : Frame h.length h h1) (orc : Oracle) (lrows rrows : List Slice)
    (lk rk lo ro : List Nat) : Rows P h (Impl.keepEverything Impl.repaired orc h1 lrows rrows lk rk lo ro) := by
  unfold Impl.keepEverything
  refine foldl_inv (fun acc l a => foldl_inv (fun acc r a => ?_) rrows a) lrows (Rows.start f)
  -- a matching pair: the right row's values, then the left row's, both made in the call; appended onto the latter
  split
  · have o1 := made_projValues orc acc.1 r ro
    exact a.push I (((made_projValues orc _ l lo).after o1.frame).append orc none _)
  · exact a

theorem rows_oneSide {h h1 : Heap} (f : Frame h.length h h1) (orc : Oracle) (bs os : List Slice)
    (key okey out : List Nat) (hb : ∀ s, s ∈ bs → P h1 s) :
    Rows P h (Impl.oneSide Impl.repaired orc h1 bs os key okey out) := by
  unfold Impl.oneSide
  simp only []
  split
  · exact ⟨f, fun s hs => hb s (List.mem_filter.1 hs).1⟩
  · refine foldl_inv (fun acc b a => ?_) bs (Rows.start f)
    split
    · exact a.push I (made_projValues orc _ b out)
    · exact a

theorem rows_commonOnly {h h1 : Heap} (f : Frame h.length h h1) (lrows rrows : List Slice)
    (lk rk lo ro : List Nat) : Rows P h (Impl.commonOnly h1 lrows rrows lk rk lo ro) := by
  unfold Impl.commonOnly
  simp only []
  exact foldl_inv (fun acc k a => a.push I ((Made.mkSlice _ none _ 0).copy _)) _ (Rows.start f)

theorem rows_rowsJoin {h h1 : Heap} (f : Frame h.length h h1) (orc : Oracle) (lrows rrows : List Slice)
    (lk rk lo ro : List Nat) (hl : ∀ s, s ∈ lrows → P h1 s) (hr : ∀ s, s ∈ rrows → P h1 s) :
    Rows P h ((Impl.rowsJoin Impl.repaired orc h1 lrows rrows lk rk lo ro).1,
      ((Impl.rowsJoin Impl.repaired orc h1 lrows rrows lk rk lo ro).2.1).getD []) := by
  unfold Impl.rowsJoin
  split
  · exact rows_keepEverything I f orc lrows rrows lk rk lo ro
  · exact rows_keepEverything I f orc lrows rrows lk rk lo ro
  · exact rows_oneSide I f orc lrows rrows lk rk lo hl
  · exact rows_oneSide I f orc lrows rrows lk rk lo hl
  · exact rows_oneSide I f orc rrows lrows rk lk ro hr
  · exact rows_oneSide I f orc rrows lrows rk lk ro hr
  · exact rows_commonOnly I f lrows rrows lk rk lo ro
  · exact Rows.start f

/-- `Relation.Join` as repaired -/
theorem yieldsR_joinRel (orc : Oracle) (o : JoinOp) (h : Heap) (l r : RRel) (ll : HoldsR P h (.rel l))
    (lr : HoldsR P h (.rel r)) : YieldsR P h (Impl.joinRel Impl.repaired orc o h l r) := by
  unfold Impl.joinRel
  simp only []
  have pt := frame_partition o orc h l r (namesOf h l) (namesOf h r) (Impl.intersectN (namesOf h l) (namesOf h r))
  generalize Impl.partition o orc h l r (namesOf h l) (namesOf h r) (Impl.intersectN (namesOf h l) (namesOf h r)) = Pt at pt
  have rj := rows_rowsJoin I pt orc l.rows r.rows
    (Impl.compose l.p (Impl.indicesOf (namesOf h l) (Impl.intersectN (namesOf h l) (namesOf h r))))
    (Impl.compose r.p (Impl.indicesOf (namesOf h r) (Impl.intersectN (namesOf h l) (namesOf h r))))
    (Impl.compose l.p (Impl.indicesOf (namesOf h l) Pt.2.1.names))
    (Impl.compose r.p (Impl.indicesOf (namesOf h r) Pt.2.2.names))
    (fun s hs => I.grow (ll.row hs) pt.shape) (fun s hs => I.grow (lr.row hs) pt.shape)
  generalize Impl.rowsJoin Impl.repaired orc Pt.1 l.rows r.rows _ _ _ _ = R at rj
  split
  · exact YieldsR.mk rj.frame (holdsR_other P _ _)
  · rename_i rows hrows
    rw [hrows] at rj
    simp only [Option.getD_some] at rj
    split
    · exact YieldsR.mk rj.frame (holdsR_other P _ _)
    · split
      · exact YieldsR.mk rj.frame (holdsR_other P _ _)
      · simp only [Impl.repaired, if_true]
        -- the heading: two appends onto a slice made for it
        have a := ((Made.mkSlice R.1 none 0 (Pt.2.1.names.length + Pt.2.2.names.length)).append orc none
          (read (mkSlice R.1 none 0 (Pt.2.1.names.length + Pt.2.2.names.length)).1 Pt.2.1.s)).append orc none
          (read (append orc none (mkSlice R.1 none 0 (Pt.2.1.names.length + Pt.2.2.names.length)).1
            (mkSlice R.1 none 0 (Pt.2.1.names.length + Pt.2.2.names.length)).2
            (read (mkSlice R.1 none 0 (Pt.2.1.names.length + Pt.2.2.names.length)).1 Pt.2.1.s)).1 Pt.2.2.s)
        exact YieldsR.mk (rj.frame.seq a.frame) (holdsR_rel (a.ok I) (fun s hs => I.grow (rj.ok s hs) a.frame.shape))

theorem rows_ofTuples {h h1 : Heap} (f : Frame h.length h h1) {α : Type} (n : Nat) (cellsOf : α → List Cell) (l : List α) :
    Rows P h (l.foldl (fun acc t =>
      let q := mkSlice acc.1 none n 0
      (store q.1 q.2 0 (cellsOf t), acc.2 ++ [q.2])) (h1, ([] : List Slice))) :=
  foldl_inv (fun _ _ a => a.push I ((Made.mkSlice _ none n 0).store 0 _)) l (Rows.start f)

theorem yieldsR_rowsOfTuples (orc : Oracle) (h : Heap) (names : List Cell) {α : Type} (n : Nat) (cellsOf : α → List Cell)
    (l : List α) (p : List Nat) :
    YieldsR P h ((l.foldl (fun acc t =>
        let q := mkSlice acc.1 none n 0
        (store q.1 q.2 0 (cellsOf t), acc.2 ++ [q.2])) ((allocWith orc h names).1, ([] : List Slice))).1,
      .rel { attrs := (allocWith orc h names).2, p := p, rows := (l.foldl (fun acc t =>
        let q := mkSlice acc.1 none n 0
        (store q.1 q.2 0 (cellsOf t), acc.2 ++ [q.2])) ((allocWith orc h names).1, ([] : List Slice))).2 }) :=
  have hd := Made.allocWith orc h names
  have a := rows_ofTuples I (Frame.refl _ (allocWith orc h names).1) n cellsOf l
  YieldsR.mk (hd.frame.seq a.frame) (holdsR_rel (I.grow (hd.ok I) a.frame.shape) a.ok)

theorem yieldsR_relOfV (orc : Oracle) (h : Heap) (v : V) : YieldsR P h (Impl.relOfV orc h v) := by
  unfold Impl.relOfV
  split
  · exact YieldsR.other h v
  · rename_i ns _
    split
    · exact YieldsR.other h v
    · rename_i idx _
      split
      · exact YieldsR.other h v
      · exact yieldsR_rowsOfTuples I orc h (idx.map nameCell) ns.length (fun t => ns.map (fun n => tget t n)) (members v) _

theorem yieldsR_litRel (orc : Oracle) (h : Heap) (names : List Nat) (rows : List (List V)) :
    YieldsR P h (Impl.litRel orc h names rows) := by
  unfold Impl.litRel
  split
  · exact YieldsR.other h _
  · exact yieldsR_rowsOfTuples I orc h (names.map nameCell) names.length (fun r : List V => r.map some) rows _

theorem yieldsR_viaBuilder (orc : Oracle) (h : Heap) (o : Option V) : YieldsR P h (Impl.viaBuilder orc h o) := by
  cases o with
  | none => exact YieldsR.err h
  | some v => exact yieldsR_relOfV I orc h v

theorem yieldsR_withR (h : Heap) (x : RVal) (t : List (Nat × V)) (l : HoldsR P h x) : YieldsR P h (Impl.withR h x t) := by
  unfold Impl.withR
  cases x with
  | rel r =>
    simp only []
    have v := made_tupleToValues h r t
    have l' := l.grow I v.frame.shape
    split
    · split
      · exact YieldsR.mk v.frame l'
      · exact YieldsR.mk v.frame (holdsR_rel l'.attrs (forall_mem_snoc (fun s hs => l'.row hs) (v.ok I)))
    · exact YieldsR.other h _
  | other v =>
    simp only []
    split
    · exact YieldsR.other h _
    · exact YieldsR.err h
  | err => exact YieldsR.err h

theorem yieldsR_withoutR (h : Heap) (x : RVal) (t : List (Nat × V)) (l : HoldsR P h x) :
    YieldsR P h (Impl.withoutR h x t) := by
  unfold Impl.withoutR
  cases x with
  | rel r =>
    simp only []
    have v := made_tupleToValues h r t
    have l' := l.grow I v.frame.shape
    split
    · split
      · exact YieldsR.mk v.frame (holdsR_other P _ _)
      · exact YieldsR.mk v.frame (holdsR_rel l'.attrs fun s hs => l'.row (List.mem_filter.1 hs).1)
    · exact YieldsR.same l
  | other v =>
    simp only []
    split
    · exact YieldsR.other h _
    · exact YieldsR.err h
  | err => exact YieldsR.err h

omit I in
theorem holdsR_whereR (h : Heap) (x : RVal) (n : Nat) (lt : Bool) (k : Int) (l : HoldsR P h x) :
    HoldsR P h (Impl.whereR h x n lt k) := by
  unfold Impl.whereR
  cases x with
  | rel r =>
    simp only []
    split
    · exact holdsR_err P h
    · split
      · exact holdsR_other P h _
      · exact holdsR_rel l.attrs fun s hs => l.row (List.mem_filter.1 hs).1
  | other v =>
    simp only []
    split
    · exact holdsR_other P h _
    · exact holdsR_err P h
  | err => exact holdsR_err P h

theorem yieldsR_unionR (orc : Oracle) (h : Heap) (a b : RVal) (la : HoldsR P h a) (lb : HoldsR P h b) :
    YieldsR P h (Impl.unionR orc h a b) := by
  unfold Impl.unionR
  split
  · exact YieldsR.err h
  · exact YieldsR.err h
  · rename_i ra rb
    simp only []
    split
    · exact foldl_inv (fun acc s a => a.trans (yieldsR_withR I acc.1 acc.2 _ a.2)) rb.rows (YieldsR.same la)
    · exact yieldsR_viaBuilder I _ _ _
  · split
    · exact YieldsR.same lb
    · split
      · exact YieldsR.same la
      · exact yieldsR_viaBuilder I _ _ _

/-! ### one step -/

theorem yieldsR_run1 (orc : Oracle) (st : Impl.St) (inv : ∀ x, x ∈ st.vals → HoldsR P st.h x) (op : ROp) :
    YieldsR P st.h (Impl.run1 Impl.repaired orc st op) := by
  have get := getD_of_forall (holdsR_err P st.h) inv
  cases op with
  | lit names rows => exact yieldsR_litRel I _ _ _ _
  | join o i j =>
    dsimp only [Impl.run1]
    have li := get i
    have lj := get j
    split
    · exact YieldsR.err _
    · exact YieldsR.err _
    · rename_i l r hl hr
      rw [hl] at li; rw [hr] at lj
      exact yieldsR_joinRel I orc o st.h l r li lj
    · exact yieldsR_viaBuilder I _ _ _
  | with_ i t => exact yieldsR_withR I st.h _ t (get i)
  | without i t => exact yieldsR_withoutR I st.h _ t (get i)
  | where_ i n lt k => exact YieldsR.same (holdsR_whereR st.h _ n lt k (get i))
  | union i j => exact yieldsR_unionR I orc st.h _ _ (get i) (get j)
  | derived d i =>
    dsimp only [Impl.run1]
    split
    · exact YieldsR.err _
    · exact yieldsR_viaBuilder I _ _ _

end

theorem run1_frame (orc : Oracle) (st : Impl.St) (op : ROp) :
    Frame st.h.length st.h (Impl.run1 Impl.repaired orc st op).1 :=
  (yieldsR_run1 SliceInv.any orc st (fun _ _ _ _ => ⟨⟩) op).1

end Arrai.C03.Rel
