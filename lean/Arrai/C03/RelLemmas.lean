/-
  C03 — relations: the two invariants of a history of relational operations — heading and rows of every value lie in
  the heap (`LiveR`, `InvR`) and inside their backing arrays (`WFR`, `InvWFR`) — and what reading through a later heap
  keeps.  They are `HoldsR` (RelOps.lean) at "the array exists" and at `Slice.WF`; `yieldsR_run1` is the step theorem for both.
  `Good` and `Ok` are `Fresh` (Ops.lean) with the heap's length carried along; `yieldsR_run1` does not go through them.
-/
import Arrai.C03.RelOps
import Arrai.C03.Lemmas

namespace Arrai.C03.Rel
open Arrai.C03

/-- heading and rows point into the heap -/
def LiveR (h : Heap) (x : RVal) : Prop := ∀ s, s ∈ x.slices → s.arr < h.length

theorem LiveR.mono {h h' : Heap} {x : RVal} (l : LiveR h x) (hl : h.length ≤ h'.length) : LiveR h' x :=
  fun s hs => Nat.lt_of_lt_of_le (l s hs) hl

theorem snapR_frame {h h' : Heap} (f : Frame h.length h h') {x : RVal} (l : LiveR h x) : snapR h' x = snapR h x := by
  cases x with
  | rel r =>
    simp only [snapR, namesOf, read_frame f _ (l _ (List.mem_cons_self ..))]
    congr 1
    exact List.map_congr_left fun s hs => by rw [read_frame f _ (l _ (List.mem_cons_of_mem _ hs))]
  | other v => rfl
  | err => rfl

theorem rcells_frame {h h' : Heap} (f : Frame h.length h h') {x : RVal} (l : LiveR h x) : rcells h' x = rcells h x := by
  cases x with
  | rel r =>
    simp only [rcells, read_frame f _ (l _ (List.mem_cons_self ..))]
    congr 1
    exact List.map_congr_left fun s hs => read_frame f _ (l _ (List.mem_cons_of_mem _ hs))
  | other v => rfl
  | err => rfl

/-! ### `Good`, `Ok`: a slice in an array of the operation's own -/

/-- the current heap is a framed extension of the heap the operation started from -/
def Good (base : Nat) (h0 h : Heap) : Prop := Frame base h0 h ∧ base ≤ h.length

/-- an action from `h` that produced a slice in an array of its own -/
structure Ok (base : Nat) (h0 h : Heap) (q : Heap × Slice) : Prop where
  good : Good base h0 q.1
  ge : base ≤ q.2.arr
  lt : q.2.arr < q.1.length
  mono : h.length ≤ q.1.length

theorem Ok.append {base : Nat} {h0 h : Heap} {q : Heap × Slice} (o : Ok base h0 h q) (orc : Oracle) (z : Cell)
    (vs : List Cell) : Ok base h0 h (Arrai.C03.append orc z q.1 q.2 vs) :=
  have f := Fresh.append ⟨o.good.1, o.ge, o.lt⟩ orc z vs
  have m := (shape_append orc z q.1 q.2 vs).1
  ⟨⟨f.frame, Nat.le_trans o.good.2 m⟩, f.ge, f.lt, Nat.le_trans o.mono m⟩

/-! ### the two invariants of a history -/

def InvR (st : Impl.St) : Prop := ∀ x, x ∈ st.vals → LiveR st.h x

/-- heading and rows lie inside their arrays -/
def WFR (h : Heap) (x : RVal) : Prop := ∀ s, s ∈ x.slices → s.WF h

theorem WFR.shape {h h' : Heap} {x : RVal} (w : WFR h x) (sh : Shape h h') : WFR h' x := fun s hs => (w s hs).shape sh

/-- this is `Rel.FW.rebase` (for `FW` of Lemmas.lean): `f.rebase` does not find it -/
theorem FW.rebase {h h1 : Heap} {q : Heap × Slice} (sh : Shape h h1) (f : FW h1 q) : FW h q := ⟨sh.trans f.shape, f.wf⟩

def InvWFR (st : Impl.St) : Prop := ∀ x, x ∈ st.vals → WFR st.h x

end Arrai.C03.Rel
