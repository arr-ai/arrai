/-
  C03 — what the refinement of the //seq operations (`seq_*_refines_spec`, Proofs/C03.lean) rests on: the round trip between
  a dense run of cells and its denotation, `Spec.dense (Spec.enc k xs) = some (k, xs)` (`dense_enc`) for non-empty `xs` of
  elements the kind admits (`validElem`: chars are non-negative numbers, bytes are bytes).  It holds because the tuples of the
  pairs any cells denote are already the canonical member list (`members_mkSeq`), which `decodeAll` reads back pair by pair
  (`decodeAll_tuples`).
-/
import Arrai.C03.RefineOps

namespace Arrai.C03
open Impl
open Arrai.C01.KSeq (kden kden_elem length_kden kcount_map_some')

/-! ### the pairs of a dense run -/

theorem kden_dense_snd (off : Int) (xs : List V) : (kden (xs.map some) off).map (·.2) = xs := by
  induction xs generalizing off with
  | nil => rfl
  | cons x r ih => exact congrArg (x :: ·) (ih (off + 1))

theorem kden_dense_fst (off : Int) (s : Nat) (xs : List V) :
    (kden (xs.map some) (off + (s : Int))).map (·.1) = (List.range' s xs.length).map (fun (j : Nat) => off + (j : Int)) := by
  induction xs generalizing s with
  | nil => rfl
  | cons x r ih =>
    have := ih (s + 1)
    have e : off + ((s + 1 : Nat) : Int) = off + (s : Int) + 1 := by push_cast; omega
    rw [e] at this
    simp only [List.map_cons, kden, List.length_cons, List.range'_succ, this]

/-- the round trip: a non-empty dense run of admissible elements is recovered from its denotation -/
theorem dense_enc (k : Kind) (xs : List V) (hne : xs ≠ []) (hv : ∀ x, x ∈ xs → validElem k x = true) :
    Spec.dense (Spec.enc k xs) = some (k, xs) := by
  cases xs with
  | nil => exact absurd rfl hne
  | cons x r =>
    have hd := decodeAll_tuples k (kden ((x :: r).map some) 0) fun p hp =>
      hv p.2 (by simpa using kden_elem (show (p.1, p.2) ∈ _ from hp))
    unfold Spec.dense decodeSeq
    rw [show members (Spec.enc k (x :: r)) = _ from members_mkSeq k 0 _]
    rw [show (kden ((x :: r).map some) 0).map (fun p => tup k p.1 p.2)
      = tup k 0 x :: (kden (r.map some) (0 + 1)).map (fun p => tup k p.1 p.2) from rfl]
    simp only [decodeTuple_tup]
    rw [show tup k 0 x :: (kden (r.map some) (0 + 1)).map (fun p => tup k p.1 p.2)
      = (kden ((x :: r).map some) 0).map (fun p => tup k p.1 p.2) from rfl, hd]
    simp only [Option.map_some]
    have e1 : (kden ((x :: r).map some) 0).map (·.1) = (List.range (kden ((x :: r).map some) 0).length).map Int.ofNat := by
      have := kden_dense_fst 0 0 (x :: r)
      rw [length_kden, kcount_map_some', List.range_eq_range']
      simp only [Int.natCast_zero, Int.add_zero, Int.zero_add] at this
      rw [this]
      rfl
    rw [if_pos e1, kden_dense_snd]

/-! ### dense operands -/

theorem snapO_of_denseCells {h : Heap} {x : HVal} {k : Kind} {s : Slice} {xs : List V}
    (e : denseCells h x = some (k, s, xs)) : snapO (h, x) = some (Spec.enc k xs) := by
  obtain ⟨⟨aux, rfl⟩, hr⟩ := denseCells_spec e
  rw [snapO_seq, hr]; rfl

theorem denseCells_wf {h : Heap} {x : HVal} {k : Kind} {s : Slice} {xs : List V}
    (e : denseCells h x = some (k, s, xs)) (w : WFH h x) : s.WF h ∧ xs.length = s.len ∧ read h s = xs.map some := by
  obtain ⟨⟨aux, rfl⟩, hr⟩ := denseCells_spec e
  exact ⟨w, by rw [← read_length w, hr, List.length_map], hr⟩

theorem seq2_dense {h : Heap} {x y : HVal} {kp ks : Kind} {sp ss : Slice} {xp xs : List V}
    (f : Kind → List V → List V → Option V) (hp : denseCells h x = some (kp, sp, xp))
    (hs : denseCells h y = some (ks, ss, xs)) (hnp : xp ≠ []) (hns : xs ≠ [])
    (hvp : ∀ y, y ∈ xp → validElem kp y = true) (hvs : ∀ y, y ∈ xs → validElem ks y = true) :
    (snapO (h, x)).bind (fun a => (snapO (h, y)).bind (Spec.seq2 f a)) = if kp = ks then f kp xp xs else none := by
  rw [snapO_of_denseCells hp, snapO_of_denseCells hs]
  simp only [Option.bind_some, Spec.seq2, dense_enc kp xp hnp hvp, dense_enc ks xs hns hvs]

theorem snapO_freshSeq (orc : Oracle) (k : Kind) (h : Heap) (xs : List V) :
    snapO (freshSeq orc k h xs) = some (Spec.enc k xs) := by
  unfold freshSeq
  split
  · rename_i he
    have : xs = [] := by simpa using he
    subst this; rfl
  · rw [snapO_seq, read_allocWith_self]; rfl

end Arrai.C03
