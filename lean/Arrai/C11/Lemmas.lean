/-
  C11 helper lemmas.  Inductive invariants of the five protocol machines of `Arrai.C11.Model` (Once, Keyed, Stream with
  the lock held while the reader is drained, GetOrAdd, Seen), each proved preserved by every step of every thread (hence
  by every schedule); nothing is proved here of `Stream.step false`, the narrowed lock.
-/
import Arrai.C11.Model
import Arrai.Core.ListLemmas

namespace Arrai.C11

/-! ## What the machines share

An invariant is a few facts about the shared fields plus one assertion per program counter, `At s t p`: what thread
`t` standing at `p` may rely on.  `Once.Inv` and `Stream.Inv` carry the assertions as the field `each`.  `Keyed.Inv`,
`GetOrAdd.Inv` and `Seen.Inv` are written out, one field per program counter, because the property theorems quote their
fields; there `At` (for `GetOrAdd` also `EntryOK`) states the same fields again as a function of the program counter, so
a field, its clause of `At`, `Inv.atPc` and `Inv.step_to` change together. -/

theorem ne_of_class {PC : Type} {c : PC → Bool} {p q : PC} {b : Bool} (hp : c p = b) (hq : c q = !b) : p ≠ q := by
  intro e
  rw [e, hq] at hp
  cases b <;> cases hp

theorem each_upd {PC : Type} {A A' : Nat → PC → Prop} {pc pc' : Nat → PC} {t : Nat} {X : PC}
    (h : ∀ u, A u (pc u)) (hpc : pc' = upd pc t X) (self : A' t X)
    (frame : ∀ u, u ≠ t → A u (pc u) → A' u (pc u)) (u : Nat) : A' u (pc' u) := by
  rw [hpc]
  by_cases hu : u = t
  · subst hu; rw [upd_same]; exact self
  · rw [upd_other hu]; exact frame u hu (h u)

theorem move_iff {PC : Type} {c : PC → Bool} {R : Nat → Prop} {pc : Nat → PC} {t : Nat} {p X : PC}
    (h : ∀ u, c (pc u) = true ↔ R u) (hp : pc t = p) (hX : c X = c p) : ∀ u, c (upd pc t X u) = true ↔ R u := by
  intro u
  by_cases hu : u = t
  · subst hu; rw [upd_same, hX, ← hp]; exact h u
  · rw [upd_other hu]; exact h u

def Excl {PC : Type} (cs : PC → Bool) (mu : Option Nat) (pc : Nat → PC) : Prop :=
  ∀ t, cs (pc t) = true ↔ mu = some t

namespace Excl
variable {PC : Type} {cs : PC → Bool} {mu : Option Nat} {pc : Nat → PC} {t u : Nat} {p X : PC}

theorem all_outside (h : Excl cs mu pc) (hm : mu = none) (u : Nat) : cs (pc u) = false := by
  cases hc : cs (pc u) with
  | false => rfl
  | true => rw [(h u).1 hc] at hm; cases hm

theorem others (h : Excl cs mu pc) (hp : pc t = p) (hin : cs p = true) (hu : u ≠ t) : cs (pc u) = false := by
  cases hc : cs (pc u) with
  | false => rfl
  | true =>
    have := (h t).1 (hp ▸ hin)
    rw [(h u).1 hc] at this
    exact absurd (Option.some.inj this) hu

theorem held (h : Excl cs mu pc) (hp : pc t = p) (hin : cs p = true) : mu ≠ none :=
  fun hm => nomatch ((h t).1 (hp ▸ hin)).symm.trans hm

theorem move (h : Excl cs mu pc) (hp : pc t = p) (hX : cs X = cs p) : Excl cs mu (upd pc t X) :=
  move_iff h hp hX

theorem acquire (h : Excl cs mu pc) (hm : mu = none) (hX : cs X = true) : Excl cs (some t) (upd pc t X) := by
  intro u
  by_cases hu : u = t
  · subst hu; simp [hX]
  · simp [hu, h.all_outside hm u, Ne.symm hu]

theorem release (h : Excl cs mu pc) (hp : pc t = p) (hin : cs p = true) (hX : cs X = false) :
    Excl cs none (upd pc t X) := by
  intro u
  by_cases hu : u = t
  · subst hu; simp [hX]
  · simp [hu, h.others hp hin hu]

end Excl

/-! ## Once

Safety only: `Once.enabled` has no lemma. -/
namespace Once

def inCS : PC → Bool
  | .chk | .run | .store | .setdone | .unlock => true
  | _ => false

def At {α : Type} (v : α) (s : St α) (t : Nat) : PC → Prop
  | .chk => s.done = false → s.runs = 0 ∧ s.cache = none
  | .run => s.done = false ∧ s.runs = 0 ∧ s.cache = none
  | .store => s.done = false ∧ s.runs = 1
  | .setdone => s.cache = some v ∧ s.runs = 1
  | .unlock | .ret => s.done = true
  | .fin => s.res t = some (some v)
  | .fast | .lock => True

structure Inv {α : Type} (v : α) (s : St α) : Prop where
  cs : Excl inCS s.mu s.pc
  done : s.done = true → s.cache = some v ∧ s.runs = 1
  free : s.mu = none → s.done = false → s.runs = 0 ∧ s.cache = none
  each : ∀ t, At v s t (s.pc t)

variable {α : Type} {v : α} {s s' : St α} {t u : Nat} {p X : PC}

theorem Inv.atPc (h : Inv v s) (hp : s.pc t = p) : At v s t p := hp ▸ h.each t

theorem inv_init (v : α) : Inv v (init : St α) :=
  ⟨fun _ => ⟨nofun, nofun⟩, nofun, fun _ _ => ⟨rfl, rfl⟩, fun _ => trivial⟩

theorem At.frame {m : Option Nat} {P : Nat → PC} {R : Nat → Option (Option α)} (hres : R u = s.res u)
    (h : At v s u p) : At v { s with mu := m, pc := P, res := R } u p := by
  cases p with
  | fin => exact hres.trans h
  | _ => exact h

theorem At.outside (hp : inCS p = false) (hd : s.done = true → s'.done = true) (hres : s'.res u = s.res u)
    (h : At v s u p) : At v s' u p := by
  cases p with
  | fast | lock => trivial
  | ret => exact hd h
  | fin => exact hres.trans h
  | _ => nomatch hp

theorem inv_step (v : α) (s : St α) (t : Nat) (h : Inv v s) : Inv v (step v s t) := by
  unfold step
  split
  next hp =>  -- fast
    refine ⟨h.cs.move hp (by cases s.done <;> rfl), h.done, h.free,
      each_upd h.each rfl ?_ fun u _ => At.frame rfl⟩
    cases hd : s.done
    · trivial
    · rfl
  next hp =>  -- lock
    split
    next hm =>
      exact ⟨h.cs.acquire hm rfl, h.done, nofun,
        each_upd h.each rfl (h.free hm) fun u _ => At.frame rfl⟩
    next => exact h
  next hp =>  -- chk
    have hat := h.atPc hp
    refine ⟨h.cs.move hp (by cases s.done <;> rfl), h.done, h.free,
      each_upd h.each rfl ?_ fun u _ => At.frame rfl⟩
    cases hd : s.done
    · exact ⟨rfl, hat hd⟩
    · rfl
  next hp =>  -- run
    obtain ⟨hd, hr, hc⟩ := h.atPc hp
    exact ⟨h.cs.move hp rfl, (fun hh => nomatch hd.symm.trans hh), fun hm => absurd hm (h.cs.held hp rfl),
      each_upd h.each rfl ⟨hd, by simp [hr]⟩ fun u hu => At.outside (h.cs.others hp rfl hu) id rfl⟩
  next hp =>  -- store
    obtain ⟨hd, hr⟩ := h.atPc hp
    exact ⟨h.cs.move hp rfl, (fun hh => nomatch hd.symm.trans hh), fun hm => absurd hm (h.cs.held hp rfl),
      each_upd h.each rfl ⟨rfl, hr⟩ fun u hu => At.outside (h.cs.others hp rfl hu) id rfl⟩
  next hp =>  -- setdone
    exact ⟨h.cs.move hp rfl, fun _ => h.atPc hp, fun hm => absurd hm (h.cs.held hp rfl),
      each_upd h.each rfl rfl fun u hu => At.outside (h.cs.others hp rfl hu) (fun _ => rfl) rfl⟩
  next hp =>  -- unlock
    have hd : s.done = true := h.atPc hp
    exact ⟨h.cs.release hp rfl rfl, h.done, (fun _ hh => nomatch hd.symm.trans hh),
      each_upd h.each rfl hd fun u _ => At.frame rfl⟩
  next hp =>  -- ret
    have hc := (h.done (h.atPc hp)).1
    exact ⟨h.cs.move hp rfl, h.done, h.free,
      each_upd h.each rfl (upd_same.trans (congrArg some hc)) fun u hu => At.frame (upd_other hu)⟩
  next => exact h

theorem At.runs_le (hin : inCS p = true) (hd : s.done = false) (h : At v s t p) : s.runs ≤ 1 := by
  cases p with
  | chk => exact Nat.le_trans (Nat.le_of_eq (h hd).1) (Nat.zero_le 1)
  | run => exact Nat.le_trans (Nat.le_of_eq h.2.1) (Nat.zero_le 1)
  | store => exact Nat.le_of_eq h.2
  | setdone => exact Nat.le_of_eq h.2
  | unlock => exact nomatch hd.symm.trans h
  | _ => nomatch hin

theorem Inv.runs_le (h : Inv v s) : s.runs ≤ 1 := by
  cases hd : s.done with
  | true => exact Nat.le_of_eq (h.done hd).2
  | false =>
    cases hm : s.mu with
    | none => exact Nat.le_trans (Nat.le_of_eq (h.free hm hd).1) (Nat.zero_le 1)
    | some t => exact (h.each t).runs_le ((h.cs t).2 hm) hd

end Once

/-! ## Keyed -/
namespace Keyed

def inCS : PC → Bool
  | .look | .compute | .store | .unlock => true
  | _ => false

structure Inv {α : Type} (f : Nat → α) (key : Nat → Nat) (s : St α) : Prop where
  cs : ∀ t, inCS (s.pc t) = true ↔ s.mu = some t
  hit : ∀ k x, s.idx k = some x → x = f k ∧ s.runs k = 1
  miss : ∀ k, s.idx k = none → s.runs k = 0 ∨ ∃ t, s.pc t = .store ∧ key t = k
  compute : ∀ t, s.pc t = .compute → s.idx (key t) = none ∧ s.runs (key t) = 0
  store : ∀ t, s.pc t = .store → s.tmp t = some (f (key t)) ∧ s.idx (key t) = none ∧ s.runs (key t) = 1
  unlock : ∀ t, s.pc t = .unlock → s.tmp t = some (f (key t))
  fin : ∀ t, s.pc t = .fin → s.res t = some (f (key t))

def At {α : Type} (f : Nat → α) (key : Nat → Nat) (s : St α) (t : Nat) : PC → Prop
  | .compute => s.idx (key t) = none ∧ s.runs (key t) = 0
  | .store => s.tmp t = some (f (key t)) ∧ s.idx (key t) = none ∧ s.runs (key t) = 1
  | .unlock => s.tmp t = some (f (key t))
  | .fin => s.res t = some (f (key t))
  | .lock | .look => True

variable {α : Type} {f : Nat → α} {key : Nat → Nat} {s s' : St α} {t u k : Nat} {p X : PC}

theorem inv_init (f : Nat → α) (key : Nat → Nat) : Inv f key (init : St α) :=
  ⟨fun _ => ⟨nofun, nofun⟩, nofun, fun _ _ => .inl rfl, nofun, nofun, nofun, nofun⟩

theorem Inv.atPc (h : Inv f key s) (hp : s.pc t = p) : At f key s t p := by
  cases p with
  | compute => exact h.compute t hp
  | store => exact h.store t hp
  | unlock => exact h.unlock t hp
  | fin => exact h.fin t hp
  | lock | look => trivial

theorem Inv.runs_zero_of_no_store (h : Inv f key s) (ns : ∀ w, s.pc w ≠ .store) (hk : s.idx k = none) :
    s.runs k = 0 :=
  (h.miss k hk).elim id fun ⟨w, hw, _⟩ => absurd hw (ns w)

theorem no_store {mu : Option Nat} {pc : Nat → PC} (cs : Excl inCS mu pc) (hp : pc t = p) (hin : inCS p = true)
    (hne : p ≠ .store) (w : Nat) : pc w ≠ .store := by
  intro hw
  by_cases hwt : w = t
  · subst hwt; exact hne (hp.symm.trans hw)
  · exact ne_of_class (cs.others hp hin hwt) rfl hw

theorem At.outside (hp : inCS p = false) (hres : s'.res u = s.res u) (h : At f key s u p) : At f key s' u p := by
  cases p with
  | lock => trivial
  | fin => exact hres.trans h
  | _ => nomatch hp

theorem Inv.step_to (h : Inv f key s) (hpc : s'.pc = upd s.pc t X) (cs : Excl inCS s'.mu s'.pc)
    (hit : ∀ k x, s'.idx k = some x → x = f k ∧ s'.runs k = 1)
    (miss : ∀ k, s'.idx k = none → s'.runs k = 0 ∨ ∃ t, s'.pc t = .store ∧ key t = k)
    (self : At f key s' t X) (frame : ∀ u, u ≠ t → At f key s u (s.pc u) → At f key s' u (s.pc u)) :
    Inv f key s' := by
  have each : ∀ u p, s'.pc u = p → At f key s' u p :=
    fun u _ hp => hp ▸ each_upd (fun u => h.atPc rfl) hpc self frame u
  exact { cs, hit, miss, compute := fun u => each u _, store := fun u => each u _, unlock := fun u => each u _,
          fin := fun u => each u _ }

theorem inv_step (f : Nat → α) (key : Nat → Nat) (s : St α) (t : Nat) (h : Inv f key s) :
    Inv f key (step f key s t) := by
  have cs : Excl inCS s.mu s.pc := h.cs
  unfold step
  split
  next hp =>  -- lock
    split
    next hm =>
      exact h.step_to rfl (cs.acquire hm rfl) h.hit
        (fun k hk => .inl (h.runs_zero_of_no_store (fun w => ne_of_class (cs.all_outside hm w) rfl) hk))
        trivial (fun u _ => At.outside (cs.all_outside hm u) rfl)
    next => exact h
  next hp =>  -- look
    have ns := no_store cs hp rfl (by decide)
    split
    next x hx =>
      exact h.step_to rfl (cs.move hp rfl) h.hit (fun k hk => .inl (h.runs_zero_of_no_store ns hk))
        (upd_same.trans (congrArg some (h.hit _ _ hx).1)) (fun u hu => At.outside (cs.others hp rfl hu) rfl)
    next hx =>
      exact h.step_to rfl (cs.move hp rfl) h.hit (fun k hk => .inl (h.runs_zero_of_no_store ns hk))
        ⟨hx, h.runs_zero_of_no_store ns hx⟩ (fun u hu => At.outside (cs.others hp rfl hu) rfl)
  next hp =>  -- compute
    obtain ⟨hx, hr⟩ := h.atPc hp
    have ns := no_store cs hp rfl (by decide)
    refine h.step_to rfl (cs.move hp rfl) (fun k x hk => ?_) (fun k hk => ?_)
      ⟨upd_same, hx, by simp [hr]⟩ (fun u hu => At.outside (cs.others hp rfl hu) rfl)
    · have hkk : k ≠ key t := fun e => by rw [e, hx] at hk; cases hk
      simpa [hkk] using h.hit k x hk
    · by_cases hkk : k = key t
      · exact .inr ⟨t, upd_same, hkk.symm⟩
      · exact .inl (by simpa [hkk] using h.runs_zero_of_no_store ns hk)
  next hp =>  -- store
    obtain ⟨htmp, hx, hr⟩ := h.atPc hp
    refine h.step_to rfl (cs.move hp rfl) (fun k x hk => ?_) (fun k hk => ?_)
      htmp (fun u hu => At.outside (cs.others hp rfl hu) rfl)
    · by_cases hkk : k = key t
      · subst hkk; simp [htmp] at hk; exact ⟨hk.symm, hr⟩
      · simp [hkk] at hk; exact h.hit k x hk
    · by_cases hkk : k = key t
      · subst hkk; simp [htmp] at hk
      · simp [hkk] at hk
        -- only `t` stands at `store`, and its key is another one
        refine .inl ((h.miss k hk).elim id fun ⟨w, hw, hkw⟩ => ?_)
        by_cases hwt : w = t
        · subst hwt; exact absurd hkw.symm hkk
        · exact absurd hw (ne_of_class (cs.others hp rfl hwt) rfl)
  next hp =>  -- unlock
    have htmp : s.tmp t = some (f (key t)) := h.atPc hp
    have ns := no_store cs hp rfl (by decide)
    exact h.step_to rfl (cs.release hp rfl rfl) h.hit (fun k hk => .inl (h.runs_zero_of_no_store ns hk))
      (upd_same.trans htmp) (fun u hu => At.outside (cs.others hp rfl hu) (upd_other hu))
  next => exact h

theorem Inv.runs_le (h : Inv f key s) (k : Nat) : s.runs k ≤ 1 := by
  cases hx : s.idx k with
  | some x => have := (h.hit k x hx).2; omega
  | none =>
    rcases h.miss k hx with h0 | ⟨w, hw, hkw⟩
    · omega
    · have := (h.store w hw).2.2; rw [hkw] at this; omega

end Keyed

/-! ## Stream (`held = true`: the lock spans the draining of the reader) -/
namespace Stream

def inCS : PC → Bool
  | .look | .drain | .store | .unlock => true
  | _ => false

def At (W : List Nat) (s : St) (t : Nat) : PC → Prop
  | .lock => s.acc t = []
  | .look => s.acc t = [] ∧ (s.cache = none → s.src.flatten = W ∧ s.runs = 0)
  | .drain => s.cache = none ∧ s.acc t ++ s.src.flatten = W ∧ s.runs = 1
  | .store => s.cache = none ∧ s.acc t = W ∧ s.runs = 1
  | .unlock => s.tmp t = some W ∧ s.cache = some W
  | .fin => s.res t = some W
  | .relock => False   -- not reachable while the lock spans the computation

structure Inv (W : List Nat) (s : St) : Prop where
  cs : Excl inCS s.mu s.pc
  hit : ∀ x, s.cache = some x → x = W ∧ s.runs = 1
  free : s.mu = none → s.cache = none → s.src.flatten = W ∧ s.runs = 0
  each : ∀ t, At W s t (s.pc t)

variable {W : List Nat} {s s' : St} {t u : Nat} {p X : PC}

theorem Inv.atPc (h : Inv W s) (hp : s.pc t = p) : At W s t p := hp ▸ h.each t

theorem inv_init (chunks : List (List Nat)) : Inv chunks.flatten (init chunks) :=
  ⟨fun _ => ⟨nofun, nofun⟩, nofun, fun _ _ => ⟨rfl, rfl⟩, fun _ => rfl⟩

theorem At.outside (hp : inCS p = false) (ha : s'.acc u = s.acc u) (hres : s'.res u = s.res u)
    (h : At W s u p) : At W s' u p := by
  cases p with
  | lock => exact ha.trans h
  | fin => exact hres.trans h
  | relock => exact h
  | _ => nomatch hp

theorem inv_step (W : List Nat) (s : St) (t : Nat) (h : Inv W s) : Inv W (step true s t) := by
  unfold step
  split
  next hp =>  -- lock
    split
    next hm =>
      exact ⟨h.cs.acquire hm rfl, h.hit, nofun,
        each_upd h.each rfl ⟨h.atPc hp, h.free hm⟩ fun u _ => At.outside (h.cs.all_outside hm u) rfl rfl⟩
    next => exact h
  next hp =>  -- look
    obtain ⟨hacc, hlook⟩ := h.atPc hp
    split
    next x hx =>  -- cached
      have hxW := (h.hit x hx).1
      exact ⟨h.cs.move hp rfl, h.hit, h.free,
        each_upd h.each rfl ⟨upd_same.trans (congrArg some hxW), hx.trans (congrArg some hxW)⟩
          fun u hu => At.outside (h.cs.others hp rfl hu) rfl rfl⟩
    next hx =>  -- miss: start draining, the lock stays held
      obtain ⟨hsrc, hr0⟩ := hlook hx
      exact ⟨h.cs.move hp rfl, (fun x hxx => nomatch hx.symm.trans hxx), fun hm => absurd hm (h.cs.held hp rfl),
        each_upd h.each rfl ⟨hx, by rw [hacc]; exact hsrc, by rw [hr0]⟩
          fun u hu => At.outside (h.cs.others hp rfl hu) rfl rfl⟩
  next hp =>  -- drain
    obtain ⟨hc, hW, hr⟩ := h.atPc hp
    split
    next c rest hsrc =>  -- one Read
      rw [hsrc, List.flatten_cons, ← List.append_assoc] at hW
      -- the program counter stays at `drain`
      exact ⟨h.cs, h.hit, fun hm => absurd hm (h.cs.held hp rfl),
        each_upd h.each (eq_upd_self hp) ⟨hc, (congrArg (· ++ rest.flatten) upd_same).trans hW, hr⟩
          fun u hu => At.outside (h.cs.others hp rfl hu) (upd_other hu) rfl⟩
    next hsrc =>  -- EOF
      rw [hsrc, List.flatten_nil, List.append_nil] at hW
      exact ⟨h.cs.move hp rfl, h.hit, h.free,
        each_upd h.each rfl ⟨hc, hW, hr⟩ fun u hu => At.outside (h.cs.others hp rfl hu) rfl rfl⟩
  next hp => exact (h.atPc hp).elim  -- relock
  next hp =>  -- store
    obtain ⟨hc, hW, hr⟩ := h.atPc hp
    have hcache : (match s.cache with | none => some (s.acc t) | c => c) = some W := by rw [hc, hW]
    exact ⟨h.cs.move hp rfl, fun x hx => ⟨(Option.some.inj (hcache.symm.trans hx)).symm, hr⟩,
      fun hm => absurd hm (h.cs.held hp rfl),
      each_upd h.each rfl ⟨upd_same.trans (congrArg some hW), hcache⟩
        fun u hu => At.outside (h.cs.others hp rfl hu) rfl rfl⟩
  next hp =>  -- unlock
    obtain ⟨htmp, hcache⟩ := h.atPc hp
    exact ⟨h.cs.release hp rfl rfl, h.hit, (fun _ hc => nomatch hcache.symm.trans hc),
      each_upd h.each rfl (upd_same.trans htmp) fun u hu => At.outside (h.cs.others hp rfl hu) rfl (upd_other hu)⟩
  next => exact h

theorem At.runs_le (hin : inCS p = true) (hc : s.cache = none) (h : At W s t p) : s.runs ≤ 1 := by
  cases p with
  | look => exact Nat.le_trans (Nat.le_of_eq (h.2 hc).2) (Nat.zero_le 1)
  | drain => exact Nat.le_of_eq h.2.2
  | store => exact Nat.le_of_eq h.2.2
  | unlock => exact nomatch hc.symm.trans h.2
  | _ => nomatch hin

theorem Inv.runs_le (h : Inv W s) : s.runs ≤ 1 := by
  cases hc : s.cache with
  | some x => exact Nat.le_of_eq (h.hit x hc).2
  | none =>
    cases hm : s.mu with
    | none => exact Nat.le_trans (Nat.le_of_eq (h.free hm hc).2) (Nat.zero_le 1)
    | some t => exact (h.each t).runs_le ((h.cs t).2 hm) hc

end Stream

/-! ## GetOrAdd: the step relation, the invariant -/
namespace GetOrAdd

def locked : PC → Bool
  | .check | .errFin | .okFin => true
  | _ => false

/-- from setting the in-flight marker of its key to removing or replacing it -/
def adder : PC → Bool
  | .adding | .errLock | .errFin | .okLock | .okFin => true
  | _ => false

def Woke (P pc : Nat → PC) : Prop := ∀ u, P u = pc u ∨ P u = wake pc u

theorem wake_ne_asleep (pc : Nat → PC) (u : Nat) : wake pc u ≠ .asleep := by
  unfold wake
  by_cases h : pc u = .asleep
  · rw [if_pos h]; nofun
  · rw [if_neg h]; exact h

theorem Woke.congr {β : Type} {P pc : Nat → PC} (hP : Woke P pc) (c : PC → β) (hc : c .woken = c .asleep)
    (u : Nat) : c (P u) = c (pc u) := by
  rcases hP u with h | h
  · rw [h]
  rw [h]
  unfold wake
  by_cases ha : pc u = .asleep
  · rw [if_pos ha, ha, hc]
  · rw [if_neg ha]

/-- what a finished caller returned is justified -/
def ResOK {ν ε : Type} (add : Nat → Nat → Outcome ν ε) (key : Nat → Nat) (s : St ν ε) (t : Nat) :
    Outcome ν ε → Prop
  | .val v => s.cache (key t) = .val v
  | .err e => ∃ n, s.att t = some n ∧ add (key t) n = .err e
  | .nil => ∃ n, s.att t = some n ∧ add (key t) n = .nil

structure Inv {ν ε : Type} (add : Nat → Nat → Outcome ν ε) (key : Nat → Nat) (s : St ν ε) : Prop where
  cs : ∀ t, locked (s.pc t) = true ↔ s.mu = some t
  own : ∀ t, adder (s.pc t) = true ↔ s.cache (key t) = .inflight t
  ownk : ∀ k t, s.cache k = .inflight t → key t = k
  hitv : ∀ k v, s.cache k = .val v → s.wins k = 1 ∧ ∃ n, n < s.attempts k ∧ add k n = .val v
  absent : ∀ k, s.cache k = .absent → s.wins k = 0
  adding : ∀ t, s.pc t = .adding → s.wins (key t) = 0
  errs : ∀ t, (s.pc t = .errLock ∨ s.pc t = .errFin) → s.wins (key t) = 0 ∧
            ∃ n, s.att t = some n ∧ ∃ e, s.out t = some (.err e) ∧ add (key t) n = .err e
  oks : ∀ t, (s.pc t = .okLock ∨ s.pc t = .okFin) →
            ∃ n, s.att t = some n ∧ n < s.attempts (key t) ∧ s.out t = some (add (key t) n) ∧
                 isErr (add (key t) n) = false ∧ s.wins (key t) = (if isVal (add (key t) n) then 1 else 0)
  fin : ∀ t, s.pc t = .fin → ∃ r, s.res t = some r ∧ ResOK add key s t r

def At {ν ε : Type} (add : Nat → Nat → Outcome ν ε) (key : Nat → Nat) (s : St ν ε) (t : Nat) : PC → Prop
  | .adding => s.wins (key t) = 0
  | .errLock | .errFin => s.wins (key t) = 0 ∧
      ∃ n, s.att t = some n ∧ ∃ e, s.out t = some (.err e) ∧ add (key t) n = .err e
  | .okLock | .okFin => ∃ n, s.att t = some n ∧ n < s.attempts (key t) ∧ s.out t = some (add (key t) n) ∧
      isErr (add (key t) n) = false ∧ s.wins (key t) = (if isVal (add (key t) n) then 1 else 0)
  | .fin => ∃ r, s.res t = some r ∧ ResOK add key s t r
  | .start | .check | .asleep | .woken => True

def EntryOK {ν ε : Type} (add : Nat → Nat → Outcome ν ε) (key : Nat → Nat) (s : St ν ε) (k : Nat) : Entry ν → Prop
  | .inflight t => key t = k
  | .val v => s.wins k = 1 ∧ ∃ n, n < s.attempts k ∧ add k n = .val v
  | .absent => s.wins k = 0

variable {ν ε : Type} {add : Nat → Nat → Outcome ν ε} {key : Nat → Nat} {s s' : St ν ε} {t u k : Nat} {p X : PC}

/-- at `p` a caller is about to take the mutex (`service.mutex.Lock()`, or the way out of `cond.Wait()`); having taken
it, it stands at `X` -/
inductive Lock : PC → PC → Prop
  | start : Lock .start .check
  | woken : Lock .woken .check
  | err : Lock .errLock .errFin
  | ok : Lock .okLock .okFin

/-- the steps of `step` that change the state, as a relation: one rule per thing the Go code does (`hit`, `wait`, `mark`
are the three ways through one round of the `for` loop) -/
inductive Step {ν ε : Type} (repaired : Bool) (add : Nat → Nat → Outcome ν ε) (key : Nat → Nat) (s : St ν ε) (t : Nat) :
    St ν ε → Prop
  | lock {p X : PC} (hp : s.pc t = p) (hl : Lock p X) (hm : s.mu = none) :
      Step repaired add key s t { s with mu := some t, pc := upd s.pc t X }
  | hit {v : ν} (hp : s.pc t = .check) (hc : s.cache (key t) = .val v) :
      Step repaired add key s t { s with mu := none, res := upd s.res t (some (.val v)), pc := upd s.pc t .fin }
  | wait {w : Nat} (hp : s.pc t = .check) (hc : s.cache (key t) = .inflight w) :
      Step repaired add key s t { s with mu := none, pc := upd s.pc t .asleep }
  | mark (hp : s.pc t = .check) (hc : s.cache (key t) = .absent) :
      Step repaired add key s t
        { s with mu := none, cache := upd s.cache (key t) (.inflight t), pc := upd s.pc t .adding }
  | add {n : Nat} {o : Outcome ν ε} (hp : s.pc t = .adding) (hn : s.attempts (key t) = n) (ho : add (key t) n = o) :
      Step repaired add key s t
        { s with attempts := upd s.attempts (key t) (n + 1),
                 wins := upd s.wins (key t) (s.wins (key t) + (if isVal o then 1 else 0)),
                 out := upd s.out t (some o), att := upd s.att t (some n),
                 pc := upd s.pc t (if isErr o then .errLock else .okLock) }
  | errFin (hp : s.pc t = .errFin) :
      Step repaired add key s t
        { s with mu := none, cache := upd s.cache (key t) .absent, res := upd s.res t (s.out t),
                 pc := upd (if repaired then wake s.pc else s.pc) t .fin }
  | okFin (hp : s.pc t = .okFin) :
      Step repaired add key s t
        { s with mu := none,
                 cache := upd s.cache (key t) (match s.out t with | some (.val v) => .val v | _ => .absent),
                 res := upd s.res t (s.out t), pc := upd (wake s.pc) t .fin }

theorem step_cases (r : Bool) (add : Nat → Nat → Outcome ν ε) (key : Nat → Nat) (s : St ν ε) (t : Nat) :
    (enabled s t = false ∧ step r add key s t = s) ∨
      (enabled s t = true ∧ Step r add key s t (step r add key s t)) := by
  unfold step enabled
  cases hp : s.pc t <;> dsimp only
  case fin | asleep => exact .inl ⟨rfl, rfl⟩
  case check =>
    split
    next hc => exact .inr ⟨rfl, .hit hp hc⟩
    next hc => exact .inr ⟨rfl, .wait hp hc⟩
    next hc => exact .inr ⟨rfl, .mark hp hc⟩
  case adding => exact .inr ⟨rfl, .add hp rfl rfl⟩
  case errFin => exact .inr ⟨rfl, .errFin hp⟩
  case okFin => exact .inr ⟨rfl, .okFin hp⟩
  all_goals  -- the four `Lock`s
    cases hm : s.mu
    · exact .inr ⟨rfl, .lock hp (by constructor) hm⟩
    · exact .inl ⟨rfl, rfl⟩

theorem step_disabled {r : Bool} (he : enabled s t = false) : step r add key s t = s :=
  (step_cases r add key s t).elim (·.2) fun h => nomatch he.symm.trans h.1

theorem stepN_none (add : Nat → Nat → Outcome ν ε) (key : Nat → Nat) (s : St ν ε) (t : Nat) :
    stepN (fun _ => none) (fun _ => none) add key s t = step true add key s t := by
  unfold stepN enabledN
  cases he : enabled s t
  · exact (step_disabled he).symm
  · cases s.pc t <;> rfl

theorem inv_init (add : Nat → Nat → Outcome ν ε) (key : Nat → Nat) : Inv add key (init : St ν ε) :=
  ⟨fun _ => ⟨nofun, nofun⟩, fun _ => ⟨nofun, nofun⟩, nofun, nofun, fun _ _ => rfl, nofun,
    fun _ h => h.elim nofun nofun, fun _ h => h.elim nofun nofun, nofun⟩

theorem Inv.excl (h : Inv add key s) : Excl locked s.mu s.pc := h.cs

theorem Inv.atPc (h : Inv add key s) (hp : s.pc t = p) : At add key s t p := by
  cases p with
  | adding => exact h.adding t hp
  | errLock => exact h.errs t (.inl hp)
  | errFin => exact h.errs t (.inr hp)
  | okLock => exact h.oks t (.inl hp)
  | okFin => exact h.oks t (.inr hp)
  | fin => exact h.fin t hp
  | _ => trivial

theorem Inv.entry (h : Inv add key s) (k : Nat) : EntryOK add key s k (s.cache k) := by
  cases hc : s.cache k with
  | absent => exact h.absent k hc
  | inflight w => exact h.ownk k w hc
  | val v => exact h.hitv k v hc

theorem Inv.entries_upd (h : Inv add key s) (k₀ : Nat) {e : Entry ν} (hc : s'.cache = upd s.cache k₀ e)
    (hw : ∀ k, k ≠ k₀ → s'.wins k = s.wins k) (ha : ∀ k, k ≠ k₀ → s'.attempts k = s.attempts k)
    (h0 : EntryOK add key s' k₀ e) (k : Nat) : EntryOK add key s' k (s'.cache k) := by
  rw [hc]
  by_cases hk : k = k₀
  · subst hk; rw [upd_same]; exact h0
  · have := h.entry k
    unfold EntryOK at this ⊢
    rw [upd_other hk, hw k hk, ha k hk]
    exact this

theorem val_kept {cache : Nat → Entry ν} {k₀ : Nat} {e₀ e : Entry ν} {v : ν} (h0 : cache k₀ = e₀)
    (hne : ∀ v, e₀ ≠ .val v) (hv : cache k = .val v) : upd cache k₀ e k = .val v := by
  by_cases hk : k = k₀
  · exact absurd (h0.symm.trans (hk ▸ hv)) (hne v)
  · exact (upd_other hk).trans hv

theorem Inv.own_upd (h : Inv add key s) {e : Entry ν} (hnot : ∀ u, s.cache (key t) = .inflight u → u = t)
    (he : ∀ u, e = .inflight u → u = t) (hX : adder X = true ↔ e = .inflight t) (u : Nat) :
    adder (upd s.pc t X u) = true ↔ upd s.cache (key t) e (key u) = .inflight u := by
  by_cases hu : u = t
  · subst hu; rw [upd_same, upd_same]; exact hX
  · rw [upd_other hu]
    by_cases hk : key u = key t
    · rw [hk, upd_same]
      exact ⟨fun ha => absurd (hnot u (hk ▸ (h.own u).1 ha)) hu, fun hh => absurd (he u hh) hu⟩
    · rw [upd_other hk]; exact h.own u

theorem At.frame (p : PC) (hatt : s'.att u = s.att u) (hout : s'.out u = s.out u) (hres : s'.res u = s.res u)
    (hk : adder p = true → s'.wins (key u) = s.wins (key u) ∧ s'.attempts (key u) = s.attempts (key u))
    (hc : ∀ v, s.cache (key u) = .val v → s'.cache (key u) = .val v) (h : At add key s u p) :
    At add key s' u p := by
  cases p with
  | fin =>
    obtain ⟨r, hr, hok⟩ := h
    refine ⟨r, hres.trans hr, ?_⟩
    cases r with
    | val v => exact hc v hok
    | _ => obtain ⟨n, hn, ha⟩ := hok; exact ⟨n, hatt.trans hn, ha⟩
  | start | check | asleep | woken => trivial
  | adding => exact (hk rfl).1.trans h
  | errLock | errFin =>
    obtain ⟨h0, n, hn, e, he, hadd⟩ := h
    exact ⟨(hk rfl).1.trans h0, n, hatt.trans hn, e, hout.trans he, hadd⟩
  | okLock | okFin =>
    obtain ⟨n, hn, hlt, ho, hne, hwin⟩ := h
    exact ⟨n, hatt.trans hn, (hk rfl).2 ▸ hlt, hout.trans ho, hne, (hk rfl).1.trans hwin⟩

/-- `P` is `s.pc` after an optional Broadcast; `cs` and `own` are asked for of `upd s.pc t X` instead: `locked`, `adder`
and `At` do not tell `woken` from `asleep` -/
theorem Inv.step_to (h : Inv add key s) {P : Nat → PC} (hP : Woke P s.pc) (hpc : s'.pc = upd P t X)
    (cs : Excl locked s'.mu (upd s.pc t X))
    (own : ∀ u, adder (upd s.pc t X u) = true ↔ s'.cache (key u) = .inflight u)
    (entries : ∀ k, EntryOK add key s' k (s'.cache k)) (self : At add key s' t X)
    (frame : ∀ u, u ≠ t → At add key s u (s.pc u) → At add key s' u (s.pc u)) : Inv add key s' := by
  have pcs : ∀ {β : Type} (c : PC → β), c .woken = c .asleep → ∀ u, c (s'.pc u) = c (upd s.pc t X u) := by
    intro β c hc u
    rw [hpc]
    by_cases hu : u = t
    · subst hu; rw [upd_same, upd_same]
    · rw [upd_other hu, upd_other hu]; exact hP.congr c hc u
  have each : ∀ u p, s'.pc u = p → At add key s' u p := by
    intro u p hp
    rw [← hp, pcs (At add key s' u) rfl u]
    exact each_upd (fun u => h.atPc rfl) rfl self frame u
  have entry : ∀ k e, s'.cache k = e → EntryOK add key s' k e := fun k e he => he ▸ entries k
  exact {
    cs := fun u => by rw [pcs locked rfl]; exact cs u
    own := fun u => by rw [pcs adder rfl]; exact own u
    ownk := fun k _ => entry k _
    hitv := fun k _ => entry k _
    absent := fun k => entry k _
    adding := fun u => each u _
    errs := fun u hu => hu.elim (each u _) (each u _)
    oks := fun u hu => hu.elim (each u _) (each u _)
    fin := fun u => each u _ }

/-- `hr` is stated about `s` with the new entry only: `ResOK` reads nothing but `cache` and `att` -/
theorem Inv.finish (h : Inv add key s) (hp : s.pc t = p) (hl : locked p = true) (ha : adder p = true)
    {P : Nat → PC} (hP : Woke P s.pc) {e : Entry ν} {r : Outcome ν ε}
    (he : EntryOK add key s (key t) e) (hne : ∀ u, e ≠ .inflight u)
    (hr : ResOK add key { s with cache := upd s.cache (key t) e } t r) :
    Inv add key { s with mu := none, cache := upd s.cache (key t) e, res := upd s.res t (some r),
                         pc := upd P t .fin } := by
  have hown : s.cache (key t) = .inflight t := (h.own t).1 (hp ▸ ha)
  exact h.step_to hP rfl (h.excl.release hp hl rfl)
    (h.own_upd (fun u hu => (Entry.inflight.inj (hown.symm.trans hu)).symm) (fun u hu => absurd hu (hne u))
      (by simp [adder, hne t]))
    (h.entries_upd (key t) rfl (fun _ _ => rfl) (fun _ _ => rfl) he) ⟨r, upd_same, hr⟩
    (fun u hu => At.frame _ rfl rfl (upd_other hu) (fun _ => ⟨rfl, rfl⟩) fun v => val_kept hown nofun)

theorem Step.inv {r : Bool} (hs : Step r add key s t s') (h : Inv add key s) : Inv add key s' := by
  have cs := h.excl
  have noWake : Woke s.pc s.pc := fun _ => .inl rfl
  have same : ∀ {m P R u p}, R u = s.res u → At add key s u p →
      At add key { s with mu := m, pc := P, res := R } u p :=
    fun hr => At.frame _ rfl rfl hr (fun _ => ⟨rfl, rfl⟩) (fun _ hv => hv)
  cases hs with
  | @lock p X hp hl hm =>
    have hX : locked X = true ∧ adder X = adder p ∧ (At add key s t p → At add key s t X) := by
      cases hl <;> exact ⟨rfl, rfl, id⟩
    exact h.step_to noWake rfl (cs.acquire hm hX.1) (move_iff h.own hp hX.2.1) h.entry
      (same rfl (hX.2.2 (h.atPc hp))) (fun u _ => same rfl)
  | hit hp hv =>
    exact h.step_to noWake rfl (cs.release hp rfl rfl) (move_iff h.own hp rfl) h.entry
      ⟨_, upd_same, hv⟩ (fun u hu => same (upd_other hu))
  | wait hp =>  -- someone else is adding: cond.Wait()
    exact h.step_to noWake rfl (cs.release hp rfl rfl) (move_iff h.own hp rfl) h.entry
      trivial (fun u _ => same rfl)
  | mark hp ha =>
    exact h.step_to noWake rfl (cs.release hp rfl rfl)
      (h.own_upd (fun u hu => nomatch ha.symm.trans hu) (fun u hu => (Entry.inflight.inj hu).symm)
        (by simp [adder]))
      (h.entries_upd (key t) rfl (fun _ _ => rfl) (fun _ _ => rfl) rfl) (h.absent _ ha)
      (fun u hu => At.frame _ rfl rfl rfl (fun _ => ⟨rfl, rfl⟩) fun v => val_kept ha nofun)
  | @add n o hp _ ho =>
    have hown : s.cache (key t) = .inflight t := (h.own t).1 (by rw [hp]; rfl)
    have hw0 : s.wins (key t) = 0 := h.atPc hp
    -- an adder owns the marker of its key, and that of `key t` is `t`'s
    have otherKey : ∀ u, u ≠ t → adder (s.pc u) = true → key u ≠ key t :=
      fun u hu ha hk => hu (Entry.inflight.inj (hown.symm.trans (hk ▸ (h.own u).1 ha))).symm
    refine h.step_to noWake rfl (cs.move hp (by split <;> rfl)) (move_iff h.own hp (by split <;> rfl))
      (h.entries_upd (key t) (eq_upd_self hown) (fun _ hk => upd_other hk) (fun _ hk => upd_other hk) rfl)
      ?self
      (fun u hu => At.frame _ (upd_other hu) (upd_other hu) rfl
        (fun ha => ⟨upd_other (otherKey u hu ha), upd_other (otherKey u hu ha)⟩) (fun _ hv => hv))
    cases hi : isErr o
    · exact ⟨n, upd_same, Nat.lt_of_lt_of_eq (Nat.lt_succ_self n) upd_same.symm, upd_same.trans (congrArg some ho.symm),
        ho ▸ hi, upd_same.trans (by rw [hw0, Nat.zero_add, ho])⟩
    · cases o with
      | err e => exact ⟨upd_same.trans hw0, n, upd_same, e, upd_same, ho⟩
      | _ => cases hi
  | errFin hp =>
    obtain ⟨hw0, n, hatt, e, hout, hadd⟩ := h.atPc hp
    have hP : Woke (if r = true then wake s.pc else s.pc) s.pc := by
      cases r
      · exact fun _ => .inl rfl
      · exact fun _ => .inr rfl
    rw [hout]
    exact h.finish hp rfl rfl hP hw0 (fun _ => nofun) ⟨n, hatt, hadd⟩
  | okFin hp =>
    obtain ⟨n, hatt, hlt, hout, hne, hwins⟩ := h.atPc hp
    rw [hout]
    cases ho : add (key t) n with
    | err x => rw [ho] at hne; cases hne
    | nil =>
      rw [ho] at hwins
      exact h.finish hp rfl rfl (fun _ => .inr rfl) hwins (fun _ => nofun) ⟨n, hatt, ho⟩
    | val v =>
      rw [ho] at hwins
      exact h.finish hp rfl rfl (fun _ => .inr rfl) ⟨hwins, n, hlt, ho⟩ (fun _ => nofun) upd_same

theorem inv_step (repaired : Bool) (add : Nat → Nat → Outcome ν ε) (key : Nat → Nat) (s : St ν ε) (t : Nat)
    (h : Inv add key s) : Inv add key (step repaired add key s t) :=
  (step_cases repaired add key s t).elim (fun e => e.2.symm ▸ h) fun hs => hs.2.inv h

theorem At.wins_le (ha : adder p = true) (h : At add key s t p) : s.wins (key t) ≤ 1 := by
  cases p with
  | adding => exact Nat.le_trans (Nat.le_of_eq h) (Nat.zero_le 1)
  | errLock | errFin => exact Nat.le_trans (Nat.le_of_eq h.1) (Nat.zero_le 1)
  | okLock | okFin => obtain ⟨n, _, _, _, _, hw⟩ := h; rw [hw]; split <;> decide
  | _ => nomatch ha

theorem Inv.wins_le (h : Inv add key s) (k : Nat) : s.wins k ≤ 1 := by
  cases hc : s.cache k with
  | absent => exact Nat.le_trans (Nat.le_of_eq (h.absent k hc)) (Nat.zero_le 1)
  | val v => exact Nat.le_of_eq (h.hitv k v hc).1
  | inflight t =>
    cases h.ownk k t hc
    exact (h.atPc rfl).wins_le ((h.own t).2 hc)

theorem Inv.fin_val {v : ν} (h : Inv add key s) (ht : s.pc t = .fin) (hr : s.res t = some (.val v)) :
    s.cache (key t) = .val v := by
  obtain ⟨r, hr', hok⟩ := h.fin t ht
  cases Option.some.inj (hr'.symm.trans hr)
  exact hok

/-! ### liveness side (the repaired protocol): nobody sleeps unless somebody is adding its key -/

structure Live (key : Nat → Nat) (N : Nat) (s : St ν ε) : Prop where
  sleep : ∀ t, s.pc t = .asleep → ∃ w, s.cache (key t) = .inflight w
  idle : ∀ t, N ≤ t → s.pc t = .start   -- the callers are the threads below `N`; the others never start

theorem live_init (key : Nat → Nat) (N : Nat) : Live key N (init : St ν ε) := by
  constructor <;> simp [init]

theorem Live.step_to {N : Nat} (h : Live key N s) (ht : t < N) {P : Nat → PC} (hpc : s'.pc = upd P t X)
    (hP : ∀ u, s.pc u = .start → P u = .start)
    (self : X = .asleep → ∃ w, s'.cache (key t) = .inflight w)
    (others : ∀ u, u ≠ t → P u = .asleep → ∃ w, s'.cache (key u) = .inflight w) : Live key N s' := by
  constructor
  · intro u hu
    rw [hpc] at hu
    by_cases hut : u = t
    · subst hut; exact self (upd_same.symm.trans hu)
    · exact others u hut ((upd_other hut).symm.trans hu)
  · intro u hN
    have hut : u ≠ t := by omega
    rw [hpc, upd_other hut]
    exact hP u (h.idle u hN)

theorem Step.live {N : Nat} (hs : Step true add key s t s') (ht : t < N) (h : Live key N s) : Live key N s' := by
  have plain : ∀ {s' : St ν ε} X, X ≠ .asleep → s'.pc = upd s.pc t X → s'.cache = s.cache → Live key N s' :=
    fun X hX hpc hc => h.step_to ht hpc (fun _ => id) (fun e => absurd e hX) (fun u _ hu => hc ▸ h.sleep u hu)
  have bcast : ∀ {s' : St ν ε}, s'.pc = upd (wake s.pc) t .fin → Live key N s' :=
    fun hpc => h.step_to ht hpc (fun u hu => by rw [wake, hu]; rfl) nofun
      (fun u _ hu => absurd hu (wake_ne_asleep _ _))
  cases hs with
  | lock _ hl => exact plain _ (by cases hl <;> nofun) rfl rfl
  | hit => exact plain .fin nofun rfl rfl
  | wait _ hw => exact h.step_to ht rfl (fun _ => id) (fun _ => ⟨_, hw⟩) (fun u _ => h.sleep u)
  | mark =>
    refine h.step_to ht rfl (fun _ => id) nofun (fun u _ hu => ?_)
    by_cases hk : key u = key t
    · exact ⟨t, hk ▸ upd_same⟩
    · exact (h.sleep u hu).imp fun w hw => (upd_other hk).trans hw
  | add => exact plain _ (by split <;> nofun) rfl rfl
  | errFin => exact bcast rfl
  | okFin => exact bcast rfl

theorem live_step (add : Nat → Nat → Outcome ν ε) (key : Nat → Nat) (N : Nat) (s : St ν ε) (t : Nat)
    (ht : t < N) (h : Live key N s) : Live key N (step true add key s t) :=
  (step_cases true add key s t).elim (fun e => e.2.symm ▸ h) fun hs => hs.2.live ht h

theorem enabled_of_locked (hl : locked (s.pc u) = true) : enabled s u = true := by
  unfold enabled
  cases hp : s.pc u <;> rw [hp] at hl <;>
    first | rfl | cases hl

theorem enabled_of_free (hm : s.mu = none) (hf : s.pc u ≠ .fin) (ha : s.pc u ≠ .asleep) : enabled s u = true := by
  unfold enabled
  cases hp : s.pc u with
  | fin => exact absurd hp hf
  | asleep => exact absurd hp ha
  | start | woken | errLock | okLock => exact Option.isNone_iff_eq_none.2 hm
  | _ => rfl

/-- no deadlock: while some of the N callers has not returned, one of them can take a step -/
theorem no_deadlock {N : Nat} (hi : Inv add key s) (h : Live key N s) (t : Nat) (ht : t < N)
    (hnf : s.pc t ≠ .fin) : ∃ u, u < N ∧ enabled s u = true := by
  have small : ∀ u, s.pc u ≠ .start → u < N := fun u hu => Nat.lt_of_not_le fun hN => hu (h.idle u hN)
  cases hm : s.mu with
  | some w =>
    have hl := (hi.cs w).2 hm
    exact ⟨w, small w (ne_of_class hl rfl), enabled_of_locked hl⟩
  | none =>
    by_cases hs : s.pc t = .asleep
    · -- `t` sleeps on a marker, whose owner is adding and does not need the mutex or has it free
      obtain ⟨w, hw⟩ := h.sleep t hs
      have had : adder (s.pc w) = true := (hi.own w).2 (by rw [hi.ownk _ _ hw]; exact hw)
      exact ⟨w, small w (ne_of_class had rfl), enabled_of_free hm (ne_of_class had rfl) (ne_of_class had rfl)⟩
    · exact ⟨t, ht, enabled_of_free hm hnf hs⟩

/-! ### termination measure: every effective step of one of the N callers decreases it -/

def sumTo (N : Nat) (g : Nat → Nat) : Nat :=
  match N with
  | 0 => 0
  | n + 1 => sumTo n g + g n

theorem sumTo_congr (N : Nat) (g g' : Nat → Nat) (h : ∀ u, u < N → g' u = g u) : sumTo N g' = sumTo N g := by
  induction N with
  | zero => rfl
  | succ n ih => rw [sumTo, sumTo, ih (fun u hu => h u (by omega)), h n (by omega)]

theorem sumTo_upd (N : Nat) (g : Nat → Nat) (t : Nat) (ht : t < N) (x : Nat) :
    sumTo N (upd g t x) + g t = sumTo N g + x := by
  induction N with
  | zero => omega
  | succ n ih =>
    rw [sumTo, sumTo]
    by_cases hn : n = t
    · subst hn
      rw [upd_same, sumTo_congr n g _ fun u hu => upd_other (Nat.ne_of_lt hu)]
      exact Nat.add_right_comm ..
    · rw [upd_other hn, Nat.add_right_comm, ih (by omega), Nat.add_right_comm]

theorem sumTo_le_add (N : Nat) (g g' : Nat → Nat) (c : Nat) (h : ∀ u, g' u ≤ g u + c) :
    sumTo N g' ≤ sumTo N g + N * c := by
  induction N with
  | zero => simp [sumTo]
  | succ n ih =>
    rw [sumTo, sumTo, Nat.succ_mul]
    have := h n
    omega

theorem sumTo_const (N c : Nat) : sumTo N (fun _ => c) = N * c := by
  induction N with
  | zero => exact (Nat.zero_mul c).symm
  | succ n ih => rw [sumTo, ih, Nat.succ_mul]

/-- steps left on the longest way to the caller's return without sleeping.  A sleeper gets the least value that is
not `fin`'s, so that `check → asleep` drops too; a Broadcast then lifts it by `rank woken - 1 = 4` -/
def rank : PC → Nat
  | .start => 5 | .woken => 5 | .check => 4 | .adding => 3 | .errLock => 2 | .okLock => 2
  | .errFin => 1 | .okFin => 1 | .asleep => 1 | .fin => 0

/-- weight of a caller: 0 once returned, otherwise large enough to pay for one Broadcast -/
def weight (N : Nat) (p : PC) : Nat := if p = .fin then 0 else 4 * N + rank p

def measure (N : Nat) (pc : Nat → PC) : Nat := sumTo N (fun u => weight N (pc u))

theorem weight_wake (N : Nat) (pc : Nat → PC) (u : Nat) : weight N (wake pc u) ≤ weight N (pc u) + 4 := by
  unfold wake
  by_cases h : pc u = .asleep
  · simp [h, weight, rank]
  · simp [h]

theorem measure_upd_lt {N c : Nat} {pc P : Nat → PC} (ht : t < N)
    (hP : ∀ u, weight N (P u) ≤ weight N (pc u) + c) (hlt : weight N X + N * c < weight N (P t)) :
    measure N (upd P t X) < measure N pc := by
  unfold measure
  have e : (fun u => weight N (upd P t X u)) = upd (fun u => weight N (P u)) t (weight N X) := by
    funext u
    by_cases hu : u = t
    · rw [hu, upd_same, upd_same]
    · rw [upd_other hu, upd_other hu]
  have h1 := sumTo_upd N (fun u => weight N (P u)) t ht (weight N X)
  have h2 := sumTo_le_add N (fun u => weight N (pc u)) (fun u => weight N (P u)) c hP
  rw [e]
  omega

theorem weight_lt {N : Nat} (hr : rank X < rank p) : weight N X < weight N p := by
  have hp : p ≠ .fin := fun e => Nat.not_lt_zero _ (e ▸ hr)
  unfold weight
  rw [if_neg hp]
  split
  · exact Nat.lt_of_lt_of_le (Nat.zero_lt_of_lt hr) (Nat.le_add_left _ _)
  · exact Nat.add_lt_add_left hr _

theorem measure_own {N : Nat} {pc : Nat → PC} (ht : t < N) (hp : pc t = p) (hr : rank X < rank p) :
    measure N (upd pc t X) < measure N pc :=
  measure_upd_lt (c := 0) ht (fun _ => Nat.le_refl _) (hp ▸ weight_lt hr)

theorem measure_bcast {N : Nat} {pc : Nat → PC} (ht : t < N) (hp : pc t = p) (hne : p ≠ .fin) (hna : p ≠ .asleep) :
    measure N (upd (wake pc) t .fin) < measure N pc := by
  have hr : 0 < rank p := by cases p <;> first | exact Nat.succ_pos _ | exact absurd rfl hne
  refine measure_upd_lt (c := 4) ht (weight_wake N pc) ?_
  -- the mover gives up `4 * N + rank p`, which pays for lifting each of the `N` callers by 4
  rw [wake, hp, if_neg hna, weight, weight, if_pos rfl, if_neg hne]
  omega

theorem Step.measure_lt {r : Bool} {N : Nat} (hs : Step r add key s t s') (ht : t < N) :
    measure N s'.pc < measure N s.pc := by
  cases hs with
  | lock hp hl => exact measure_own ht hp (by cases hl <;> decide)
  | hit hp | wait hp | mark hp => exact measure_own ht hp (by decide)
  | add hp => exact measure_own ht hp (by split <;> decide)
  | errFin hp =>
    cases r
    · exact measure_own ht hp (by decide)
    · exact measure_bcast ht hp PC.noConfusion PC.noConfusion
  | okFin hp => exact measure_bcast ht hp PC.noConfusion PC.noConfusion

/-- number of scheduled steps that were enabled when they were taken -/
def effective {ν ε : Type} (r : Bool) (add : Nat → Nat → Outcome ν ε) (key : Nat → Nat) :
    List Nat → St ν ε → Nat
  | [], _ => 0
  | t :: rest, s => (if enabled s t then 1 else 0) + effective r add key rest (step r add key s t)

theorem effective_bound (r : Bool) (add : Nat → Nat → Outcome ν ε) (key : Nat → Nat) (N : Nat)
    (sched : List Nat) (hs : ∀ x ∈ sched, x < N) (s : St ν ε) :
    effective r add key sched s + measure N (run r add key sched s).pc ≤ measure N s.pc := by
  induction sched generalizing s with
  | nil => exact Nat.le_of_eq (Nat.zero_add _)
  | cons t rest ih =>
    have ih := ih (fun x hx => hs x (List.mem_cons_of_mem _ hx)) (step r add key s t)
    show (if enabled s t then 1 else 0) + effective r add key rest (step r add key s t) +
      measure N (run r add key rest (step r add key s t)).pc ≤ measure N s.pc
    rcases step_cases r add key s t with ⟨he, e⟩ | ⟨he, h⟩
    · rw [e] at ih ⊢
      rw [he, if_neg Bool.false_ne_true]
      omega
    · have := h.measure_lt (N := N) (hs t List.mem_cons_self)
      rw [he, if_pos rfl]
      omega

theorem measure_init (N : Nat) : measure N (init : St ν ε).pc = N * (4 * N + 5) :=
  sumTo_const N (4 * N + 5)

end GetOrAdd

/-! ## Seen -/
namespace Seen

/-- no field speaks of the lock words `writer`, `readers`: every step of the machine is atomic, and these facts hold
whatever the two locks admit.  So nothing is proved of the RWMutex part of the machine, not even that `readers` is
positive where `step` computes `readers - 1` (a truncated subtraction) -/
structure Inv (key : Nat → Nat) (s : St) : Prop where
  trueOK : ∀ t, s.res t = some true → s.m (key t) = true
  fin : ∀ t, s.pc t = .fin → s.m (key t) = true ∧ (s.res t = some false ∨ s.res t = some true)
  unfin : ∀ t, s.pc t ≠ .fin → s.res t = none
  rT : ∀ t, s.pc t = .runlockT → s.m (key t) = true
  witness : ∀ k, s.m k = true → ∃ t, key t = k ∧ s.res t = some false

def At (key : Nat → Nat) (s : St) (t : Nat) : PC → Prop
  | .fin => s.m (key t) = true ∧ (s.res t = some false ∨ s.res t = some true)
  | .runlockT => s.res t = none ∧ s.m (key t) = true
  | _ => s.res t = none

variable {key : Nat → Nat} {s s' : St} {t u k : Nat} {p X : PC}

theorem inv_init (key : Nat → Nat) : Inv key init :=
  ⟨nofun, nofun, fun _ _ => rfl, nofun, nofun⟩

theorem Inv.atPc (h : Inv key s) (hp : s.pc t = p) : At key s t p := by
  cases p with
  | fin => exact h.fin t hp
  | runlockT => exact ⟨h.unfin t (hp ▸ nofun), h.rT t hp⟩
  | _ => exact h.unfin t (hp ▸ nofun)

theorem At.frame (p : PC) (hm : ∀ k, s.m k = true → s'.m k = true) (hres : s'.res u = s.res u)
    (h : At key s u p) : At key s' u p := by
  cases p with
  | fin => exact ⟨hm _ h.1, hres ▸ h.2⟩
  | runlockT => exact ⟨hres.trans h.1, hm _ h.2⟩
  | _ => exact hres.trans h

theorem At.res_none (hp : p ≠ .fin) (h : At key s u p) : s.res u = none := by
  cases p with
  | fin => exact absurd rfl hp
  | runlockT => exact h.1
  | _ => exact h

theorem Inv.step_to (h : Inv key s) (hpc : s'.pc = upd s.pc t X)
    (witness : ∀ k, s'.m k = true → ∃ t, key t = k ∧ s'.res t = some false) (self : At key s' t X)
    (frame : ∀ u, u ≠ t → At key s u (s.pc u) → At key s' u (s.pc u)) : Inv key s' := by
  have each : ∀ u p, s'.pc u = p → At key s' u p :=
    fun u _ hp => hp ▸ each_upd (fun u => h.atPc rfl) hpc self frame u
  have unfin : ∀ u, s'.pc u ≠ .fin → s'.res u = none := fun u hu => (each u _ rfl).res_none hu
  refine ⟨fun u hr => ?_, fun u => each u _, unfin, fun u hu => (each u _ hu).2, witness⟩
  by_cases hp : s'.pc u = .fin
  · exact (each u _ hp).1
  · rw [unfin u hp] at hr; cases hr

theorem witness_kept {x : Option Bool} (hnone : s.res t = none) :
    (∃ w, key w = k ∧ s.res w = some false) → ∃ w, key w = k ∧ upd s.res t x w = some false :=
  fun ⟨w, hw, hr⟩ => ⟨w, hw, (upd_other fun e => by rw [e, hnone] at hr; cases hr).trans hr⟩

theorem inv_step (key : Nat → Nat) (s : St) (t : Nat) (h : Inv key s) : Inv key (step key s t) := by
  -- the assertions of `rlock`, `test`, `runlockF`, `lock`, `set` are one proposition (`s.res t = none`): `(h.atPc hp :)`
  -- elaborates it at the old pc before it is used at the new
  have move : ∀ {w r X}, At key s t X → Inv key { s with writer := w, readers := r, pc := upd s.pc t X } :=
    fun hX => h.step_to rfl h.witness hX fun _ _ => id
  unfold step
  split
  next hp =>  -- rlock
    split
    · exact move (h.atPc hp :)
    · exact h
  next hp =>  -- test
    refine move ?_
    cases hm : s.m (key t)
    · exact (h.atPc hp :)
    · exact ⟨h.atPc hp, hm⟩
  next hp =>  -- runlockT: return true
    obtain ⟨hnone, hm⟩ := h.atPc hp
    exact h.step_to rfl (fun k hk => witness_kept hnone (h.witness k hk)) ⟨hm, .inr upd_same⟩
      (fun u hu => At.frame _ (fun _ => id) (upd_other hu))
  next hp => exact move (h.atPc hp :)  -- runlockF
  next hp =>  -- lock
    split
    · exact move (h.atPc hp :)
    · exact h
  next hp =>  -- set: record, return false
    have mono : ∀ k, s.m k = true → upd s.m (key t) true k = true := by
      intro k hk
      by_cases hkk : k = key t
      · rw [hkk, upd_same]
      · rw [upd_other hkk]; exact hk
    refine h.step_to rfl (fun k hk => ?_) ⟨upd_same, .inl upd_same⟩ (fun u hu => At.frame _ mono (upd_other hu))
    by_cases hkk : k = key t
    · exact ⟨t, hkk.symm, upd_same⟩
    · exact witness_kept (h.atPc hp) (h.witness k ((upd_other hkk).symm.trans hk))
  next => exact h

end Seen

/-! ## Happens-before: accesses under one mutex or one Once are ordered -/
namespace HB

theorem hb_lt {tr : Trace} {i j : Nat} (h : hb tr i j) : i < j := by
  induction h with
  | po h _ _ => exact h
  | mutex h _ _ _ => exact h
  | once h _ _ => exact h
  | chan h _ _ => exact h
  | spawn h _ _ => exact h
  | trans _ _ ih1 ih2 => omega

theorem same_event {tr : Trace} {i t u : Nat} {a b : Ev} (h1 : tr[i]? = some (t, a)) (h2 : tr[i]? = some (u, b)) :
    t = u ∧ a = b := by
  cases h1.symm.trans h2; exact ⟨rfl, rfl⟩

theorem WF.excl_symm {tr : Trace} (wf : WF tr) {m i t u : Nat} {x y : Bool} (htu : t ≠ u) (ht : holds tr t m x i)
    (hu : holds tr u m y i) (hxy : x = true ∨ y = true) : False := by
  rcases hxy with rfl | rfl
  · exact wf.excl m i t u y htu ht hu
  · exact wf.excl m i u t x (Ne.symm htu) hu ht

theorem PostOK.mutex_holds {tr : Trace} {m i t : Nat} {e : Ev} (h : PostOK tr (.mutex m) i t e) :
    ∃ x, holds tr t m x i ∧ (isWr e = true → x = true) :=
  h.elim (fun hx => ⟨true, hx, fun _ => rfl⟩) fun ⟨hr, hs⟩ => ⟨false, hs, fun hw => nomatch hr.symm.trans hw⟩

/-- two accesses under the same mutex, at least one of them holding it exclusively, are ordered -/
theorem hb_of_mutex {tr : Trace} (wf : WF tr) {m i j t u l : Nat} {x y : Bool} {a b : Ev}
    (hij : i < j) (htu : t ≠ u) (hi : tr[i]? = some (t, a)) (hj : tr[j]? = some (u, b))
    (hacc : onLoc l a = true) (h1 : holds tr t m x i) (h2 : holds tr u m y j) (hxy : x = true ∨ y = true) :
    hb tr i j := by
  obtain ⟨a1, ha1i, ha1, hno1⟩ := h1
  obtain ⟨a2, ha2j, ha2, hno2⟩ := h2
  -- `u` acquires after `i`: otherwise both hold the mutex at `i`
  have gt : i < a2 := by
    refine Nat.lt_of_le_of_ne (Nat.le_of_not_lt fun lt => ?_) fun e => htu (same_event hi (e ▸ ha2)).1
    exact wf.excl_symm htu ⟨a1, ha1i, ha1, hno1⟩ ⟨a2, lt, ha2, fun b hb1 hb2 => hno2 b hb1 (by omega)⟩ hxy
  -- `t` releases before that: otherwise both hold the mutex just after `a2`
  have hrel : ∃ xr, a1 < xr ∧ xr < a2 ∧ tr[xr]? = some (t, .rel x m) := by
    apply Classical.byContradiction
    intro hn
    have hu : holds tr u m y (a2 + 1) := ⟨a2, Nat.lt_succ_self _, ha2, fun b _ _ => by omega⟩
    refine wf.excl_symm htu ⟨a1, by omega, ha1, fun b hb1 hb2 heq => ?_⟩ hu hxy
    by_cases hb : b = a2
    · exact htu (same_event heq (hb ▸ ha2)).1
    · exact hn ⟨b, hb1, by omega, heq⟩
  obtain ⟨xr, hx1, hx2, hxr⟩ := hrel
  -- and after `i`, where it still holds it
  have gt2 : i < xr := by
    refine Nat.lt_of_le_of_ne (Nat.le_of_not_lt fun lt => hno1 xr hx1 lt hxr) fun e => ?_
    exact nomatch (same_event hi (e ▸ hxr)).2 ▸ hacc
  exact .trans (.po gt2 hi hxr) (.trans (.mutex hx2 hxr ha2 hxy) (.po ha2j ha2 hj))

theorem hb_of_once {tr : Trace} (wf : WF tr) {k i j t u l : Nat} {a b : Ev}
    (hij : i < j) (htu : t ≠ u) (hi : tr[i]? = some (t, a)) (hj : tr[j]? = some (u, b))
    (hacc : onLoc l a = true)
    (h1 : inside tr t k i ∨ (isWr a = false ∧ afterDo tr t k i))
    (h2 : inside tr u k j ∨ (isWr b = false ∧ afterDo tr u k j))
    (hw : isWr a = true ∨ isWr b = true) : hb tr i j := by
  have runner : ∀ {x y v w : Nat}, tr[x]? = some (v, Ev.onceBegin k) → tr[y]? = some (w, Ev.onceEnd k) →
      w = v ∧ x < y := by
    intro x y v w hx hy
    obtain ⟨x', hx'y, hx'⟩ := wf.endBegin k y w hy
    have := wf.beginUnique k x x' v w hx hx'
    subst this
    exact ⟨(same_event hx hx').1.symm, hx'y⟩
  rcases h1 with ⟨b1, hb1i, hb1, hnoend1⟩ | ⟨hra, r1, hr1i, hr1⟩
  · rcases h2 with ⟨b2, hb2j, hb2, _⟩ | ⟨_, r2, hr2j, hr2⟩
    · -- both inside the single run of f: same goroutine
      have := wf.beginUnique k b1 b2 t u hb1 hb2
      subst this
      exact absurd (same_event hb1 hb2).1 htu
    · -- i inside f, j after a Do returned
      obtain ⟨e, t', her, he⟩ := wf.retEnd k r2 u hr2
      obtain ⟨rfl, hb1e⟩ := runner hb1 he
      have gt : i < e := by
        refine Nat.lt_of_le_of_ne (Nat.le_of_not_lt fun lt => hnoend1 e hb1e lt he) fun e' => ?_
        exact nomatch (same_event hi (e' ▸ he)).2 ▸ hacc
      exact .trans (.po gt hi he) (.trans (.once her he hr2) (.po hr2j hr2 hj))
  · rcases h2 with ⟨b2, hb2j, hb2, hnoend2⟩ | ⟨hrb, _⟩
    · -- i after a Do returned, j inside f: impossible, f had completed before
      obtain ⟨e, t', her, he⟩ := wf.retEnd k r1 t hr1
      obtain ⟨rfl, hb2e⟩ := runner hb2 he
      exact absurd he (hnoend2 e hb2e (by omega))
    · rcases hw with h | h
      · rw [hra] at h; cases h
      · rw [hrb] at h; cases h

/-! ### refuting happens-before on a concrete trace: a decidable base-edge test and predecessor sets -/

/-- `u` is the goroutine of the later event: a `go ch` orders only the `start` of `ch` after it -/
def syncB (u : Nat) : Ev → Ev → Bool
  | .rel x m, .acq y m' => m == m' && (x || y)
  | .onceEnd k, .onceRet k' => k == k'
  | .send c n, .recv c' n' => c == c' && n == n'
  | .go ch, .start => ch == u
  | _, _ => false

def edgeB (tr : Trace) (i j : Nat) : Bool :=
  decide (i < j) &&
    match tr[i]?, tr[j]? with
    | some (t, e), some (u, e') => t == u || syncB u e e'
    | _, _ => false

theorem edgeB_lt {tr : Trace} {i j : Nat} (h : edgeB tr i j = true) : i < tr.length ∧ j < tr.length := by
  unfold edgeB at h
  cases hi : tr[i]? with
  | none => simp [hi] at h
  | some a =>
    cases hj : tr[j]? with
    | none => simp [hi, hj] at h
    | some b => exact ⟨(List.getElem?_eq_some_iff.1 hi).1, (List.getElem?_eq_some_iff.1 hj).1⟩

theorem edgeB_of {tr : Trace} {i j t u : Nat} {e e' : Ev} (hlt : i < j) (h1 : tr[i]? = some (t, e))
    (h2 : tr[j]? = some (u, e')) (hs : t = u ∨ syncB u e e' = true) : edgeB tr i j = true := by
  simpa [edgeB, hlt, h1, h2] using hs

/-- if `pred` is closed under the base edges, it contains everything that happens-before -/
theorem hb_pred {tr : Trace} (pred : Nat → List Nat)
    (hc : ∀ i j, edgeB tr i j = true → i ∈ pred j ∧ ∀ x, x ∈ pred i → x ∈ pred j) {i j : Nat} (h : hb tr i j) :
    i ∈ pred j ∧ ∀ x, x ∈ pred i → x ∈ pred j := by
  induction h with
  | po hlt h1 h2 => exact hc _ _ (edgeB_of hlt h1 h2 (.inl rfl))
  | mutex hlt h1 h2 hxy => exact hc _ _ (edgeB_of hlt h1 h2 (.inr (by simpa [syncB] using hxy)))
  | once hlt h1 h2 => exact hc _ _ (edgeB_of hlt h1 h2 (.inr (beq_self_eq_true _)))
  | chan hlt h1 h2 => exact hc _ _ (edgeB_of hlt h1 h2 (.inr (by simp [syncB])))
  | spawn hlt h1 h2 => exact hc _ _ (edgeB_of hlt h1 h2 (.inr (beq_self_eq_true _)))
  | trans _ _ ih1 ih2 => exact ⟨ih2.2 _ ih1.1, fun x hx => ih2.2 _ (ih1.2 x hx)⟩

def closedB (tr : Trace) (pred : Nat → List Nat) : Bool :=
  (List.range tr.length).all fun i => (List.range tr.length).all fun j =>
    !edgeB tr i j || ((pred j).contains i && (pred i).all fun x => (pred j).contains x)

theorem mem_pred_of_hb {tr : Trace} {pred : Nat → List Nat} (hc : closedB tr pred = true) {i j : Nat}
    (h : hb tr i j) : i ∈ pred j := by
  refine (hb_pred pred (fun i j he => ?_) h).1
  have hl := edgeB_lt he
  have := List.all_eq_true.1 (List.all_eq_true.1 hc i (List.mem_range.2 hl.1)) j (List.mem_range.2 hl.2)
  simp [he] at this
  exact ⟨this.1, fun x hx => this.2 x hx⟩

/-! ### a concrete well-formed trace (the hypotheses of `discipline_sound` can be met) -/

def mutexTrace : Trace :=
  [(0, .acq true 0), (0, .wr 7), (0, .rel true 0), (1, .acq true 0), (1, .rd 7), (1, .rel true 0)]

theorem mutexTrace_acq {a t m : Nat} {x : Bool} (h : mutexTrace[a]? = some (t, .acq x m)) :
    (a = 0 ∧ t = 0 ∨ a = 3 ∧ t = 1) ∧ x = true ∧ m = 0 := by
  rcases a with _ | _ | _ | _ | _ | _ | a <;> cases h
  · exact ⟨.inl ⟨rfl, rfl⟩, rfl, rfl⟩
  · exact ⟨.inr ⟨rfl, rfl⟩, rfl, rfl⟩

theorem mutexTrace_wf : WF mutexTrace := by
  constructor
  · rintro m i t u x htu ⟨a, hai, ha, hna⟩ ⟨a', ha'i, ha', hna'⟩
    obtain ⟨h1, _, hm⟩ := mutexTrace_acq ha
    obtain ⟨h2, hx, _⟩ := mutexTrace_acq ha'
    subst hm
    subst hx
    -- two holders are the two Locks; the first one's Unlock (event 2) lies in between
    rcases h1 with ⟨rfl, rfl⟩ | ⟨rfl, rfl⟩ <;> rcases h2 with ⟨rfl, rfl⟩ | ⟨rfl, rfl⟩
    · exact htu rfl
    · exact hna 2 (by omega) (by omega) rfl
    · exact hna' 2 (by omega) (by omega) rfl
    · exact htu rfl
  -- the trace has no Once event
  · intro k i j t u h
    rcases i with _ | _ | _ | _ | _ | _ | i <;> cases h
  · intro k e t h
    rcases e with _ | _ | _ | _ | _ | _ | e <;> cases h
  · intro k r u h
    rcases r with _ | _ | _ | _ | _ | _ | r <;> cases h

end HB

end Arrai.C11
