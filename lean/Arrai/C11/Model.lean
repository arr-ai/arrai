/-
  C11 — concurrent evaluation over shared values is race-free and gives serial results.

  `Impl.Sync` in DESIGN.md: every piece of lazily initialised shared state of arr.ai, transliterated as a
  transition system over interleavings: each caller is a little program of atomic steps (one `PC`
  value per step), a schedule is a list of thread ids, `run` folds `step` over the schedule.  A step
  of a thread that is blocked (mutex held by someone else, asleep on the condition variable) or
  finished leaves the state unchanged, so *every* list of thread ids is a schedule.

    Once      sync.Once.Do(f) followed by the read of the guarded variable
              (GenericTuple.Names / getBucket / TupleOrderedNames, positionalRelation.getMeta,
               syntax.FixFuncs / StdScope / SafeStdScope / implicitDecoder, deprecate.delayDuration)
    Keyed     Lock; lookup; on a miss compute *while holding the lock*; store; Unlock
              (positionalRelationMetadata.computeIndex, syntax.mustReadEmbeddedFile)
    Stream    the same over a consuming resource (stdOsStdin.read drains a reader), with the narrowed-lock
              variant as a parameter
    GetOrAdd  importCache.getOrAdd: mutex + condition variable, in-flight marker, deferred clean-up
    Seen      deprecate.sourceContextCache.encountered: RWMutex, test under RLock then set under Lock

  Core-only.
-/
import Arrai.Core.Canon

namespace Arrai.C11

/-- point update of a per-thread (or per-key) component -/
def upd {α : Type} (f : Nat → α) (t : Nat) (x : α) : Nat → α := fun u => if u = t then x else f u

@[simp] theorem upd_same {α : Type} {f : Nat → α} {t : Nat} {x : α} : upd f t x t = x := by simp [upd]
@[simp] theorem upd_other {α : Type} {f : Nat → α} {t u : Nat} {x : α} (h : u ≠ t) : upd f t x u = f u := by
  simp [upd, h]

theorem eq_upd_self {α : Type} {f : Nat → α} {t : Nat} {x : α} (h : f t = x) : f = upd f t x := by
  funext u
  by_cases hu : u = t
  · rw [hu, upd_same, h]
  · rw [upd_other hu]

/-! ## sync.Once.Do(f); return guarded variable

```go
func (o *Once) Do(f func()) { if o.done.Load() == 0 { o.doSlow(f) } }
func (o *Once) doSlow(f func()) {
	o.m.Lock(); defer o.m.Unlock()
	if o.done.Load() == 0 { defer o.done.Store(1); f() }
}
func (t *GenericTuple) Names() Names { t.cachedNamesOnce.Do(func() { …; t.cachedNames = … }); return t.cachedNames }
```
-/
namespace Once

inductive PC where
  | fast     -- o.done.Load() == 0 ?
  | lock     -- o.m.Lock()                      (blocks while the mutex is held)
  | chk      -- o.done.Load() == 0 ?            (under the mutex)
  | run      -- f() starts
  | store    -- f's assignment to the guarded variable
  | setdone  -- deferred o.done.Store(1)
  | unlock   -- deferred o.m.Unlock()
  | ret      -- return <guarded variable>
  | fin
  deriving DecidableEq, Repr

structure St (α : Type) where
  done : Bool := false
  mu : Option Nat := none
  cache : Option α := none             -- the guarded variable; `none` = Go zero value
  runs : Nat := 0                      -- ghost: how often f was started
  pc : Nat → PC := fun _ => .fast
  res : Nat → Option (Option α) := fun _ => none   -- `some none` = returned the zero value

def init {α : Type} : St α := {}

def step {α : Type} (v : α) (s : St α) (t : Nat) : St α :=
  match s.pc t with
  | .fast => { s with pc := upd s.pc t (if s.done then .ret else .lock) }
  | .lock => if s.mu = none then { s with mu := some t, pc := upd s.pc t .chk } else s
  | .chk => { s with pc := upd s.pc t (if s.done then .unlock else .run) }
  | .run => { s with runs := s.runs + 1, pc := upd s.pc t .store }
  | .store => { s with cache := some v, pc := upd s.pc t .setdone }
  | .setdone => { s with done := true, pc := upd s.pc t .unlock }
  | .unlock => { s with mu := none, pc := upd s.pc t .ret }
  | .ret => { s with res := upd s.res t (some s.cache), pc := upd s.pc t .fin }
  | .fin => s

def run {α : Type} (v : α) (sched : List Nat) (s : St α) : St α := sched.foldl (step v) s

/-- a thread can make a step that changes the state -/
def enabled {α : Type} (s : St α) (t : Nat) : Bool :=
  match s.pc t with
  | .fin => false
  | .lock => s.mu.isNone
  | _ => true

end Once

/-! ## mutex-guarded keyed cache, computing while the lock is held

```go
func (prm *positionalRelationMetadata) computeIndex(key any, fn func() any) any {
	prm.Lock(); defer prm.Unlock()
	if index, has := prm.indices.Get(key); has { return index }
	index := fn()
	prm.indices = prm.indices.With(key, index)
	return index
}
```
`mustReadEmbeddedFile(path)` has the same shape (key = path).  `stdOsStdin.read` locks in the same way, but what it
computes from is consumed: it has a machine of its own (`Stream`). -/
namespace Keyed

inductive PC where
  | lock | look | compute | store | unlock | fin
  deriving DecidableEq, Repr

structure St (α : Type) where
  mu : Option Nat := none
  idx : Nat → Option α := fun _ => none       -- prm.indices
  runs : Nat → Nat := fun _ => 0               -- ghost: calls of fn per key
  pc : Nat → PC := fun _ => .lock
  tmp : Nat → Option α := fun _ => none        -- the local `index`
  res : Nat → Option α := fun _ => none

def init {α : Type} : St α := {}

/-- `f k` is what `fn()` computes for key `k`; `key t` the key thread `t` asks for -/
def step {α : Type} (f : Nat → α) (key : Nat → Nat) (s : St α) (t : Nat) : St α :=
  match s.pc t with
  | .lock => if s.mu = none then { s with mu := some t, pc := upd s.pc t .look } else s
  | .look =>
    match s.idx (key t) with
    | some x => { s with tmp := upd s.tmp t (some x), pc := upd s.pc t .unlock }
    | none => { s with pc := upd s.pc t .compute }
  | .compute => { s with tmp := upd s.tmp t (some (f (key t))), runs := upd s.runs (key t) (s.runs (key t) + 1),
                         pc := upd s.pc t .store }
  | .store => { s with idx := upd s.idx (key t) (s.tmp t), pc := upd s.pc t .unlock }
  | .unlock => { s with mu := none, res := upd s.res t (s.tmp t), pc := upd s.pc t .fin }
  | .fin => s

def run {α : Type} (f : Nat → α) (key : Nat → Nat) (sched : List Nat) (s : St α) : St α :=
  sched.foldl (step f key) s

end Keyed

/-! ## compute-and-store over a *consuming* resource: stdin's read-once

```go
func (d *stdOsStdin) read(context.Context, rel.Value) (rel.Value, error) {
	d.mutex.Lock(); defer d.mutex.Unlock()
	if d.bytes != nil { return d.bytes, nil }
	f, err := io.ReadAll(stdOsStdinVar.reader)     // many Read calls, each consumes what has arrived
	if err != nil { return nil, err }
	d.bytes = rel.NewBytes(f)
	return d.bytes, nil
}
```
Unlike `fn()` of the keyed cache the computation is not repeatable: what one caller reads is gone for the others.
`held = true` is the code above (the mutex spans ReadAll).  `held = false` is the narrowed variant — lock, fetch
(cache, reader), unlock, drain, re-lock, store if nobody has stored yet — in which every field access is still
locked (no data race, nothing for the race detector) but two first callers drain the same stream. -/
namespace Stream

inductive PC where
  | lock | look | drain | relock | store | unlock | fin
  deriving DecidableEq, Repr

structure St where
  mu : Option Nat := none
  cache : Option (List Nat) := none       -- d.bytes
  src : List (List Nat) := []             -- the chunks the reader has not delivered yet; [] = EOF
  runs : Nat := 0                          -- ghost: callers that started to drain the reader
  pc : Nat → PC := fun _ => .lock
  acc : Nat → List Nat := fun _ => []     -- ReadAll's buffer
  tmp : Nat → Option (List Nat) := fun _ => none
  res : Nat → Option (List Nat) := fun _ => none

def init (chunks : List (List Nat)) : St := { src := chunks }

def step (held : Bool) (s : St) (t : Nat) : St :=
  match s.pc t with
  | .lock => if s.mu = none then { s with mu := some t, pc := upd s.pc t .look } else s
  | .look =>
    match s.cache with
    | some x => { s with tmp := upd s.tmp t (some x), pc := upd s.pc t .unlock }
    | none => { s with mu := (if held then s.mu else none), runs := s.runs + 1, pc := upd s.pc t .drain }
  | .drain =>
    match s.src with
    | c :: rest => { s with src := rest, acc := upd s.acc t (s.acc t ++ c) }      -- one Read
    | [] => { s with pc := upd s.pc t (if held then .store else .relock) }        -- EOF
  | .relock => if s.mu = none then { s with mu := some t, pc := upd s.pc t .store } else s
  | .store =>
    { s with cache := (match s.cache with | none => some (s.acc t) | c => c),
             tmp := upd s.tmp t (some (s.acc t)), pc := upd s.pc t .unlock }
  | .unlock => { s with mu := none, res := upd s.res t (s.tmp t), pc := upd s.pc t .fin }
  | .fin => s

def run (held : Bool) (sched : List Nat) (s : St) : St := sched.foldl (step held) s

end Stream

/-! ## importCache.getOrAdd

```go
func (service *importCache) getOrAdd(key string, add func() (rel.Expr, error)) (rel.Expr, error) {
	adding := false
	service.mutex.Lock()
	defer func() {
		if adding {                       // failed (or panicked) while adding
			service.mutex.Lock()
			delete(service.cache, key)
			service.cond.Broadcast()      // <- the repair; absent before
		}
		service.mutex.Unlock()
	}()
	for {
		if val, has := service.cache[key]; has {
			if val != nil { return val, nil }
			service.cond.Wait()           // another goroutine is adding
		} else { break }
	}
	service.cache[key] = nil              // in-flight marker
	service.mutex.Unlock()
	adding = true
	val, err := add()
	if err != nil { return nil, err }
	adding = false
	service.mutex.Lock()
	if val != nil { service.cache[key] = val } else { delete(service.cache, key) }
	service.cond.Broadcast()
	return val, nil
}
```
-/
namespace GetOrAdd

/-- what `add()` returned: `(val, nil)`, `(nil, err)` or `(nil, nil)` -/
inductive Outcome (ν ε : Type) where
  | val (v : ν) | err (e : ε) | nil
  deriving DecidableEq, Repr

/-- `service.cache[key]`; the in-flight marker (`nil` in Go) is annotated with the thread that set it (ghost) -/
inductive Entry (ν : Type) where
  | absent | inflight (owner : Nat) | val (v : ν)
  deriving DecidableEq, Repr

inductive PC where
  | start     -- service.mutex.Lock()
  | check     -- one round of the `for` loop, under the mutex
  | asleep    -- inside cond.Wait(), mutex released, not yet woken
  | woken     -- woken by Broadcast: cond.Wait() re-acquires the mutex
  | adding    -- val, err := add()    (mutex released, adding = true)
  | errLock   -- deferred clean-up after an error: service.mutex.Lock()
  | errFin    --   delete(cache, key); [Broadcast]; Unlock; return nil, err
  | okLock    -- service.mutex.Lock() after a successful add
  | okFin     --   store / delete; Broadcast; return val, nil; deferred Unlock
  | fin
  deriving DecidableEq, Repr

structure St (ν ε : Type) where
  mu : Option Nat := none
  cache : Nat → Entry ν := fun _ => .absent
  attempts : Nat → Nat := fun _ => 0           -- ghost, per key: calls of add() started so far
  wins : Nat → Nat := fun _ => 0               -- ghost: calls of add() that returned a value
  pc : Nat → PC := fun _ => .start
  out : Nat → Option (Outcome ν ε) := fun _ => none   -- the caller's own (val, err)
  att : Nat → Option Nat := fun _ => none      -- ghost: the number of the attempt the caller ran
  res : Nat → Option (Outcome ν ε) := fun _ => none   -- what the caller returned

def init {ν ε : Type} : St ν ε := {}

/-- cond.Broadcast(): every goroutine inside Wait() is woken -/
def wake (pc : Nat → PC) : Nat → PC := fun u => if pc u = .asleep then .woken else pc u

def isVal {ν ε : Type} : Outcome ν ε → Bool
  | .val _ => true
  | _ => false
def isErr {ν ε : Type} : Outcome ν ε → Bool
  | .err _ => true
  | _ => false

/-- `repaired = false` is the code before the repair: no Broadcast in the clean-up after a failed add.
`add k n` is the outcome of the `n`-th call of `add` for key `k`; `key t` the key of caller `t`. -/
def step {ν ε : Type} (repaired : Bool) (add : Nat → Nat → Outcome ν ε) (key : Nat → Nat)
    (s : St ν ε) (t : Nat) : St ν ε :=
  let k := key t
  match s.pc t with
  | .start => if s.mu = none then { s with mu := some t, pc := upd s.pc t .check } else s
  | .woken => if s.mu = none then { s with mu := some t, pc := upd s.pc t .check } else s
  | .check =>
    match s.cache k with
    | .val v => { s with mu := none, res := upd s.res t (some (.val v)), pc := upd s.pc t .fin }
    | .inflight _ => { s with mu := none, pc := upd s.pc t .asleep }
    | .absent => { s with mu := none, cache := upd s.cache k (.inflight t), pc := upd s.pc t .adding }
  | .asleep => s
  | .adding =>
    let n := s.attempts k
    let o := add k n
    { s with attempts := upd s.attempts k (n + 1),
             wins := upd s.wins k (s.wins k + (if isVal o then 1 else 0)),
             out := upd s.out t (some o), att := upd s.att t (some n),
             pc := upd s.pc t (if isErr o then .errLock else .okLock) }
  | .errLock => if s.mu = none then { s with mu := some t, pc := upd s.pc t .errFin } else s
  | .okLock => if s.mu = none then { s with mu := some t, pc := upd s.pc t .okFin } else s
  | .errFin =>
    { s with mu := none, cache := upd s.cache k .absent, res := upd s.res t (s.out t),
             pc := upd (if repaired then wake s.pc else s.pc) t .fin }
  | .okFin =>
    { s with mu := none,
             cache := upd s.cache k (match s.out t with | some (.val v) => .val v | _ => .absent),
             res := upd s.res t (s.out t),
             pc := upd (wake s.pc) t .fin }
  | .fin => s

def run {ν ε : Type} (repaired : Bool) (add : Nat → Nat → Outcome ν ε) (key : Nat → Nat)
    (sched : List Nat) (s : St ν ε) : St ν ε := sched.foldl (step repaired add key) s

def enabled {ν ε : Type} (s : St ν ε) (t : Nat) : Bool :=
  match s.pc t with
  | .fin | .asleep => false
  | .start | .woken | .errLock | .okLock => s.mu.isNone
  | _ => true

/-! ### `add` that itself calls getOrAdd (a script that imports other scripts)

`child t = some c`: caller `t`'s `add` consists of the nested call `c` (made by the same goroutine inside `add`), so
`t` cannot finish its `adding` step before `c` has returned, and `c` starts only once `t` is inside `add`.
With `child = parent = fun _ => none` this is `step true`. -/
def enabledN {ν ε : Type} (child parent : Nat → Option Nat) (s : St ν ε) (t : Nat) : Bool :=
  enabled s t &&
  (match s.pc t, child t with
   | .adding, some c => s.pc c == .fin
   | _, _ => true) &&
  (match s.pc t, parent t with
   | .start, some p => s.pc p == .adding
   | _, _ => true)

def stepN {ν ε : Type} (child parent : Nat → Option Nat) (add : Nat → Nat → Outcome ν ε) (key : Nat → Nat)
    (s : St ν ε) (t : Nat) : St ν ε :=
  if enabledN child parent s t then step true add key s t else s

def runN {ν ε : Type} (child parent : Nat → Option Nat) (add : Nat → Nat → Outcome ν ε) (key : Nat → Nat)
    (sched : List Nat) (s : St ν ε) : St ν ε := sched.foldl (stepN child parent add key) s

end GetOrAdd

/-! ## deprecate.sourceContextCache.encountered

```go
func (d *sourceContextCache) encountered(scanner parser.Scanner) bool {
	s := scanner.String()
	d.RLock()
	if _, has := d.m[s]; has { defer d.RUnlock(); return true }
	d.RUnlock()
	d.Lock(); defer d.Unlock()
	d.m[s] = struct{}{}
	return false
}
```
-/
namespace Seen

inductive PC where
  | rlock | test | runlockT | runlockF | lock | set | fin
  deriving DecidableEq, Repr

structure St where
  writer : Option Nat := none
  readers : Nat := 0                   -- number of read-lock holders
  m : Nat → Bool := fun _ => false      -- d.m
  pc : Nat → PC := fun _ => .rlock
  res : Nat → Option Bool := fun _ => none

def init : St := {}

def step (key : Nat → Nat) (s : St) (t : Nat) : St :=
  match s.pc t with
  | .rlock => if s.writer = none then { s with readers := s.readers + 1, pc := upd s.pc t .test } else s
  | .test => { s with pc := upd s.pc t (if s.m (key t) then .runlockT else .runlockF) }
  | .runlockT => { s with readers := s.readers - 1, res := upd s.res t (some true), pc := upd s.pc t .fin }
  | .runlockF => { s with readers := s.readers - 1, pc := upd s.pc t .lock }
  | .lock => if s.writer = none ∧ s.readers = 0 then { s with writer := some t, pc := upd s.pc t .set } else s
  | .set => { s with writer := none, m := upd s.m (key t) true, res := upd s.res t (some false),
                     pc := upd s.pc t .fin }
  | .fin => s

def run (key : Nat → Nat) (sched : List Nat) (s : St) : St := sched.foldl (step key) s

end Seen

/-! ## Happens-before over abstract traces, data races, locking disciplines

A trace is the list of (goroutine, event) pairs of one execution in the order the events were observed.
`hb` is the smallest transitive relation containing program order and the synchronisation edges the Go
memory model documents: Unlock → later Lock (RUnlock → later Lock, Unlock → later RLock), completion of
the single call of `f` in `once.Do(f)` → return of any `once.Do`, send → corresponding receive,
`go` statement → start of the goroutine.  The Go scheduler, the memory model below this level and the
internals of dependencies are *not* modelled. -/
namespace HB

inductive Ev where
  | rd (loc : Nat) | wr (loc : Nat)
  | acq (excl : Bool) (m : Nat)        -- Lock (excl) / RLock
  | rel (excl : Bool) (m : Nat)        -- Unlock (excl) / RUnlock
  | onceBegin (k : Nat) | onceEnd (k : Nat)   -- f() of once k starts / completes (in the goroutine that won)
  | onceRet (k : Nat)                  -- a call of once k .Do(...) returns
  | send (c n : Nat) | recv (c n : Nat)       -- n-th send on channel c / its receive
  | go (child : Nat) | start          -- `go` statement / first event of the new goroutine
  deriving DecidableEq, Repr

abbrev Trace := List (Nat × Ev)

def isWr : Ev → Bool
  | .wr _ => true
  | _ => false

def onLoc (l : Nat) : Ev → Bool
  | .rd x => x == l
  | .wr x => x == l
  | _ => false

inductive hb (tr : Trace) : Nat → Nat → Prop where
  | po {i j t e e'} : i < j → tr[i]? = some (t, e) → tr[j]? = some (t, e') → hb tr i j
  | mutex {i j t u m x y} : i < j → tr[i]? = some (t, .rel x m) → tr[j]? = some (u, .acq y m) →
      (x = true ∨ y = true) → hb tr i j
  | once {i j t u k} : i < j → tr[i]? = some (t, .onceEnd k) → tr[j]? = some (u, .onceRet k) → hb tr i j
  | chan {i j t u c n} : i < j → tr[i]? = some (t, .send c n) → tr[j]? = some (u, .recv c n) → hb tr i j
  | spawn {i j t u} : i < j → tr[i]? = some (t, .go u) → tr[j]? = some (u, .start) → hb tr i j
  | trans {i j k} : hb tr i j → hb tr j k → hb tr i k

/-- two accesses to `l` by different goroutines, at least one a write, not ordered by happens-before -/
def Race (tr : Trace) (l : Nat) : Prop :=
  ∃ i j t u a b, i < j ∧ tr[i]? = some (t, a) ∧ tr[j]? = some (u, b) ∧ t ≠ u ∧
    onLoc l a = true ∧ onLoc l b = true ∧ (isWr a = true ∨ isWr b = true) ∧ ¬ hb tr i j

/-- goroutine `t` holds mutex `m` (exclusively if `x`) when event `i` happens -/
def holds (tr : Trace) (t m : Nat) (x : Bool) (i : Nat) : Prop :=
  ∃ a, a < i ∧ tr[a]? = some (t, .acq x m) ∧ ∀ b, a < b → b < i → tr[b]? ≠ some (t, .rel x m)

/-- event `i` of goroutine `t` lies inside the single run of `f` of once `k` -/
def inside (tr : Trace) (t k i : Nat) : Prop :=
  ∃ b, b < i ∧ tr[b]? = some (t, .onceBegin k) ∧ ∀ e, b < e → e < i → tr[e]? ≠ some (t, .onceEnd k)

/-- goroutine `t` has returned from a `Do` of once `k` before event `i` -/
def afterDo (tr : Trace) (t k i : Nat) : Prop := ∃ r, r < i ∧ tr[r]? = some (t, .onceRet k)

/-- what Go guarantees about the primitives: postulates about traces.  The `Once` machine has the like of `beginUnique`
and `retEnd` as theorems about its state (`once_serial`, `once_returns_after_f`), but no theorem derives `WF` of a trace
from the machines -/
structure WF (tr : Trace) : Prop where
  excl : ∀ (m i t u : Nat) (x : Bool), t ≠ u → holds tr t m true i → holds tr u m x i → False
  beginUnique : ∀ (k i j t u : Nat), tr[i]? = some (t, Ev.onceBegin k) → tr[j]? = some (u, Ev.onceBegin k) → i = j
  endBegin : ∀ (k e t : Nat), tr[e]? = some (t, Ev.onceEnd k) → ∃ b, b < e ∧ tr[b]? = some (t, Ev.onceBegin k)
  retEnd : ∀ (k r u : Nat), tr[r]? = some (u, Ev.onceRet k) → ∃ (e t : Nat), e < r ∧ tr[e]? = some (t, Ev.onceEnd k)

/-- the locking disciplines recognised in arr.ai's sources -/
inductive Disc where
  | once (k : Nat)     -- written only inside once k's function; read inside it or after a Do of once k returned
  | mutex (m : Nat)    -- written holding m exclusively; read holding m (shared or exclusively)
  | readonly           -- never written after publication
  deriving DecidableEq, Repr

def PostOK (tr : Trace) (d : Disc) (i t : Nat) (e : Ev) : Prop :=
  match d with
  | .once k => inside tr t k i ∨ (isWr e = false ∧ afterDo tr t k i)
  | .mutex m => holds tr t m true i ∨ (isWr e = false ∧ holds tr t m false i)
  | .readonly => isWr e = false

/-- `pub = some (c, p)`: the location is created by goroutine `c`, which may access it freely before its event
`p` (the publication: constructor return, package initialisation); everybody else sees it only after `p` -/
def Respects (tr : Trace) (l : Nat) (d : Disc) (pub : Option (Nat × Nat)) : Prop :=
  (∀ c p, pub = some (c, p) → ∃ e, tr[p]? = some (c, e)) ∧
  ∀ i t e, tr[i]? = some (t, e) → onLoc l e = true →
    (∃ c p, pub = some (c, p) ∧ t = c ∧ i < p) ∨
    ((∀ c p, pub = some (c, p) → hb tr p i) ∧ PostOK tr d i t e)

end HB

/-! ## Serial semantics of the programs of the `conc` support runs

The correspondence runs evaluate small programs over one shared value `s` from many goroutines; the property
demands that each goroutine gets the serial result.  `Conc.eval` is that serial result (a `V`, or `none` for an
evaluation error), computed from the meaning of the operators — it is the `Spec` side; the `Impl` side of a
`conc` case is taken to be the same function: the protocol theorems say that each cache hands every caller the value
its computation yields, but no theorem states that this makes the caches invisible to `eval`. -/
namespace Conc

/-- the shared value -/
inductive Shared where
  | ints (n : Nat)        -- {0, …, n-1}
  | rel (n m : Nat)       -- {(a: i, b: i % m) | i < n}          (m ≥ 1)
  | tups (n : Nat)        -- {(t: (x: i % 3, y: i), u: (z: i)) | i < n}
  deriving Repr, Inhabited

def Shared.src : Shared → String
  | .ints n => s!"//seq.repeat({n}, [0]) => .@"
  | .rel n m => s!"//seq.repeat({n}, [0]) => (a: .@, b: .@ % {m})"
  | .tups n => s!"//seq.repeat({n}, [0]) => (t: (x: .@ % 3, y: .@), u: (z: .@))"

inductive Prog where
  -- over ints
  | whereMod (m r : Nat) | whereErr (m r : Nat) | mapMod (m : Nat) | count | countWhere (m r : Nat)
  | unionShift (d : Nat) | interShift (d : Nat) | diffShift (d : Nat) | whereLt (c : Nat) | self | orderby
  -- over rel
  | rWhereA (m r : Nat) | rWhereErr (r : Nat) | rJoin | rJoinCommon | rProjB | rMapA | rNest
  -- over tups
  | tInner | tSum | tUnion | tCountWhere (r : Nat) | tMerge | tProjX
  deriving Repr, Inhabited

def Prog.src : Prog → String
  | .whereMod m r => s!"s where (. % {m} = {r})"
  | .whereErr m r => s!"s where (. % {m} = {r} && .(1))"
  | .mapMod m => s!"s => (. % {m})"
  | .count => "s count"
  | .countWhere m r => s!"(s where (. % {m} = {r})) count"
  | .unionShift d => s!"s | (s => (. + {d}))"
  | .interShift d => s!"s & (s => (. + {d}))"
  | .diffShift d => s!"s &~ (s => (. + {d}))"
  | .whereLt c => s!"s where (. < {c})"
  | .self => "s"
  | .orderby => "s orderby ."
  | .rWhereA m r => s!"s where (.a % {m} = {r})"
  | .rWhereErr r => s!"s where (.b = {r} && .a(1))"
  | .rJoin => "s <&> {|b,c| (0, 10), (1, 11)}"
  | .rJoinCommon => "s -&- {|b,c| (0, 10), (1, 11)}"
  | .rProjB => "s => (b: .b)"
  | .rMapA => "s => .a"
  | .rNest => "s nest |a|as"
  | .tInner => "s => .t"
  | .tSum => "s => (.t.x + .u.z)"
  | .tUnion => "(s => .t) | (s => .u)"
  | .tCountWhere r => s!"(s where (.t.x = {r})) count"
  | .tMerge => "s => (.t +> .u)"
  | .tProjX => "s => .t.|x|"

def num (n : Nat) : V := .num (Int.ofNat n)
def nums (l : List Nat) : V := .set (l.map num)
def rowAB (m i : Nat) : V := .tup [("a", num i), ("b", num (i % m))]
def rowT (i : Nat) : V := .tup [("x", num (i % 3)), ("y", num i)]
def rowU (i : Nat) : V := .tup [("z", num i)]

/-- serial result of `p` over the shared value; `none` = evaluation error.  The sets are not canonical `V`s (`nums` and the
`.set (S.map …)` below keep the order of `S` and repeat members, where `V.mkSet` would sort and remove duplicates): the
result is to be compared through `V.canon` only, as `obs1` does -/
def eval (sh : Shared) (p : Prog) : Option V :=
  match sh with
  | .ints n =>
    let S := List.range n
    match p with
    | .whereMod m r => some (nums (S.filter (fun x => x % m == r)))
    | .whereErr m r => if S.any (fun x => x % m == r) then none else some (nums [])
    | .mapMod m => some (nums (S.map (· % m)))
    | .count => some (num n)
    | .countWhere m r => some (num (S.filter (fun x => x % m == r)).length)
    | .unionShift d => some (nums (S ++ S.map (· + d)))
    | .interShift d => some (nums (S.filter (fun x => decide (d ≤ x))))
    | .diffShift d => some (nums (S.filter (fun x => decide (x < d))))
    | .whereLt c => some (nums (S.filter (fun x => decide (x < c))))
    | .self => some (nums S)
    | .orderby => some (V.mkArr (S.map num))
    | _ => none
  | .rel n m =>
    let S := List.range n
    match p with
    | .rWhereA m2 r => some (.set ((S.filter (fun i => i % m2 == r)).map (rowAB m)))
    | .rWhereErr r => if S.any (fun i => i % m == r) then none else some (.set [])
    | .rJoin => some (.set ((S.filter (fun i => decide (i % m < 2))).map
        (fun i => .tup [("a", num i), ("b", num (i % m)), ("c", num (10 + i % m))])))
    | .rJoinCommon => some (.set ((S.filter (fun i => decide (i % m < 2))).map (fun i => .tup [("b", num (i % m))])))
    | .rProjB => some (.set (S.map (fun i => .tup [("b", num (i % m))])))
    | .rMapA => some (nums S)
    | .rNest => some (.set (S.map (fun i =>
        .tup [("as", .set ((S.filter (fun j => j % m == i % m)).map (fun j => .tup [("a", num j)]))),
              ("b", num (i % m))])))
    | .count => some (num n)
    | .self => some (.set (S.map (rowAB m)))
    | _ => none
  | .tups n =>
    let S := List.range n
    match p with
    | .tInner => some (.set (S.map rowT))
    | .tSum => some (nums (S.map (fun i => i % 3 + i)))
    | .tUnion => some (.set (S.map rowT ++ S.map rowU))
    | .tCountWhere r => some (num (S.filter (fun i => i % 3 == r)).length)
    | .tMerge => some (.set (S.map (fun i => .tup [("x", num (i % 3)), ("y", num i), ("z", num i)])))
    | .tProjX => some (.set (S.map (fun i => .tup [("x", num (i % 3))])))
    | .count => some (num n)
    | .self => some (.set (S.map (fun i => .tup [("t", rowT i), ("u", rowU i)])))
    | _ => none

def obs1 (sh : Shared) (p : Prog) : String :=
  match eval sh p with
  | some v => v.canon
  | none => "error"

/-- observable of a `conc` case: what every goroutine must get for every program -/
def obs (sh : Shared) (ps : List Prog) : String := " ; ".intercalate (ps.map (obs1 sh))

end Conc

/-! ## Closed form of the results of N concurrent callers of getOrAdd (the `impc` support runs)

Per key the calls of `add` happen one after the other (there is one in-flight marker): call i gives its error
or nil to exactly one caller, and the first call that returns a value serves all remaining callers.  No theorem relates
`results` to `GetOrAdd.run`: every `impc` case carries it beside one random run of the machine (`impModel`) and the check
compares the two; `getOrAdd_serial` does not say how many callers get which. -/
namespace ImpSpec

/-- `script`: outcome letters of the successive `add` calls of one key ('e' error, 'n' nil, anything else value;
value after the script ends); `c` callers.  Result strings as printed by the harness. -/
def results (script : List Char) (c : Nat) : List String :=
  go script c 0
where
  go : List Char → Nat → Nat → List String
    | _, 0, _ => []
    | [], c + 1, i => List.replicate (c + 1) s!"v{i}"
    | o :: rest, c + 1, i =>
      if o == 'e' then s!"e{i}" :: go rest c (i + 1)
      else if o == 'n' then "nil" :: go rest c (i + 1)
      else List.replicate (c + 1) s!"v{i}"

end ImpSpec

end Arrai.C11
