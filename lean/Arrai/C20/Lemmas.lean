/-
  The lemmas of C20 follow pkg/test's data flow, from ForeachLeaf against `Spec.leaves` (`foreachLeaf_eq`) to the run of
  RunTests as one equation in the leaves of the test files (`runTests_eq`, `runTests_reported_iff`).
  The verdict, the counts and completeness start from that equation, which holds for every tree; only
  `run_spec_partial` needs `Clean` trees (`runFiles_clean`).
-/
import Arrai.C20.Model
import Arrai.Core.Assoc
import Arrai.Core.ListLemmas

namespace Arrai.C20
open Spec

/-! ### the lookups and `distinct` -/

theorem lookupAttr_eq_lookup (n : Name) : ∀ as : List (Name × Tree), lookupAttr n as = as.lookup n :=
  eq_lookup_of_first_wins rfl (fun _ _ => if_pos rfl) fun _ _ _ h => if_neg (Ne.symm h)

theorem lookupKey_eq_lookup (k : Key) : ∀ es : List (Key × Tree), lookupKey k es = es.lookup k :=
  eq_lookup_of_first_wins rfl (fun _ _ => if_pos rfl) fun _ _ _ h => if_neg (Ne.symm h)

theorem lookupItem_le {i j : Int} {items : List (Option Tree)} {c : Tree}
    (h : lookupItem i items j = some c) : j ≤ i := by
  induction items generalizing j with
  | nil => cases h
  | cons a r ih =>
    rw [lookupItem] at h
    split at h
    · omega
    · have := ih h; omega

theorem distinct_cons {α} [DecidableEq α] (a : α) (r : List α) :
    distinct (a :: r) = true ↔ a ∉ r ∧ distinct r = true := by
  simp [distinct]

theorem nodup_of_distinct {α} [DecidableEq α] {l : List α} (h : distinct l = true) : l.Nodup := by
  induction l with
  | nil => exact List.nodup_nil
  | cons a r ih =>
    rw [distinct_cons] at h
    exact List.nodup_cons.2 ⟨h.1, ih h.2⟩

/-! ### one level of `leaves` -/

theorem mem_map_pre {s : Step} {ls : List (Path × Leaf)} {p : Path} {l : Leaf} :
    (p, l) ∈ ls.map (pre s) ↔ ∃ p', p = s :: p' ∧ (p', l) ∈ ls := by
  constructor
  · intro h
    obtain ⟨⟨p', l'⟩, hm, he⟩ := List.mem_map.1 h
    cases he
    exact ⟨p', rfl, hm⟩
  · rintro ⟨p', rfl, hm⟩
    exact List.mem_map.2 ⟨(p', l), hm, rfl⟩

theorem leavesAttrs_flatMap (as : List (Name × Tree)) :
    leavesAttrs as = as.flatMap (fun a => (leaves a.2).map (pre (.attr a.1))) := by
  induction as with
  | nil => rfl
  | cons a r ih => rw [List.flatMap_cons, ← ih]; rfl

theorem leavesEntries_flatMap (es : List (Key × Tree)) :
    leavesEntries es = es.flatMap (fun e => (leaves e.2).map (pre (.key e.1))) := by
  induction es with
  | nil => rfl
  | cons a r ih => rw [List.flatMap_cons, ← ih]; rfl

theorem mem_leavesAttrs {as : List (Name × Tree)} {p : Path} {l : Leaf} :
    (p, l) ∈ leavesAttrs as ↔ ∃ n c p', p = .attr n :: p' ∧ (n, c) ∈ as ∧ (p', l) ∈ leaves c := by
  rw [leavesAttrs_flatMap, List.mem_flatMap]
  constructor
  · rintro ⟨⟨n, c⟩, hm, h⟩
    obtain ⟨p', hp, hl⟩ := mem_map_pre.1 h
    exact ⟨n, c, p', hp, hm, hl⟩
  · rintro ⟨n, c, p', hp, hm, hl⟩
    exact ⟨(n, c), hm, mem_map_pre.2 ⟨p', hp, hl⟩⟩

theorem mem_leavesEntries {es : List (Key × Tree)} {p : Path} {l : Leaf} :
    (p, l) ∈ leavesEntries es ↔ ∃ k c p', p = .key k :: p' ∧ (k, c) ∈ es ∧ (p', l) ∈ leaves c := by
  rw [leavesEntries_flatMap, List.mem_flatMap]
  constructor
  · rintro ⟨⟨k, c⟩, hm, h⟩
    obtain ⟨p', hp, hl⟩ := mem_map_pre.1 h
    exact ⟨k, c, p', hp, hm, hl⟩
  · rintro ⟨k, c, p', hp, hm, hl⟩
    exact ⟨(k, c), hm, mem_map_pre.2 ⟨p', hp, hl⟩⟩

theorem mem_leavesItems {items : List (Option Tree)} {j : Int} {p : Path} {l : Leaf} :
    (p, l) ∈ leavesItems items j ↔
      ∃ i c p', p = .idx i :: p' ∧ lookupItem i items j = some c ∧ (p', l) ∈ leaves c := by
  constructor
  · intro h
    induction items generalizing j with
    | nil => cases h
    | cons a r ih =>
      have tail : ∀ {i c}, lookupItem i r (j + 1) = some c → lookupItem i (a :: r) j = some c := fun hm => by
        have := lookupItem_le hm
        rwa [lookupItem, if_neg (by omega)]
      cases a with
      | none =>
        obtain ⟨i, c, p', hp, hm, hl⟩ := ih h
        exact ⟨i, c, p', hp, tail hm, hl⟩
      | some t =>
        rcases List.mem_append.1 h with h | h
        · obtain ⟨p', hp, hl⟩ := mem_map_pre.1 h
          exact ⟨j, t, p', hp, by rw [lookupItem, if_pos rfl], hl⟩
        · obtain ⟨i, c, p', hp, hm, hl⟩ := ih h
          exact ⟨i, c, p', hp, tail hm, hl⟩
  · rintro ⟨i, c, p', rfl, hm, hl⟩
    induction items generalizing j with
    | nil => cases hm
    | cons a r ih =>
      rw [lookupItem] at hm
      split at hm
      · subst hm
        subst i
        exact List.mem_append_left _ (mem_map_pre.2 ⟨p', rfl, hl⟩)
      · cases a with
        | none => exact ih hm
        | some t => exact List.mem_append_right _ (ih hm)

/-! ### ForeachLeaf visits the specified leaves, in order -/

/-- The path string ForeachLeaf holds, after `strings.TrimPrefix(path, ".")`, at the node that the
structured path leads to from a node where it holds `q`. -/
def below : Name → Path → Name
  | q, [] => q
  | q, s :: r => below (trimDot (q ++ s.chars)) r

def named (q : Name) (pl : Path × Leaf) : Name × Leaf := (below q pl.1, pl.2)

mutual
theorem foreachLeaf_eq (t : Tree) (p : Name) :
    Impl.foreachLeaf t p = (leaves t).map (named (trimDot p)) := by
  cases t with
  | leaf l => rfl
  | tup as => exact foreachAttrs_eq as _
  | arr off items => exact foreachItems_eq items off _
  | dict es => exact foreachEntries_eq es _
theorem foreachAttrs_eq (as : List (Name × Tree)) (q : Name) :
    Impl.foreachAttrs as q = (leavesAttrs as).map (named q) := by
  cases as with
  | nil => rfl
  | cons a r =>
    obtain ⟨n, t⟩ := a
    show Impl.foreachLeaf t _ ++ Impl.foreachAttrs r q = (_ ++ leavesAttrs r).map (named q)
    rw [List.map_append, List.map_map, foreachLeaf_eq t, foreachAttrs_eq r]
    -- `named q (pre s pl) = named (trimDot (q ++ s.chars)) pl`: one unfolding of `below`
    rfl
theorem foreachItems_eq (items : List (Option Tree)) (i : Int) (q : Name) :
    Impl.foreachItems items i q = (leavesItems items i).map (named q) := by
  cases items with
  | nil => rfl
  | cons a r =>
    cases a with
    | none => exact foreachItems_eq r _ q
    | some t =>
      show Impl.foreachLeaf t _ ++ Impl.foreachItems r _ q = (_ ++ leavesItems r _).map (named q)
      rw [List.map_append, List.map_map, foreachLeaf_eq t, foreachItems_eq r]
      rfl
theorem foreachEntries_eq (es : List (Key × Tree)) (q : Name) :
    Impl.foreachEntries es q = (leavesEntries es).map (named q) := by
  cases es with
  | nil => rfl
  | cons a r =>
    obtain ⟨k, t⟩ := a
    show Impl.foreachLeaf t _ ++ Impl.foreachEntries r q = (_ ++ leavesEntries r).map (named q)
    rw [List.map_append, List.map_map, foreachLeaf_eq t, foreachEntries_eq r]
    rfl
end

theorem map_snd_pre (s : Step) (l : List (Path × Leaf)) :
    (l.map (pre s)).map Prod.snd = l.map Prod.snd := by
  rw [List.map_map]; rfl

theorem map_snd_named (q : Name) (l : List (Path × Leaf)) : (l.map (named q)).map Prod.snd = l.map Prod.snd := by
  rw [List.map_map]; rfl

theorem foreachAttrs_snd (as : List (Name × Tree)) (p : Name) :
    (Impl.foreachAttrs as p).map Prod.snd = (leavesAttrs as).map Prod.snd := by
  rw [foreachAttrs_eq, map_snd_named]
theorem foreachItems_snd (items : List (Option Tree)) (i : Int) (p : Name) :
    (Impl.foreachItems items i p).map Prod.snd = (leavesItems items i).map Prod.snd := by
  rw [foreachItems_eq, map_snd_named]
theorem foreachEntries_snd (es : List (Key × Tree)) (p : Name) :
    (Impl.foreachEntries es p).map Prod.snd = (leavesEntries es).map Prod.snd := by
  rw [foreachEntries_eq, map_snd_named]

/-- a path prefix on which `strings.TrimPrefix(path, ".")` does nothing, now and after appending -/
def Good (q : Name) : Prop := q ≠ [] ∧ q.head? ≠ some '.'

theorem trimDot_good {q : Name} (h : Good q) : trimDot q = q := by
  unfold trimDot
  split
  · exact absurd rfl h.2
  · rfl

theorem good_append {q : Name} (r : Name) (h : Good q) : Good (q ++ r) := by
  cases q with
  | nil => exact absurd rfl h.1
  | cons c q => exact ⟨List.cons_ne_nil _ _, h.2⟩

theorem good_of_nameOk {n : Name} (h : nameOk n = true) : Good n := by
  cases n with
  | nil => cases h
  | cons c r => exact ⟨List.cons_ne_nil _ _, by simpa [nameOk] using h⟩

def lab (q : Name) (pl : Path × Leaf) : Name × Leaf := (q ++ Path.chars pl.1, pl.2)

theorem below_good {q : Name} (hq : Good q) (path : Path) : below q path = q ++ Path.chars path := by
  induction path generalizing q with
  | nil => exact (List.append_nil q).symm
  | cons s r ih =>
    rw [below, trimDot_good (good_append _ hq), ih (good_append _ hq), Path.chars, List.append_assoc]

theorem named_good {q : Name} (hq : Good q) : named q = lab q :=
  funext fun pl => by rw [named, below_good hq, lab]

section
set_option linter.unusedVariables false  -- `h` plays no role: below a `Good` prefix no name is inspected
theorem foreachAttrs_good (as : List (Name × Tree)) (q : Name) (hq : Good q)
    (h : namesOkAttrs as = true) : Impl.foreachAttrs as q = (leavesAttrs as).map (lab q) := by
  rw [foreachAttrs_eq, named_good hq]
theorem foreachItems_good (items : List (Option Tree)) (i : Int) (q : Name) (hq : Good q)
    (h : namesOkItems items = true) : Impl.foreachItems items i q = (leavesItems items i).map (lab q) := by
  rw [foreachItems_eq, named_good hq]
theorem foreachEntries_good (es : List (Key × Tree)) (q : Name) (hq : Good q)
    (h : namesOkEntries es = true) : Impl.foreachEntries es q = (leavesEntries es).map (lab q) := by
  rw [foreachEntries_eq, named_good hq]
end

/-! From the root the prefix is empty: only the first step can lose a dot that `render` keeps. -/

theorem nameOk_of_mem {as : List (Name × Tree)} {n : Name} {c : Tree} (h : namesOkAttrs as = true)
    (hm : (n, c) ∈ as) : nameOk n = true := by
  induction as with
  | nil => cases hm
  | cons a r ih =>
    obtain ⟨ha, hr⟩ := Bool.and_eq_true_iff.1 h
    rcases List.mem_cons.1 hm with rfl | hm
    · exact (Bool.and_eq_true_iff.1 ha).1
    · exact ih hr hm

theorem good_cons {c : Char} (h : c ≠ '.') (x : Name) : Good (c :: x) :=
  ⟨List.cons_ne_nil _ _, fun e => h (Option.some.inj e)⟩

theorem first_name_ok {t : Tree} (h : namesOk t = true) {n : Name} {p : Path} {l : Leaf}
    (hm : (Step.attr n :: p, l) ∈ leaves t) : nameOk n = true := by
  cases t with
  | leaf l' => cases List.mem_singleton.1 hm
  | tup as =>
    obtain ⟨_, _, _, hp, hc, _⟩ := mem_leavesAttrs.1 hm
    cases hp
    exact nameOk_of_mem h hc
  | arr off items => obtain ⟨_, _, _, hp, _⟩ := mem_leavesItems.1 hm; cases hp
  | dict es => obtain ⟨_, _, _, hp, _⟩ := mem_leavesEntries.1 hm; cases hp

theorem below_root {path : Path} (h : ∀ n r, path = .attr n :: r → nameOk n = true) :
    below [] path = render path := by
  cases path with
  | nil => rfl
  | cons s r =>
    have hg : Good (trimDot s.chars) := by
      cases s with
      | attr n => exact good_of_nameOk (h n r rfl)
      | idx i => exact good_cons (by decide) _
      | key k => exact good_cons (by decide) _
    show below (trimDot s.chars) r = trimDot (s.chars ++ Path.chars r)
    rw [below_good hg]
    cases s <;> rfl

theorem below_root_of_namesOk {t : Tree} (h : namesOk t = true) :
    ∀ {pl : Path × Leaf}, pl ∈ leaves t → below [] pl.1 = render pl.1
  | (p, _), hm => below_root (path := p) fun _ _ e => first_name_ok h (e ▸ hm)

/-! ### leaves = the paths that lead to a leaf -/

theorem mem_of_reaches {t : Tree} {p : Path} {l : Leaf} (h : Reaches t p (.leaf l)) : (p, l) ∈ leaves t := by
  generalize hu : Tree.leaf l = u at h
  induction h with
  | here => subst hu; exact List.mem_singleton.2 rfl
  | attr hm _ ih => exact mem_leavesAttrs.2 ⟨_, _, _, rfl, hm, ih hu⟩
  | idx hm _ ih => exact mem_leavesItems.2 ⟨_, _, _, rfl, hm, ih hu⟩
  | key hm _ ih => exact mem_leavesEntries.2 ⟨_, _, _, rfl, hm, ih hu⟩

theorem reaches_of_mem {t : Tree} {p : Path} {l : Leaf} (h : (p, l) ∈ leaves t) : Reaches t p (.leaf l) := by
  induction p generalizing t with
  | nil =>
    cases t with
    | leaf l' => cases List.mem_singleton.1 h; exact .here
    | tup as => obtain ⟨_, _, _, hp, _⟩ := mem_leavesAttrs.1 h; cases hp
    | arr off items => obtain ⟨_, _, _, hp, _⟩ := mem_leavesItems.1 h; cases hp
    | dict es => obtain ⟨_, _, _, hp, _⟩ := mem_leavesEntries.1 h; cases hp
  | cons s p ih =>
    cases t with
    | leaf l' => cases List.mem_singleton.1 h
    | tup as => obtain ⟨_, _, _, hp, hm, hl⟩ := mem_leavesAttrs.1 h; cases hp; exact .attr hm (ih hl)
    | arr off items => obtain ⟨_, _, _, hp, hm, hl⟩ := mem_leavesItems.1 h; cases hp; exact .idx hm (ih hl)
    | dict es => obtain ⟨_, _, _, hp, hm, hl⟩ := mem_leavesEntries.1 h; cases hp; exact .key hm (ih hl)

theorem reaches_of_subtree {t : Tree} {p : Path} {c : Tree} (h : subtree t p = some c) : Reaches t p c := by
  fun_induction subtree t p with
  | case1 t => cases h; exact .here
  | case2 as n p t' hl ih => exact .attr (mem_of_lookup (lookupAttr_eq_lookup n as ▸ hl)) (ih h)
  | case3 => cases h
  | case4 off items i p t' hl ih => exact .idx hl (ih h)
  | case5 => cases h
  | case6 es k p t' hl ih => exact .key (mem_of_lookup (lookupKey_eq_lookup k es ▸ hl)) (ih h)
  | case7 => cases h
  | case8 => cases h

theorem wfAttrs_of_mem {as : List (Name × Tree)} {n : Name} {c : Tree} (hw : wfAttrs as = true)
    (h : (n, c) ∈ as) : wf c = true := by
  induction as with
  | nil => cases h
  | cons a r ih =>
    obtain ⟨hwa, hwr⟩ := Bool.and_eq_true_iff.1 hw
    rcases List.mem_cons.1 h with rfl | h
    · exact hwa
    · exact ih hwr h

theorem wfEntries_of_mem {es : List (Key × Tree)} {k : Key} {c : Tree} (hw : wfEntries es = true)
    (h : (k, c) ∈ es) : wf c = true := by
  induction es with
  | nil => cases h
  | cons a r ih =>
    obtain ⟨hwa, hwr⟩ := Bool.and_eq_true_iff.1 hw
    rcases List.mem_cons.1 h with rfl | h
    · exact hwa
    · exact ih hwr h

theorem wfItems_of_lookup {items : List (Option Tree)} {i j : Int} {c : Tree} (hw : wfItems items = true)
    (h : lookupItem i items j = some c) : wf c = true := by
  induction items generalizing j with
  | nil => cases h
  | cons a r ih =>
    rw [lookupItem] at h
    cases a with
    | none =>
      split at h
      · cases h
      · exact ih hw h
    | some t =>
      obtain ⟨hwt, hwr⟩ := Bool.and_eq_true_iff.1 hw
      split at h
      · cases h; exact hwt
      · exact ih hwr h

theorem subtree_of_reaches {t : Tree} (hw : wf t = true) {p : Path} {c : Tree} (h : Reaches t p c) :
    subtree t p = some c := by
  induction h with
  | here => rfl
  | @attr as n c p t hm _ ih =>
    obtain ⟨hd, hwa⟩ := Bool.and_eq_true_iff.1 hw
    show (match lookupAttr n as with | some t => subtree t p | none => none) = some t
    rw [lookupAttr_eq_lookup, lookup_of_mem (nodup_of_distinct hd) hm]
    exact ih (wfAttrs_of_mem hwa hm)
  | @idx off items i c p t hm _ ih =>
    show (match lookupItem i items off with | some t => subtree t p | none => none) = some t
    rw [hm]
    exact ih (wfItems_of_lookup hw hm)
  | @key es k c p t hm _ ih =>
    obtain ⟨hd, hwe⟩ := Bool.and_eq_true_iff.1 hw
    show (match lookupKey k es with | some t => subtree t p | none => none) = some t
    rw [lookupKey_eq_lookup, lookup_of_mem (nodup_of_distinct hd) hm]
    exact ih (wfEntries_of_mem hwe hm)

/-! One level of a container against `subtree` and against `Reaches` -/

theorem memItems_of_lookup (items : List (Option Tree)) (j i : Int) (p : Path) (l : Leaf) (t' : Tree)
    (h1 : lookupItem i items j = some t') (h2 : subtree t' p = some (.leaf l)) :
    (Step.idx i :: p, l) ∈ leavesItems items j :=
  mem_leavesItems.2 ⟨i, t', p, rfl, h1, mem_of_reaches (reaches_of_subtree h2)⟩

theorem memEntries_of_lookup (es : List (Key × Tree)) (k : Key) (p : Path) (l : Leaf) (t' : Tree)
    (h1 : lookupKey k es = some t') (h2 : subtree t' p = some (.leaf l)) :
    (Step.key k :: p, l) ∈ leavesEntries es :=
  mem_leavesEntries.2
    ⟨k, t', p, rfl, mem_of_lookup (lookupKey_eq_lookup k es ▸ h1), mem_of_reaches (reaches_of_subtree h2)⟩

theorem getItems_of_mem (items : List (Option Tree)) (j : Int) (hw : wfItems items = true)
    (p : Path) (l : Leaf) (h : (p, l) ∈ leavesItems items j) :
    ∃ i p' t, p = .idx i :: p' ∧ lookupItem i items j = some t ∧ subtree t p' = some (.leaf l) ∧ j ≤ i := by
  obtain ⟨i, c, p', hp, hm, hl⟩ := mem_leavesItems.1 h
  exact ⟨i, p', c, hp, hm, subtree_of_reaches (wfItems_of_lookup hw hm) (reaches_of_mem hl), lookupItem_le hm⟩

theorem getEntries_of_mem (es : List (Key × Tree)) (hd : distinct (es.map Prod.fst) = true)
    (hw : wfEntries es = true) (p : Path) (l : Leaf) (h : (p, l) ∈ leavesEntries es) :
    ∃ k p' t, p = .key k :: p' ∧ lookupKey k es = some t ∧ subtree t p' = some (.leaf l) := by
  obtain ⟨k, c, p', hp, hm, hl⟩ := mem_leavesEntries.1 h
  exact ⟨k, p', c, hp, (lookupKey_eq_lookup k es).trans (lookup_of_mem (nodup_of_distinct hd) hm),
    subtree_of_reaches (wfEntries_of_mem hw hm) (reaches_of_mem hl)⟩

theorem reachesAttrs_of_mem (as : List (Name × Tree)) (p : Path) (l : Leaf) (h : (p, l) ∈ leavesAttrs as) :
    ∃ n c p', p = .attr n :: p' ∧ (n, c) ∈ as ∧ Reaches c p' (.leaf l) := by
  obtain ⟨n, c, p', hp, hm, hl⟩ := mem_leavesAttrs.1 h
  exact ⟨n, c, p', hp, hm, reaches_of_mem hl⟩

theorem reachesItems_of_mem (items : List (Option Tree)) (j : Int) (p : Path) (l : Leaf)
    (h : (p, l) ∈ leavesItems items j) :
    ∃ i c p', p = .idx i :: p' ∧ lookupItem i items j = some c ∧ Reaches c p' (.leaf l) ∧ j ≤ i := by
  obtain ⟨i, c, p', hp, hm, hl⟩ := mem_leavesItems.1 h
  exact ⟨i, c, p', hp, hm, reaches_of_mem hl, lookupItem_le hm⟩

theorem reachesEntries_of_mem (es : List (Key × Tree)) (p : Path) (l : Leaf) (h : (p, l) ∈ leavesEntries es) :
    ∃ k c p', p = .key k :: p' ∧ (k, c) ∈ es ∧ Reaches c p' (.leaf l) := by
  obtain ⟨k, c, p', hp, hm, hl⟩ := mem_leavesEntries.1 h
  exact ⟨k, c, p', hp, hm, reaches_of_mem hl⟩

theorem memAttrs_of_reaches (as : List (Name × Tree)) (n : Name) (c : Tree) (p : Path) (l : Leaf)
    (hm : (n, c) ∈ as) (hr : Reaches c p (.leaf l)) : (Step.attr n :: p, l) ∈ leavesAttrs as :=
  mem_leavesAttrs.2 ⟨n, c, p, rfl, hm, mem_of_reaches hr⟩

theorem memItems_of_reaches (items : List (Option Tree)) (j i : Int) (c : Tree) (p : Path) (l : Leaf)
    (hm : lookupItem i items j = some c) (hr : Reaches c p (.leaf l)) :
    (Step.idx i :: p, l) ∈ leavesItems items j :=
  mem_leavesItems.2 ⟨i, c, p, rfl, hm, mem_of_reaches hr⟩

theorem memEntries_of_reaches (es : List (Key × Tree)) (k : Key) (c : Tree) (p : Path) (l : Leaf)
    (hm : (k, c) ∈ es) (hr : Reaches c p (.leaf l)) : (Step.key k :: p, l) ∈ leavesEntries es :=
  mem_leavesEntries.2 ⟨k, c, p, rfl, hm, mem_of_reaches hr⟩

/-! ### each path once, when names and keys are `distinct` -/

theorem nodup_paths_append {s : Step} {ls rest : List (Path × Leaf)} (h1 : (ls.map Prod.fst).Nodup)
    (h2 : (rest.map Prod.fst).Nodup) (h3 : ∀ p' l, (s :: p', l) ∉ rest) :
    ((ls.map (pre s) ++ rest).map Prod.fst).Nodup := by
  have e : (ls.map (pre s)).map Prod.fst = (ls.map Prod.fst).map (s :: ·) := by
    rw [List.map_map, List.map_map]; rfl
  rw [List.map_append, e]
  have h1' : ((ls.map Prod.fst).map (s :: ·)).Nodup :=
    List.Pairwise.map _ (fun a b hab e => hab (List.cons.inj e).2) h1
  refine List.nodup_append.2 ⟨h1', h2, ?_⟩
  intro a ha b hb e
  obtain ⟨q, _, rfl⟩ := List.mem_map.1 ha
  obtain ⟨⟨p, l⟩, hy, rfl⟩ := List.mem_map.1 hb
  exact h3 q l (e ▸ hy)

mutual
theorem nodup_leaves (t : Tree) (hw : wf t = true) : ((leaves t).map Prod.fst).Nodup := by
  cases t with
  | leaf l => exact List.pairwise_singleton _ _
  | tup as =>
    obtain ⟨hd, hw⟩ := Bool.and_eq_true_iff.1 hw
    exact nodup_leavesAttrs as hd hw
  | arr off items => exact nodup_leavesItems items off hw
  | dict es =>
    obtain ⟨hd, hw⟩ := Bool.and_eq_true_iff.1 hw
    exact nodup_leavesEntries es hd hw
theorem nodup_leavesAttrs (as : List (Name × Tree)) (hd : distinct (as.map Prod.fst) = true)
    (hw : wfAttrs as = true) : ((leavesAttrs as).map Prod.fst).Nodup := by
  cases as with
  | nil => exact List.nodup_nil
  | cons a r =>
    obtain ⟨hwa, hwr⟩ := Bool.and_eq_true_iff.1 hw
    rw [List.map_cons, distinct_cons] at hd
    refine nodup_paths_append (nodup_leaves a.2 hwa) (nodup_leavesAttrs r hd.2 hwr) fun p' l h => ?_
    obtain ⟨_, _, _, hp, hm, _⟩ := mem_leavesAttrs.1 h
    cases hp
    exact hd.1 (List.mem_map.2 ⟨_, hm, rfl⟩)
theorem nodup_leavesItems (items : List (Option Tree)) (j : Int) (hw : wfItems items = true) :
    ((leavesItems items j).map Prod.fst).Nodup := by
  cases items with
  | nil => exact List.nodup_nil
  | cons a r =>
    cases a with
    | none => exact nodup_leavesItems r (j + 1) hw
    | some t =>
      obtain ⟨hwt, hwr⟩ := Bool.and_eq_true_iff.1 hw
      refine nodup_paths_append (nodup_leaves t hwt) (nodup_leavesItems r (j + 1) hwr) fun p' l h => ?_
      obtain ⟨_, _, _, hp, hm, _⟩ := mem_leavesItems.1 h
      cases hp
      have := lookupItem_le hm
      omega
theorem nodup_leavesEntries (es : List (Key × Tree)) (hd : distinct (es.map Prod.fst) = true)
    (hw : wfEntries es = true) : ((leavesEntries es).map Prod.fst).Nodup := by
  cases es with
  | nil => exact List.nodup_nil
  | cons a r =>
    obtain ⟨hwa, hwr⟩ := Bool.and_eq_true_iff.1 hw
    rw [List.map_cons, distinct_cons] at hd
    refine nodup_paths_append (nodup_leaves a.2 hwa) (nodup_leavesEntries r hd.2 hwr) fun p' l h => ?_
    obtain ⟨_, _, _, hp, hm, _⟩ := mem_leavesEntries.1 h
    cases hp
    exact hd.1 (List.mem_map.2 ⟨_, hm, rfl⟩)
end

/-! ### getTestFiles finds exactly the test files under the target -/

mutual
theorem walk_iff {n : Node} {path : Name} {f : TestFile} : f ∈ Impl.walk n path ↔ Under n path f := by
  cases n with
  | file nm c =>
    rw [Impl.walk]
    constructor
    · intro h
      split at h
      · cases List.mem_singleton.1 h; exact .file ‹_›
      · cases h
    · rintro ⟨ht⟩
      rw [if_pos ht]
      exact List.mem_singleton.2 rfl
  | dir nm ch =>
    rw [Impl.walk]
    constructor
    · intro h
      split at h
      · cases h
      · obtain ⟨c, hc, hu⟩ := walkAll_iff.1 h
        exact .dir (Bool.eq_false_iff.2 ‹_›) hc hu
    · intro h
      cases h with
      | dir hh hc hu =>
        rw [if_neg (Bool.eq_false_iff.1 hh)]
        exact walkAll_iff.2 ⟨_, hc, hu⟩
theorem walkAll_iff {ch : List Node} {path : Name} {f : TestFile} :
    f ∈ Impl.walkAll ch path ↔ ∃ c ∈ ch, Under c (joinPath path c.name) f := by
  cases ch with
  | nil => simp [Impl.walkAll]
  | cons c r =>
    rw [Impl.walkAll, List.mem_append, walk_iff, walkAll_iff]
    simp only [List.mem_cons, exists_eq_or_imp]
end

theorem isTestFile_iff {w : World} {path : Name} {n : Node} (hl : w.lstat (Impl.targetPath w path) = some n)
    {f : TestFile} : IsTestFile w path f ↔ f ∈ Impl.walk n (Impl.targetPath w path) := by
  rw [walk_iff, IsTestFile, hl]
  simp only [Option.some.injEq, exists_eq_left']

/-! ### calcStats: a function of the flat list of outcomes (`tally`) -/

def cnt (o : Outcome) (os : List Outcome) : Nat := (os.filter (fun x => x = o)).length

theorem cnt_cons (o x : Outcome) (os : List Outcome) :
    cnt o (x :: os) = (if x = o then 1 else 0) + cnt o os := by
  unfold cnt
  by_cases h : x = o <;> simp [h, Nat.add_comm]

theorem cnt_pos (o : Outcome) (os : List Outcome) : 0 < cnt o os ↔ o ∈ os := by
  simp [cnt, List.length_filter_pos_iff]

theorem cnt_total (os : List Outcome) :
    cnt .passed os + cnt .failed os + cnt .invalid os + cnt .ignored os = os.length := by
  induction os with
  | nil => rfl
  | cons x os ih =>
    have one : (if x = .passed then 1 else 0) + (if x = .failed then 1 else 0)
        + (if x = .invalid then 1 else 0) + (if x = .ignored then 1 else 0) = 1 := by cases x <;> rfl
    simp only [cnt_cons, List.length_cons, ← ih]
    omega

def outcomes (fs : List FileRun) : List Outcome := fs.flatMap (fun f => f.results.map (·.outcome))

def tally (os : List Outcome) : Stats :=
  { runFailed := os.any (fun o => o != .passed && o != .ignored)
    total := os.length
    invalid := cnt .invalid os
    passed := cnt .passed os
    ignored := cnt .ignored os
    failed := cnt .failed os }

theorem bump_eq (s : Stats) (o : Outcome) :
    Impl.bump s o =
      { s with total := s.total + 1
               invalid := s.invalid + if o = .invalid then 1 else 0
               passed := s.passed + if o = .passed then 1 else 0
               ignored := s.ignored + if o = .ignored then 1 else 0
               failed := s.failed + if o = .failed then 1 else 0 } := by
  cases o <;> rfl

theorem countResults_eq (s : Stats) (rs : List Result) :
    Impl.countResults s rs =
      { s with total := s.total + rs.length
               invalid := s.invalid + cnt .invalid (rs.map (·.outcome))
               passed := s.passed + cnt .passed (rs.map (·.outcome))
               ignored := s.ignored + cnt .ignored (rs.map (·.outcome))
               failed := s.failed + cnt .failed (rs.map (·.outcome)) } := by
  induction rs generalizing s with
  | nil => rfl
  | cons r rs ih =>
    show Impl.countResults (Impl.bump s r.outcome) rs = _
    rw [ih, bump_eq]
    simp only [List.map_cons, cnt_cons, List.length_cons, Nat.add_assoc, Nat.add_comm 1]

theorem countResults_append (s : Stats) (a b : List Result) :
    Impl.countResults s (a ++ b) = Impl.countResults (Impl.countResults s a) b := by
  induction a generalizing s with
  | nil => rfl
  | cons r a ih => exact ih _

theorem countFiles_eq (s : Stats) (fs : List FileRun) :
    Impl.countFiles s fs = Impl.countResults s (fs.flatMap (·.results)) := by
  induction fs generalizing s with
  | nil => rfl
  | cons f fs ih =>
    show Impl.countFiles (Impl.countResults s f.results) fs = _
    rw [ih, List.flatMap_cons, countResults_append]

theorem outcome_bad_iff (o : Outcome) : (o != .passed && o != .ignored) = true ↔ o = .failed ∨ o = .invalid := by
  cases o <;> simp

theorem tally_runFailed_false_iff (os : List Outcome) :
    (tally os).runFailed = false ↔ ∀ o ∈ os, o = .passed ∨ o = .ignored := by
  simp only [tally, List.any_eq_false, outcome_bad_iff]
  refine forall₂_congr fun o _ => ?_
  cases o <;> simp

theorem tally_runFailed_eq (os : List Outcome) :
    (tally os).runFailed = (decide (cnt .failed os > 0) || decide (cnt .invalid os > 0)) := by
  rw [Bool.eq_iff_iff]
  simp only [tally, List.any_eq_true, outcome_bad_iff, Bool.or_eq_true, decide_eq_true_eq, gt_iff_lt, cnt_pos]
  constructor
  · rintro ⟨o, ho, rfl | rfl⟩
    · exact Or.inl ho
    · exact Or.inr ho
  · rintro (h | h)
    · exact ⟨_, h, Or.inl rfl⟩
    · exact ⟨_, h, Or.inr rfl⟩

theorem calcStats_eq_tally (fs : List FileRun) : Impl.calcStats fs = tally (outcomes fs) := by
  rw [Impl.calcStats, countFiles_eq, countResults_eq, outcomes, ← List.map_flatMap]
  simp only [Nat.zero_add, ← tally_runFailed_eq]
  simp only [tally, List.length_map]

theorem countOutcome_eq (o : Outcome) (fs : List FileRun) : countOutcome o fs = cnt o (outcomes fs) := by
  simp only [cnt, outcomes, List.filter_flatMap, List.length_flatMap, List.filter_map, List.length_map]
  rfl

theorem calcStats_eq_spec (fs : List FileRun) : Impl.calcStats fs = Spec.stats fs := by
  rw [calcStats_eq_tally]
  simp only [Spec.stats, tally, countOutcome_eq]
  simp only [outcomes, List.any_flatMap, List.any_map, List.length_flatMap, List.length_map]
  rfl

/-! ### RunExpr, runFile, the loop of RunTests -/

theorem outcomeOf_eq (l : Leaf) :
    Impl.outcomeOf l = if l = .genericSet .unit then none else some (Spec.outcome l) := by
  cases l with
  | genericSet s => cases s <;> rfl
  | _ => rfl

theorem outcome_ne_ignored (l : Leaf) : Spec.outcome l ≠ .ignored := by
  unfold Spec.outcome
  split
  · simp
  · split <;> simp

/-- no leaf is a `GenericSet` equal to `{()}` (which package rel never builds) -/
def noUnit (t : Tree) : Bool := (leaves t).all (fun pl => pl.2 != .genericSet .unit)

/-- the results RunExpr produces for a tree (when it neither fails nor panics) -/
def resultsOf (t : Tree) : List Result := (leaves t).map (fun pl => ⟨below [] pl.1, Spec.outcome pl.2⟩)

theorem collect_named (q : Name) (ls : List (Path × Leaf)) :
    Impl.collect (ls.map (named q)) =
      if ls.all (fun pl => pl.2 != .genericSet .unit) then
        some (ls.map (fun pl => ⟨below q pl.1, Spec.outcome pl.2⟩)) else none := by
  induction ls with
  | nil => rfl
  | cons pl r ih =>
    rw [List.map_cons, named, Impl.collect, outcomeOf_eq, ih, List.all_cons]
    by_cases h : pl.2 = .genericSet .unit
    · rw [if_pos h, h]; rfl
    · rw [if_neg h, (bne_iff_ne).2 h, Bool.true_and]
      cases r.all fun pl => pl.2 != .genericSet .unit <;> rfl

/-- RunExpr's evaluation error carries the empty path; `runFile` puts the file's in its place -/
theorem runExpr_eq (t : Tree) :
    Impl.runExpr t =
      if !t.evaluates then .error (.file [])
      else if noUnit t then .ok (resultsOf t) else .error .crash := by
  rw [Impl.runExpr, foreachLeaf_eq, collect_named, noUnit, resultsOf]
  by_cases h : ((leaves t).all fun pl => pl.2 != .genericSet .unit) = true
  · simp only [h, if_true]; rfl
  · simp only [h]; rfl

/-- the report of a file the loop does not stop at (`fileErr f = none`); of other files the value is never used -/
def reportOf (f : TestFile) : FileRun :=
  ⟨f.path, match f.content with
    | some t => resultsOf t
    | none => []⟩

theorem reportOf_outcomes (f : TestFile) :
    (reportOf f).results.map (·.outcome) = Spec.leafOutcomes f := by
  rw [reportOf, Spec.leafOutcomes]
  cases f.content with
  | none => rfl
  | some t => exact List.map_map

theorem outcomes_map_reportOf (fs : List TestFile) :
    outcomes (fs.map reportOf) = (fs.map Spec.leafOutcomes).flatten := by
  rw [outcomes, List.flatMap_map, List.flatMap_def]
  exact congrArg _ (List.map_congr_left fun f _ => reportOf_outcomes f)

theorem cnt_ignored_leafOutcomes (fs : List TestFile) : cnt .ignored (fs.map Spec.leafOutcomes).flatten = 0 :=
  Nat.eq_zero_of_not_pos fun hp => by
    obtain ⟨l, hl, hxl⟩ := List.mem_flatten.1 ((cnt_pos _ _).1 hp)
    obtain ⟨f, _, rfl⟩ := List.mem_map.1 hl
    rw [Spec.leafOutcomes] at hxl
    cases hc : f.content with
    | none => rw [hc] at hxl; cases hxl
    | some t =>
      rw [hc] at hxl
      obtain ⟨pl, _, hpl⟩ := List.mem_map.1 hxl
      exact outcome_ne_ignored pl.2 hpl

/-- what stops the loop of RunTests at this file, if anything -/
def fileErr (f : TestFile) : Option Err :=
  match f.content with
  | none => some (.file f.path)
  | some t => if !t.evaluates then some (.file f.path) else if noUnit t then none else some .crash

theorem fileErr_none_iff (f : TestFile) :
    fileErr f = none ↔ ∃ t, f.content = some t ∧ t.evaluates = true ∧ noUnit t = true := by
  rw [fileErr]
  cases f.content with
  | none => exact ⟨nofun, fun ⟨_, h, _⟩ => nomatch h⟩
  | some t =>
    simp only [Option.some.injEq, exists_eq_left']
    cases t.evaluates <;> cases noUnit t <;> simp

theorem fileErr_crash {f : TestFile} (h : fileErr f = some .crash) :
    ∃ t, f.content = some t ∧ noUnit t = false := by
  rw [fileErr] at h
  cases hc : f.content with
  | none => rw [hc] at h; cases h
  | some t =>
    refine ⟨t, rfl, ?_⟩
    cases hn : noUnit t
    · rfl
    · cases he : t.evaluates <;> simp [hc, hn, he] at h

theorem runFile_eq (f : TestFile) :
    Impl.runFile f = match fileErr f with
      | some e => .error e
      | none => .ok (reportOf f) := by
  rw [Impl.runFile, fileErr, reportOf]
  cases f.content with
  | none => rfl
  | some t =>
    simp only [runExpr_eq]
    cases t.evaluates <;> cases noUnit t <;> rfl

theorem runFiles_eq (fs : List TestFile) :
    Impl.runFiles fs = match fs.findSome? fileErr with
      | some e => .error e
      | none => .ok (fs.map reportOf) := by
  induction fs with
  | nil => rfl
  | cons f r ih =>
    rw [Impl.runFiles, runFile_eq, ih, List.findSome?_cons]
    cases fileErr f with
    | some e => rfl
    | none => dsimp only; cases r.findSome? fileErr <;> rfl

theorem runTests_eq_runFiles (w : World) (path : Name) :
    Impl.runTests w path = match w.lstat (Impl.targetPath w path) with
      | none => .error .walk
      | some n =>
        if (Impl.walk n (Impl.targetPath w path)).isEmpty then .error .noFiles
        else match Impl.runFiles (Impl.walk n (Impl.targetPath w path)) with
          | .error e => .error e
          | .ok runs => .reported runs (Impl.calcStats runs) := by
  rw [Impl.runTests, Impl.getTestFiles]
  cases w.lstat (Impl.targetPath w path) with
  | none => rfl
  | some n => dsimp only; cases (Impl.walk n (Impl.targetPath w path)).isEmpty <;> rfl

theorem runTests_eq (w : World) (path : Name) :
    Impl.runTests w path = match w.lstat (Impl.targetPath w path) with
      | none => .error .walk
      | some n =>
        if (Impl.walk n (Impl.targetPath w path)).isEmpty then .error .noFiles
        else match (Impl.walk n (Impl.targetPath w path)).findSome? fileErr with
          | some e => .error e
          | none => .reported ((Impl.walk n (Impl.targetPath w path)).map reportOf)
              (tally ((Impl.walk n (Impl.targetPath w path)).map Spec.leafOutcomes).flatten) := by
  rw [runTests_eq_runFiles]
  cases w.lstat (Impl.targetPath w path) with
  | none => rfl
  | some n =>
    dsimp only
    rw [runFiles_eq]
    cases (Impl.walk n (Impl.targetPath w path)).findSome? fileErr with
    | some e => rfl
    | none => dsimp only; rw [calcStats_eq_tally, outcomes_map_reportOf]

theorem runTests_reported_iff {w : World} {path : Name} {runs : List FileRun} {st : Stats} :
    Impl.runTests w path = .reported runs st ↔
      ∃ n, w.lstat (Impl.targetPath w path) = some n ∧ Impl.walk n (Impl.targetPath w path) ≠ [] ∧
        (∀ f ∈ Impl.walk n (Impl.targetPath w path), fileErr f = none) ∧
        runs = (Impl.walk n (Impl.targetPath w path)).map reportOf ∧
        st = tally ((Impl.walk n (Impl.targetPath w path)).map Spec.leafOutcomes).flatten := by
  rw [runTests_eq]
  cases w.lstat (Impl.targetPath w path) with
  | none => simp
  | some n =>
    simp only [Option.some.injEq, exists_eq_left', List.isEmpty_iff, ← List.findSome?_eq_none_iff]
    split
    · simp [*]
    · rename_i hne
      cases (Impl.walk n (Impl.targetPath w path)).findSome? fileErr with
      | some e => simp
      | none => simp [hne, eq_comm]

theorem runTests_crash {w : World} {path : Name} (h : Impl.runTests w path = .error .crash) :
    ∃ f, IsTestFile w path f ∧ fileErr f = some .crash := by
  rw [runTests_eq] at h
  cases hl : w.lstat (Impl.targetPath w path) with
  | none => rw [hl] at h; cases h
  | some n =>
    rw [hl] at h
    dsimp only at h
    split at h
    · cases h
    · split at h
      · cases h
        obtain ⟨f, hf, he⟩ := List.exists_of_findSome?_eq_some ‹_›
        exact ⟨f, (isTestFile_iff hl).2 hf, he⟩
      · cases h

/-! ### on clean trees the transliteration computes the specified run -/

/-- plain attribute names and canonical leaf representations -/
def Clean (t : Tree) : Prop := namesOk t = true ∧ ∀ pl ∈ leaves t, pl.2.canonical = true

theorem noUnit_of_canonical {t : Tree} (h : ∀ pl ∈ leaves t, pl.2.canonical = true) : noUnit t = true :=
  List.all_eq_true.2 fun pl hpl => bne_iff_ne.2 fun e => by
    have hc := h pl hpl
    rw [e] at hc
    cases hc

theorem resultsOf_of_namesOk {t : Tree} (h : namesOk t = true) (path : Name) :
    resultsOf t = (Spec.fileRun path t).results :=
  List.map_congr_left fun pl hm => by rw [below_root_of_namesOk h hm]

theorem runFile_clean (f : TestFile) (h : ∀ t, f.content = some t → Clean t) :
    Impl.runFile f = match f.content with
      | none => .error (.file f.path)
      | some t => if t.evaluates then .ok (Spec.fileRun f.path t) else .error (.file f.path) := by
  rw [runFile_eq, fileErr, reportOf]
  cases hc : f.content with
  | none => rfl
  | some t =>
    dsimp only
    rw [noUnit_of_canonical (h t hc).2, resultsOf_of_namesOk (h t hc).1 f.path]
    cases t.evaluates <;> rfl

theorem runFiles_clean : ∀ (fs : List TestFile), (∀ f ∈ fs, ∀ t, f.content = some t → Clean t) →
    Impl.runFiles fs = match Spec.firstBad fs with
      | some p => .error (.file p)
      | none => .ok (Spec.runsOf fs) := by
  refine forall_mem_rec rfl fun f r hf ih => ?_
  rw [Impl.runFiles, runFile_clean f hf, ih, Spec.firstBad, Spec.runsOf]
  cases f.content with
  | none => rfl
  | some t =>
    dsimp only
    cases t.evaluates
    · rfl
    · cases Spec.firstBad r <;> rfl

/-! ### the verdict -/

/-- for one leaf: `Tree.evaluates`, `noUnit` and the condition of `tally_runFailed_false_iff`, the shape
`allLeavesTrue_iff` needs -/
theorem leaf_passes_iff (l : Leaf) :
    l = .trueSet ↔ l ≠ .fails ∧ l ≠ .genericSet .unit ∧ (Spec.outcome l = .passed ∨ Spec.outcome l = .ignored) := by
  cases l with
  | genericSet s => cases s <;> decide
  | _ => decide

def AllLeavesTrue (f : TestFile) : Prop := ∃ t, f.content = some t ∧ ∀ pl ∈ leaves t, pl.2 = .trueSet

theorem allLeavesTrue_iff (f : TestFile) :
    AllLeavesTrue f ↔ fileErr f = none ∧ ∀ o ∈ Spec.leafOutcomes f, o = .passed ∨ o = .ignored := by
  rw [AllLeavesTrue, fileErr_none_iff, Spec.leafOutcomes]
  cases f.content with
  | none => simp
  | some t =>
    simp only [Option.some.injEq, exists_eq_left', List.forall_mem_map, Tree.evaluates, noUnit, List.all_eq_true, bne_iff_ne]
    simp only [leaf_passes_iff, imp_and, forall_and, and_assoc]

theorem allFilesTrue_iff (fs : List TestFile) :
    (∀ f ∈ fs, AllLeavesTrue f) ↔
      (∀ f ∈ fs, fileErr f = none) ∧ (tally (fs.map Spec.leafOutcomes).flatten).runFailed = false := by
  rw [tally_runFailed_false_iff]
  simp only [allLeavesTrue_iff, forall_and]
  refine and_congr_right' ?_
  constructor
  · intro h o ho
    obtain ⟨_, hl, ho⟩ := List.mem_flatten.1 ho
    obtain ⟨f, hf, rfl⟩ := List.mem_map.1 hl
    exact h f hf o ho
  · intro h f hf o ho
    exact h o (List.mem_flatten.2 ⟨_, List.mem_map.2 ⟨f, hf, rfl⟩, ho⟩)

end Arrai.C20
