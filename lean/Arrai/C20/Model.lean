/-
  C20 — `arrai test` passes exactly when every leaf of every test file is the literal true.

  `Impl`: transliteration of pkg/test (runner.go: RunTests, getTestFiles, runFile, RunExpr;
  value_utils.go: ForeachLeaf (as repaired: array members are enumerated with their real
  index, holes are not members), isLiteralTrue, isLiteralFalse; stats.go: calcStats;
  report.go: Report's verdict).
  `Spec`: the leaves of a result tree as (structured path, leaf) pairs, navigation `Spec.subtree`,
  which files are test files (`Spec.Under`), the outcome a leaf must be given.

  Strings are `List Char` (they reduce in the kernel); text is rendered outside (Gen.lean).
  Core-only.
-/
namespace Arrai.C20

abbrev Name := List Char

/-! ## Result trees -/

/-- how many members a `rel.GenericSet` has, as far as pkg/test can tell -/
inductive GShape where
  | empty    -- Count() = 0                      (never built by rel: `{}` is `EmptySet`)
  | unit     -- Count() = 1 and Has(EmptyTuple)  (never built by rel: `{()}` is `TrueSet`)
  | proper   -- anything else
  deriving DecidableEq, Repr, Inhabited

/-- A leaf of an evaluated test tree, by the Go classes pkg/test distinguishes. -/
inductive Leaf where
  | trueSet                  -- `rel.TrueSet`: `true`, `{()}`, `1 = 1`
  | emptySet                 -- `rel.EmptySet`: `false`, `{}`, `[]`, `''`
  | genericSet (s : GShape)  -- `rel.GenericSet`: `{1, 2}`, `{true}` …  (sets are leaves, not containers)
  | other                    -- every other data value: number, string, bytes, relation, union set …
  | func                     -- a function value (`rel.Closure` …): a leaf like any other non-boolean
  | fails                    -- the sub-expression does not evaluate (the whole file then fails)
  deriving DecidableEq, Repr, Inhabited

/-- a dictionary key, by what `ForeachLeaf` does with it -/
inductive Key where
  | num (i : Int)            -- `key.String()` is the decimal number
  | str (s : Name)           -- a `rel.String`: rendered in single quotes
  | other (rendered : Name)  -- any other value, `rendered` = its `String()`
  deriving DecidableEq, Repr, Inhabited

/-- The value a test file evaluates to, in the representation pkg/test sees:
tuples (any `rel.Tuple`), arrays (`Values()` with `nil` holes, plus the offset), dictionaries,
and everything else as a leaf. -/
inductive Tree where
  | leaf (l : Leaf)
  | tup (attrs : List (Name × Tree))
  | arr (off : Int) (items : List (Option Tree))
  | dict (entries : List (Key × Tree))
  deriving Inhabited

inductive Step where
  | attr (n : Name)
  | idx (i : Int)
  | key (k : Key)
  deriving DecidableEq, Repr, Inhabited

abbrev Path := List Step

def intChars (i : Int) : Name := (toString i).toList

/-- `key.String()`, in single quotes when the key is a `rel.String` -/
def Key.chars : Key → Name
  | .num i => intChars i
  | .str s => '\'' :: (s ++ ['\''])
  | .other r => r

/-- what `ForeachLeaf` appends to the path for one step (`".%s"`, `"(%d)"`, `"(%s)"`) -/
def Step.chars : Step → Name
  | .attr n => '.' :: n
  | .idx i => '(' :: (intChars i ++ [')'])
  | .key k => '(' :: (k.chars ++ [')'])

/-- `strings.TrimPrefix(path, ".")` -/
def trimDot : Name → Name
  | '.' :: r => r
  | p => p

/-! ## Spec: leaves, navigation -/
namespace Spec

def pre (s : Step) (pl : Path × Leaf) : Path × Leaf := (s :: pl.1, pl.2)

mutual
/-- every leaf with its structured path: tuples, arrays and dictionaries are containers,
everything else is a leaf; a hole of an array is not a member, hence nothing -/
def leaves : Tree → List (Path × Leaf)
  | .leaf l => [([], l)]
  | .tup as => leavesAttrs as
  | .arr off items => leavesItems items off
  | .dict es => leavesEntries es
def leavesAttrs : List (Name × Tree) → List (Path × Leaf)
  | [] => []
  | (n, t) :: r => (leaves t).map (pre (.attr n)) ++ leavesAttrs r
def leavesItems : List (Option Tree) → Int → List (Path × Leaf)
  | [], _ => []
  | none :: r, i => leavesItems r (i + 1)
  | some t :: r, i => (leaves t).map (pre (.idx i)) ++ leavesItems r (i + 1)
def leavesEntries : List (Key × Tree) → List (Path × Leaf)
  | [] => []
  | (k, t) :: r => (leaves t).map (pre (.key k)) ++ leavesEntries r
end

def Path.chars : Path → Name
  | [] => []
  | s :: r => s.chars ++ Path.chars r

/-- the report name of a structured path: the steps one after the other, without the leading dot -/
def render (p : Path) : Name := trimDot (Path.chars p)

def lookupAttr (n : Name) : List (Name × Tree) → Option Tree
  | [] => none
  | (m, t) :: r => if n = m then some t else lookupAttr n r

def lookupItem (i : Int) : List (Option Tree) → Int → Option Tree
  | [], _ => none
  | x :: r, j => if i = j then x else lookupItem i r (j + 1)

def lookupKey (k : Key) : List (Key × Tree) → Option Tree
  | [] => none
  | (m, t) :: r => if k = m then some t else lookupKey k r

/-- navigation: the sub-tree a structured path leads to -/
def subtree : Tree → Path → Option Tree
  | t, [] => some t
  | .tup as, .attr n :: p => match lookupAttr n as with
    | some t => subtree t p
    | none => none
  | .arr off items, .idx i :: p => match lookupItem i items off with
    | some t => subtree t p
    | none => none
  | .dict es, .key k :: p => match lookupKey k es with
    | some t => subtree t p
    | none => none
  | _, _ :: _ => none

/-- navigation that does not assume distinct keys: a dictionary may hold several values under one key
(`{k: v} | {k: v'}`); every (key, value) pair is a member reached through that key.  (For tuples the
attribute names, for arrays the indices are distinct by construction of the values.) -/
inductive Reaches : Tree → Path → Tree → Prop where
  | here {t} : Reaches t [] t
  | attr {as n c p t} : (n, c) ∈ as → Reaches c p t → Reaches (.tup as) (.attr n :: p) t
  | idx {off items i c p t} : lookupItem i items off = some c → Reaches c p t →
      Reaches (.arr off items) (.idx i :: p) t
  | key {es k c p t} : (k, c) ∈ es → Reaches c p t → Reaches (.dict es) (.key k :: p) t

def distinct {α} [DecidableEq α] : List α → Bool
  | [] => true
  | a :: r => !r.contains a && distinct r

mutual
/-- attribute names of a tuple and keys of a dictionary are pairwise different -/
def wf : Tree → Bool
  | .leaf _ => true
  | .tup as => distinct (as.map Prod.fst) && wfAttrs as
  | .arr _ items => wfItems items
  | .dict es => distinct (es.map Prod.fst) && wfEntries es
def wfAttrs : List (Name × Tree) → Bool
  | [] => true
  | (_, t) :: r => wf t && wfAttrs r
def wfItems : List (Option Tree) → Bool
  | [] => true
  | none :: r => wfItems r
  | some t :: r => wf t && wfItems r
def wfEntries : List (Key × Tree) → Bool
  | [] => true
  | (_, t) :: r => wf t && wfEntries r
end

def nameOk (n : Name) : Bool := !n.isEmpty && n.head? != some '.'

mutual
/-- every attribute name is non-empty and does not start with a dot -/
def namesOk : Tree → Bool
  | .leaf _ => true
  | .tup as => namesOkAttrs as
  | .arr _ items => namesOkItems items
  | .dict es => namesOkEntries es
def namesOkAttrs : List (Name × Tree) → Bool
  | [] => true
  | (n, t) :: r => nameOk n && namesOk t && namesOkAttrs r
def namesOkItems : List (Option Tree) → Bool
  | [] => true
  | none :: r => namesOkItems r
  | some t :: r => namesOk t && namesOkItems r
def namesOkEntries : List (Key × Tree) → Bool
  | [] => true
  | (_, t) :: r => namesOk t && namesOkEntries r
end

end Spec

/-- the file evaluates: no sub-expression fails -/
def Tree.evaluates (t : Tree) : Bool := (Spec.leaves t).all (fun pl => pl.2 != .fails)

/-- the representation invariant of package rel that pkg/test relies on: a `GenericSet` is
neither empty nor `{()}` (those are `EmptySet` and `TrueSet`) -/
def Leaf.canonical : Leaf → Bool
  | .genericSet .empty => false
  | .genericSet .unit => false
  | _ => true

/-- the leaf denotes `{()}` -/
def Leaf.isTrue : Leaf → Bool
  | .trueSet => true
  | .genericSet .unit => true
  | _ => false

/-- the leaf denotes `{}` -/
def Leaf.isFalse : Leaf → Bool
  | .emptySet => true
  | .genericSet .empty => true
  | _ => false

/-! ## Outcomes, results, statistics (entities.go, stats.go) -/

inductive Outcome where
  | failed | invalid | ignored | passed
  deriving DecidableEq, Repr, Inhabited

structure Result where
  name : Name
  outcome : Outcome
  deriving DecidableEq, Repr, Inhabited

structure FileRun where
  path : Name
  results : List Result
  deriving DecidableEq, Repr, Inhabited

/-- `testStats` without the display-only fields (wallTime, maxNameLen, maxFileLen) -/
structure Stats where
  runFailed : Bool := false
  total : Nat := 0
  invalid : Nat := 0
  passed : Nat := 0
  ignored : Nat := 0
  failed : Nat := 0
  deriving DecidableEq, Repr, Inhabited

/-- the outcome the property demands for a leaf -/
def Spec.outcome (l : Leaf) : Outcome :=
  if l.isTrue then .passed else if l.isFalse then .failed else .invalid

/-! ## Directory layouts -/

/-- `content = none`: the source does not compile -/
inductive Node where
  | file (name : Name) (content : Option Tree)
  | dir (name : Name) (children : List Node)   -- children as `readDirNames` lists them (sorted)
  deriving Inhabited

def Node.name : Node → Name
  | .file n _ => n
  | .dir n _ => n

structure TestFile where
  path : Name
  content : Option Tree

/-- what RunTests sees of the outside world: the working directory and `lstat` on the source
file system (`none` = no such file or directory) -/
structure World where
  cwd : Name
  lstat : Name → Option Node

def testSuffix : Name := "_test.arrai".toList

/-- `strings.HasSuffix(path, "_test.arrai")` -/
def isTestPath (p : Name) : Bool := testSuffix.isSuffixOf p

/-- `strings.HasPrefix(info.Name(), ".")` -/
def isHidden (n : Name) : Bool := n.head? == some '.'

/-- `filepath.Join(dir, name)` for a clean `dir` -/
def joinPath (d n : Name) : Name := if d = ['/'] then '/' :: n else d ++ '/' :: n

/-- which files are test files under a target: the path ends in `_test.arrai` and no directory
from the target down to the file (both inclusive) is hidden -/
inductive Spec.Under : Node → Name → TestFile → Prop where
  | file {n c path} : isTestPath path = true → Spec.Under (.file n c) path ⟨path, c⟩
  | dir {n ch path c f} : isHidden n = false → c ∈ ch → Spec.Under c (joinPath path c.name) f →
      Spec.Under (.dir n ch) path f

inductive Err where
  | walk                 -- the target does not exist (`lstat` failed)
  | noFiles              -- "no test files (ending in '_test.arrai') were found"
  | file (path : Name)   -- "failed compiling/evaluating tests file '<path>'"
  | crash                -- isLiteralTrue's panic "true set is not of type TrueSet"
  deriving DecidableEq, Repr, Inhabited

/-- outcome of RunTests: an error before any report, or the report (and then the returned
error is non-nil exactly when `stats.runFailed`) -/
inductive Run where
  | error (e : Err)
  | reported (files : List FileRun) (stats : Stats)
  deriving Inhabited

def Run.passed : Run → Bool
  | .reported _ s => !s.runFailed
  | .error _ => false

/-! ## Impl: the Go code -/
namespace Impl

mutual
/-- `ForeachLeaf(val, path, leafAction)`: the list of `leafAction(val, path)` calls, in order -/
def foreachLeaf : Tree → Name → List (Name × Leaf)
  | .leaf l, path => [(trimDot path, l)]                       -- default:
  | .arr off items, path => foreachItems items off (trimDot path)   -- case rel.Array:
  | .dict es, path => foreachEntries es (trimDot path)          -- case rel.Dict:
  | .tup as, path => foreachAttrs as (trimDot path)             -- case rel.Tuple:
/-- `for e := v.Enumerator(); e.MoveNext();` over the members `(@: off+i, @item: item)` -/
def foreachItems : List (Option Tree) → Int → Name → List (Name × Leaf)
  | [], _, _ => []
  | none :: r, i, path => foreachItems r (i + 1) path
  | some t :: r, i, path => foreachLeaf t (path ++ (Step.idx i).chars) ++ foreachItems r (i + 1) path
/-- `for _, entry := range v.OrderedEntries()` -/
def foreachEntries : List (Key × Tree) → Name → List (Name × Leaf)
  | [], _ => []
  | (k, t) :: r, path => foreachLeaf t (path ++ (Step.key k).chars) ++ foreachEntries r path
/-- `for e := v.Enumerator(); e.MoveNext();` over the attributes -/
def foreachAttrs : List (Name × Tree) → Name → List (Name × Leaf)
  | [], _ => []
  | (n, t) :: r, path => foreachLeaf t (path ++ (Step.attr n).chars) ++ foreachAttrs r path
end

/-- `isLiteralTrue`; `none` = the panic "true set is not of type TrueSet" -/
def isLiteralTrue : Leaf → Option Bool
  | .trueSet => some true
  | .genericSet .unit => none
  | _ => some false

/-- `isLiteralFalse` -/
def isLiteralFalse : Leaf → Bool
  | .emptySet => true
  | .genericSet s => s = .empty
  | _ => false

/-- the callback of RunExpr: Passed / Failed / Invalid (never Ignored); `none` = panic -/
def outcomeOf (l : Leaf) : Option Outcome :=
  match isLiteralTrue l with
  | none => none
  | some true => some .passed
  | some false => if isLiteralFalse l then some .failed else some .invalid

/-- `results = append(results, result)` for every call of the callback -/
def collect : List (Name × Leaf) → Option (List Result)
  | [] => some []
  | (n, l) :: r =>
    match outcomeOf l with
    | none => none
    | some o =>
      match collect r with
      | none => none
      | some rs => some (⟨n, o⟩ :: rs)

/-- `RunExpr`: error when evaluation fails, otherwise one Result per leaf -/
def runExpr (t : Tree) : Except Err (List Result) :=
  if !t.evaluates then .error (.file [])
  else match collect (foreachLeaf t []) with
    | none => .error .crash
    | some rs => .ok rs

/-- `runFile` -/
def runFile (f : TestFile) : Except Err FileRun :=
  match f.content with
  | none => .error (.file f.path)                       -- failed compiling tests file
  | some t =>
    match runExpr t with
    | .error .crash => .error .crash
    | .error _ => .error (.file f.path)                 -- failed evaluating tests file
    | .ok rs => .ok ⟨f.path, rs⟩

mutual
/-- the walk function of getTestFiles under `afero.Walk` -/
def walk : Node → Name → List TestFile
  | .file _ c, path => if isTestPath path then [⟨path, c⟩] else []
  | .dir n ch, path => if isHidden n then [] else walkAll ch path
def walkAll : List Node → Name → List TestFile
  | [], _ => []
  | c :: r, path => walk c (joinPath path c.name) ++ walkAll r path
end

/-- `getTestFiles` -/
def getTestFiles (w : World) (path : Name) : Except Err (List TestFile) :=
  match w.lstat path with
  | none => .error .walk
  | some n =>
    let files := walk n path
    if files.isEmpty then .error .noFiles else .ok files

/-- the loop of RunTests: stop at the first file that fails -/
def runFiles : List TestFile → Except Err (List FileRun)
  | [] => .ok []
  | f :: r =>
    match runFile f with
    | .error e => .error e
    | .ok fr =>
      match runFiles r with
      | .error e => .error e
      | .ok frs => .ok (fr :: frs)

/-- the `switch result.Outcome` of calcStats, after `stats.total++` -/
def bump (s : Stats) : Outcome → Stats
  | .invalid => { s with total := s.total + 1, invalid := s.invalid + 1 }
  | .passed => { s with total := s.total + 1, passed := s.passed + 1 }
  | .ignored => { s with total := s.total + 1, ignored := s.ignored + 1 }
  | .failed => { s with total := s.total + 1, failed := s.failed + 1 }

def countResults (s : Stats) : List Result → Stats
  | [] => s
  | r :: rs => countResults (bump s r.outcome) rs

def countFiles (s : Stats) : List FileRun → Stats
  | [] => s
  | f :: fs => countFiles (countResults s f.results) fs

/-- `calcStats` -/
def calcStats (files : List FileRun) : Stats :=
  let s := countFiles {} files
  { s with runFailed := decide (s.failed > 0) || decide (s.invalid > 0) }

/-- the path RunTests walks: the working directory for "" and "." -/
def targetPath (w : World) (path : Name) : Name :=
  if path = [] ∨ path = ['.'] then w.cwd else path

/-- `RunTests` followed by `Report` -/
def runTests (w : World) (path : Name) : Run :=
  match getTestFiles w (targetPath w path) with
  | .error e => .error e
  | .ok files =>
    match runFiles files with
    | .error e => .error e
    | .ok runs => .reported runs (calcStats runs)

end Impl

/-- `f` is a test file of the run `arrai test <path>` -/
def Spec.IsTestFile (w : World) (path : Name) (f : TestFile) : Prop :=
  ∃ n, w.lstat (Impl.targetPath w path) = some n ∧ Spec.Under n (Impl.targetPath w path) f

/-- the outcomes the leaves of one test file must get, leaf by leaf (none if it does not compile) -/
def Spec.leafOutcomes (f : TestFile) : List Outcome :=
  match f.content with
  | some t => (Spec.leaves t).map (fun pl => Spec.outcome pl.2)
  | none => []

/-! ## The specified run (names, outcomes and statistics from `Spec.leaves`, `Spec.render`, `Spec.outcome`; the files are
those `Impl.walk` finds under `Impl.targetPath`: discovery is specified on its own, by `Spec.Under`) -/
namespace Spec

def countOutcome (o : Outcome) (files : List FileRun) : Nat :=
  (files.map (fun f => (f.results.filter (fun r => r.outcome = o)).length)).sum

def fileRun (path : Name) (t : Tree) : FileRun :=
  ⟨path, (leaves t).map (fun pl => ⟨render pl.1, outcome pl.2⟩)⟩

def stats (files : List FileRun) : Stats :=
  { total := (files.map (fun f => f.results.length)).sum
    invalid := countOutcome .invalid files
    passed := countOutcome .passed files
    ignored := countOutcome .ignored files
    failed := countOutcome .failed files
    runFailed := files.any (fun f => f.results.any (fun r => r.outcome != .passed && r.outcome != .ignored)) }

/-- the first file that does not compile or evaluate -/
def firstBad : List TestFile → Option Name
  | [] => none
  | f :: r =>
    match f.content with
    | none => some f.path
    | some t => if t.evaluates then firstBad r else some f.path

def runsOf : List TestFile → List FileRun
  | [] => []
  | f :: r =>
    match f.content with
    | none => runsOf r
    | some t => fileRun f.path t :: runsOf r

def run (w : World) (path : Name) : Run :=
  match w.lstat (Impl.targetPath w path) with
  | none => .error .walk
  | some n =>
    let files := Impl.walk n (Impl.targetPath w path)
    if files.isEmpty then .error .noFiles
    else match firstBad files with
      | some p => .error (.file p)
      | none => let runs := runsOf files; .reported runs (stats runs)

end Spec

end Arrai.C20
