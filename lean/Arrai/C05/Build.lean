/-
  C05: the set builder (`SetBuilder.Finish` with asString / asBytes / asArray / NewDict / relations) sorts
  members into classes (`classify_sound`) and holds exactly the members it was given when they are representable
  (`den_build_of_representableP`); `++` and the generic `case Set` loop of `>>` against the specification, before
  the builder (`concat_mkSet`, `seqArrow_set`); what the builder, `>>`, `++` and `\` return satisfies `Coll.wf`
  again (`wf_build`).
  `Coll.wfCount`, which `++` asks of its left operand, is not proved of what the builder returns.
-/
import Arrai.C05.Lemmas

namespace Arrai.C05
open Arrai KSeq
/- as in Lemmas.lean: a pair stays folded, `"@" < name` is not evaluated -/
attribute [local irreducible] V.pair

/-! ## `dedup` -/

theorem dedup_cons {α : Type} [DecidableEq α] (x : α) (r : List α) :
    dedup (x :: r) = if x ∈ dedup r then dedup r else x :: dedup r := rfl

theorem mem_dedup {α : Type} [DecidableEq α] (l : List α) (x : α) : x ∈ dedup l ↔ x ∈ l := by
  induction l generalizing x with
  | nil => rfl
  | cons y r ih =>
    rw [dedup_cons, List.mem_cons]
    split
    · rename_i hy
      rw [ih]
      constructor
      · exact Or.inr
      · rintro (rfl | h)
        · exact (ih x).1 hy
        · exact h
    · rw [List.mem_cons, ih]

theorem nodup_dedup {α : Type} [DecidableEq α] (l : List α) : (dedup l).Nodup := by
  induction l with
  | nil => exact List.nodup_nil
  | cons x r ih =>
    rw [dedup_cons]
    split
    · exact ih
    · rename_i h; exact List.nodup_cons.2 ⟨h, ih⟩

/-! ## how the builder sorts members into classes -/

/-- proofs read `classify` through this alone -/
theorem classify_sound (x : V) :
    match classify x with
    | .char i c => x = V.pair "@char" (.num i) (.num c) ∧ 0 ≤ c
    | .byte i b => x = V.pair "@byte" (.num i) (.num b) ∧ 0 ≤ b ∧ b < 256
    | .item i v => x = V.pair "@item" (.num i) v
    | .entry k v => x = V.pair "@value" k v
    | .pair k n v => x = V.pair n k v ∧ n ≠ "@"
    | .other => asPair x = none := by
  unfold classify
  cases hp : asPair x with
  | none => rfl
  | some p =>
    obtain ⟨k, name, v⟩ := p
    obtain ⟨hx, hn⟩ := asPair_eq hp
    have hpair : x = V.pair name k v ∧ name ≠ "@" := ⟨hx, hn⟩
    cases k with
    | num i =>
      simp only
      by_cases h1 : name = "@char"
      · subst h1
        rw [if_pos rfl]
        cases v with
        | num c =>
          by_cases hr : 0 ≤ c ∧ c ≤ 1114111
          · simp only [if_pos hr]; exact ⟨hx, hr.1⟩
          · simp only [if_neg hr]; exact hpair
        | _ => exact hpair
      · rw [if_neg h1]
        by_cases h2 : name = "@byte"
        · subst h2
          rw [if_pos rfl]
          cases v with
          | num c =>
            by_cases hr : 0 ≤ c ∧ c ≤ 255
            · simp only [if_pos hr]; exact ⟨hx, hr.1, by omega⟩
            · simp only [if_neg hr]; exact hpair
          | _ => exact hpair
        · rw [if_neg h2]
          by_cases h3 : name = "@item"
          · subst h3; rw [if_pos rfl]; exact hx
          · rw [if_neg h3]
            by_cases h4 : name = "@value"
            · subst h4; rw [if_pos rfl]; exact hx
            · rw [if_neg h4]; exact hpair
    | tup _ | set _ =>
      simp only
      by_cases h4 : name = "@value"
      · subst h4; rw [if_pos rfl]; exact hx
      · rw [if_neg h4]; exact hpair

theorem charsOf_sound {xs : List V} {t : Int × Int} (h : t ∈ charsOf xs) :
    V.pair "@char" (.num t.1) (.num t.2) ∈ xs ∧ 0 ≤ t.2 := by
  obtain ⟨x, hx, hs⟩ := List.mem_filterMap.1 h
  have := classify_sound x
  -- `hs` says the selection kept `x`: only the class `.char` survives `cases hs`, with `t` its payload
  cases hc : classify x <;> rw [hc] at hs this <;> cases hs
  exact ⟨this.1 ▸ hx, this.2⟩

theorem bytesOf_sound {xs : List V} {t : Int × Int} (h : t ∈ bytesOf xs) :
    V.pair "@byte" (.num t.1) (.num t.2) ∈ xs ∧ 0 ≤ t.2 ∧ t.2 < 256 := by
  obtain ⟨x, hx, hs⟩ := List.mem_filterMap.1 h
  have := classify_sound x
  cases hc : classify x <;> rw [hc] at hs this <;> cases hs
  exact ⟨this.1 ▸ hx, this.2⟩

theorem itemsOf_sound {xs : List V} {t : Int × V} (h : t ∈ itemsOf xs) :
    V.pair "@item" (.num t.1) t.2 ∈ xs := by
  obtain ⟨x, hx, hs⟩ := List.mem_filterMap.1 h
  have := classify_sound x
  cases hc : classify x <;> rw [hc] at hs this <;> cases hs
  exact this ▸ hx

theorem entriesOf_sound {xs : List V} {t : V × V} (h : t ∈ entriesOf xs) :
    V.pair "@value" t.1 t.2 ∈ xs := by
  obtain ⟨x, hx, hs⟩ := List.mem_filterMap.1 h
  have := classify_sound x
  cases hc : classify x <;> rw [hc] at hs this <;> cases hs
  exact this ▸ hx

theorem pairsOf_sound {xs : List V} {t : String × V × V} (h : t ∈ pairsOf xs) :
    V.pair t.1 t.2.1 t.2.2 ∈ xs ∧ t.1 ≠ "@" := by
  obtain ⟨x, hx, hs⟩ := List.mem_filterMap.1 h
  have := classify_sound x
  cases hc : classify x <;> rw [hc] at hs this <;> cases hs
  exact ⟨this.1 ▸ hx, this.2⟩

theorem mem_othersOf (xs : List V) (x : V) : x ∈ othersOf xs ↔ x ∈ xs ∧ classify x = .other := by
  simp only [othersOf, List.mem_filter]
  cases classify x <;> simp

/-! ## the members of each bucket the builder makes -/

theorem members_ofBuckets (bs : List Bucket) : (Impl.ofBuckets bs).members = bucketsMembers bs := by
  cases bs with
  | nil => rfl
  | cons b r =>
    cases r with
    | nil => simp [Impl.ofBuckets, Coll.members, bucketsMembers_cons, bucketsMembers_nil]
    | cons b' r' => rfl

theorem bucketsMembers_append (a b : List Bucket) :
    bucketsMembers (a ++ b) = bucketsMembers a ++ bucketsMembers b := by
  induction a with
  | nil => rfl
  | cons x r ih => simp [bucketsMembers_cons, ih]

theorem mem_seqMembers_fill {α : Type} (name : String) (g : α → V) (ts : List (Int × α)) (hf : C01.KSeq.Functional ts)
    (x : V) :
    x ∈ seqMembers name (fill ts).1 ((fill ts).2.map (Option.map g)) ↔
      ∃ t ∈ ts, x = V.pair name (.num t.1) (g t.2) := by
  simp only [seqMembers, kden_map, List.mem_map, Prod.exists, Prod.mk.injEq, mem_kden_fill ts hf]
  constructor
  · rintro ⟨i, v, ⟨a, b, hab, rfl, rfl⟩, rfl⟩
    exact ⟨a, b, hab, rfl⟩
  · rintro ⟨a, b, hab, rfl⟩
    exact ⟨a, g b, ⟨a, b, hab, rfl, rfl⟩, rfl⟩

theorem mem_asArray (ts : List (Int × V)) (hf : C01.KSeq.Functional ts) (x : V) :
    x ∈ (Impl.asArray ts).members ↔ ∃ t ∈ ts, x = V.pair "@item" (.num t.1) t.2 := by
  simpa [Impl.asArray, Bucket.members] using mem_seqMembers_fill "@item" id ts hf x

theorem strSlots_fill (ts : List (Int × Int)) (hf : C01.KSeq.Functional ts) (hpos : ∀ t ∈ ts, 0 ≤ t.2) :
    strSlots ((fill ts).2.map (fun o => o.getD (-1))) = (fill ts).2.map (Option.map V.num) := by
  simp only [strSlots, List.map_map]
  apply List.map_congr_left
  intro o ho
  cases o with
  | none => simp
  | some c =>
    obtain ⟨j, _, _, hj⟩ := mem_slotsFrom ho
    have := hpos (j, c) ((slotAt_eq_some ts hf j c).1 hj.symm)
    have h' : ¬ c < 0 := by simpa using this
    simp [h']

theorem mem_asString (ts : List (Int × Int)) (hf : C01.KSeq.Functional ts) (hpos : ∀ t ∈ ts, 0 ≤ t.2) (x : V) :
    x ∈ (Impl.asString ts).members ↔ ∃ t ∈ ts, x = V.pair "@char" (.num t.1) (.num t.2) := by
  simp only [Impl.asString, Bucket.members, strSlots_fill ts hf hpos, mem_seqMembers_fill "@char" V.num ts hf]

theorem noGap_of_denseB {α : Type} (ts : List (Int × α)) (hd : Spec.denseB ts = true) : C01.KSeq.NoGap ts := by
  rintro j ⟨⟨i, v⟩, ⟨k, w⟩, hi, hk, h1, h2⟩
  have hne := List.ne_nil_of_mem hi
  have hmax : j ≤ maxIdx ts := Int.le_trans h2 (idx_bounds hk).2
  obtain ⟨n, hn⟩ := Int.le.dest (Int.le_trans (idx_bounds hi).1 h1)
  simp only [Spec.denseB, Bool.or_eq_true, List.isEmpty_iff, hne, false_or, List.all_eq_true,
    List.mem_range, List.any_eq_true, beq_iff_eq, Prod.exists, Int.ofNat_eq_natCast] at hd
  obtain ⟨a, b, hab, e⟩ := hd n (by omega)
  exact ⟨b, (e.trans hn) ▸ hab⟩

theorem byteSlots_fill (ts : List (Int × Int)) (hf : C01.KSeq.Functional ts) (hne : ts ≠ [])
    (hd : C01.KSeq.NoGap ts) (hr : ∀ t ∈ ts, 0 ≤ t.2 ∧ t.2 < 256) :
    byteSlots ((fill ts).2.map (fun o => (o.getD 0).toNat % 256)) = (fill ts).2.map (Option.map V.num) := by
  simp only [byteSlots, List.map_map]
  apply List.map_congr_left
  intro o ho
  obtain ⟨j, hj1, hj2, hj⟩ := mem_slotsFrom ho
  cases o with
  | none =>
    exfalso
    obtain ⟨⟨v, hv⟩, w, hw⟩ := idx_mem ts hne
    obtain ⟨b, hb⟩ := hd j ⟨_, _, hv, hw, hj1, by omega⟩
    rw [(slotAt_eq_some ts hf j b).2 hb] at hj
    simp at hj
  | some c =>
    have := hr (j, c) ((slotAt_eq_some ts hf j c).1 hj.symm)
    simp only [Function.comp_apply, Option.getD_some, Option.map_some, Option.some.injEq, V.num.injEq,
      Int.ofNat_eq_natCast]
    rw [Nat.mod_eq_of_lt ((Int.toNat_lt this.1).2 this.2), Int.toNat_of_nonneg this.1]

theorem mem_asBytes (ts : List (Int × Int)) (hf : C01.KSeq.Functional ts) (hne : ts ≠ [])
    (hd : C01.KSeq.NoGap ts) (hr : ∀ t ∈ ts, 0 ≤ t.2 ∧ t.2 < 256) (x : V) :
    x ∈ (Impl.asBytes ts).members ↔ ∃ t ∈ ts, x = V.pair "@byte" (.num t.1) (.num t.2) := by
  simp only [Impl.asBytes, Bucket.members, byteSlots_fill ts hf hne hd hr,
    mem_seqMembers_fill "@byte" V.num ts hf]

theorem mem_relBuckets (ps : List (String × V × V)) (x : V) :
    x ∈ bucketsMembers (Impl.relBuckets ps) ↔ ∃ p ∈ ps, x = V.pair p.1 p.2.1 p.2.2 := by
  simp only [mem_bucketsMembers, Impl.relBuckets, List.mem_map, Impl.relNames, mem_dedup]
  constructor
  · rintro ⟨b, ⟨n, _, rfl⟩, hx⟩
    simp only [Bucket.members, List.mem_map, mem_dedup, List.mem_filter, decide_eq_true_eq, relRow] at hx
    obtain ⟨r, ⟨p, ⟨hp, hn⟩, rfl⟩, rfl⟩ := hx
    refine ⟨p, hp, ?_⟩
    -- `relRow (decide ("@" < n))` undoes the column swap `relBuckets` made on the same test
    by_cases hlt : "@" < n <;> simp [hn, hlt]
  · rintro ⟨p, hp, rfl⟩
    refine ⟨_, ⟨p.1, ⟨p, hp, rfl⟩, rfl⟩, ?_⟩
    simp only [Bucket.members, List.mem_map, mem_dedup, List.mem_filter, decide_eq_true_eq, relRow]
    refine ⟨_, ⟨p, ⟨hp, rfl⟩, rfl⟩, ?_⟩
    by_cases hlt : "@" < p.1 <;> simp [hlt]

theorem mem_ite_bucket {α : Type} (l : List α) (b : Bucket) (x : V) :
    x ∈ bucketsMembers (if l.isEmpty then [] else [b]) ↔ l ≠ [] ∧ x ∈ b.members := by
  cases l with
  | nil => simp [bucketsMembers_nil]
  | cons a r => simp [bucketsMembers_cons, bucketsMembers_nil]

theorem mem_others_bucket (os : List V) (x : V) :
    x ∈ bucketsMembers (if os.isEmpty then []
      else if dedup os = [.tup []] then [Bucket.tt] else [.other (dedup os)]) ↔ x ∈ os := by
  cases os with
  | nil => simp [bucketsMembers_nil]
  | cons a r =>
    simp only [List.isEmpty_cons, Bool.false_eq_true, if_false]
    split
    · rename_i h
      simp only [bucketsMembers_cons, bucketsMembers_nil, Bucket.members, List.append_nil]
      rw [← h, mem_dedup]
    · simp only [bucketsMembers_cons, bucketsMembers_nil, Bucket.members, List.append_nil, mem_dedup]

/-! ## representability depends on the members only -/

/-- what the builder needs of `Spec.representableList`, and depends on the members only; the conjunct
`inRangeList` of `representableList` holds of every list (`charsOf_sound`, `bytesOf_sound`) and has no counterpart -/
def RepresentableP (xs : List V) : Prop :=
  C01.KSeq.Functional (charsOf xs) ∧ C01.KSeq.Functional (bytesOf xs) ∧ C01.KSeq.Functional (itemsOf xs) ∧
    C01.KSeq.NoGap (bytesOf xs)

theorem representableP_of_representableList (xs : List V) (h : Spec.representableList xs = true) : RepresentableP xs := by
  simp only [Spec.representableList, Spec.superimposedList, Spec.bytesGapList, Bool.and_eq_true,
    Bool.not_eq_true', Bool.not_eq_false', functionalB_iff] at h
  obtain ⟨⟨⟨⟨a, b⟩, c⟩, d⟩, _⟩ := h
  exact ⟨a, b, c, noGap_of_denseB _ d⟩

theorem representableP_congr {l₁ l₂ : List V} (h : ∀ x, x ∈ l₁ ↔ x ∈ l₂) (hr : RepresentableP l₁) :
    RepresentableP l₂ := by
  have hc : ∀ t, t ∈ charsOf l₂ ↔ t ∈ charsOf l₁ := fun t => by simp only [charsOf, List.mem_filterMap, h]
  have hb : ∀ t, t ∈ bytesOf l₂ ↔ t ∈ bytesOf l₁ := fun t => by simp only [bytesOf, List.mem_filterMap, h]
  have hi : ∀ t, t ∈ itemsOf l₂ ↔ t ∈ itemsOf l₁ := fun t => by simp only [itemsOf, List.mem_filterMap, h]
  obtain ⟨fc, fb, fi, d⟩ := hr
  refine ⟨?_, ?_, ?_, ?_⟩
  · exact fun p q hp hq => fc p q ((hc _).1 hp) ((hc _).1 hq)
  · exact fun p q hp hq => fb p q ((hb _).1 hp) ((hb _).1 hq)
  · exact fun p q hp hq => fi p q ((hi _).1 hp) ((hi _).1 hq)
  · intro j ⟨p, q, hp, hq, h1, h2⟩
    obtain ⟨b, hj⟩ := d j ⟨p, q, (hb _).1 hp, (hb _).1 hq, h1, h2⟩
    exact ⟨b, (hb _).2 hj⟩

/-! ## the builder holds exactly the members it was given -/

theorem mem_buckets (xs : List V) (hrep : RepresentableP xs) (x : V) :
    x ∈ bucketsMembers (Impl.buckets xs) ↔ x ∈ xs := by
  obtain ⟨hfc, hfb, hfi, hdense⟩ := hrep
  have hpos : ∀ t ∈ charsOf xs, 0 ≤ t.2 := fun t ht => (charsOf_sound ht).2
  have hrange : ∀ t ∈ bytesOf xs, 0 ≤ t.2 ∧ t.2 < 256 := fun t ht => (bytesOf_sound ht).2
  simp only [Impl.buckets, bucketsMembers_append, List.mem_append, mem_ite_bucket, mem_others_bucket,
    mem_relBuckets, mem_othersOf]
  constructor
  · rintro (⟨_, h⟩ | ⟨hne, h⟩ | ⟨_, h⟩ | ⟨_, h⟩ | h | h)
    · obtain ⟨t, ht, rfl⟩ := (mem_asString _ hfc hpos x).1 h
      exact (charsOf_sound ht).1
    · obtain ⟨t, ht, rfl⟩ := (mem_asBytes _ hfb hne hdense hrange x).1 h
      exact (bytesOf_sound ht).1
    · obtain ⟨t, ht, rfl⟩ := (mem_asArray _ hfi x).1 h
      exact itemsOf_sound ht
    · simp only [Bucket.members, mem_dictMembers_newDict, List.mem_map] at h
      obtain ⟨t, ht, rfl⟩ := h
      exact entriesOf_sound ht
    · obtain ⟨p, hp, rfl⟩ := h
      exact (pairsOf_sound hp).1
    · exact h.1
  · intro hx
    have hs := classify_sound x
    cases hc : classify x with
    | char i c =>
      rw [hc] at hs
      have hm : (i, c) ∈ charsOf xs := List.mem_filterMap.2 ⟨x, hx, by rw [hc]⟩
      exact Or.inl ⟨List.ne_nil_of_mem hm, (mem_asString _ hfc hpos x).2 ⟨(i, c), hm, hs.1⟩⟩
    | byte i b =>
      rw [hc] at hs
      have hm : (i, b) ∈ bytesOf xs := List.mem_filterMap.2 ⟨x, hx, by rw [hc]⟩
      have hne := List.ne_nil_of_mem hm
      exact Or.inr (Or.inl ⟨hne, (mem_asBytes _ hfb hne hdense hrange x).2 ⟨(i, b), hm, hs.1⟩⟩)
    | item i v =>
      rw [hc] at hs
      have hm : (i, v) ∈ itemsOf xs := List.mem_filterMap.2 ⟨x, hx, by rw [hc]⟩
      exact Or.inr (Or.inr (Or.inl ⟨List.ne_nil_of_mem hm, (mem_asArray _ hfi x).2 ⟨(i, v), hm, hs⟩⟩))
    | entry k v =>
      rw [hc] at hs
      have hm : (k, v) ∈ entriesOf xs := List.mem_filterMap.2 ⟨x, hx, by rw [hc]⟩
      refine Or.inr (Or.inr (Or.inr (Or.inl ⟨List.ne_nil_of_mem hm, ?_⟩)))
      simp only [Bucket.members, mem_dictMembers_newDict, List.mem_map]
      exact ⟨(k, v), hm, hs.symm⟩
    | pair k n v =>
      rw [hc] at hs
      have hm : (n, k, v) ∈ pairsOf xs := List.mem_filterMap.2 ⟨x, hx, by rw [hc]⟩
      exact Or.inr (Or.inr (Or.inr (Or.inr (Or.inl ⟨(n, k, v), hm, hs.1⟩))))
    | other => exact Or.inr (Or.inr (Or.inr (Or.inr (Or.inr ⟨hx, rfl⟩))))

theorem den_build_of_representableP (xs : List V) (hrep : RepresentableP xs) : (Impl.build xs).den = V.mkSet xs :=
  congrArg V.set (FinSet.mk_congr fun x => by rw [Impl.build, members_ofBuckets, mem_buckets xs hrep])

theorem den_build (xs : List V) (hrep : Spec.representableList xs = true) :
    (Impl.build xs).den = V.mkSet xs :=
  den_build_of_representableP xs (representableP_of_representableList xs hrep)

/-- `r`: the specified outcome in a `_partial` theorem -/
theorem den_build_mkSet {r : Res V} {ys : List V} (hrep : Spec.okRepresentable r = true)
    (hr : r.value? = some (V.mkSet ys)) : (Impl.build ys).den = V.mkSet ys := by
  cases r with
  | error e => cases hr
  | ok R =>
    cases hr
    exact den_build_of_representableP ys
      (representableP_congr (fun x => FinSet.mem_mk ys x) (representableP_of_representableList _ hrep))

/-! ## `++` -/

/-- `Impl.concat` is the right side with `Impl.build` for `V.mkSet` and `Impl.count` for the cardinality -/
theorem concat_mkSet (as bs : List V) :
    Spec.concat (V.mkSet as) (V.mkSet bs) =
      (match Impl.shiftAll (Int.ofNat (Spec.card (V.mkSet as))) bs with
       | .ok ys => .ok (V.mkSet (as ++ ys))
       | .error _ => .error .other) := by
  have hs := shift_mkSet (Int.ofNat (Spec.card (V.mkSet as))) bs
  simp only [Spec.concat] at hs ⊢
  rw [hs]
  cases Impl.shiftAll (Int.ofNat (Spec.card (V.mkSet as))) bs with
  | error e => simp [V.mkSet, Res.value?]
  | ok ys => simp [V.mkSet, FinSet.union_mk_eq, Res.value?]

/-- whether `++` fails does not depend on the count -/
theorem concat_mkSet_none_iff (as bs : List V) (n : Int) :
    (Spec.concat (V.mkSet as) (V.mkSet bs)).value? = none ↔ (Impl.shiftAll n bs).value? = none := by
  rw [concat_mkSet, shiftAll_none_indep n (Int.ofNat (Spec.card (V.mkSet as)))]
  cases Impl.shiftAll (Int.ofNat (Spec.card (V.mkSet as))) bs <;> simp [Res.value?]

/-! ## `>>` through the generic `case Set` loop -/

/-- the right side negates the test of the `case Set` loop -/
theorem valueOk_generic_iff (n : String) (w : V) :
    Spec.valueOk .generic n w = true ↔ ¬((n = "@char" ∨ n = "@byte") ∧ isNum w = false) := by
  rw [valueOk_generic]
  split <;> simp [*]

/-- the generic `case Set` loop IS the specification's member map in generic mode: same values,
same errors, same order -/
theorem setLoop_eq (f : F) (l : List V) : Impl.setLoop f l = Spec.mapMembers .generic f l := by
  induction l with
  | nil => rfl
  | cons x r ih =>
    rw [Impl.setLoop, mapMembers_cons, Spec.mapMember]
    cases asPair x with
    | none => rfl
    | some p =>
      dsimp only
      cases f p.1 p.2.2 with
      | error e => rfl
      | ok w =>
        dsimp only
        split
        · rename_i hc
          rw [if_neg fun h => (valueOk_generic_iff _ w).1 h hc]
        · rename_i hc
          rw [if_pos ((valueOk_generic_iff _ w).2 hc), ih]
          cases Spec.mapMembers .generic f r <;> rfl

theorem seqArrow_set (f : F) (c : Coll) (h : c.isSugar = false) :
    Impl.seqArrow f c =
      (match Spec.mapMembers .generic f c.members with
       | .ok out => .ok (Impl.build out)
       | .error e => .error e) := by
  rw [← setLoop_eq]
  cases c with
  | one b => cases b <;> first | rfl | cases h
  | _ => rfl

/-! ## what the builder returns is well-formed (so it can be called again) -/

theorem keys_dictPut (m : List (V × List V)) (k v : V) :
    (Impl.dictPut m k v).map (·.1) = if k ∈ m.map (·.1) then m.map (·.1) else m.map (·.1) ++ [k] := by
  induction m with
  | nil => simp [dictPut_nil]
  | cons e r ih =>
    obtain ⟨k', vs⟩ := e
    rw [dictPut_cons]
    by_cases h : k' = k
    · subst h; simp
    · have h' : ¬ k = k' := fun e => h e.symm
      simp only [h, if_false, List.map_cons, ih, List.mem_cons, h', false_or]
      split <;> simp

theorem nodup_dictPut (m : List (V × List V)) (k v : V) (h : (m.map (·.1)).Nodup) :
    ((Impl.dictPut m k v).map (·.1)).Nodup := by
  rw [keys_dictPut]
  exact nodup_ite_concat k h

theorem nodup_newDict (es : List (V × V)) : ((Impl.newDict es).map (·.1)).Nodup := by
  unfold Impl.newDict
  suffices h : ∀ (m : List (V × List V)), (m.map (·.1)).Nodup →
      ((es.foldl (fun m e => Impl.dictPut m e.1 e.2) m).map (·.1)).Nodup from h [] (by simp)
  induction es with
  | nil => intro m hm; exact hm
  | cons e r ih => intro m hm; exact ih _ (nodup_dictPut m e.1 e.2 hm)

theorem classify_other {x : V} (h : classify x = .other) : isPair x = false := by
  have := classify_sound x
  rw [h] at this
  simp [isPair, this]

theorem wf_ofBuckets (bs : List Bucket) (h : bs.all Bucket.wf = true) : (Impl.ofBuckets bs).wf = true := by
  cases bs with
  | nil => rfl
  | cons b r =>
    cases r with
    | nil => simpa [Impl.ofBuckets, Coll.wf] using h
    | cons b' r' => exact h

theorem wf_build (xs : List V) : (Impl.build xs).wf = true := by
  apply wf_ofBuckets
  simp only [Impl.buckets, List.all_append, Bool.and_eq_true]
  refine ⟨?_, ?_, ?_, ?_, ?_, ?_⟩
  · split <;> simp [Impl.asString, Bucket.wf]
  · split
    · rfl
    · simp only [Impl.asBytes, List.all_cons, List.all_nil, Bool.and_true, Bucket.wf, List.all_map,
        List.all_eq_true, Function.comp_apply, decide_eq_true_eq]
      intro o _
      exact Nat.mod_lt _ (by decide)
  · split <;> simp [Impl.asArray, Bucket.wf]
  · split
    · rfl
    · simp only [List.all_cons, List.all_nil, Bool.and_true, Bucket.wf, decide_eq_true_eq]
      exact nodup_newDict _
  · simp only [Impl.relBuckets, List.all_map, List.all_eq_true, Function.comp_apply, Bucket.wf,
      decide_eq_true_eq, Impl.relNames, mem_dedup, List.mem_map]
    rintro n ⟨p, hp, rfl⟩
    exact (pairsOf_sound hp).2
  · split
    · rfl
    · split
      · rfl
      · rename_i hne hns
        have hnil : dedup (othersOf xs) ≠ [] := fun he =>
          hne (List.isEmpty_iff.2 (List.eq_nil_iff_forall_not_mem.2 fun y hy =>
            absurd ((mem_dedup _ y).2 hy) (he ▸ List.not_mem_nil)))
        simp only [List.all_cons, List.all_nil, Bool.and_true, Bucket.wf, Bool.and_eq_true,
          Bool.not_eq_true', List.isEmpty_eq_false_iff, List.all_eq_true, mem_dedup, List.any_eq_true,
          decide_eq_true_eq]
        refine ⟨⟨hnil, fun x hx => classify_other ((mem_othersOf xs x).1 hx).2⟩, ?_⟩
        -- a member other than `()`: otherwise the duplicate-free list would be `[()]`
        by_cases hall : ∃ x ∈ othersOf xs, x ≠ .tup []
        · exact hall
        · refine absurd (eq_singleton_of_all_eq hnil (nodup_dedup _) fun x hx => ?_) hns
          exact Decidable.not_not.1 fun hx' => hall ⟨x, (mem_dedup _ x).1 hx, hx'⟩

theorem wf_newOffsetString (rs : List Int) (off : Int) : (Impl.newOffsetString rs off).wf = true := by
  unfold Impl.newOffsetString; split <;> rfl

theorem bytesLoop_lt {f : F} {off : Int} {bs out : List Nat} (h : Impl.bytesLoop f off bs = .ok out) :
    ∀ b ∈ out, b < 256 := by
  induction bs generalizing off out with
  | nil => cases h; nofun
  | cons b bs ih =>
    rw [Impl.bytesLoop] at h
    split at h
    · cases h
    · split at h
      · cases h
      · rename_i c hv
        split at h <;> cases h
        rename_i out' hl
        intro x hx
        rcases List.mem_cons.1 hx with rfl | hx
        · exact (validByte_some hv).2
        · exact ih hl x hx

theorem wf_newOffsetBytes (bs : List Nat) (off : Int) (h : ∀ b ∈ bs, b < 256) :
    (Impl.newOffsetBytes bs off).wf = true := by
  unfold Impl.newOffsetBytes
  split
  · rfl
  · simpa [Coll.wf, Bucket.wf] using h

theorem wf_newOffsetArray (off : Int) (vs : List (Option V)) : (Impl.newOffsetArray off vs).wf = true := by
  unfold Impl.newOffsetArray; simp only; split <;> rfl

theorem wf_seqArrow {f : F} {a r : Coll} (h : Impl.seqArrow f a = .ok r) : r.wf = true := by
  unfold Impl.seqArrow at h
  -- one goal per case of `seqArrow` with its loop successful: String, Bytes, Array, Dict, any other set
  split at h <;> split at h <;> cases h
  · exact wf_newOffsetString _ _
  · exact wf_newOffsetBytes _ _ (bytesLoop_lt ‹_›)
  · exact wf_newOffsetArray _ _
  · split
    · rfl
    · simpa [Coll.wf, Bucket.wf] using nodup_newDict _
  · exact wf_build _

theorem wf_concat {a b r : Coll} (h : Impl.concat a b = .ok r) : r.wf = true := by
  unfold Impl.concat at h
  split at h <;> cases h
  exact wf_build _

theorem wf_offset {n : Arg} {a r : Coll} (ha : a.wf = true) (h : Impl.offset n a = .ok r) : r.wf = true := by
  unfold Impl.offset at h
  split at h
  · split at h <;> cases h
    · exact wf_newOffsetArray _ _
    · exact wf_newOffsetBytes _ _ (by simpa [Coll.wf, Bucket.wf] using ha)
    · exact wf_newOffsetString _ _
    · rfl
  · cases h

end Arrai.C05
