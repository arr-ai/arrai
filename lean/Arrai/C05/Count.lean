/-
  C05: `Count()` of every representation is the number of members of its meaning
  (what `Concatenate` shifts the right operand by).
-/
import Arrai.C05.Lemmas

namespace Arrai.C05
open Arrai KSeq

theorem strSlots_some_add_holes (rs : List Int) :
    ((strSlots rs).filter Option.isSome).length + Impl.holesOf rs = rs.length := by
  induction rs with
  | nil => rfl
  | cons r rs ih =>
    unfold Impl.holesOf at ih ⊢
    by_cases hr : r < 0
    · rw [strSlots_cons_neg hr, List.filter_cons_of_neg (by simp), List.filter_cons_of_pos (by simpa using hr),
        List.length_cons, List.length_cons, ← Nat.add_assoc, ih]
    · rw [strSlots_cons_nonneg hr, List.filter_cons_of_pos rfl, List.filter_cons_of_neg (by simpa using hr),
        List.length_cons, List.length_cons, Nat.add_right_comm, ih]

theorem byteSlots_some_length (bs : List Nat) : ((byteSlots bs).filter Option.isSome).length = bs.length := by
  induction bs with
  | nil => rfl
  | cons b bs ih => simp only [byteSlots, List.map_cons, Int.ofNat_eq_natCast] at ih ⊢; simp [ih]

theorem nodup_dictMembers : ∀ (m : List (V × List V)), (∀ e ∈ m, e.2.Nodup) → (m.map (·.1)).Nodup →
    (dictMembers m).Nodup := by
  refine forall_mem_rec (fun _ => by simp [dictMembers_nil]) ?_
  rintro ⟨k, vs⟩ r hv ih hk
  simp only [List.map_cons, List.nodup_cons] at hk
  simp only [dictMembers_cons]
  rw [List.nodup_append]
  refine ⟨?_, ih hk.2, ?_⟩
  · exact List.Pairwise.map _ (fun a b hne e => hne (pair_inj (by decide) e).2) hv
  · intro x hx y hy e
    subst e
    simp only [List.mem_map] at hx
    obtain ⟨v, _, rfl⟩ := hx
    rw [dictMembers_eq] at hy
    obtain ⟨e', he', e⟩ := List.mem_map.1 hy
    exact hk.1 ((pair_inj (by decide) e).1 ▸ key_mem_of_mem_dictEntries he')

theorem length_dictMembers (m : List (V × List V)) : (dictMembers m).length = Impl.dictCount m := by
  induction m with
  | nil => rfl
  | cons e r ih => obtain ⟨k, vs⟩ := e; simp [dictMembers_cons, Impl.dictCount, ih]

theorem bucket_count (b : Bucket) (h : b.wfCount = true) :
    b.members.Nodup ∧ b.members.length = Impl.bucketCount b := by
  cases b with
  | str off rs =>
    exact ⟨nodup_seqMembers _ (by decide) _ _, by
      simp [Bucket.members, length_seqMembers, Nat.eq_sub_of_add_eq (strSlots_some_add_holes rs), Impl.bucketCount]⟩
  | bytes off bs =>
    exact ⟨nodup_seqMembers _ (by decide) _ _, by
      simp [Bucket.members, length_seqMembers, byteSlots_some_length, Impl.bucketCount]⟩
  | arr off vs =>
    exact ⟨nodup_seqMembers _ (by decide) _ _, by simp [Bucket.members, length_seqMembers, Impl.bucketCount]⟩
  | dict m =>
    simp only [Bucket.wfCount, Bool.and_eq_true, decide_eq_true_eq, List.all_eq_true] at h
    exact ⟨nodup_dictMembers m h.2 h.1, length_dictMembers m⟩
  | rel atFirst name rows =>
    simp only [Bucket.wfCount, Bool.and_eq_true, decide_eq_true_eq] at h
    refine ⟨?_, by simp [Bucket.members, Impl.bucketCount]⟩
    refine List.Pairwise.map _ (fun a b hne e => hne ?_) h.2
    obtain ⟨h1, h2⟩ := pair_inj h.1 e
    -- `relRow` is the row, or the row with its columns swapped
    cases atFirst
    · exact Prod.ext h2 h1
    · exact Prod.ext h1 h2
  | other xs =>
    simp only [Bucket.wfCount, decide_eq_true_eq] at h
    exact ⟨h, rfl⟩
  | tt => exact ⟨by simp [Bucket.members], rfl⟩

theorem buckets_count (bs : List Bucket) (h : bs.all Bucket.wfCount = true) (hd : disjointB bs = true) :
    (bucketsMembers bs).Nodup ∧ (bucketsMembers bs).length = Impl.bucketsCount bs := by
  induction bs with
  | nil => simp [bucketsMembers_nil, Impl.bucketsCount]
  | cons b r ih =>
    simp only [List.all_cons, Bool.and_eq_true] at h
    simp only [disjointB, Bool.and_eq_true, List.all_eq_true, Bool.not_eq_true', decide_eq_false_iff_not] at hd
    obtain ⟨hb1, hb2⟩ := bucket_count b h.1
    obtain ⟨hr1, hr2⟩ := ih h.2 hd.2
    refine ⟨?_, by simp [bucketsMembers_cons, Impl.bucketsCount, hb2, hr2]⟩
    simp only [bucketsMembers_cons]
    rw [List.nodup_append]
    exact ⟨hb1, hr1, fun x hx y hy e => hd.1 x hx (e ▸ hy)⟩

theorem card_mkSet {ms : List V} (h : ms.Nodup) : Spec.card (V.mkSet ms) = ms.length :=
  FinSet.length_mk_of_nodup ms h

theorem count_eq_card (c : Coll) (h : c.wfCount = true) : Impl.count c = Spec.card c.den := by
  cases c with
  | empty => rfl
  | true_ => rfl
  | one b =>
    obtain ⟨h1, h2⟩ := bucket_count b h
    exact ((card_mkSet h1).trans h2).symm
  | union bs =>
    simp only [Coll.wfCount, Bool.and_eq_true] at h
    obtain ⟨h1, h2⟩ := buckets_count bs h.1 h.2
    exact ((card_mkSet h1).trans h2).symm

theorem wfCount_of_isSeq {c : Coll} (h : c.isSeq = true) : c.wfCount = true := by
  cases c with
  | one b => cases b <;> first | rfl | cases h
  | union bs => cases h
  | _ => rfl

theorem card_den_of_seqMembers {c : Coll} {name : String} (hn : name ≠ "@") {off : Int}
    {slots : List (Option V)} (hm : c.members = seqMembers name off slots) :
    Spec.card c.den = (slots.filter Option.isSome).length := by
  rw [Coll.den, hm, card_mkSet (nodup_seqMembers name hn off slots), length_seqMembers]

end Arrai.C05
