/-
  C05: keyed sequences — slots `List (Option α)` read from an offset — that String, Bytes and Array
  instantiate: their pairs and trims are those of the library Arrai/C01/KSeq.lean (`kden_eq`), the Go lookup finds
  exactly the pairs (`kget_eq_some`), and `fill`, the set builder's layout of pairs as slots (one fold per slot,
  not the library's overwrite loop), holds exactly the pairs it is given (`mem_kden_fill`).

  `C05.KSeq` (the model, opened here) and `C01.KSeq` (the library, always written out) share names:
    C05 `kden off xs`, `trimFront off xs : Int × List _`   library `kden xs off`, `trimFront xs off : List _ × Int`
    C05 `kget off xs (i : Int)`, by index                   library `kat xs off i`; its `kget xs (n : Nat)` is by position
    C05 `fill ts`, the whole layout                         library `build ps`; its `fill lo ps base` is the loop
-/
import Arrai.C05.Model
import Arrai.C01.KSeq

namespace Arrai.C05
open Arrai

namespace KSeq
variable {α β : Type}

/-! One-step defining equations, by `rfl`: rewriting with the name of a recursive function has Lean derive
its equation lemmas inside the proof that does it. -/

theorem kden_none (off : Int) (r : List (Option α)) : kden off (none :: r) = kden (off + 1) r := rfl
theorem kden_some (off : Int) (x : α) (r : List (Option α)) :
    kden off (some x :: r) = (off, x) :: kden (off + 1) r := rfl

theorem kmapM_none (f : Int → α → Res β) (off : Int) (r : List (Option α)) :
    kmapM f off (none :: r) =
      (match kmapM f (off + 1) r with | .ok ys => .ok (none :: ys) | .error e => .error e) := rfl
theorem kmapM_some (f : Int → α → Res β) (off : Int) (x : α) (r : List (Option α)) :
    kmapM f off (some x :: r) =
      (match f off x with
       | .error e => .error e
       | .ok y => match kmapM f (off + 1) r with | .ok ys => .ok (some y :: ys) | .error e => .error e) := rfl

theorem trimFront_none (off : Int) (r : List (Option α)) : trimFront off (none :: r) = trimFront (off + 1) r := rfl

theorem trimBack_cons (x : Option α) (r : List (Option α)) :
    trimBack (x :: r) =
      (match trimBack r with
       | [] => (match x with | none => [] | some v => [some v])
       | r' => x :: r') := rfl

theorem minIdx_singleton (t : Int × α) : minIdx [t] = t.1 := rfl
theorem minIdx_cons (t u : Int × α) (r : List (Int × α)) :
    minIdx (t :: u :: r) = min t.1 (minIdx (u :: r)) := rfl
theorem maxIdx_singleton (t : Int × α) : maxIdx [t] = t.1 := rfl
theorem maxIdx_cons (t u : Int × α) (r : List (Int × α)) :
    maxIdx (t :: u :: r) = max t.1 (maxIdx (u :: r)) := rfl

theorem slotsFrom_zero (ts : List (Int × α)) (lo : Int) : slotsFrom ts lo 0 = [] := rfl
theorem slotsFrom_succ (ts : List (Int × α)) (lo : Int) (n : Nat) :
    slotsFrom ts lo (n + 1) = slotAt ts lo :: slotsFrom ts (lo + 1) n := rfl

theorem kden_eq (off : Int) (xs : List (Option α)) : kden off xs = C01.KSeq.kden xs off := by
  induction xs generalizing off with
  | nil => rfl
  | cons o r ih => cases o <;> simp only [kden_none, kden_some, C01.KSeq.kden, ih]

theorem kden_map (g : α → β) (off : Int) (xs : List (Option α)) :
    kden off (xs.map (Option.map g)) = (kden off xs).map fun t => (t.1, g t.2) := by
  rw [kden_eq, kden_eq, C01.KSeq.kden_map]

theorem mem_kden_cons (off i : Int) (v : α) (x : Option α) (r : List (Option α)) :
    (i, v) ∈ kden off (x :: r) ↔ (i = off ∧ x = some v) ∨ (i, v) ∈ kden (off + 1) r := by
  cases x with
  | none => simp [kden_none]
  | some a => simp [kden_some, eq_comm]

/-- the lookup of the Go code finds exactly the pairs of the denotation -/
theorem kget_eq_some (off : Int) (xs : List (Option α)) (i : Int) (v : α) :
    kget off xs i = some v ↔ (i, v) ∈ kden off xs := by
  -- the right side is now `off ≤ i` and the library's lookup, by position, at `(i - off).toNat`
  rw [kden_eq, C01.KSeq.mem_kden, C01.KSeq.kget_eq_some]
  unfold kget
  by_cases h : 0 ≤ i - off ∧ i - off < xs.length
  · have hl : (i - off).toNat < xs.length := by omega
    simp only [h, and_self, if_true, List.getD_eq_getElem?_getD, List.getElem?_eq_getElem hl, Option.getD_some,
      Option.some.injEq]
    exact ⟨fun e => ⟨by omega, e⟩, And.right⟩
  · rw [if_neg h]
    refine ⟨nofun, fun ⟨h1, h2⟩ => ?_⟩
    have := C01.KSeq.kget_some_lt (C01.KSeq.kget_eq_some.2 h2)
    exact absurd ⟨by omega, by omega⟩ h

/-- one value per index -/
theorem kden_functional {off : Int} {xs : List (Option α)} {i : Int} {v w : α}
    (h₁ : (i, v) ∈ kden off xs) (h₂ : (i, w) ∈ kden off xs) : v = w := by
  rw [kden_eq] at h₁ h₂
  exact C01.KSeq.kden_functional xs off _ _ h₁ h₂ rfl

theorem kden_pairwise (off : Int) (xs : List (Option α)) : (kden off xs).Pairwise (fun p q => p.1 < q.1) :=
  kden_eq off xs ▸ C01.KSeq.kden_pairwise xs off

theorem filterMap_index {l : List (Int × α)} (hp : l.Pairwise (fun p q => p.1 < q.1)) (i : Int) (o : Option α)
    (h : ∀ v, o = some v ↔ (i, v) ∈ l) :
    l.filterMap (fun t => if t.1 = i then some t.2 else none) = o.toList := by
  induction l with
  | nil =>
    cases o with
    | none => rfl
    | some v => exact nomatch (h v).1 rfl
  | cons p r ih =>
    obtain ⟨hpr, hr⟩ := List.pairwise_cons.1 hp
    by_cases e : p.1 = i
    · have hrest : r.filterMap (fun t => if t.1 = i then some t.2 else none) = [] :=
        List.filterMap_eq_nil_iff.2 fun t ht => if_neg fun e' => by have := hpr t ht; omega
      rw [List.filterMap_cons, if_pos e, hrest, (h p.2).2 (e ▸ List.mem_cons_self)]
      rfl
    · rw [List.filterMap_cons, if_neg e]
      exact ih hr fun v => (h v).trans
        ⟨fun hm => (List.mem_cons.1 hm).resolve_left fun e' => e (e' ▸ rfl), List.mem_cons_of_mem _⟩

theorem length_kden (off : Int) (xs : List (Option α)) :
    (kden off xs).length = (xs.filter Option.isSome).length := by
  induction xs generalizing off with
  | nil => rfl
  | cons x r ih => cases x <;> simp [kden_none, kden_some, ih]

theorem trimFront_eq (off : Int) (xs : List (Option α)) :
    trimFront off xs = ((C01.KSeq.trimFront xs off).2, (C01.KSeq.trimFront xs off).1) := by
  induction xs generalizing off with
  | nil => rfl
  | cons x r ih =>
    cases x with
    | none => exact ih (off + 1)
    | some a => rfl

theorem trimBack_eq (xs : List (Option α)) : trimBack xs = C01.KSeq.trimBack xs := by
  induction xs with
  | nil => rfl
  | cons x r ih =>
    rw [trimBack_cons, C01.KSeq.trimBack, ih]
    cases C01.KSeq.trimBack r <;> cases x <;> rfl

theorem kden_trim (off : Int) (xs : List (Option α)) :
    kden (trimFront off xs).1 (trimBack (trimFront off xs).2) = kden off xs := by
  rw [trimBack_eq, trimFront_eq, kden_eq, kden_eq, C01.KSeq.kden_trim]

/-! ## `fill` -/

theorem functionalB_iff [DecidableEq α] (ts : List (Int × α)) :
    Spec.functionalB ts = true ↔ C01.KSeq.Functional ts := by
  simp only [Spec.functionalB, List.all_eq_true, Bool.or_eq_true, bne_iff_ne, ne_eq, decide_eq_true_eq,
    C01.KSeq.Functional]
  constructor
  · intro h p q hp hq e
    exact (h p hp q hq).resolve_left fun h' => h' e
  · intro h p hp q hq
    by_cases e : p.1 = q.1
    · exact Or.inr (h p q hp hq e)
    · exact Or.inl e

/- `slotAt` is this fold from `none`; the induction needs it from any accumulator -/
theorem foldl_slot_mem {ts : List (Int × α)} {i : Int} {acc : Option α} {v : α}
    (h : ts.foldl (fun acc t => if t.1 = i then some t.2 else acc) acc = some v) : (i, v) ∈ ts ∨ acc = some v := by
  induction ts generalizing acc with
  | nil => exact Or.inr h
  | cons t r ih =>
    rcases ih h with h | h
    · exact Or.inl (List.mem_cons_of_mem _ h)
    · dsimp only at h
      split at h
      · rename_i e; cases h; exact Or.inl (e ▸ List.mem_cons_self)
      · exact Or.inr h

theorem foldl_slot_isSome {ts : List (Int × α)} {i : Int} {acc : Option α}
    (h : acc.isSome = true ∨ ∃ w, (i, w) ∈ ts) :
    (ts.foldl (fun acc t => if t.1 = i then some t.2 else acc) acc).isSome = true := by
  induction ts generalizing acc with
  | nil => exact h.resolve_right fun ⟨_, hw⟩ => nomatch hw
  | cons t r ih =>
    refine ih ?_
    dsimp only
    by_cases e : t.1 = i
    · exact Or.inl (by rw [if_pos e]; rfl)
    · rw [if_neg e]
      refine h.imp_right fun ⟨w, hw⟩ => ⟨w, (List.mem_cons.1 hw).resolve_left fun e' => e (e' ▸ rfl)⟩

theorem slotAt_eq_some (ts : List (Int × α)) (hf : C01.KSeq.Functional ts) (i : Int) (v : α) :
    slotAt ts i = some v ↔ (i, v) ∈ ts := by
  refine ⟨fun h => (foldl_slot_mem h).resolve_right nofun, fun h => ?_⟩
  obtain ⟨w, hw⟩ := Option.isSome_iff_exists.1 (foldl_slot_isSome (acc := none) (Or.inr ⟨v, h⟩))
  rw [slotAt, hw]
  exact congrArg some (hf (i, w) (i, v) ((foldl_slot_mem hw).resolve_right nofun) h rfl)

theorem mem_kden_slotsFrom (ts : List (Int × α)) (lo : Int) (n : Nat) (i : Int) (v : α) :
    (i, v) ∈ kden lo (slotsFrom ts lo n) ↔ lo ≤ i ∧ i < lo + n ∧ slotAt ts i = some v := by
  induction n generalizing lo with
  | zero => exact ⟨nofun, fun ⟨h1, h2, _⟩ => absurd h1 (by omega)⟩
  | succ n ih =>
    rw [slotsFrom_succ, mem_kden_cons, ih]
    constructor
    · rintro (⟨rfl, h⟩ | ⟨h1, h2, h3⟩)
      · exact ⟨Int.le_refl _, by omega, h⟩
      · exact ⟨by omega, by omega, h3⟩
    · rintro ⟨h1, h2, h3⟩
      by_cases e : i = lo
      · exact Or.inl ⟨e, e ▸ h3⟩
      · exact Or.inr ⟨by omega, by omega, h3⟩

theorem mem_slotsFrom {ts : List (Int × α)} {lo : Int} {n : Nat} {o : Option α}
    (h : o ∈ slotsFrom ts lo n) : ∃ j, lo ≤ j ∧ j < lo + n ∧ o = slotAt ts j := by
  induction n generalizing lo with
  | zero => simp [slotsFrom_zero] at h
  | succ n ih =>
    simp only [slotsFrom_succ, List.mem_cons] at h
    rcases h with rfl | h
    · exact ⟨lo, by omega, by omega, rfl⟩
    · obtain ⟨j, h1, h2, h3⟩ := ih h
      exact ⟨j, by omega, by omega, h3⟩

theorem idx_bounds {ts : List (Int × α)} {i : Int} {v : α} (h : (i, v) ∈ ts) :
    minIdx ts ≤ i ∧ i ≤ maxIdx ts := by
  induction ts with
  | nil => cases h
  | cons t r ih =>
    cases r with
    | nil => cases List.mem_singleton.1 h; exact ⟨Int.le_refl _, Int.le_refl _⟩
    | cons u r' =>
      rw [minIdx_cons, maxIdx_cons]
      rcases List.mem_cons.1 h with e | h'
      · subst e; exact ⟨Int.min_le_left _ _, Int.le_max_left _ _⟩
      · exact ⟨Int.le_trans (Int.min_le_right _ _) (ih h').1, Int.le_trans (ih h').2 (Int.le_max_right _ _)⟩

theorem idx_mem (ts : List (Int × α)) (hne : ts ≠ []) :
    (∃ v, (minIdx ts, v) ∈ ts) ∧ ∃ w, (maxIdx ts, w) ∈ ts := by
  induction ts with
  | nil => exact absurd rfl hne
  | cons t r ih =>
    cases r with
    | nil => exact ⟨⟨t.2, List.mem_cons_self⟩, t.2, List.mem_cons_self⟩
    | cons u r' =>
      obtain ⟨⟨v, hv⟩, w, hw⟩ := ih (List.cons_ne_nil _ _)
      rw [minIdx_cons, maxIdx_cons]
      constructor
      · by_cases h : t.1 ≤ minIdx (u :: r')
        · rw [Int.min_eq_left h]; exact ⟨t.2, List.mem_cons_self⟩
        · rw [Int.min_eq_right (by omega)]; exact ⟨v, List.mem_cons_of_mem _ hv⟩
      · by_cases h : maxIdx (u :: r') ≤ t.1
        · rw [Int.max_eq_left h]; exact ⟨t.2, List.mem_cons_self⟩
        · rw [Int.max_eq_right (by omega)]; exact ⟨w, List.mem_cons_of_mem _ hw⟩

/-- `fill` holds exactly the given pairs when no index is given two values -/
theorem mem_kden_fill (ts : List (Int × α)) (hf : C01.KSeq.Functional ts) (i : Int) (v : α) :
    (i, v) ∈ kden (fill ts).1 (fill ts).2 ↔ (i, v) ∈ ts := by
  simp only [fill, mem_kden_slotsFrom, slotAt_eq_some ts hf]
  constructor
  · rintro ⟨_, _, h⟩; exact h
  · intro h
    obtain ⟨h1, h2⟩ := idx_bounds h
    refine ⟨h1, ?_, h⟩
    omega

end KSeq

end Arrai.C05
