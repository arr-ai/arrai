/-
  C15 — a bundle evaluates exactly like its sources and reads nothing else.

  Paths are cleaned absolute paths, as component lists (`Impl.Path` of C16: `filepath.Abs/Join/Dir`,
  `path.Join`, `strings.TrimPrefix(abs, root)` for a component-prefix `root` are concatenation, `dropLast`
  and `drop` on components).  Which components an import appends to its base directory is C16's
  pipeline (`dotRel`, `rootRel`: proved equal to the string-level `resolve` in Arrai/C16).

  `Impl.load`    : Compile → compilePackage → importLocalFile → fileValue → bytesValue over a file system
                   `Fs = List (Path × Content)`; the compiled form is a tree of file contents.  What the
                   parser finds in a file and what a decoder makes of bytes are abstract (`Content.imps`,
                   `Sem`): the same functions for the source tree and for the archive.
  `Impl.bundle`  : (with `setupBundle`, `bundleImport`, `walk`) SetupBundle, bundleLocalFile, addModuleSentinel,
                   createConfig (syntax/bundle.go), ZipCreate (pkg/ctxfs), BundledScripts (pkg/bundle) — the same
                   traversal, collecting the archive.
  `Impl.evalBundle` : WithBundleRun/withBundledConfig/GetMainBundleSource/EvaluateBundleCtx; the configuration is
                   passed as an argument, not parsed back from /config.arrai (the `%q` round trip is assumed).
  Core-only.
-/
import Arrai.C16.Model

namespace Arrai.C15
open Arrai.C16 Arrai.C16.Impl Arrai.C16.Impl.Strs Arrai.C16.Impl.Path

abbrev Path := List Str

/-- the decoder of an import: none (`//{p}`), or an explicit one (`//[//encoding.json]{p}` …) -/
inductive Dec
  | none | json | yaml | bytes
  deriving DecidableEq, Repr, Inhabited

structure Imp where
  dot : Bool
  raw : Str
  dec : Dec

/-- a file: its bytes and what the arr.ai parser finds in them (the import expressions in source
order; irrelevant for data files).  `val` names the content in the abstract value. -/
structure Content where
  bytes : Str
  imps : List Imp
  val : Nat

abbrev Fs := List (Path × Content)

inductive Fail
  | imp (e : Err)       -- compilePackage / importLocalFile / fileValue errors (C16)
  | sentinel            -- errSentinelHasNoModule
  | decode              -- an explicit decoder rejected the bytes (at compile time)
  | notBundled          -- "not bundled properly, main file not accessible" (panic)
  | fuel                -- model artefact
  deriving DecidableEq

/-- compiled form: a script with the compiled forms of its imports, or a data leaf -/
inductive T where
  | script (c : Content) (kids : List T)
  | data (dec : Dec) (ext : Str) (c : Content)

/-- what explicit decoders accept (they run at compile time); the same function on both sides -/
structure Sem where
  decodeOk : Dec → Str → Bool

namespace Impl

def dirOf (p : Path) : Path := p.dropLast

/-- `filepath.Ext` of a cleaned path: of its last component -/
def lastExt (q : Path) : Str :=
  match q.reverse with
  | [] => []
  | l :: _ => ext l

def Fs.keys (fs : Fs) : List Path := fs.map (·.1)

/-- `findRootFromModule` over `fs` -/
def findRootC (fs : Fs) (d : Path) : Option Path := findRootUp ⟨[], Fs.keys fs⟩ d.reverse

/-- the file an import expression of a script in directory `srcDir` names -/
def target (fs : Fs) (srcDir : Path) (i : Imp) : Except Fail Path :=
  if i.dot then
    match dotRel i.raw with
    | .error e => .error (.imp e)
    | .ok ns => .ok (srcDir ++ ns)
  else
    match rootRel i.raw with
    | .error e => .error (.imp e)
    | .ok ms =>
      match findRootC fs srcDir with
      | none => .error (.imp .noModule)
      | some r => .ok (r ++ ms)

/-- `fileValue` once the bytes are read: explicit decoder, implicit decoder (lazy), or a script -/
def leafOrScript (sem : Sem) (rec : Path → Content → Except Fail T) (chain : List Path)
    (i : Imp) (q : Path) (c : Content) : Except Fail T :=
  if i.dec ≠ .none then
    if sem.decodeOk i.dec c.bytes then .ok (.data i.dec (lastExt q) c) else .error .decode
  else if lastExt q ≠ arraiExt then .ok (.data .none (lastExt q) c)
  else if q ∈ chain then .error (.imp .importCycle)
  else rec q c

/-- the imports of one script, in source order; the first failure aborts -/
def loadKids (sem : Sem) (fs : Fs) (rec : Path → Content → Except Fail T) (srcDir : Path) (chain : List Path) :
    List Imp → Except Fail (List T)
  | [] => .ok []
  | i :: r =>
    match target fs srcDir i with
    | .error e => .error e
    | .ok q =>
      match fs.lookup q with
      | none => .error (.imp .notFound)
      | some c =>
        match leafOrScript sem rec chain i q c with
        | .error e => .error e
        | .ok t =>
          match loadKids sem fs rec srcDir chain r with
          | .error e => .error e
          | .ok ts => .ok (t :: ts)

/-- `Compile(ctx, key, c.bytes)`; `chain` = scripts being compiled along this call chain -/
def load (sem : Sem) (fs : Fs) : Nat → List Path → Path → Content → Except Fail T
  | 0, _, _, _ => .error .fuel
  | fuel + 1, chain, key, c =>
    match loadKids sem fs (fun q c' => load sem fs fuel (q :: chain) q c') (dirOf key) chain c.imps with
    | .error e => .error e
    | .ok ts => .ok (.script c ts)

/-- `arrai run main` over the source tree (compile-time structure; the value is a function of it).
The main script is compiled directly: it is not in the chain. -/
def evalSource (sem : Sem) (fs : Fs) (main : Path) (fuel : Nat) : Except Fail T :=
  match fs.lookup main with
  | none => .error (.imp .notFound)
  | some c => load sem fs fuel [] main c

/-! ## bundling -/

def moduleDir : Str := "module".toList
def noModuleDir : Str := "unnamed".toList
def configName : Str := "config.arrai".toList

structure Cfg where
  mainRoot : Str      -- the module path; "" for a script without a module
  pfx : Path          -- where files below `absRoot` go: /module/<mainRoot> or /unnamed
  mainFile : Path
  absRoot : Path

/-- `rootModuleRE = "^module ([^\n]+)\n"` -/
def parseModule (bytes : Str) : Option Str :=
  if hasPrefix bytes "module ".toList then
    let rest := bytes.drop 7
    let name := rest.takeWhile (· ≠ '\n')
    if name ≠ [] ∧ (rest.drop name.length).head? = some '\n' then some name else none
  else none

/-- `path.Join(dir, mainRoot, strings.TrimPrefix(abs, absRootPath))` for `abs` beneath `absRoot` -/
def mapPath (cfg : Cfg) (q : Path) : Path := cfg.pfx ++ q.drop cfg.absRoot.length

/-- `ctxfs.ZipCreate`: an existing entry is kept -/
def zipCreate (z : Fs) (p : Path) (c : Content) : Fs := if z.any (fun e => e.1 = p) then z else z ++ [(p, c)]

/-- `bundleConfig.String()`: `(main_root: %q, main_file: %q)` for strings `%q` leaves unescaped -/
def configContent (cfg : Cfg) : Content :=
  { bytes := "(main_root: \"".toList ++ cfg.mainRoot ++ "\", main_file: \"".toList ++
      render true cfg.mainFile ++ "\")".toList,
    imps := [], val := 0 }

/-- `SetupBundle` (+ `createConfig`) -/
def setupBundle (fs : Fs) (main : Path) : Except Fail (Cfg × Fs) :=
  match fs.lookup main with
  | none => .error (.imp .notFound)
  | some src =>
    match findRootC fs (dirOf main) with
    | none =>
      let mainFile := [noModuleDir] ++ (match main.getLast? with | some b => [b] | none => [])
      let cfg : Cfg := { mainRoot := [], pfx := [noModuleDir], mainFile, absRoot := dirOf main }
      let z := zipCreate [] mainFile src
      .ok (cfg, zipCreate z [configName] (configContent cfg))
    | some root =>
      match fs.lookup (root ++ [sentinel]) with
      | none => .error (.imp .notFound)
      | some sc =>
        match parseModule sc.bytes with
        | none => .error .sentinel
        | some name =>
          let pfx := norm true (moduleDir :: splitSlash name)
          let z := zipCreate [] (pfx ++ [sentinel]) sc
          let mainFile := pfx ++ main.drop root.length
          let z := zipCreate z mainFile src
          let cfg : Cfg := { mainRoot := name, pfx, mainFile, absRoot := root }
          .ok (cfg, zipCreate z [configName] (configContent cfg))

/-- `addModuleSentinel` (as repaired: next to the files of its module) -/
def addModuleSentinel (fs : Fs) (cfg : Cfg) (z : Fs) (root : Path) : Except Fail Fs :=
  match fs.lookup (root ++ [sentinel]) with
  | none => .error (.imp .notFound)
  | some sc => .ok (zipCreate z (mapPath cfg (root ++ [sentinel])) sc)

/-- `importLocalFile` while bundling: the sentinel for a module-rooted import, then `bundleLocalFile` -/
def bundleImport (fs : Fs) (cfg : Cfg) (z : Fs) (srcDir : Path) (i : Imp) : Except Fail (Path × Content × Fs) :=
  match target fs srcDir i with
  | .error e => .error e
  | .ok q =>
    let z1 : Except Fail Fs :=
      if i.dot then .ok z
      else match findRootC fs srcDir with
        | none => .ok z
        | some r => addModuleSentinel fs cfg z r
    match z1 with
    | .error e => .error e
    | .ok z1 =>
      match fs.lookup q with
      | none => .error (.imp .notFound)
      | some c => .ok (q, c, zipCreate z1 (mapPath cfg q) c)

/-- the compile of `BundledScripts`, collecting the archive (same traversal as `loadKids`) -/
def walkKids (sem : Sem) (fs : Fs) (cfg : Cfg) (rec : Fs → Path → Content → Except Fail Fs)
    (srcDir : Path) (chain : List Path) : Fs → List Imp → Except Fail Fs
  | z, [] => .ok z
  | z, i :: r =>
    match bundleImport fs cfg z srcDir i with
    | .error e => .error e
    | .ok (q, c, z1) =>
      let z2 : Except Fail Fs :=
        if i.dec ≠ .none then (if sem.decodeOk i.dec c.bytes then .ok z1 else .error .decode)
        else if lastExt q ≠ arraiExt then .ok z1
        else if q ∈ chain then .error (.imp .importCycle)
        else rec z1 q c
      match z2 with
      | .error e => .error e
      | .ok z2 => walkKids sem fs cfg rec srcDir chain z2 r

def walk (sem : Sem) (fs : Fs) (cfg : Cfg) : Nat → List Path → Fs → Path → Content → Except Fail Fs
  | 0, _, _, _, _ => .error .fuel
  | fuel + 1, chain, z, key, c =>
    walkKids sem fs cfg (fun z' q c' => walk sem fs cfg fuel (q :: chain) z' q c') (dirOf key) chain z c.imps

/-- `arrai bundle main`: the configuration and the archive -/
def bundle (sem : Sem) (fs : Fs) (main : Path) (fuel : Nat) : Except Fail (Cfg × Fs) :=
  match setupBundle fs main with
  | .error e => .error e
  | .ok (cfg, z) =>
    match fs.lookup main with
    | none => .error (.imp .notFound)
    | some c =>
      match walk sem fs cfg fuel [] z main c with
      | .error e => .error e
      | .ok z' => .ok (cfg, z')

/-- `arrai run x.arraiz`: WithBundleRun (the archive becomes the source file system),
withBundledConfig + GetMainBundleSource (the main file named by the configuration), EvaluateExpr -/
def evalBundle (sem : Sem) (cfg : Cfg) (z : Fs) (fuel : Nat) : Except Fail T :=
  match z.lookup cfg.mainFile with
  | none => .error .notBundled
  | some c => load sem z fuel [] cfg.mainFile c

end Impl

/-! ## before the repair of addModuleSentinel: always under /module -/
namespace Unrepaired
open Impl
def sentinelLoc (cfg : Cfg) (root : Path) : Path :=
  if cfg.mainRoot = [] then [moduleDir] ++ (root ++ [sentinel]).drop cfg.absRoot.length
  else mapPath cfg (root ++ [sentinel])
end Unrepaired

end Arrai.C15
