/-
  C15 — helper lemmas (core Lean only): compiling inside any consistent archive that holds what the bundling walk
  produced yields what compiling the source tree yields (`walk_sim`), the walk fails exactly as the source compile
  fails (`walk_agree`), `SetupBundle` establishes what both assume (`setup_ok`), and `bundle` as a whole
  (`bundle_eval_frame`, `bundle_error`).
-/
import Arrai.C15.Model
import Arrai.C16.Lemmas
import Arrai.Core.Assoc

namespace Arrai.C15
open Arrai.C16 Arrai.C16.Impl Arrai.C16.Impl.Strs Arrai.C16.Impl.Path Impl

/-! ## Part 1 — finite maps -/

theorem lookup_ne_none_iff (fs : Fs) (p : Path) : fs.lookup p ≠ none ↔ p ∈ Fs.keys fs := by
  rw [Ne, lookup_eq_none_iff_not_mem, Decidable.not_not, Fs.keys]

theorem fileExists_keys (fs : Fs) (cwd : Str) (p : Path) :
    (World.fileExists ⟨cwd, Fs.keys fs⟩ p = true) ↔ fs.lookup p ≠ none := by
  simp only [World.fileExists, decide_eq_true_eq]
  exact (lookup_ne_none_iff fs p).symm

theorem fileExists_false_iff (fs : Fs) (cwd : Str) (p : Path) :
    (World.fileExists ⟨cwd, Fs.keys fs⟩ p = false) ↔ fs.lookup p = none := by
  rw [← Bool.not_eq_true, fileExists_keys, Ne, Decidable.not_not]

theorem findRootC_eq_some_iff (fs : Fs) (d r : Path) : findRootC fs d = some r ↔
    r <+: d ∧ fs.lookup (r ++ [sentinel]) ≠ none ∧
      ∀ e, r <+: e → e <+: d → e ≠ r → fs.lookup (e ++ [sentinel]) = none := by
  simpa only [findRootC, List.reverse_reverse, fileExists_keys, fileExists_false_iff] using
    findRootUp_eq_some_iff ⟨[], Fs.keys fs⟩ d.reverse r

theorem findRootC_eq_none_iff (fs : Fs) (d : Path) : findRootC fs d = none ↔
    ∀ e, e <+: d → fs.lookup (e ++ [sentinel]) = none := by
  simpa only [findRootC, List.reverse_reverse, fileExists_false_iff] using
    findRootUp_eq_none_iff ⟨[], Fs.keys fs⟩ d.reverse

theorem findRootC_sentinel (fs : Fs) (d r : Path) (h : findRootC fs d = some r) :
    ∃ sc, fs.lookup (r ++ [sentinel]) = some sc := Option.ne_none_iff_exists'.1 ((findRootC_eq_some_iff fs d r).1 h).2.1

/-- `z'` extends `z`: every entry of `z` is found unchanged in `z'` -/
def Ext (z z' : Fs) : Prop := ∀ p c, z.lookup p = some c → z'.lookup p = some c

theorem Ext.refl (z : Fs) : Ext z z := fun _ _ h => h
theorem Ext.trans {a b c : Fs} (h1 : Ext a b) (h2 : Ext b c) : Ext a c := fun p x h => h2 p x (h1 p x h)

theorem zipCreate_ext (z : Fs) (p : Path) (c : Content) : Ext z (zipCreate z p c) := by
  intro q d h
  unfold zipCreate
  split
  · exact h
  · rw [List.lookup_append, h]; rfl

theorem zipCreate_ne_none (z : Fs) (p : Path) (c : Content) : (zipCreate z p c).lookup p ≠ none := by
  unfold zipCreate
  split
  · rename_i h
    rw [lookup_ne_none_iff]
    simpa [Fs.keys, List.any_eq_true] using h
  · rw [List.lookup_append]
    cases z.lookup p <;> simp

theorem Ext.ne_none {z z' : Fs} (h : Ext z z') {p : Path} (hne : z.lookup p ≠ none) : z'.lookup p ≠ none := by
  cases hl : z.lookup p with
  | none => exact absurd hl hne
  | some c => rw [h p c hl]; simp

theorem zipCreate_mem (z : Fs) (p : Path) (c : Content) (q : Path) (d : Content)
    (h : (q, d) ∈ zipCreate z p c) : (q, d) ∈ z ∨ (q = p ∧ d = c) := by
  unfold zipCreate at h
  split at h
  · exact Or.inl h
  · simp at h
    rcases h with h | ⟨h1, h2⟩
    · exact Or.inl h
    · exact Or.inr ⟨h1, h2⟩

/-! ## Part 2 — mapPath -/

theorem prefix_decomp {α : Type} {a b : List α} (h : a <+: b) : b = a ++ b.drop a.length :=
  (List.prefix_iff_eq_append.1 h).symm

theorem map_join (cfg : Cfg) (d ns : Path) (h : cfg.absRoot <+: d) : mapPath cfg (d ++ ns) = mapPath cfg d ++ ns := by
  simp [mapPath, List.drop_append_of_le_length (List.IsPrefix.length_le h)]

theorem map_dir (cfg : Cfg) (key : Path) (h : cfg.absRoot <+: dirOf key) (hne : key ≠ []) :
    dirOf (mapPath cfg key) = mapPath cfg (dirOf key) := by
  obtain ⟨d, x, rfl⟩ := exists_snoc hne
  simp only [dirOf, List.dropLast_concat] at h ⊢
  rw [map_join cfg d [x] h, ← List.append_nil (mapPath cfg d ++ [x]), List.append_assoc]
  simp

theorem map_inj (cfg : Cfg) (a b : Path) (ha : cfg.absRoot <+: a) (hb : cfg.absRoot <+: b)
    (h : mapPath cfg a = mapPath cfg b) : a = b := by
  have := List.append_cancel_left h
  rw [prefix_decomp ha, prefix_decomp hb, this]

theorem map_mem_chain (cfg : Cfg) (chain : List Path) (q : Path) (hq : cfg.absRoot <+: q)
    (hc : ∀ a ∈ chain, cfg.absRoot <+: a) : mapPath cfg q ∈ chain.map (mapPath cfg) ↔ q ∈ chain := by
  constructor
  · intro h
    obtain ⟨a, ha, e⟩ := List.mem_map.1 h
    rw [← map_inj cfg a q (hc a ha) hq e]; exact ha
  · intro h; exact List.mem_map.2 ⟨q, h, rfl⟩

theorem lastExt_map (cfg : Cfg) (key : Path) (h : cfg.absRoot <+: dirOf key) (hne : key ≠ []) :
    lastExt (mapPath cfg key) = lastExt key := by
  obtain ⟨d, x, rfl⟩ := exists_snoc hne
  simp only [dirOf, List.dropLast_concat] at h
  rw [map_join cfg d [x] h]
  simp [lastExt]

/-- every archive entry is the configuration file or the image of a source file below `absRoot` -/
def Consistent (fs : Fs) (cfg : Cfg) (z : Fs) : Prop :=
  ∀ p c, (p, c) ∈ z → p = [configName] ∨ ∃ q, cfg.absRoot <+: q ∧ p = mapPath cfg q ∧ fs.lookup q = some c

theorem consistent_zipCreate (fs : Fs) (cfg : Cfg) (z : Fs) (q : Path) (c : Content)
    (hz : Consistent fs cfg z) (hq : cfg.absRoot <+: q) (hl : fs.lookup q = some c) :
    Consistent fs cfg (zipCreate z (mapPath cfg q) c) := by
  intro p d hm
  rcases zipCreate_mem z _ c p d hm with h | ⟨rfl, rfl⟩
  · exact hz p d h
  · exact Or.inr ⟨q, hq, rfl, hl⟩

theorem consistent_nil (fs : Fs) (cfg : Cfg) : Consistent fs cfg [] := fun _ _ h => nomatch h

theorem consistent_config (fs : Fs) (cfg : Cfg) (z : Fs) (c : Content) (hz : Consistent fs cfg z) :
    Consistent fs cfg (zipCreate z [configName] c) := by
  intro p d hm
  rcases zipCreate_mem z _ c p d hm with h | ⟨rfl, _⟩
  · exact hz p d h
  · exact .inl rfl

/-- `z'` is `z` with more source files copied in -/
def Grows (fs : Fs) (cfg : Cfg) (z z' : Fs) : Prop := Ext z z' ∧ (Consistent fs cfg z → Consistent fs cfg z')

theorem Grows.refl (fs : Fs) (cfg : Cfg) (z : Fs) : Grows fs cfg z z := ⟨Ext.refl z, id⟩

theorem Grows.trans {fs : Fs} {cfg : Cfg} {a b c : Fs} (h1 : Grows fs cfg a b) (h2 : Grows fs cfg b c) :
    Grows fs cfg a c := ⟨h1.1.trans h2.1, h2.2 ∘ h1.2⟩

theorem Grows.zipCreate (fs : Fs) (cfg : Cfg) (z : Fs) (q : Path) (c : Content) (hq : cfg.absRoot <+: q)
    (hl : fs.lookup q = some c) : Grows fs cfg z (zipCreate z (mapPath cfg q) c) :=
  ⟨zipCreate_ext _ _ _, fun hz => consistent_zipCreate fs cfg z q c hz hq hl⟩

/-- what `SetupBundle` establishes about the configuration -/
structure Setup (fs : Fs) (cfg : Cfg) : Prop where
  -- so that no image is the configuration file
  pfx : ∃ h t, cfg.pfx = h :: t ∧ h ≠ configName
  -- a main script without module goes under /unnamed
  noMod : cfg.mainRoot = [] → cfg.pfx = [noModuleDir]
  -- so that a module root found from below `absRoot` has an image
  rootOk : ∀ d r, cfg.absRoot <+: d → findRootC fs d = some r → cfg.absRoot <+: r
  rootEx : cfg.mainRoot ≠ [] → ∀ d, cfg.absRoot <+: d → findRootC fs d ≠ none

theorem map_ne_config (fs : Fs) (cfg : Cfg) (hs : Setup fs cfg) (q : Path) : mapPath cfg q ≠ [configName] := by
  obtain ⟨h, t, e, hne⟩ := hs.pfx
  intro hc
  simp only [mapPath, e, List.cons_append] at hc
  injection hc with h1 _
  exact hne h1

theorem source_of_archive_lookup (fs : Fs) (cfg : Cfg) (hs : Setup fs cfg) (z : Fs) (hz : Consistent fs cfg z)
    (q : Path) (hq : cfg.absRoot <+: q) (d : Content) (h : z.lookup (mapPath cfg q) = some d) :
    fs.lookup q = some d := by
  rcases hz _ _ (mem_of_lookup h) with hc | ⟨q', hq', e, hl⟩
  · exact absurd hc (map_ne_config fs cfg hs q)
  · rw [map_inj cfg q q' hq hq' e]; exact hl

theorem archive_lookup_of_source (fs : Fs) (cfg : Cfg) (hs : Setup fs cfg) (z : Fs) (hz : Consistent fs cfg z)
    (q : Path) (hq : cfg.absRoot <+: q) (c : Content) (hl : fs.lookup q = some c)
    (h : z.lookup (mapPath cfg q) ≠ none) : z.lookup (mapPath cfg q) = some c := by
  cases hd : z.lookup (mapPath cfg q) with
  | none => exact absurd hd h
  | some d => exact (source_of_archive_lookup fs cfg hs z hz q hq d hd).symm.trans hl

/-- an entry that was already there is a copy of the same file -/
theorem zipCreate_lookup_source (fs : Fs) (cfg : Cfg) (hs : Setup fs cfg) (z : Fs) (hz : Consistent fs cfg z)
    (q : Path) (c : Content) (hq : cfg.absRoot <+: q) (hl : fs.lookup q = some c) :
    (zipCreate z (mapPath cfg q) c).lookup (mapPath cfg q) = some c :=
  archive_lookup_of_source fs cfg hs _ (consistent_zipCreate fs cfg z q c hz hq hl) q hq c hl (zipCreate_ne_none _ _ _)

theorem sentinel_ne_config : sentinel ≠ configName := by decide +kernel
theorem sentinel_ne_noModuleDir : sentinel ≠ noModuleDir := by decide +kernel

theorem no_sentinel_image (fs : Fs) (cfg : Cfg) (hs : Setup fs cfg) (z : Fs) (hz : Consistent fs cfg z)
    (x : Path) (hx : cfg.absRoot <+: x) (h : fs.lookup (x ++ [sentinel]) = none) :
    z.lookup (mapPath cfg x ++ [sentinel]) = none := by
  cases hl : z.lookup (mapPath cfg x ++ [sentinel]) with
  | none => rfl
  | some c =>
    rw [← map_join cfg x [sentinel] hx] at hl
    have := source_of_archive_lookup fs cfg hs z hz _ (hx.trans (List.prefix_append _ _)) c hl
    rw [h] at this
    cases this

theorem root_found (fs : Fs) (cfg : Cfg) (hs : Setup fs cfg) (z : Fs) (hz : Consistent fs cfg z) (d r : Path)
    (hd : cfg.absRoot <+: d) (hr : findRootC fs d = some r)
    (hsent : z.lookup (mapPath cfg (r ++ [sentinel])) ≠ none) :
    findRootC z (mapPath cfg d) = some (mapPath cfg r) := by
  have har : cfg.absRoot <+: r := hs.rootOk d r hd hr
  obtain ⟨⟨s, rfl⟩, _, hnear⟩ := (findRootC_eq_some_iff fs _ r).1 hr
  rw [map_join cfg r s har, findRootC_eq_some_iff]
  refine ⟨List.prefix_append _ _, by rwa [← map_join cfg r [sentinel] har], ?_⟩
  rintro _ ⟨s1, rfl⟩ he2 hne
  have hno := hnear (r ++ s1) (List.prefix_append _ _)
    ((List.prefix_append_right_inj _).2 ((List.prefix_append_right_inj _).1 he2))
    (fun h => hne (by rw [List.append_right_eq_self.1 h, List.append_nil]))
  rw [← map_join cfg r s1 har]
  exact no_sentinel_image fs cfg hs z hz _ (har.trans (List.prefix_append _ _)) hno

/-! ## Part 3 — one import while bundling -/

theorem target_ok_iff (fs : Fs) (d : Path) (i : Imp) (q : Path) : target fs d i = .ok q ↔
    (i.dot = true ∧ ∃ ns, dotRel i.raw = .ok ns ∧ d ++ ns = q) ∨
    (i.dot = false ∧ ∃ ms r, rootRel i.raw = .ok ms ∧ findRootC fs d = some r ∧ r ++ ms = q) := by
  unfold target
  cases i.dot with
  | true =>
    rw [if_pos rfl]
    cases dotRel i.raw with
    | error e => simp
    | ok ns => simp
  | false =>
    rw [if_neg (by simp)]
    cases rootRel i.raw with
    | error e => simp
    | ok ms =>
      cases findRootC fs d with
      | none => simp
      | some r => simp

theorem target_below (fs : Fs) (cfg : Cfg) (hs : Setup fs cfg) (d : Path) (i : Imp) (q : Path)
    (hd : cfg.absRoot <+: d) (h : target fs d i = .ok q) :
    cfg.absRoot <+: q ∧ q ≠ [] ∧ cfg.absRoot <+: dirOf q := by
  obtain ⟨base, ns, rfl, hne, hb⟩ : ∃ base ns, q = base ++ ns ∧ ns ≠ [] ∧ cfg.absRoot <+: base := by
    rcases (target_ok_iff fs d i q).1 h with ⟨_, ns, hns, e⟩ | ⟨_, ms, r, hms, hr, e⟩
    · exact ⟨d, ns, e.symm, (dotRel_ok hns).1, hd⟩
    · exact ⟨r, ms, e.symm, (rootRel_ok hms).1, hs.rootOk d r hd hr⟩
  rw [dirOf, List.dropLast_append_of_ne_nil hne]
  exact ⟨hb.trans (List.prefix_append _ _), by simp [hne], hb.trans (List.prefix_append _ _)⟩

/-- the same import expression, resolved inside the archive, names the image of the source file -/
theorem target_map (fs : Fs) (cfg : Cfg) (hs : Setup fs cfg) (z : Fs) (hz : Consistent fs cfg z)
    (d : Path) (i : Imp) (q : Path) (hd : cfg.absRoot <+: d) (h : target fs d i = .ok q)
    (hsent : i.dot = false → ∀ r, findRootC fs d = some r → z.lookup (mapPath cfg (r ++ [sentinel])) ≠ none) :
    target z (mapPath cfg d) i = .ok (mapPath cfg q) := by
  rw [target_ok_iff] at h ⊢
  rcases h with ⟨hdot, ns, hns, rfl⟩ | ⟨hdot, ms, r, hms, hr, rfl⟩
  · exact .inl ⟨hdot, ns, hns, (map_join cfg d ns hd).symm⟩
  · exact .inr ⟨hdot, ms, mapPath cfg r, hms, root_found fs cfg hs z hz d r hd hr (hsent hdot r hr),
      (map_join cfg r ms (hs.rootOk d r hd hr)).symm⟩

/-- the archive after the sentinel step (`addModuleSentinel`) of `bundleImport` -/
def withSentinel (fs : Fs) (cfg : Cfg) (z : Fs) (d : Path) (i : Imp) : Fs :=
  if i.dot then z
  else match findRootC fs d with
    | none => z
    | some r => match fs.lookup (r ++ [sentinel]) with
      | none => z
      | some sc => zipCreate z (mapPath cfg (r ++ [sentinel])) sc

/-- the sentinel step cannot fail: a root that was found has its sentinel -/
theorem bundleImport_eq (fs : Fs) (cfg : Cfg) (z : Fs) (d : Path) (i : Imp) :
    bundleImport fs cfg z d i =
      match target fs d i with
      | .error e => .error e
      | .ok q =>
        match fs.lookup q with
        | none => .error (.imp .notFound)
        | some c => .ok (q, c, zipCreate (withSentinel fs cfg z d i) (mapPath cfg q) c) := by
  unfold bundleImport withSentinel
  cases target fs d i with
  | error e => rfl
  | ok q =>
    by_cases hdot : i.dot = true
    · simp only [hdot, if_true]
      rfl
    · simp only [hdot]
      cases hr : findRootC fs d with
      | none => rfl
      | some r =>
        obtain ⟨sc, hsc⟩ := findRootC_sentinel fs d r hr
        simp only [addModuleSentinel, hsc]
        rfl

theorem withSentinel_grows (fs : Fs) (cfg : Cfg) (hs : Setup fs cfg) (z : Fs) (d : Path) (i : Imp)
    (hd : cfg.absRoot <+: d) : Grows fs cfg z (withSentinel fs cfg z d i) := by
  unfold withSentinel
  split
  · exact .refl ..
  · split
    · exact .refl ..
    · rename_i r hr
      split
      · exact .refl ..
      · rename_i sc hsc
        exact .zipCreate fs cfg z _ sc ((hs.rootOk d r hd hr).trans (List.prefix_append _ _)) hsc

theorem withSentinel_present (fs : Fs) (cfg : Cfg) (z : Fs) (d : Path) (i : Imp) (hdot : i.dot = false)
    (r : Path) (hr : findRootC fs d = some r) :
    (withSentinel fs cfg z d i).lookup (mapPath cfg (r ++ [sentinel])) ≠ none := by
  obtain ⟨sc, hsc⟩ := findRootC_sentinel fs d r hr
  simp only [withSentinel, hdot, hr, hsc, Bool.false_eq_true, if_false]
  exact zipCreate_ne_none _ _ _

/-- the conclusion of `bundleImport_ok` -/
structure Bundled (fs : Fs) (cfg : Cfg) (z : Fs) (d : Path) (i : Imp) (q : Path) (c : Content) (z1 : Fs) :
    Prop where
  target : target fs d i = .ok q
  below : cfg.absRoot <+: q
  ne : q ≠ []
  dir : cfg.absRoot <+: dirOf q
  content : fs.lookup q = some c
  grows : Grows fs cfg z z1
  present : z1.lookup (mapPath cfg q) ≠ none
  sentinel : i.dot = false → ∀ r, findRootC fs d = some r → z1.lookup (mapPath cfg (r ++ [sentinel])) ≠ none

theorem bundleImport_ok (fs : Fs) (cfg : Cfg) (hs : Setup fs cfg) (z : Fs) (d : Path) (i : Imp)
    (q : Path) (c : Content) (z1 : Fs) (hd : cfg.absRoot <+: d)
    (h : bundleImport fs cfg z d i = .ok (q, c, z1)) : Bundled fs cfg z d i q c z1 := by
  rw [bundleImport_eq] at h
  cases htq : target fs d i with
  | error e => rw [htq] at h; cases h
  | ok q' =>
    rw [htq] at h
    simp only at h
    cases hc' : fs.lookup q' with
    | none => rw [hc'] at h; cases h
    | some c' =>
      rw [hc'] at h
      injection h with h
      injection h with h1 h2
      injection h2 with h2 h3
      subst h1; subst h2; subst h3
      obtain ⟨hqa, hqne, hdq⟩ := target_below fs cfg hs d i q' hd htq
      exact ⟨htq, hqa, hqne, hdq, hc', (withSentinel_grows fs cfg hs z d i hd).trans (.zipCreate fs cfg _ q' c' hqa hc'),
        zipCreate_ne_none _ _ _,
        fun hdot r hr => (zipCreate_ext _ _ _).ne_none (withSentinel_present fs cfg z d i hdot r hr)⟩

/-! ## Part 4 — the walk and the simulation -/

/-- what `leafOrScript` and `walkKids` both do with an imported file once its bytes are read -/
def branch {α : Type} (sem : Sem) (chain : List Path) (i : Imp) (q : Path) (c : Content)
    (leaf : α) (script : Except Fail α) : Except Fail α :=
  if i.dec ≠ .none then (if sem.decodeOk i.dec c.bytes then .ok leaf else .error .decode)
  else if lastExt q ≠ arraiExt then .ok leaf
  else if q ∈ chain then .error (.imp .importCycle)
  else script

theorem leafOrScript_eq (sem : Sem) (rec : Path → Content → Except Fail T) (chain : List Path)
    (i : Imp) (q : Path) (c : Content) :
    leafOrScript sem rec chain i q c = branch sem chain i q c (.data i.dec (lastExt q) c) (rec q c) := by
  unfold leafOrScript branch
  by_cases h : i.dec = .none <;> simp [h]

theorem walkKids_cons (sem : Sem) (fs : Fs) (cfg : Cfg) (recW : Fs → Path → Content → Except Fail Fs)
    (d : Path) (chain : List Path) (z : Fs) (i : Imp) (r : List Imp) :
    walkKids sem fs cfg recW d chain z (i :: r) =
      match bundleImport fs cfg z d i with
      | .error e => .error e
      | .ok (q, c, z1) =>
        match branch sem chain i q c z1 (recW z1 q c) with
        | .error e => .error e
        | .ok z2 => walkKids sem fs cfg recW d chain z2 r := rfl

theorem branch_script {α : Type} {sem : Sem} {chain : List Path} {i : Imp} {q : Path} {c : Content}
    {leaf : α} {script : Except Fail α} (hdec : i.dec = .none) (hx : lastExt q = arraiExt) (hch : q ∉ chain) :
    branch sem chain i q c leaf script = script := by
  simp [branch, hdec, hx, hch]

theorem branch_cases (sem : Sem) (chain : List Path) (i : Imp) (q : Path) (c : Content) :
    (i.dec = .none ∧ lastExt q = arraiExt ∧ q ∉ chain ∧
      ∀ {α : Type} (leaf : α) (script : Except Fail α), branch sem chain i q c leaf script = script) ∨
    (∀ {α : Type} (leaf : α) (script : Except Fail α), branch sem chain i q c leaf script = .ok leaf) ∨
    (∃ e, ∀ {α : Type} (leaf : α) (script : Except Fail α), branch sem chain i q c leaf script = .error e) := by
  by_cases hdec : i.dec = .none
  · by_cases he : lastExt q = arraiExt
    · by_cases hch : q ∈ chain
      · exact .inr (.inr ⟨.imp .importCycle, fun _ _ => by simp [branch, hdec, he, hch]⟩)
      · exact .inl ⟨hdec, he, hch, fun _ _ => branch_script hdec he hch⟩
    · exact .inr (.inl fun _ _ => by simp [branch, hdec, he])
  · by_cases hok : sem.decodeOk i.dec c.bytes = true
    · exact .inr (.inl fun _ _ => by simp [branch, hdec, hok])
    · exact .inr (.inr ⟨.decode, fun _ _ => by simp [branch, hdec, hok]⟩)

theorem branch_congr {α : Type} {sem : Sem} {chain chain' : List Path} {i : Imp} {q q' : Path} {c : Content}
    {leaf : α} {s s' : Except Fail α} (hx : lastExt q' = lastExt q) (hm : q' ∈ chain' ↔ q ∈ chain)
    (hs : i.dec = .none → lastExt q = arraiExt → q ∉ chain → s' = s) :
    branch sem chain' i q' c leaf s' = branch sem chain i q c leaf s := by
  unfold branch
  rw [hx]
  by_cases hdec : i.dec = .none
  · by_cases he : lastExt q = arraiExt
    · by_cases hch : q ∈ chain
      · simp [hdec, he, hch, hm.2 hch]
      · simp [hdec, he, hch, mt hm.1 hch, hs hdec he hch]
    · simp [hdec, he]
  · simp [hdec]

theorem walkKids_cons_ok (sem : Sem) (fs : Fs) (cfg : Cfg) (recW : Fs → Path → Content → Except Fail Fs)
    (d : Path) (chain : List Path) (z : Fs) (i : Imp) (r : List Imp) (z' : Fs)
    (h : walkKids sem fs cfg recW d chain z (i :: r) = .ok z') :
    ∃ q c z1 z2, bundleImport fs cfg z d i = .ok (q, c, z1) ∧
      branch sem chain i q c z1 (recW z1 q c) = .ok z2 ∧ walkKids sem fs cfg recW d chain z2 r = .ok z' := by
  rw [walkKids_cons] at h
  cases hb : bundleImport fs cfg z d i with
  | error e => rw [hb] at h; cases h
  | ok res =>
    obtain ⟨q, c, z1⟩ := res
    rw [hb] at h
    simp only at h
    cases hbr : branch sem chain i q c z1 (recW z1 q c) with
    | error e => rw [hbr] at h; cases h
    | ok z2 => rw [hbr] at h; exact ⟨q, c, z1, z2, rfl, hbr, h⟩

/-- the guarantee of a successful walk from archive `z` to `z'`, stated for EVERY consistent archive `Z` that holds
`z'` because the rest of the walk copies more files in (`P`: the paths involved lie below `absRoot`) -/
def Sim {α : Type} (fs : Fs) (cfg : Cfg) (P : Prop) (z z' : Fs) (rZ : Fs → α) (r : α) : Prop :=
  Grows fs cfg z z' ∧ (P → ∀ Z, Consistent fs cfg Z → Ext z' Z → rZ Z = r)

theorem branch_grows {fs : Fs} {cfg : Cfg} {sem : Sem} {chain : List Path} {i : Imp} {q : Path} {c : Content}
    {z1 z2 : Fs} {s : Except Fail Fs} (hs : s = .ok z2 → Grows fs cfg z1 z2)
    (h : branch sem chain i q c z1 s = .ok z2) : Grows fs cfg z1 z2 := by
  rcases branch_cases sem chain i q c with ⟨_, _, _, e⟩ | e | ⟨_, e⟩ <;> rw [e] at h
  · exact hs h
  · injection h with h; exact h ▸ .refl ..
  · cases h

theorem walkKids_sim (sem : Sem) (fs : Fs) (cfg : Cfg) (hs : Setup fs cfg)
    (recW : Fs → Path → Content → Except Fail Fs) (recL : Path → Content → Except Fail T)
    (recLZ : Fs → Path → Content → Except Fail T) (d : Path) (hd : cfg.absRoot <+: d) (chain : List Path)
    (hrec : ∀ z1 z2 q c, cfg.absRoot <+: q → q ≠ [] → cfg.absRoot <+: dirOf q → recW z1 q c = .ok z2 →
      Sim fs cfg (∀ a ∈ chain, cfg.absRoot <+: a) z1 z2 (recLZ · (mapPath cfg q) c) (recL q c)) :
    ∀ imps z z', walkKids sem fs cfg recW d chain z imps = .ok z' →
      Sim fs cfg (∀ a ∈ chain, cfg.absRoot <+: a) z z'
        (fun Z => loadKids sem Z (recLZ Z) (mapPath cfg d) (chain.map (mapPath cfg)) imps)
        (loadKids sem fs recL d chain imps) := by
  intro imps
  induction imps with
  | nil =>
    intro z z' h
    injection h with h; subst h
    exact ⟨.refl .., fun _ _ _ _ => rfl⟩
  | cons i r ih =>
    intro z z' h
    obtain ⟨q, c, z1, z2, hb, hstep, hrest⟩ := walkKids_cons_ok sem fs cfg recW d chain z i r z' h
    have hbi := bundleImport_ok fs cfg hs z d i q c z1 hd hb
    have hq := hrec z1 z2 q c hbi.below hbi.ne hbi.dir
    have h12 : Grows fs cfg z1 z2 := branch_grows (fun e => (hq e).1) hstep
    obtain ⟨hg, hsim⟩ := ih z2 z' hrest
    refine ⟨(hbi.grows.trans h12).trans hg, fun hchain Z hZ hext => ?_⟩
    have h2Z : Ext z2 Z := hg.1.trans hext
    have h1Z : Ext z1 Z := h12.1.trans h2Z
    -- the archive resolves the import to the image of q and holds q's content there
    have htZ : target Z (mapPath cfg d) i = .ok (mapPath cfg q) :=
      target_map fs cfg hs Z hZ d i q hd hbi.target (fun hdot r' hr' => h1Z.ne_none (hbi.sentinel hdot r' hr'))
    have hlZ : Z.lookup (mapPath cfg q) = some c :=
      archive_lookup_of_source fs cfg hs Z hZ q hbi.below c hbi.content (h1Z.ne_none hbi.present)
    have hle := lastExt_map cfg q hbi.dir hbi.ne
    have hleaf : leafOrScript sem (recLZ Z) (chain.map (mapPath cfg)) i (mapPath cfg q) c =
        leafOrScript sem recL chain i q c := by
      rw [leafOrScript_eq, leafOrScript_eq, hle]
      exact branch_congr hle (map_mem_chain cfg chain q hbi.below hchain) (fun hdec hx hch =>
        (hq ((branch_script hdec hx hch).symm.trans hstep)).2 hchain Z hZ h2Z)
    simp only [loadKids, htZ, hlZ, hbi.target, hbi.content, hleaf, hsim hchain Z hZ hext]

theorem walk_sim (sem : Sem) (fs : Fs) (cfg : Cfg) (hs : Setup fs cfg) :
    ∀ fuel chain z key c z', cfg.absRoot <+: dirOf key → walk sem fs cfg fuel chain z key c = .ok z' →
      Sim fs cfg (key ≠ [] ∧ ∀ a ∈ chain, cfg.absRoot <+: a) z z'
        (fun Z => load sem Z fuel (chain.map (mapPath cfg)) (mapPath cfg key) c) (load sem fs fuel chain key c) := by
  intro fuel
  induction fuel with
  | zero => intro chain z key c z' _ h; simp [walk] at h
  | succ fuel ih =>
    intro chain z key c z' hd h
    obtain ⟨hg, hsim⟩ := walkKids_sim sem fs cfg hs _ (fun q c' => load sem fs fuel (q :: chain) q c')
      (fun Z q c' => load sem Z fuel (q :: chain.map (mapPath cfg)) q c') (dirOf key) hd chain
      (fun z1 z2 q c' hqa hqne hdq hr =>
        (ih (q :: chain) z1 q c' z2 hdq hr).imp id (fun s hch => s ⟨hqne, List.forall_mem_cons.2 ⟨hqa, hch⟩⟩))
      c.imps z z' h
    refine ⟨hg, fun ⟨hne, hchain⟩ Z hZ hext => ?_⟩
    simp only [load, map_dir cfg key hd hne, hsim hchain Z hZ hext]

/-! ## Part 5 — the bundling walk fails exactly when (and as) the source compile fails -/

def Agree {α β : Type} (rW : Except Fail α) (rL : Except Fail β) : Prop :=
  match rW with
  | .ok _ => ∃ t, rL = .ok t
  | .error e => rL = .error e

theorem Agree.elim {α β : Type} {rW : Except Fail α} {rL : Except Fail β} (h : Agree rW rL) :
    (∃ e, rW = .error e ∧ rL = .error e) ∨ (∃ z t, rW = .ok z ∧ rL = .ok t) := by
  cases rW with
  | error e => exact .inl ⟨e, rfl, h⟩
  | ok z => obtain ⟨t, ht⟩ := h; exact .inr ⟨z, t, rfl, ht⟩

theorem branch_agree {α β : Type} (sem : Sem) (chain : List Path) (i : Imp) (q : Path) (c : Content)
    (leaf₁ : α) (leaf₂ : β) {s₁ : Except Fail α} {s₂ : Except Fail β} (h : Agree s₁ s₂) :
    Agree (branch sem chain i q c leaf₁ s₁) (branch sem chain i q c leaf₂ s₂) := by
  rcases branch_cases sem chain i q c with ⟨_, _, _, e⟩ | e | ⟨_, e⟩ <;> rw [e, e]
  · exact h
  · exact ⟨_, rfl⟩
  · rfl

theorem walkKids_agree (sem : Sem) (fs : Fs) (cfg : Cfg) (recW : Fs → Path → Content → Except Fail Fs)
    (recL : Path → Content → Except Fail T) (hrec : ∀ z q c, Agree (recW z q c) (recL q c))
    (d : Path) (chain : List Path) :
    ∀ imps z, Agree (walkKids sem fs cfg recW d chain z imps) (loadKids sem fs recL d chain imps) := by
  intro imps
  induction imps with
  | nil => intro z; exact ⟨[], rfl⟩
  | cons i r ih =>
    intro z
    rw [walkKids_cons, bundleImport_eq]
    simp only [loadKids, leafOrScript_eq]
    cases target fs d i with
    | error e => rfl
    | ok q =>
      simp only
      cases fs.lookup q with
      | none => rfl
      | some c =>
        simp only
        generalize zipCreate (withSentinel fs cfg z d i) (mapPath cfg q) c = z1
        rcases (branch_agree sem chain i q c z1 (T.data i.dec (lastExt q) c) (hrec z1 q c)).elim with
          ⟨e, hw, hl⟩ | ⟨z2, t, hw, hl⟩
        · rw [hw, hl]; rfl
        · rw [hw, hl]
          simp only
          rcases (ih z2).elim with ⟨e, hw', hl'⟩ | ⟨z3, ts, hw', hl'⟩
          · rw [hw', hl']; rfl
          · rw [hw', hl']; exact ⟨_, rfl⟩

theorem walk_agree (sem : Sem) (fs : Fs) (cfg : Cfg) :
    ∀ fuel chain z key c, Agree (walk sem fs cfg fuel chain z key c) (load sem fs fuel chain key c) := by
  intro fuel
  induction fuel with
  | zero => intro chain z key c; rfl
  | succ fuel ih =>
    intro chain z key c
    simp only [walk, load]
    rcases (walkKids_agree sem fs cfg (fun z' q c' => walk sem fs cfg fuel (q :: chain) z' q c')
      (fun q c' => load sem fs fuel (q :: chain) q c') (fun z' q c' => ih (q :: chain) z' q c')
      (dirOf key) chain c.imps z).elim with ⟨e, hw, hl⟩ | ⟨z3, ts, hw, hl⟩
    · rw [hw, hl]; rfl
    · rw [hw, hl]; exact ⟨_, rfl⟩

/-! ## Part 6 — what SetupBundle establishes -/

theorem dirOf_prefix (p : Path) : dirOf p <+: p := by
  unfold dirOf
  exact List.dropLast_prefix p

theorem drop_dropLast (l : Path) (h : l ≠ []) : l.drop l.dropLast.length = [l.getLast h] := by
  have e := List.dropLast_concat_getLast h
  conv => lhs; arg 2; rw [← e]
  rw [List.drop_left]

theorem rootOk_mod (fs : Fs) (root : Path) (hsent : fs.lookup (root ++ [sentinel]) ≠ none) :
    ∀ d r, root <+: d → findRootC fs d = some r → root <+: r := by
  intro d r hd hr
  obtain ⟨hrd, _, hnear⟩ := (findRootC_eq_some_iff fs d r).1 hr
  rcases List.prefix_or_prefix_of_prefix hd hrd with h | hrr
  · exact h
  · by_cases hne : root = r
    · rw [hne]; exact List.prefix_refl r
    · exact absurd (hnear root hrr hd hne) hsent

theorem rootEx_mod (fs : Fs) (root : Path) (hsent : fs.lookup (root ++ [sentinel]) ≠ none) :
    ∀ d, root <+: d → findRootC fs d ≠ none :=
  fun d hd hnone => hsent ((findRootC_eq_none_iff fs d).1 hnone root hd)

theorem rootOk_nomod (fs : Fs) (a : Path) (hnone : findRootC fs a = none) :
    ∀ d r, a <+: d → findRootC fs d = some r → a <+: r := by
  intro d r hd hr
  obtain ⟨hrd, hsent, _⟩ := (findRootC_eq_some_iff fs d r).1 hr
  rcases List.prefix_or_prefix_of_prefix hd hrd with h | hra
  · exact h
  · exact absurd ((findRootC_eq_none_iff fs a).1 hnone r hra) hsent

theorem parseModule_ne_nil (b name : Str) (h : parseModule b = some name) : name ≠ [] := by
  unfold parseModule at h
  split at h
  · simp only at h
    split at h
    · rename_i hc
      injection h with h
      rw [← h]; exact hc.1
    · cases h
  · cases h

theorem normal_moduleDir : Spec.Normal moduleDir := by decide +kernel

/-- `hname` is `Theorems.SaneModule cfg` (Proofs/C15) written out: with Normal components `norm` leaves
module/<path> as it is (for the module path `..` the archive directory would be `[]`, which `Setup.pfx` excludes) -/
theorem setup_ok (fs : Fs) (main : Path) (cfg : Cfg) (z0 : Fs) (hmain : main ≠ [])
    (h : setupBundle fs main = .ok (cfg, z0))
    (hname : ∀ c ∈ splitSlash cfg.mainRoot, cfg.mainRoot ≠ [] → Spec.Normal c) :
    Setup fs cfg ∧ Consistent fs cfg z0 ∧ cfg.absRoot <+: dirOf main ∧ cfg.mainFile = mapPath cfg main ∧
      ∃ src, fs.lookup main = some src ∧ z0.lookup (mapPath cfg main) = some src := by
  cases hsrc : fs.lookup main with
  | none => simp [setupBundle, hsrc] at h
  | some src =>
    cases hroot : findRootC fs (dirOf main) with
    | none =>
      -- no module: the image of `main` is /unnamed/<base>
      simp only [setupBundle, hsrc, hroot, List.getLast?_eq_some_getLast hmain] at h
      injection h with h
      injection h with hcfg hz
      subst hcfg; subst hz
      generalize hc : (⟨[], [noModuleDir], [noModuleDir] ++ [main.getLast hmain], dirOf main⟩ : Cfg) = cfg
      have hmap : mapPath cfg main = [noModuleDir] ++ [main.getLast hmain] := by
        rw [← hc]; simp only [mapPath, dirOf, drop_dropLast main hmain]
      have hs : Setup fs cfg := by
        rw [← hc]
        exact ⟨⟨noModuleDir, [], rfl, by decide +kernel⟩, fun _ => rfl, rootOk_nomod fs _ hroot, fun hh => absurd rfl hh⟩
      have hd : cfg.absRoot <+: dirOf main := by rw [← hc]; exact List.prefix_refl _
      have hq := hd.trans (dirOf_prefix main)
      rw [← hmap]
      have hz0 := consistent_nil fs cfg
      refine ⟨hs, ?_, hd, ?_, src, rfl, ?_⟩
      · exact consistent_config fs cfg _ _ (consistent_zipCreate fs cfg [] main src hz0 hq hsrc)
      · rw [hmap, ← hc]
      · exact zipCreate_ext _ _ _ _ _ (zipCreate_lookup_source fs cfg hs [] hz0 main src hq hsrc)
    | some root =>
      obtain ⟨sc, hsc⟩ := findRootC_sentinel fs _ root hroot
      cases hpm : parseModule sc.bytes with
      | none => simp [setupBundle, hsrc, hroot, hsc, hpm] at h
      | some name =>
        simp only [setupBundle, hsrc, hroot, hsc, hpm] at h
        injection h with h
        injection h with hcfg hz
        -- by `hname`, used only here, the archive directory is module/<name> itself
        have hnn : name ≠ [] := parseModule_ne_nil _ _ hpm
        have hnorm : norm true (moduleDir :: splitSlash name) = moduleDir :: splitSlash name := by
          apply norm_normal
          intro c hc
          rcases List.mem_cons.1 hc with rfl | hc
          · exact normal_moduleDir
          · exact hname c (by rw [← hcfg]; exact hc) (by rw [← hcfg]; exact hnn)
        rw [hnorm] at hcfg hz
        subst hz
        have hrd : root <+: dirOf main := ((findRootC_eq_some_iff fs _ root).1 hroot).1
        have hsent : fs.lookup (root ++ [sentinel]) ≠ none := by rw [hsc]; simp
        have hs : Setup fs cfg := by
          rw [← hcfg]
          exact ⟨⟨moduleDir, _, rfl, by decide +kernel⟩, fun hh => absurd hh hnn, rootOk_mod fs root hsent,
            fun _ => rootEx_mod fs root hsent⟩
        have hd : cfg.absRoot <+: dirOf main := by rw [← hcfg]; exact hrd
        have hq := hd.trans (dirOf_prefix main)
        have hqs : cfg.absRoot <+: root ++ [sentinel] := by rw [← hcfg]; exact List.prefix_append _ _
        have hms : moduleDir :: splitSlash name ++ [sentinel] = mapPath cfg (root ++ [sentinel]) := by
          rw [← hcfg]; simp [mapPath]
        have hmm : moduleDir :: splitSlash name ++ main.drop root.length = mapPath cfg main := by
          rw [← hcfg]; rfl
        rw [hms, hmm]
        have hz1 := consistent_zipCreate fs cfg [] _ sc (consistent_nil fs cfg) hqs hsc
        refine ⟨hs, ?_, hd, ?_, src, rfl, ?_⟩
        · exact consistent_config fs cfg _ _ (consistent_zipCreate fs cfg _ main src hz1 hq hsrc)
        · rw [← hmm, ← hcfg]
        · exact zipCreate_ext _ _ _ _ _ (zipCreate_lookup_source fs cfg hs _ hz1 main src hq hsrc)

/-! ## Part 7 — `bundle` as a whole -/

theorem bundle_ok (sem : Sem) (fs : Fs) (main : Path) (fuel : Nat) (cfg : Cfg) (z : Fs)
    (h : bundle sem fs main fuel = .ok (cfg, z)) :
    ∃ z0 c, setupBundle fs main = .ok (cfg, z0) ∧ fs.lookup main = some c ∧
      walk sem fs cfg fuel [] z0 main c = .ok z := by
  unfold bundle at h
  cases hsb : setupBundle fs main with
  | error e => rw [hsb] at h; cases h
  | ok r =>
    obtain ⟨cfg0, z0⟩ := r
    rw [hsb] at h
    simp only at h
    cases hl : fs.lookup main with
    | none => rw [hl] at h; cases h
    | some c =>
      rw [hl] at h
      simp only at h
      cases hw : walk sem fs cfg0 fuel [] z0 main c with
      | error e => rw [hw] at h; cases h
      | ok z' =>
        rw [hw] at h
        injection h with h
        injection h with h1 h2
        subst h1; subst h2
        exact ⟨z0, c, rfl, rfl, hw⟩

/-- the main theorem, for every consistent archive that holds `z` and not `z` alone -/
theorem bundle_eval_frame (sem : Sem) (fs : Fs) (main : Path) (fuel : Nat) (cfg : Cfg) (z : Fs) (hmain : main ≠ [])
    (h : bundle sem fs main fuel = .ok (cfg, z))
    (hname : ∀ c ∈ splitSlash cfg.mainRoot, cfg.mainRoot ≠ [] → Spec.Normal c) :
    Consistent fs cfg z ∧
      ∀ Z, Consistent fs cfg Z → Ext z Z → evalBundle sem cfg Z fuel = evalSource sem fs main fuel := by
  obtain ⟨z0, c, hsb, hl, hw⟩ := bundle_ok sem fs main fuel cfg z h
  obtain ⟨hs, hc0, hd, hmf, src, hsrc, hz0⟩ := setup_ok fs main cfg z0 hmain hsb hname
  obtain ⟨⟨hext, hcons⟩, hsim⟩ := walk_sim sem fs cfg hs fuel [] z0 main c z hd hw
  rw [hl] at hsrc; injection hsrc with hsrc; subst hsrc
  refine ⟨hcons hc0, fun Z hZ hzZ => ?_⟩
  unfold evalBundle evalSource
  rw [hmf, hzZ _ _ (hext _ _ hz0), hl]
  exact hsim ⟨hmain, nofun⟩ Z hZ hzZ

theorem setupBundle_error (fs : Fs) (main : Path) (e : Fail) (h : setupBundle fs main = .error e) :
    (fs.lookup main = none ∧ e = .imp .notFound) ∨
    (e = .sentinel ∧ ∃ root sc, findRootC fs (dirOf main) = some root ∧
      fs.lookup (root ++ [sentinel]) = some sc ∧ parseModule sc.bytes = none) := by
  cases hl : fs.lookup main with
  | none => simp only [setupBundle, hl] at h; injection h with h; exact .inl ⟨rfl, h.symm⟩
  | some src =>
    cases hr : findRootC fs (dirOf main) with
    | none => simp [setupBundle, hl, hr] at h
    | some root =>
      obtain ⟨sc, hsc⟩ := findRootC_sentinel fs _ root hr
      cases hp : parseModule sc.bytes with
      | none =>
        simp only [setupBundle, hl, hr, hsc, hp] at h
        injection h with h
        exact .inr ⟨h.symm, root, sc, rfl, hsc, hp⟩
      | some name => simp [setupBundle, hl, hr, hsc, hp] at h

/-- the second case: the go.mod of the main script's module has no `module` line -/
theorem bundle_error (sem : Sem) (fs : Fs) (main : Path) (fuel : Nat) (e : Fail)
    (h : bundle sem fs main fuel = .error e) :
    evalSource sem fs main fuel = .error e ∨
    (e = .sentinel ∧ ∃ root sc, findRootC fs (dirOf main) = some root ∧
      fs.lookup (root ++ [sentinel]) = some sc ∧ parseModule sc.bytes = none) := by
  unfold bundle at h
  unfold evalSource
  cases hsb : setupBundle fs main with
  | error e' =>
    rw [hsb] at h
    injection h with h
    subst h
    rcases setupBundle_error fs main e' hsb with ⟨hl, rfl⟩ | hs
    · rw [hl]; exact .inl rfl
    · exact .inr hs
  | ok r =>
    obtain ⟨cfg0, z0⟩ := r
    rw [hsb] at h
    simp only at h
    cases hl : fs.lookup main with
    | none => rw [hl] at h; injection h with h; rw [← h]; exact .inl rfl
    | some c =>
      rw [hl] at h
      simp only at h ⊢
      have := walk_agree sem fs cfg0 fuel [] z0 main c
      cases hw : walk sem fs cfg0 fuel [] z0 main c with
      | ok z' => rw [hw] at h; cases h
      | error e' =>
        rw [hw] at h this
        injection h with h
        subst h
        exact .inl this

end Arrai.C15
