/-
  C06 ⟷ C02 bridge: canonical representations are unique, hence `<` and the meaning agree.

  `up : C06.Rep → C02.Rep` re-attaches the derived fields of C02's representation (hole count of a string,
  item count of an array, `key :: values` entries, bucket keys of a union set).  `key_complete`: two canonical
  representations with the same meaning have the same order key - by C02's `wf_unique`, one layer at a time: matched
  members have equal keys by induction, so the sorted key lists agree (`sorted_keys_eq`).
-/
import Arrai.C06.Den
import Arrai.Proofs.C02

namespace Arrai.C06
open Arrai Std

/-! ## the translation -/

def splitEntry : List C02.Rep → C02.Rep × List C02.Rep
  | k :: vs => (k, vs)
  | [] => (.empty, [])

def bucketKey (s : C02.Rep) : String := (C02.Rep.bucketOfSet s).getD ""

def upAlg : RepF C02.Rep → C02.Rep
  | .num n => .num n
  | .gtuple as => .gtuple as
  | .charT i c => .charT i c
  | .byteT i b => .byteT i b
  | .itemT i x => .itemT i x
  | .entryT k v => .entryT k v
  | .empty => .empty
  | .true_ => .true_
  | .generic xs => .generic xs
  | .str s off => .str s off (C02.Impl.countNeg s)
  | .bytes b off => .bytes b off
  | .array vs off => .array vs off (C02.Rep.optCount vs)
  | .dict m => .dict (m.map splitEntry)
  | .relation ns rows => .relation ns rows
  | .union bs => .union (bs.map (fun s => (bucketKey s, s)))

def up : Rep → C02.Rep := cata upAlg

def upEntries (m : List (List Rep)) : List (C02.Rep × List C02.Rep) := m.map (fun e => splitEntry (e.map up))

def upBuckets (bs : List Rep) : List (String × C02.Rep) := bs.map (fun x => (bucketKey (up x), up x))

theorem mem_upEntries {m : List (List Rep)} {e : List Rep} (he : e ∈ m) : splitEntry (e.map up) ∈ upEntries m :=
  List.mem_map.2 ⟨e, he, rfl⟩

theorem mem_upBuckets {bs : List Rep} {x : Rep} (hx : x ∈ bs) : (bucketKey (up x), up x) ∈ upBuckets bs :=
  List.mem_map.2 ⟨x, hx, rfl⟩

/-- canonical: C02's canonical-form invariant `wf`, on the translated representation.  That the constructors of /repo/rel
return canonical forms is C02's claim, about C02's model of them (Proofs/C02: `new_tuple_wf`, `new_offset_array_wf`,
`new_offset_string_wf`, `merge_wf`, the set builder on up to two members); nothing in C06 shows it of `Impl.build` or
`Impl.ofLit`. -/
def Canonical (r : Rep) : Prop := C02.Rep.wf (up r) = true

theorem wf_up (r : Rep) (h : Canonical r) : C02.Rep.wf (up r) = true := h

@[simp] theorem up_num (n : Int) : up (.num n) = .num n := rfl
@[simp] theorem up_charT (i c : Int) : up (.charT i c) = .charT i c := rfl
@[simp] theorem up_byteT (i c : Int) : up (.byteT i c) = .byteT i c := rfl
@[simp] theorem up_itemT (i : Int) (x : Rep) : up (.itemT i x) = .itemT i (up x) := rfl
@[simp] theorem up_entryT (k v : Rep) : up (.entryT k v) = .entryT (up k) (up v) := rfl
@[simp] theorem up_empty : up .empty = .empty := rfl
@[simp] theorem up_true : up .true_ = .true_ := rfl
@[simp] theorem up_str (s : List Int) (off : Int) : up (.str s off) = .str s off (C02.Impl.countNeg s) := rfl
@[simp] theorem up_bytes (s : List Int) (off : Int) : up (.bytes s off) = .bytes s off := rfl
@[simp] theorem up_gtuple (as : List (String × Rep)) :
    up (.gtuple as) = .gtuple (as.map (fun p => (p.1, up p.2))) := cata_gtuple upAlg as
@[simp] theorem up_generic (xs : List Rep) : up (.generic xs) = .generic (xs.map up) := cata_generic upAlg xs
@[simp] theorem up_array (vs : List (Option Rep)) (off : Int) :
    up (.array vs off) = .array (vs.map (Option.map up)) off (C02.Rep.optCount (vs.map (Option.map up))) :=
  cata_array upAlg vs off
@[simp] theorem up_dict (m : List (List Rep)) : up (.dict m) = .dict (upEntries m) :=
  (cata_dict upAlg m).trans (congrArg C02.Rep.dict List.map_map)
@[simp] theorem up_relation (ns : List String) (rows : List (List Rep)) :
    up (.relation ns rows) = .relation ns (rows.map (List.map up)) := cata_relation upAlg ns rows
@[simp] theorem up_union (bs : List Rep) :
    up (.union bs) = .union (upBuckets bs) :=
  (cata_union upAlg bs).trans (congrArg C02.Rep.union List.map_map)

/-! ## both models give the same meaning -/

theorem at_lt_char : "@" < "@char" := by decide +kernel
theorem at_lt_byte : "@" < "@byte" := by decide +kernel
theorem at_lt_item : "@" < "@item" := by decide +kernel
theorem at_lt_value : "@" < "@value" := by decide +kernel

theorem seqMembers_eq_seqM (name : String) (h : "@" < name) (xs : List (Option V)) (off : Int) :
    V.seqMembers name off xs = C02.seqM name off xs :=
  (C01.KSeq.seqMembers_eq_tagged name h xs off).trans (C02.seqM_eq name off xs).symm

theorem zipAttrs_eq_zipNames : ∀ (ns : List String) (ds : List V), C02.Rep.zipAttrs ns ds = zipNames ns ds
  | [], _ => by simp [C02.Rep.zipAttrs, zipNames]
  | _ :: _, [] => by simp [C02.Rep.zipAttrs, zipNames]
  | n :: ns, d :: ds => by simp [C02.Rep.zipAttrs, zipNames, zipAttrs_eq_zipNames ns ds]

theorem map_den_up {xs : List Rep} (h : ∀ x ∈ xs, C02.Rep.den (up x) = den x) :
    (xs.map up).map C02.Rep.den = xs.map den := by
  rw [List.map_map]; exact List.map_congr_left (fun x hx => h x hx)

open C02 C02.Rep in
theorem denOpts_up (vs : List (Option Rep)) (h : ∀ x, some x ∈ vs → C02.Rep.den (up x) = den x) :
    denOpts (vs.map (Option.map up)) = vs.map (Option.map den) := by
  rw [denOpts_map, List.map_map]
  exact List.map_congr_left fun o ho => by cases o <;> first | rfl | exact congrArg some (h _ ho)

open C02 C02.Rep in
theorem denDict_up (m : List (List Rep)) (h : ∀ e ∈ m, ∀ x ∈ e, C02.Rep.den (up x) = den x) :
    denDict (upEntries m) = (m.map (List.map den)).flatMap entryV := by
  rw [denDict_eq_flatMap, upEntries, List.flatMap_map, List.flatMap_map]
  refine congrArg List.flatten (List.map_congr_left fun e he => ?_)
  cases e with
  | nil => rfl
  | cons k vs =>
    show (denList (vs.map up)).map (vpair "@value" (C02.Rep.den (up k))) = (vs.map den).map _
    rw [denList_eq_map, map_den_up (fun v hv => h _ he v (List.mem_cons_of_mem _ hv)), h _ he k (by simp)]
    exact List.map_congr_left fun v _ => (V.mkTup_at "@value" _ _ at_lt_value).symm

open C02 C02.Rep in
theorem denBuckets_up (bs : List Rep) : denBuckets (upBuckets bs) = ((bs.map up).map C02.Rep.den).flatMap members := by
  rw [denBuckets_eq_flatMap, upBuckets, List.flatMap_map, List.map_map, List.flatMap_map]
  exact congrArg List.flatten <| List.map_congr_left fun x _ => by
    show vmembers (C02.Rep.den (up x)) = members (C02.Rep.den (up x)); cases C02.Rep.den (up x) <;> rfl

open C02 C02.Rep in
theorem den_up : ∀ a : Rep, C02.Rep.den (up a) = den a := by
  apply depth_induction
  intro a ih
  cases a with
  | num n => rfl
  | charT i c => exact (V.mkTup_at "@char" _ _ at_lt_char).symm
  | byteT i c => exact (V.mkTup_at "@byte" _ _ at_lt_byte).symm
  | itemT i x =>
    rw [den_itemT, V.mkTup_at "@item" _ _ at_lt_item, ← ih x (depth_item_lt i x)]; rfl
  | entryT k v =>
    rw [den_entryT, V.mkTup_at "@value" _ _ at_lt_value, ← ih k (depth_entry_fst_lt k v),
      ← ih v (depth_entry_snd_lt k v)]; rfl
  | empty => rfl
  | true_ => rfl
  | str s off =>
    show V.mkSet (strMembers off s) = V.mkSet (V.seqMembers "@char" off (s.map runeV))
    rw [strMembers_eq, seqMembers_eq_seqM "@char" at_lt_char]; rfl
  | bytes b off =>
    show V.mkSet (bytesMembers off b) = V.mkSet (V.seqMembers "@byte" off (b.map (fun c => some (.num c))))
    rw [bytesMembers_eq, seqMembers_eq_seqM "@byte" at_lt_byte]
  | gtuple as =>
    rw [up_gtuple, den_gtuple]
    show V.mkTup (denAttrs (as.map (fun p => (p.1, up p.2)))) = _
    rw [denAttrs_eq_map, List.map_map]
    exact congrArg V.mkTup (List.map_congr_left (fun p hp => congrArg (Prod.mk p.1) (ih p.2 (depth_attr_lt hp))))
  | generic xs =>
    rw [up_generic, den_generic]
    show V.mkSet (denList (xs.map up)) = _
    rw [denList_eq_map, map_den_up (fun x hx => ih x (depth_mem_generic hx))]
  | array vs off =>
    rw [up_array, den_array]
    show V.mkSet (arrMembers off (denOpts (vs.map (Option.map up)))) = V.mkSet (V.seqMembers "@item" off _)
    rw [arrMembers_eq, denOpts_up vs (fun x hx => ih x (depth_mem_array hx)), seqMembers_eq_seqM "@item" at_lt_item]
  | dict m =>
    rw [up_dict, den_dict]
    exact congrArg V.mkSet (denDict_up m (fun e he x hx => ih x (depth_mem_dict he hx)))
  | relation ns rows =>
    rw [up_relation, den_relation]
    show V.mkSet (denRows ns (rows.map (List.map up))) = _
    rw [denRows_eq, List.map_map]
    refine congrArg V.mkSet (List.map_congr_left (fun row hrow => ?_))
    show C02.Rep.den (rowT ns (row.map up)) = _
    rw [den_rowT, zipAttrs_eq_zipNames, denList_eq_map, map_den_up (fun x hx => ih x (depth_mem_relation hrow hx))]
  | union bs =>
    rw [up_union, den_union]
    show V.mkSet (denBuckets (upBuckets bs)) = _
    rw [denBuckets_up, map_den_up (fun x hx => ih x (depth_mem_union hx))]

theorem denList_up (xs : List Rep) : C02.Rep.denList (xs.map up) = xs.map den := by
  rw [C02.denList_eq_map]; exact map_den_up (fun x _ => den_up x)

theorem up_rowTuple (ns : List String) (row : List Rep) :
    up (Impl.rowTuple ns row) = C02.rowT ns (row.map up) := by
  rw [Impl.rowTuple, up_gtuple, zipNames_map, zipNames_eq_zip]; rfl

open C02 C02.Rep in
theorem denRows_up (ns : List String) (rows : List (List Rep)) :
    denRows ns (rows.map (List.map up)) = (rows.map (Impl.rowTuple ns)).map den := by
  rw [denRows_eq, List.map_map, List.map_map]
  apply List.map_congr_left
  intro row _
  simp only [Function.comp_def]
  rw [← up_rowTuple, den_up]

/-- an entry without a key counts as keyed by `{}`, as `entryHead` reads it -/
def hdDen : List Rep → V
  | k :: _ => den k
  | [] => den Rep.empty

open C02 C02.Rep in
theorem keyDens_up (m : List (List Rep)) : keyDens (upEntries m) = m.map hdDen := by
  unfold keyDens upEntries
  rw [denList_eq_map, List.map_map, List.map_map]
  apply List.map_congr_left
  intro e _
  cases e with
  | nil => simp [splitEntry, hdDen, ← den_up]
  | cons k vs => simp [splitEntry, hdDen, den_up]

/-! ## uniqueness of canonical representations, in terms of the order key -/

theorem perm_of_match {α δ κ : Type} (d : α → δ) (k : α → κ) {xs ys : List α}
    (hx : (xs.map d).Nodup) (hy : (ys.map d).Nodup) (hm : ∀ v, v ∈ xs.map d ↔ v ∈ ys.map d)
    (H : ∀ x ∈ xs, ∀ y ∈ ys, d x = d y → k x = k y) : (xs.map k).Perm (ys.map k) := by
  have hp : (xs.map (fun x => (d x, k x))).Perm (ys.map (fun y => (d y, k y))) := by
    rw [List.perm_ext_iff_of_nodup (nodup_map_pair d k hx) (nodup_map_pair d k hy)]
    intro p
    constructor
    · intro hp
      obtain ⟨x, hx', rfl⟩ := List.mem_map.1 hp
      obtain ⟨y, hy', e⟩ := List.mem_map.1 ((hm (d x)).1 (List.mem_map.2 ⟨x, hx', rfl⟩))
      exact List.mem_map.2 ⟨y, hy', by rw [e, H x hx' y hy' e.symm]⟩
    · intro hp
      obtain ⟨y, hy', rfl⟩ := List.mem_map.1 hp
      obtain ⟨x, hx', e⟩ := List.mem_map.1 ((hm (d y)).2 (List.mem_map.2 ⟨y, hy', rfl⟩))
      exact List.mem_map.2 ⟨x, hx', by rw [e, H x hx' y hy' e]⟩
  have := hp.map Prod.snd
  simpa [List.map_map, Function.comp_def] using this

/-- member lists with the same (nodup) meanings and keys determined by the meaning: same sorted keys -/
theorem sorted_keys_eq (xs ys : List Rep) (hx : (xs.map den).Nodup) (hy : (ys.map den).Nodup)
    (hm : ∀ v, v ∈ xs.map den ↔ v ∈ ys.map den)
    (H : ∀ x ∈ xs, ∀ y ∈ ys, den x = den y → key x = key y) :
    isort K.lt (xs.map key) = isort K.lt (ys.map key) :=
  isort_perm_invariant K.cmp (perm_of_match den key hx hy hm H)

/-! ### what `Canonical` says of the members of each constructor
C02's `wf_*_iff`, restated; for `itemT` and `entryT`, which have none, `wf` reduces by definition to what is claimed. -/

theorem canon_itemT {i : Int} {x : Rep} (c : Canonical (.itemT i x)) : Canonical x := c

theorem canon_entryT {k v : Rep} (c : Canonical (.entryT k v)) : Canonical k ∧ Canonical v :=
  Bool.and_eq_true_iff.1 c

open C02 C02.Rep in
theorem canon_gtuple {as : List (String × Rep)} (c : Canonical (.gtuple as)) :
    (as.map (·.1)).Nodup ∧ ∀ p ∈ as, Canonical p.2 := by
  rw [Canonical, up_gtuple] at c
  obtain ⟨hn, hw, _⟩ := (wf_gtuple_iff _).1 c
  exact ⟨names_map up as ▸ hn, fun p hp => wfAttrs_mem _ (p.1, up p.2) hw (List.mem_map.2 ⟨p, hp, rfl⟩)⟩

open C02 C02.Rep in
theorem canon_generic {xs : List Rep} (c : Canonical (.generic xs)) :
    (∀ x ∈ xs, Canonical x) ∧ (xs.map den).Nodup := by
  rw [Canonical, up_generic] at c
  obtain ⟨_, hw, _, hn, _⟩ := (wf_generic_iff _).1 c
  exact ⟨fun x hx => wfList_mem _ (up x) hw (List.mem_map.2 ⟨x, hx, rfl⟩), denList_up xs ▸ hn⟩

open C02 C02.Rep in
theorem canon_array {vs : List (Option Rep)} {off : Int} (c : Canonical (.array vs off)) :
    ∀ x, some x ∈ vs → Canonical x := by
  rw [Canonical, up_array] at c
  obtain ⟨_, _, hw, _⟩ := (wf_array_iff _ _ _).1 c
  exact fun x hx => wfOpts_mem _ (up x) hw (List.mem_map.2 ⟨some x, hx, rfl⟩)

open C02 C02.Rep in
theorem canon_dict {m : List (List Rep)} (c : Canonical (.dict m)) :
    (∀ e ∈ m, ∃ k vs, e = k :: vs ∧ (vs.map den).Nodup ∧ ∀ x ∈ e, Canonical x) ∧ (m.map hdDen).Nodup := by
  rw [Canonical, up_dict] at c
  obtain ⟨_, hw, hk⟩ := (wf_dict_iff _).1 c
  refine ⟨fun e he => ?_, keyDens_up m ▸ hk⟩
  obtain ⟨wk, hvne, wvs, hvn⟩ := wfDict_mem _ _ hw (mem_upEntries he)
  cases e with
  | nil => simp [splitEntry] at hvne
  | cons k vs =>
    simp only [List.map_cons, splitEntry] at wk wvs hvn
    rw [denList_up] at hvn
    refine ⟨k, vs, rfl, hvn, fun x hx => ?_⟩
    rcases List.mem_cons.1 hx with rfl | hx
    · exact wk
    · exact wfList_mem _ (up x) wvs (List.mem_map.2 ⟨x, hx, rfl⟩)

open C02 C02.Rep in
theorem canon_relation {ns : List String} {rows : List (List Rep)} (c : Canonical (.relation ns rows)) :
    ns.Nodup ∧ (∀ row ∈ rows, ∀ x ∈ row, Canonical x) ∧ (∀ row ∈ rows, Canonical (Impl.rowTuple ns row)) ∧
    ((rows.map (Impl.rowTuple ns)).map den).Nodup := by
  rw [Canonical, up_relation] at c
  obtain ⟨_, hn, _, hw, hd⟩ := (wf_relation_iff _ _).1 c
  refine ⟨hn, fun row hrow x hx => ?_, fun row hrow => ?_, denRows_up ns rows ▸ hd⟩
  · obtain ⟨_, wl, _⟩ := wfRows_mem ns _ (row.map up) hw (List.mem_map.2 ⟨row, hrow, rfl⟩)
    exact wfList_mem _ (up x) wl (List.mem_map.2 ⟨x, hx, rfl⟩)
  · unfold Canonical
    rw [up_rowTuple]
    exact wf_rowT ns _ (row.map up) hn hw (List.mem_map.2 ⟨row, hrow, rfl⟩)

open C02 C02.Rep in
theorem canon_union {bs : List Rep} (c : Canonical (.union bs)) :
    (∀ x ∈ bs, Canonical x) ∧ (bs.map den).Nodup := by
  rw [Canonical, up_union] at c
  obtain ⟨_, hn, hw⟩ := (wf_union_iff _).1 c
  have bucket : ∀ x ∈ bs, wf (up x) = true ∧ bucketOfSet (up x) = some (bucketKey (up x)) :=
    fun x hx => wfBuckets_mem _ _ hw (mem_upBuckets hx)
  refine ⟨fun x hx => (bucket x hx).1, ?_⟩
  -- two buckets with the same meaning hold members of one class, so they have one bucket key
  apply nodup_map_of den (fun x => bucketKey (up x)) bs
  · intro x hx y hy e
    obtain ⟨wx, kx⟩ := bucket x hx
    obtain ⟨wy, ky⟩ := bucket y hy
    obtain ⟨ne, bx⟩ := sub_members_bucket (up x) _ wx kx
    obtain ⟨_, by'⟩ := sub_members_bucket (up y) _ wy ky
    obtain ⟨v0, hv0⟩ := List.exists_mem_of_ne_nil _ ne
    have hv0' : v0 ∈ vmembers (C02.Rep.den (up y)) := by rw [den_up, ← e, ← den_up]; exact hv0
    exact bkOfSet_key (up x) (up y) _ _ kx ky ((bx v0 hv0).symm.trans (by' v0 hv0'))
  · simpa [namesOf, upBuckets, List.map_map, Function.comp_def] using hn

theorem canon_nn : ∀ a : Rep, Canonical a → nodupNames a = true := by
  apply depth_induction
  intro a ih ca
  cases a with
  | itemT i x => exact ih x (depth_item_lt i x) (canon_itemT ca)
  | entryT k v =>
    exact nn_entryT.2 ⟨ih k (depth_entry_fst_lt k v) (canon_entryT ca).1, ih v (depth_entry_snd_lt k v) (canon_entryT ca).2⟩
  | gtuple as =>
    exact nn_gtuple.2 ⟨(canon_gtuple ca).1, fun p hp => ih p.2 (depth_attr_lt hp) ((canon_gtuple ca).2 p hp)⟩
  | generic xs => exact nn_generic.2 fun x hx => ih x (depth_mem_generic hx) ((canon_generic ca).1 x hx)
  | array vs off => exact nn_array.2 fun x hx => ih x (depth_mem_array hx) (canon_array ca x hx)
  | dict m =>
    refine nn_dict.2 fun e he x hx => ?_
    obtain ⟨_, _, _, _, ce⟩ := (canon_dict ca).1 e he
    exact ih x (depth_mem_dict he hx) (ce x hx)
  | relation ns rows =>
    exact nn_relation.2 ⟨(canon_relation ca).1, fun row hrow x hx =>
      ih x (depth_mem_relation hrow hx) ((canon_relation ca).2.1 row hrow x hx)⟩
  | union bs => exact nn_union.2 fun x hx => ih x (depth_mem_union hx) ((canon_union ca).1 x hx)
  | _ => rfl

/-! ### canonical collections with the same meaning have members with the same meanings
Only a union set and a dictionary need a lemma: for the other sets it is `V.mkSet_eq_iff`, for a tuple `V.perm_of_mkTup_eq`. -/

open C02 C02.Rep C02.Theorems in
theorem sameRep_up {a b : Rep} (ca : Canonical a) (cb : Canonical b) (h : den a = den b) : sameRep (up a) (up b) :=
  wf_unique (up a) (up b) ca cb (by rw [den_up, den_up, h])

open C02 C02.Rep in
theorem union_same {bs bs' : List Rep} (ca : Canonical (.union bs)) (cb : Canonical (.union bs'))
    (h : den (.union bs) = den (.union bs')) (v : V) : v ∈ bs.map den ↔ v ∈ bs'.map den := by
  have hu : C02.Rep.den (.union (upBuckets bs)) = C02.Rep.den (.union (upBuckets bs')) := by
    rw [← up_union, ← up_union, den_up, den_up, h]
  rw [Canonical, up_union] at ca cb
  -- C02's partner of a bucket (same bucket key, same meaning) is a member with the same meaning
  have part : ∀ (l l' : List Rep), (∀ p, p ∈ upBuckets l → ∃ q, q ∈ upBuckets l' ∧ q.1 = p.1 ∧ C02.Rep.den p.2 = C02.Rep.den q.2) →
      ∀ v ∈ l.map den, v ∈ l'.map den := by
    intro l l' P v hv
    obtain ⟨x, hx, rfl⟩ := List.mem_map.1 hv
    obtain ⟨q, hq, _, e⟩ := P _ (mem_upBuckets hx)
    obtain ⟨y, hy, rfl⟩ := List.mem_map.1 hq
    exact List.mem_map.2 ⟨y, hy, by rw [← den_up, ← den_up x]; exact e.symm⟩
  exact ⟨part bs bs' ((union_den_iff _ _ ca cb).1 hu).2 v, part bs' bs ((union_den_iff _ _ cb ca).1 hu.symm).2 v⟩

def entryDen (e : List Rep) : V × List V := (hdDen e, FinSet.mk (e.tail.map den))

open C02 C02.Rep C02.Theorems in
theorem dict_same {m m' : List (List Rep)} (ca : Canonical (.dict m)) (cb : Canonical (.dict m'))
    (h : den (.dict m) = den (.dict m')) (v : V × List V) : v ∈ m.map entryDen ↔ v ∈ m'.map entryDen := by
  have hu : C02.Rep.den (.dict (upEntries m)) = C02.Rep.den (.dict (upEntries m')) := by
    rw [← up_dict, ← up_dict, den_up, den_up, h]
  have sa := (canon_dict ca).1
  have sb := (canon_dict cb).1
  rw [Canonical, up_dict] at ca cb
  -- C02's partner of an entry (same key meaning, same value meanings) is an entry with the same `entryDen`
  have part : ∀ (l l' : List (List Rep)), (∀ e ∈ l, ∃ k vs, e = k :: vs ∧ (vs.map den).Nodup ∧ ∀ x ∈ e, Canonical x) →
      (∀ e ∈ l', ∃ k vs, e = k :: vs ∧ (vs.map den).Nodup ∧ ∀ x ∈ e, Canonical x) →
      (∀ kv, kv ∈ upEntries l → ∃ kv', kv' ∈ upEntries l' ∧
        C02.Rep.den kv.1 = C02.Rep.den kv'.1 ∧ ∀ d, d ∈ denList kv.2 ↔ d ∈ denList kv'.2) →
      ∀ v ∈ l.map entryDen, v ∈ l'.map entryDen := by
    intro l l' sl sl' P v hv
    obtain ⟨e, he, rfl⟩ := List.mem_map.1 hv
    obtain ⟨k, vs, rfl, _, _⟩ := sl e he
    obtain ⟨kv', hkv', e1, e2⟩ := P _ (mem_upEntries he)
    obtain ⟨e', he', rfl⟩ := List.mem_map.1 hkv'
    obtain ⟨k', vs', rfl, _, _⟩ := sl' e' he'
    have h1 : den k' = den k := by simpa [splitEntry, den_up] using e1.symm
    have h2 : ∀ d, d ∈ vs'.map den ↔ d ∈ vs.map den := fun d => by simpa [splitEntry, denList_up] using (e2 d).symm
    exact List.mem_map.2 ⟨k' :: vs', he', by
      simp only [entryDen, hdDen, List.tail_cons]; rw [h1, (FinSet.mk_eq_iff _ _).2 h2]⟩
  exact ⟨part m m' sa sb ((dict_den_iff _ _ ca cb).1 hu).2 v, part m' m sb sa ((dict_den_iff _ _ cb ca).1 hu.symm).2 v⟩

/-! ### the collection cases of `key_complete` -/

open C02 C02.Rep C02.Theorems in
theorem key_complete_relation (ns ns' : List String) (rows rows' : List (List Rep))
    (ca : Canonical (.relation ns rows)) (cb : Canonical (.relation ns' rows'))
    (h : den (Rep.relation ns rows) = den (Rep.relation ns' rows'))
    (IH : ∀ r ∈ rows, ∀ r' ∈ rows', Canonical (Impl.rowTuple ns r) → Canonical (Impl.rowTuple ns' r') →
      den (Impl.rowTuple ns r) = den (Impl.rowTuple ns' r') → key (Impl.rowTuple ns r) = key (Impl.rowTuple ns' r')) :
    key (Rep.relation ns rows) = key (Rep.relation ns' rows') := by
  have sr := sameRep_up ca cb h
  simp only [up_relation, sameRep] at sr
  have hperm : ns.Perm ns' := (sortStrs_perm ns).symm.trans (sr.1 ▸ sortStrs_perm ns')
  have hrl : rows.length = rows'.length := by simpa using sr.2.1
  obtain ⟨_, _, cr, nd⟩ := canon_relation ca
  obtain ⟨_, _, cr', nd'⟩ := canon_relation cb
  have hk := sorted_keys_eq (rows.map (Impl.rowTuple ns)) (rows'.map (Impl.rowTuple ns')) nd nd'
    ((V.mkSet_eq_iff _ _).1 (by rw [← den_relation_rows, ← den_relation_rows, h])) (by
      intro x hx y hy e
      obtain ⟨r, hr, rfl⟩ := List.mem_map.1 hx
      obtain ⟨r', hr', rfl⟩ := List.mem_map.1 hy
      exact IH r hr r' hr' (cr r hr) (cr' r' hr') e)
  have hns : isort strLt ns = isort strLt ns' := isort_perm_invariant (compare : String → String → Ordering) hperm
  rw [key_relation_rows, key_relation_rows, hperm.length_eq, hns, hrl, hk]

theorem key_complete_gtuple (as bs : List (String × Rep)) (ca : Canonical (.gtuple as)) (cb : Canonical (.gtuple bs))
    (h : den (Rep.gtuple as) = den (Rep.gtuple bs))
    (IH : ∀ p ∈ as, ∀ q ∈ bs, Canonical p.2 → Canonical q.2 → den p.2 = den q.2 → key p.2 = key q.2) :
    key (Rep.gtuple as) = key (Rep.gtuple bs) := by
  obtain ⟨hna, cas⟩ := canon_gtuple ca
  obtain ⟨hnb, cbs⟩ := canon_gtuple cb
  have hda := nodup_names_map den hna
  have hdb := nodup_names_map den hnb
  rw [den_gtuple, den_gtuple] at h
  have hp : (as.map (fun p => (p.1, key p.2))).Perm (bs.map (fun p => (p.1, key p.2))) := by
    apply perm_of_match (fun p : String × Rep => (p.1, den p.2)) (fun p => (p.1, key p.2))
      (nodup_of_nodup_map Prod.fst hda) (nodup_of_nodup_map Prod.fst hdb)
      (fun v => (V.perm_of_mkTup_eq hda hdb h).mem_iff)
    intro p hp q hq e
    rw [(Prod.mk.inj e).1, IH p hp q hq (cas p hp) (cbs q hq) (Prod.mk.inj e).2]
  rw [key_gtuple, key_gtuple]
  exact tupleKeyAlg_perm _ _ (nodup_names_map key hna) hp

/-- no two entries of a canonical dictionary share a key, so the entries come out sorted as whole entry keys -/
theorem key_dict_sorted {m : List (List Rep)} (c : Canonical (.dict m)) :
    key (.dict m) = .node (.int kDict :: isort K.lt (m.map (fun e => entryKey (e.map key)))) := by
  obtain ⟨shape, hk⟩ := canon_dict c
  have hinj : ∀ e ∈ m.map (List.map key), ∀ f ∈ m.map (List.map key), entryHead e = entryHead f → e = f := by
    intro e he f hf hh
    obtain ⟨e0, he0, rfl⟩ := List.mem_map.1 he
    obtain ⟨f0, hf0, rfl⟩ := List.mem_map.1 hf
    obtain ⟨k, vs, rfl, _, cv⟩ := shape e0 he0
    obtain ⟨k', vs', rfl, _, cv'⟩ := shape f0 hf0
    have hd : hdDen (k :: vs) = hdDen (k' :: vs') :=
      key_sound k (canon_nn k (cv k (by simp))) k' (canon_nn k' (cv' k' (by simp))) hh
    rw [inj_of_nodup_map hdDen hk _ he0 _ hf0 hd]
  rw [key_dict, map_entryKey_isort _ hinj, List.map_map]; rfl

theorem key_complete_dict (m m' : List (List Rep)) (ca : Canonical (.dict m)) (cb : Canonical (.dict m'))
    (h : den (Rep.dict m) = den (Rep.dict m'))
    (IH : ∀ e ∈ m, ∀ e' ∈ m', ∀ x ∈ e, ∀ y ∈ e', Canonical x → Canonical y → den x = den y → key x = key y) :
    key (Rep.dict m) = key (Rep.dict m') := by
  obtain ⟨sa, hk⟩ := canon_dict ca
  obtain ⟨sb, hk'⟩ := canon_dict cb
  have hperm : (m.map (fun e => entryKey (e.map key))).Perm (m'.map (fun e => entryKey (e.map key))) := by
    apply perm_of_match entryDen (fun e => entryKey (e.map key)) (nodup_map_pair hdDen _ hk) (nodup_map_pair hdDen _ hk')
      (dict_same ca cb h)
    intro e he e' he' hd
    obtain ⟨k, vs, rfl, nv, cv⟩ := sa e he
    obtain ⟨k', vs', rfl, nv', cv'⟩ := sb e' he'
    have h1 : den k = den k' := (Prod.mk.inj hd).1
    have h2 : ∀ d, d ∈ vs.map den ↔ d ∈ vs'.map den := (FinSet.mk_eq_iff _ _).1 (Prod.mk.inj hd).2
    have ek' : key k = key k' := IH _ he _ he' k (by simp) k' (by simp) (cv k (by simp)) (cv' k' (by simp)) h1
    have ev : isort K.lt (vs.map key) = isort K.lt (vs'.map key) :=
      sorted_keys_eq vs vs' nv nv' h2 (fun x hx y hy e =>
        IH _ he _ he' x (List.mem_cons_of_mem _ hx) y (List.mem_cons_of_mem _ hy)
          (cv x (List.mem_cons_of_mem _ hx)) (cv' y (List.mem_cons_of_mem _ hy)) e)
    simp only [entryKey, List.map_cons, List.tail_cons, entryHead, ek', ev]
  rw [key_dict_sorted ca, key_dict_sorted cb]
  exact congrArg (fun l => K.node (.int kDict :: l)) (isort_perm_invariant K.cmp hperm)

open C02 C02.Rep C02.Theorems in
theorem key_complete : ∀ a : Rep, Canonical a → ∀ b, Canonical b → den a = den b → key a = key b := by
  apply depth_induction
  intro a ih ca b cb h
  have sr := sameRep_up ca cb h
  -- the same meaning has one constructor tag in C02, and `up` keeps the constructor (`Old.ctorId` and `C02.ctorTag` are
  -- two tables written by hand that number the constructors alike)
  have tag : ∀ r : Rep, C02.ctorTag (up r) = ctorId r := fun r => by cases r <;> rfl
  have sc : SameCtor a b := sameCtor_of_ctorId_eq (by
    rw [← tag a, ← tag b, ← C02.vtag_den_wf _ ca, ← C02.vtag_den_wf _ cb, den_up, den_up, h])
  cases sc with
  | num n m =>
    simp only [up_num, sameRep] at sr
    rw [sr]
  | charT i c j d =>
    simp only [up_charT, sameRep] at sr
    rw [sr.1, sr.2]
  | byteT i c j d =>
    simp only [up_byteT, sameRep] at sr
    rw [sr.1, sr.2]
  | itemT i x j y =>
    simp only [up_itemT, sameRep, den_up] at sr
    rw [key_itemT, key_itemT, sr.1, ih x (depth_item_lt i x) (canon_itemT ca) y (canon_itemT cb) sr.2]
  | entryT k v k' v' =>
    simp only [up_entryT, sameRep, den_up] at sr
    rw [key_entryT, key_entryT, ih k (depth_entry_fst_lt k v) (canon_entryT ca).1 k' (canon_entryT cb).1 sr.1,
      ih v (depth_entry_snd_lt k v) (canon_entryT ca).2 v' (canon_entryT cb).2 sr.2]
  | empty => rfl
  | true_ => rfl
  | str s o s' o' =>
    simp only [up_str, sameRep] at sr
    rw [sr.1, sr.2.1]
  | bytes s o s' o' =>
    simp only [up_bytes, sameRep] at sr
    rw [sr.1, sr.2]
  | array vs o vs' o' =>
    simp only [up_array, sameRep] at sr
    rw [key_array, key_array, sr.1]
    congr 3
    have hd := sr.2.2
    rw [denOpts_up vs (fun x _ => den_up x), denOpts_up vs' (fun x _ => den_up x)] at hd
    have hks := opts_congr den key vs vs'
      (fun x hx y hy e => ih x (depth_mem_array hx) (canon_array ca x hx) y (canon_array cb y hy) e) hd
    simpa only [List.map_map, Function.comp_def] using congrArg (List.map optKey) hks
  | generic xs ys =>
    rw [key_generic, key_generic]
    exact congrArg (fun l => K.node (.int kGenericSet :: l)) (sorted_keys_eq xs ys (canon_generic ca).2 (canon_generic cb).2
      ((V.mkSet_eq_iff _ _).1 (by rw [← den_generic, ← den_generic, h]))
      (fun x hx y hy => ih x (depth_mem_generic hx) ((canon_generic ca).1 x hx) y ((canon_generic cb).1 y hy)))
  | union bs bs' =>
    rw [key_union, key_union]
    exact congrArg (fun l => K.node (.int kUnion :: l)) (sorted_keys_eq bs bs' (canon_union ca).2 (canon_union cb).2
      (union_same ca cb h)
      (fun x hx y hy => ih x (depth_mem_union hx) ((canon_union ca).1 x hx) y ((canon_union cb).1 y hy)))
  | gtuple as bs =>
    exact key_complete_gtuple as bs ca cb h (fun p hp q hq cx cy e => ih p.2 (depth_attr_lt hp) cx q.2 cy e)
  | dict m m' =>
    exact key_complete_dict m m' ca cb h (fun e he e' he' x hx y hy cx cy ee => ih x (depth_mem_dict he hx) cx y cy ee)
  | relation ns rows ns' rows' =>
    exact key_complete_relation ns ns' rows rows' ca cb h (fun r hr r' hr' cx cy e => ih _ (depth_rowTuple_lt hr) cx _ cy e)

end Arrai.C06
