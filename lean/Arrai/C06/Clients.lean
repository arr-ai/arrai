/-
  C06 — clients of the order: orderby, rank, max/min (helper lemmas for Proofs/C06.lean).
-/
import Arrai.C06.Embed

namespace Arrai.C06
open Std

/-! ### orderby -/
def kcmp (f : Rep → Rep) (x y : Rep) : Ordering := K.cmp (key (f x)) (key (f y))

instance (f : Rep → Rep) : TransCmp (kcmp f) where
  eq_swap := K.cmp_swap _ _
  isLE_trans := fun h₁ h₂ => TransCmp.isLE_trans (cmp := K.cmp) h₁ h₂

theorem orderBy_eq_isort (f : Rep → Rep) (xs : List Rep) :
    Impl.orderBy f xs = isort (fun x y => kcmp f x y == .lt) xs :=
  isort_congr _ _ xs fun x _ y _ => less_eq (f x) (f y)

theorem kcmp_ne_gt_iff (f : Rep → Rep) (x y : Rep) : kcmp f x y ≠ .gt ↔ Impl.less (f y) (f x) = false := by
  rw [less_eq, K.lt_swap]; unfold kcmp
  cases K.cmp (key (f x)) (key (f y)) <;> simp

theorem kcmp_lt_iff (f : Rep → Rep) (x y : Rep) : kcmp f x y = .lt ↔ Impl.less (f x) (f y) = true := by
  rw [less_eq]; unfold kcmp K.lt; simp

theorem orderBy_perm (f : Rep → Rep) (xs : List Rep) : (Impl.orderBy f xs).Perm xs := isort_perm _ xs

theorem orderBy_sortedLE (f : Rep → Rep) (xs : List Rep) : SortedLE (kcmp f) (Impl.orderBy f xs) :=
  orderBy_eq_isort f xs ▸ isort_sorted (kcmp f) xs

/-- no two members have equal sort keys -/
def NoTies (f : Rep → Rep) (xs : List Rep) : Prop := xs.Pairwise (fun x y => Impl.equal (f x) (f y) = false)

theorem NoTies.perm {f : Rep → Rep} {xs ys : List Rep} (h : NoTies f xs) (hp : xs.Perm ys) : NoTies f ys := by
  unfold NoTies at *
  refine h.perm hp ?_
  intro x y hxy
  cases hyx : Impl.equal (f y) (f x) with
  | false => rfl
  | true =>
    have : Impl.equal (f x) (f y) = true := by
      simp only [Impl.equal, K.beq_iff] at *; exact hyx.symm
    rw [this] at hxy; cases hxy

theorem NoTies.kcmp_ne {f : Rep → Rep} {l : List Rep} (hn : NoTies f l) : l.Pairwise (fun x y => kcmp f x y ≠ .eq) :=
  hn.imp (fun {x y} hxy e => by
    rw [(equal_iff_key _ _).2 ((K.cmp_eq_iff _ _).1 e)] at hxy
    cases hxy)

theorem orderBy_strict {f : Rep → Rep} {xs : List Rep} (hn : NoTies f xs) :
    (Impl.orderBy f xs).Pairwise (fun x y => Impl.less (f x) (f y) = true) :=
  (sortedLT_of_ne (orderBy_sortedLE f xs) (hn.perm (orderBy_perm f xs).symm).kcmp_ne).imp
    fun h => (kcmp_lt_iff f _ _).1 h

theorem orderBy_perm_invariant {f : Rep → Rep} {xs ys : List Rep} (hn : NoTies f xs) (hp : xs.Perm ys) :
    Impl.orderBy f xs = Impl.orderBy f ys := by
  rw [orderBy_eq_isort, orderBy_eq_isort]
  exact isort_perm_of_noTies (kcmp f) hn.kcmp_ne hp

theorem orderBy_keys (f : Rep → Rep) (l : List Rep) :
    (Impl.orderBy f l).map (fun x => key (f x)) = isort K.lt (l.map (fun x => key (f x))) :=
  map_isort (fun x => key (f x)) (fun _ _ _ _ => less_eq _ _)

/-- sorted key sequences do not depend on the enumeration order even with ties -/
theorem orderBy_keys_perm_invariant (f : Rep → Rep) {xs ys : List Rep} (hp : xs.Perm ys) :
    (Impl.orderBy f xs).map (fun x => key (f x)) = (Impl.orderBy f ys).map (fun x => key (f x)) := by
  rw [orderBy_keys, orderBy_keys]
  exact isort_perm_invariant K.cmp (hp.map _)

/-! ### max / min -/

/-- the accumulator loop of `NewMaxExpr` and `NewMinExpr`: `v` replaces the accumulator when `better acc v` -/
def pickLoop (better : Rep → Rep → Bool) : Option Rep → List Rep → Option Rep
  | acc, [] => acc
  | none, v :: vs => pickLoop better (some v) vs
  | some acc, v :: vs => if better acc v then pickLoop better (some v) vs else pickLoop better (some acc) vs

theorem maxLoop_eq_pick : ∀ (acc : Option Rep) (l : List Rep), Impl.maxLoop acc l = pickLoop Impl.less acc l
  | _, [] => rfl
  | none, v :: vs => maxLoop_eq_pick (some v) vs
  | some a, v :: vs => by
    simp only [Impl.maxLoop, pickLoop, maxLoop_eq_pick (some v) vs, maxLoop_eq_pick (some a) vs]

theorem minLoop_eq_pick : ∀ (acc : Option Rep) (l : List Rep),
    Impl.minLoop acc l = pickLoop (fun a v => Impl.less v a) acc l
  | _, [] => rfl
  | none, v :: vs => minLoop_eq_pick (some v) vs
  | some a, v :: vs => by
    simp only [Impl.minLoop, pickLoop, minLoop_eq_pick (some v) vs, minLoop_eq_pick (some a) vs]

/-- `better a y = false ∨ y ∈ l`: the accumulator is unbettered by what the loop has passed, so going forward
transitivity is enough -/
theorem pickLoop_from {better : Rep → Rep → Bool} (irrefl : ∀ a, better a a = false)
    (trans : ∀ {a b c}, better a b = true → better b c = true → better a c = true) :
    ∀ (l : List Rep) (a m : Rep), pickLoop better (some a) l = some m →
      (m = a ∨ m ∈ l) ∧ ∀ y, better a y = false ∨ y ∈ l → better m y = false
  | [], a, m, h => by
    cases h
    exact ⟨.inl rfl, fun y hy => hy.elim id (fun h => nomatch h)⟩
  | v :: vs, a, m, h => by
    simp only [pickLoop] at h
    split at h
    · -- `v` replaces `a`: what betters `v` betters `a`
      rename_i hav
      obtain ⟨h1, h2⟩ := pickLoop_from irrefl trans vs v m h
      refine ⟨.inr (h1.elim (fun e => e ▸ List.mem_cons_self ..) (List.mem_cons_of_mem _)), fun y hy => h2 y ?_⟩
      rcases hy with hy | hy
      · cases hvy : better v y with
        | false => exact .inl rfl
        | true => rw [trans hav hvy] at hy; cases hy
      · exact (List.mem_cons.1 hy).imp (fun (e : y = v) => e ▸ irrefl v) id
    · -- `a` stays, because `v` does not better it
      rename_i hav
      obtain ⟨h1, h2⟩ := pickLoop_from irrefl trans vs a m h
      refine ⟨h1.imp_right (List.mem_cons_of_mem _), fun y hy => h2 y ?_⟩
      rcases hy with hy | hy
      · exact .inl hy
      · exact (List.mem_cons.1 hy).imp (fun (e : y = v) => e ▸ Bool.eq_false_iff.2 hav) id

theorem pickLoop_spec {better : Rep → Rep → Bool} (irrefl : ∀ a, better a a = false)
    (trans : ∀ {a b c}, better a b = true → better b c = true → better a c = true) :
    ∀ (l : List Rep) (m : Rep), pickLoop better none l = some m → m ∈ l ∧ ∀ y ∈ l, better m y = false
  | [], _, h => nomatch h
  | v :: vs, m, h => by
    obtain ⟨h1, h2⟩ := pickLoop_from irrefl trans vs v m h
    exact ⟨h1.elim (fun e => e ▸ List.mem_cons_self ..) (List.mem_cons_of_mem _),
      fun y hy => h2 y ((List.mem_cons.1 hy).imp (fun (e : y = v) => e ▸ irrefl v) id)⟩

theorem pickLoop_some (better : Rep → Rep → Bool) : ∀ (l : List Rep) (a : Rep), ∃ m, pickLoop better (some a) l = some m
  | [], a => ⟨a, rfl⟩
  | v :: vs, a => by
    simp only [pickLoop]
    split
    · exact pickLoop_some better vs v
    · exact pickLoop_some better vs a

/-! ### rank -/
theorem rankLoop_eq (f : Rep → Rep) (l : List Rep) (i rank : Nat) (cur : Option Rep)
    (hs : SortedLE (kcmp f) l) (hc : ∀ c, cur = some c → ∀ y ∈ l, K.cmp (key c) (key (f y)) ≠ .gt) :
    Impl.rankLoop f l i rank cur = l.map fun r => (r, if cur.any (Impl.equal (f r)) then rank else
      i + (l.filter fun y => K.lt (key (f y)) (key (f r))).length) := by
  refine rankLoop_closed K.lt K.lt_irrefl K.not_lt_not_lt_eq (fun r => key (f r)) (Option.map key)
    (fun r s => s.any (Impl.equal (f r))) ?_ Prod.mk (Impl.rankLoop f) (fun _ _ _ => rfl) ?_ l i rank cur
    (hs.imp K.not_lt_of_ne_gt) (fun k hk y hy => ?_)
  · intro r s
    cases s with
    | none => exact ⟨(nomatch ·), (nomatch ·)⟩
    | some c => exact (equal_iff_key _ _).trans ⟨fun h => congrArg some h.symm, fun h => (Option.some.inj h).symm⟩
  · intro r rs i rk s
    cases s with
    | none => exact ⟨some (f r), rfl, rfl⟩
    | some c =>
      by_cases h : Impl.equal (f r) c = true
      · -- on a tie the loop keeps the earlier ranker, which has the same key
        exact ⟨some c, congrArg some ((equal_iff_key _ _).1 h).symm, by simp [Impl.rankLoop, h]⟩
      · exact ⟨some (f r), rfl, by simp [Impl.rankLoop, h]⟩
  · cases cur with
    | none => cases hk
    | some c => cases hk; exact K.not_lt_of_ne_gt (hc c rfl y hy)

end Arrai.C06
