/-
  C06 — "`<` is a strict total order consistent with `=`, and sorting follows it".

  `Rep`  : what the Go evaluator holds — one constructor per Go type implementing `rel.Value` in the
           data fragment.  Every frozen set / map / Go map is a list whose order *is* the
           enumeration order (arbitrary; fixed per process by the hash seeds).
  `den`  : the meaning of a representation in `Arrai.V`.
  `Impl` : transliteration of the `Less` methods of /repo/rel (AS REPAIRED by the `fix:` commits of
           this property), `Kind()`, the operator table `compareOps`, `OrderBy`,
           `OrderedValueEnumerator`, `Rank`, `NewMaxExpr`/`NewMinExpr`, and of `SetBuilder` /
           `NewTuple` / `Negate` (how literals become representations).
  `Old`  : the same `Less` rules before the repairs (witnesses of the defects).

  Recursion.  Go's `a.Less(b)` dispatches dynamically and recurses into members of *both*
  operands (and sorts the members of each operand with `Less` itself).  The transliteration
  is therefore written with open recursion: `lessStep eqv rec a b` is one `Less` method body with
  every nested `x.Less(y)` replaced by `rec x y` (and `x.Equal(y)` by `eqv x y`); `lessN n` ties
  the knot `n` times and `less a b` supplies the nesting depth of the operands as `n`
  (`Proofs/C06.less_fuel_stable`: any larger `n` gives the same answer).

  `Equal`.  The anchored code of C06 calls `Equal` in `Dict.Less`, `DictEntryTuple.Less` and `Rank`.
  It is modelled as equality of canonical forms (`key`, below) — see `props_c06.py`, trusted base.

  Core-only (linked into the driver executable).
-/
import Arrai.Core.Lit
import Arrai.C06.Expected

namespace Arrai.C06

/-! ## Representations -/

inductive Rep where
  | num (n : Int)                                   -- Number
  | gtuple (attrs : List (String × Rep))            -- *GenericTuple (frozen map: enumeration order)
  | charT (i : Int) (ch : Int)                      -- StringCharTuple
  | byteT (i : Int) (b : Int)                       -- BytesByteTuple
  | itemT (i : Int) (item : Rep)                    -- ArrayItemTuple
  | entryT (k v : Rep)                              -- DictEntryTuple
  | empty                                           -- EmptySet
  | true_                                           -- TrueSet
  | generic (xs : List Rep)                         -- GenericSet: members in enumeration order
  | str (s : List Int) (off : Int)                  -- String: runes, a negative rune is a hole
  | bytes (b : List Int) (off : Int)                -- Bytes
  | array (vs : List (Option Rep)) (off : Int)      -- Array: `none` is a hole (nil)
  | dict (m : List (List Rep))                      -- Dict: entries `key :: values` (one value, or multipleValues)
  | relation (attrs : List String) (rows : List (List Rep))   -- Relation: column names, positional rows
  | union (bs : List Rep)                           -- UnionSet: the bucket subsets
  deriving Inhabited

/-- one layer of `Rep` with `β` at the recursive positions -/
inductive RepF (β : Type) where
  | num (n : Int)
  | gtuple (attrs : List (String × β))
  | charT (i : Int) (ch : Int)
  | byteT (i : Int) (b : Int)
  | itemT (i : Int) (item : β)
  | entryT (k v : β)
  | empty
  | true_
  | generic (xs : List β)
  | str (s : List Int) (off : Int)
  | bytes (b : List Int) (off : Int)
  | array (vs : List (Option β)) (off : Int)
  | dict (m : List (List β))
  | relation (attrs : List String) (rows : List (List β))
  | union (bs : List β)

/-! ### the one structural recursion over `Rep`: a fold -/
section Cata
variable {β : Type} (alg : RepF β → β)

mutual
def cata : Rep → β
  | .num n => alg (.num n)
  | .gtuple as => alg (.gtuple (cataA as))
  | .charT i c => alg (.charT i c)
  | .byteT i b => alg (.byteT i b)
  | .itemT i x => alg (.itemT i (cata x))
  | .entryT k v => alg (.entryT (cata k) (cata v))
  | .empty => alg .empty
  | .true_ => alg .true_
  | .generic xs => alg (.generic (cataL xs))
  | .str s off => alg (.str s off)
  | .bytes b off => alg (.bytes b off)
  | .array vs off => alg (.array (cataO vs) off)
  | .dict m => alg (.dict (cataLL m))
  | .relation ns rows => alg (.relation ns (cataLL rows))
  | .union bs => alg (.union (cataL bs))
def cataL : List Rep → List β
  | [] => []
  | x :: xs => cata x :: cataL xs
def cataA : List (String × Rep) → List (String × β)
  | [] => []
  | (n, x) :: r => (n, cata x) :: cataA r
def cataO : List (Option Rep) → List (Option β)
  | [] => []
  | none :: r => none :: cataO r
  | some x :: r => some (cata x) :: cataO r
def cataLL : List (List Rep) → List (List β)
  | [] => []
  | l :: r => cataL l :: cataLL r
end
end Cata

/-! ## Sorting: insertion sort as the model of `sort.Slice` / `sort.Sort` / `frozen`'s ordered ranges.
`Proofs/C06.sort_unique`: for a strict total order on distinct keys every correct sort returns this list. -/

def insertBy {α : Type} (lt : α → α → Bool) (x : α) : List α → List α
  | [] => [x]
  | y :: ys => if lt x y then x :: y :: ys else y :: insertBy lt x ys

def isort {α : Type} (lt : α → α → Bool) : List α → List α
  | [] => []
  | x :: xs => insertBy lt x (isort lt xs)

def strLt (a b : String) : Bool := compare a b == .lt

/-! ## Kind numbers (`registerKind`), tied to the regenerated table by `Proofs/C06.kind_constants` -/
def kNumber : Int := 100
def kEmpty : Int := 198
def kTrue : Int := 199
def kGenericSet : Int := 200
def kString : Int := 204
def kBytes : Int := 207
def kArray : Int := 208
def kDict : Int := 209
def kUnion : Int := 210
def kRelation : Int := 211
def kGenericTuple : Int := 300
def kCharT : Int := 301
def kItemT : Int := 302
def kEntryT : Int := 303
def kByteT : Int := 304

def negateTag : String := "@neg"

/-- `t.Count() == 1` and `t.Get(negateTag)` -/
def negInner {β : Type} : List (String × β) → Option β
  | [(n, x)] => if n = negateTag then some x else none
  | _ => none

/-- `GenericTuple.Kind` (repaired): a wrapper `(@neg: x)` has kind `-x.Kind()` unless `x` is itself a wrapper -/
def negKind : Option Int → Int
  | some k => if k > 0 then -k else kGenericTuple
  | none => kGenericTuple

-- `Kind()` of every type
def kindAlg : RepF Int → Int
  | .num _ => kNumber
  | .gtuple as => negKind (negInner as)
  | .charT _ _ => kCharT
  | .byteT _ _ => kByteT
  | .itemT _ _ => kItemT
  | .entryT _ _ => kEntryT
  | .empty => kEmpty
  | .true_ => kTrue
  | .generic _ => kGenericSet
  | .str _ _ => kString
  | .bytes _ _ => kBytes
  | .array _ _ => kArray
  | .dict _ => kDict
  | .relation _ _ => kRelation
  | .union _ => kUnion

def kind : Rep → Int := cata kindAlg

/-! ## Nesting depth (the fuel of `less`) -/
def maxL : List Nat → Nat
  | [] => 0
  | x :: xs => max x (maxL xs)

def optDepth : Option Nat → Nat
  | none => 0
  | some d => d

def depthAlg : RepF Nat → Nat
  | .num _ | .charT _ _ | .byteT _ _ | .empty | .true_ | .str _ _ | .bytes _ _ => 0
  | .gtuple as => 1 + maxL (as.map (·.2))
  | .itemT _ d => 1 + d
  | .entryT a b => 1 + max a b
  | .generic ds => 1 + maxL ds
  | .array vs _ => 1 + maxL (vs.map optDepth)
  | .dict m => 1 + maxL (m.map maxL)
  | .relation _ rows => 2 + maxL (rows.map maxL)     -- a row is compared as a tuple: one more level
  | .union ds => 1 + maxL ds

def depth : Rep → Nat := cata depthAlg

/-- `names[i] ↦ row[i]` -/
def zipNames {β : Type} : List String → List β → List (String × β)
  | n :: ns, v :: vs => (n, v) :: zipNames ns vs
  | _, _ => []

/-! ## Meaning -/
def members : V → List V
  | .set l => l
  | _ => []

def runeV (c : Int) : Option V := if c < 0 then none else some (.num c)

def entryV : List V → List V
  | k :: vs => vs.map (fun v => V.mkTup [("@", k), ("@value", v)])
  | [] => []

def denAlg : RepF V → V
  | .num n => .num n
  | .gtuple as => V.mkTup as
  | .charT i c => V.mkTup [("@", .num i), ("@char", .num c)]
  | .byteT i b => V.mkTup [("@", .num i), ("@byte", .num b)]
  | .itemT i x => V.mkTup [("@", .num i), ("@item", x)]
  | .entryT k v => V.mkTup [("@", k), ("@value", v)]
  | .empty => V.none
  | .true_ => V.tt
  | .generic xs => V.mkSet xs
  | .str s off => V.mkSeq "@char" off (s.map runeV)
  | .bytes b off => V.mkSeq "@byte" off (b.map (fun c => some (.num c)))
  | .array vs off => V.mkSeq "@item" off vs
  | .dict m => V.mkSet (m.flatMap entryV)
  | .relation ns rows => V.mkSet (rows.map (fun row => V.mkTup (zipNames ns row)))
  | .union bs => V.mkSet (bs.flatMap members)

def den : Rep → V := cata denAlg

/-! ## Canonical order keys

`K` is a plain tree order: integers, names, lists compared lexicographically (a proper prefix is
smaller) and `rev k`, which reverses the order below it (the `(@neg: x)` wrappers).  `key a` lays
out a value exactly as the `Less` methods look at it: kind first, then the content in the order
the method compares it, members sorted.  `Lemmas.lean` proves that `K.cmp` is a linear order,
`Embed.lean` that `less a b = K.lt (key a) (key b)` (`less_eq`). -/

inductive K where
  | int (n : Int)
  | name (s : String)
  | node (l : List K)
  | rev (k : K)
  deriving Inhabited

namespace K
mutual
def cmp : K → K → Ordering
  | .int a, .int b => compare a b
  | .int _, .name _ => .lt
  | .int _, .node _ => .lt
  | .int _, .rev _ => .lt
  | .name _, .int _ => .gt
  | .name a, .name b => compare a b
  | .name _, .node _ => .lt
  | .name _, .rev _ => .lt
  | .node _, .int _ => .gt
  | .node _, .name _ => .gt
  | .node a, .node b => cmpList a b
  | .node _, .rev _ => .lt
  | .rev _, .int _ => .gt
  | .rev _, .name _ => .gt
  | .rev _, .node _ => .gt
  | .rev a, .rev b => (cmp a b).swap
def cmpList : List K → List K → Ordering
  | [], [] => .eq
  | [], _ :: _ => .lt
  | _ :: _, [] => .gt
  | a :: as, b :: bs => (cmp a b).then (cmpList as bs)
end

def lt (a b : K) : Bool := cmp a b == .lt
def beq (a b : K) : Bool := cmp a b == .eq

/-- the kind number at the head of a key -/
def kindOf : K → Int
  | .node (.int k :: _) => k
  | _ => 0
end K

def optKey : Option K → K
  | some k => .node [.int 0, k]      -- a present item sorts before a hole
  | none => .node [.int 1]

def attrsKey (as : List (String × K)) : List K :=
  (isort (fun p q => strLt p.1 q.1) as).flatMap (fun p => [K.name p.1, p.2])

def negKey (as : List (String × K)) : Option K → K
  | some k => if K.kindOf k > 0 then .node [.int (-(K.kindOf k)), .rev k] else .node (.int kGenericTuple :: attrsKey as)
  | none => .node (.int kGenericTuple :: attrsKey as)

def tupleKeyAlg (as : List (String × K)) : K := negKey as (negInner as)

/-- the key of an entry `key :: values` (an entry without a key is not constructible; it reads as key `{}`) -/
def entryHead : List K → K
  | k :: _ => k
  | [] => .node [.int kEmpty]

def entryKey (e : List K) : K := .node [entryHead e, .node (isort K.lt e.tail)]

def keyAlg : RepF K → K
  | .num n => .node [.int kNumber, .int n]
  | .gtuple as => tupleKeyAlg as
  | .charT i c => .node [.int kCharT, .int i, .int c]
  | .byteT i b => .node [.int kByteT, .int i, .int b]
  | .itemT i x => .node [.int kItemT, .int i, x]
  | .entryT k v => .node [.int kEntryT, k, v]
  | .empty => .node [.int kEmpty]
  | .true_ => .node [.int kTrue]
  | .generic ks => .node (.int kGenericSet :: isort K.lt ks)
  | .str s off => .node (.int kString :: .int off :: s.map K.int)
  | .bytes b off => .node (.int kBytes :: .int off :: b.map K.int)
  | .array vs off => .node (.int kArray :: .int off :: vs.map optKey)
  | .dict m => .node (.int kDict :: (isort (fun e f => K.lt (entryHead e) (entryHead f)) m).map entryKey)
  | .relation ns rows =>
    .node [.int kRelation, .int ns.length, .node ((isort strLt ns).map K.name), .int rows.length,
           .node (isort K.lt (rows.map (fun row => tupleKeyAlg (zipNames ns row))))]
  | .union ks => .node (.int kUnion :: isort K.lt ks)

def key : Rep → K := cata keyAlg

/-! ## Impl -/
namespace Impl

/-- `Equal`: equality of canonical forms (see the header) -/
def equal (a b : Rep) : Bool := K.beq (key a) (key b)

/-- the lexicographic loop of `GenericSet.Less` / `UnionSet.Less` over two ordered enumerations -/
def lexLoop (rec : Rep → Rep → Bool) : List Rep → List Rep → Bool
  | [], bs => !bs.isEmpty                  -- `if !a.MoveNext() { return b.MoveNext() }`
  | _ :: _, [] => false                    -- `if !b.MoveNext() { return false }`
  | a :: as, b :: bs => if rec a b then true else if rec b a then false else lexLoop rec as bs

/-- `GenericTuple.Less`: names in `TupleOrderedNames` order, then `len(a) < len(b)` -/
def tupleLoop (rec : Rep → Rep → Bool) : List (String × Rep) → List (String × Rep) → Bool
  | [], bs => !bs.isEmpty
  | _ :: _, [] => false
  | (n, x) :: as, (m, y) :: bs =>
    if n ≠ m then strLt n m
    else if rec x y then true else if rec y x then false else tupleLoop rec as bs

/-- `Array.Less` (repaired): a hole in both arrays continues; an item is smaller than a hole -/
def arrayLoop (rec : Rep → Rep → Bool) : List (Option Rep) → List (Option Rep) → Bool
  | [], bs => !bs.isEmpty                  -- `return len(a.values) < len(b.values)`
  | _ :: _, [] => false
  | av :: as, bv :: bs =>
    match bv, av with
    | none, none => arrayLoop rec as bs
    | none, some _ => true
    | some _, none => false
    | some y, some x => if rec x y then true else if rec y x then false else arrayLoop rec as bs

/-- rune / byte slices: first difference decides, then the shorter one is smaller -/
def intsLoop : List Int → List Int → Bool
  | [], bs => !bs.isEmpty
  | _ :: _, [] => false
  | a :: as, b :: bs => if a ≠ b then decide (a < b) else intsLoop as bs

/-- the value loop of `Dict.Less` for one key: `some r` = decided, `none` = all equal -/
def valuesLoop (eqv rec : Rep → Rep → Bool) : List Rep → List Rep → Option Bool
  | [], [] => none
  | [], _ :: _ => some true                -- `len(dValues) != len(vValues)`: `len(dValues) < len(vValues)`
  | _ :: _, [] => some false
  | x :: xs, y :: ys => if !eqv x y then some (rec x y) else valuesLoop eqv rec xs ys

/-- `some r`: decided; `none`: go on with `d` -/
def optOr : Option Bool → Bool → Bool
  | some r, _ => r
  | none, d => d

def entryHeadR : List Rep → Rep
  | k :: _ => k
  | [] => .empty

/-- `Dict.Less` over the entries in key order -/
def dictLoop (eqv rec : Rep → Rep → Bool) : List (List Rep) → List (List Rep) → Bool
  | [], fs => !fs.isEmpty                  -- `return len(dKeys) < len(vKeys)`
  | _ :: _, [] => false
  | e :: es, f :: fs =>
    if !eqv (entryHeadR e) (entryHeadR f) then rec (entryHeadR e) (entryHeadR f)
    else optOr (valuesLoop eqv rec (isort rec e.tail) (isort rec f.tail)) (dictLoop eqv rec es fs)

/-- `valuesToTuple`: a positional row as a tuple -/
def rowTuple (ns : List String) (row : List Rep) : Rep := .gtuple (zipNames ns row)

/-- `NamesSlice.LessNamesSlice` (strict): length first, then the sorted names -/
def namesLoop : List String → List String → Bool
  | a :: as, b :: bs => if strLt a b then true else if strLt b a then false else namesLoop as bs
  | _, _ => false
def lessNames (a b : List String) : Bool :=
  if a.length ≠ b.length then decide (a.length < b.length) else namesLoop (isort strLt a) (isort strLt b)
/-- `NamesSlice.EqualNamesSlice` -/
def equalNames (a b : List String) : Bool :=
  a.length == b.length && isort strLt a == isort strLt b

/-- the row loop of `Relation.Less`: `for i.MoveNext() && j.MoveNext()`, `false` at the end -/
def rowsLoop (rec : Rep → Rep → Bool) : List Rep → List Rep → Bool
  | a :: as, b :: bs => if rec a b then true else if rec b a then false else rowsLoop rec as bs
  | _, _ => false

/-- the `(@neg: x)` branch of `GenericTuple.Less`:
`if y, ok := v.(Tuple).Get(negateTag); ok { return y.Less(x) }` -/
def negLoop (rec : Rep → Rep → Bool) (as bs : List (String × Rep)) : Bool :=
  match negInner as, negInner bs with
  | some x, some y => rec y x
  | _, _ => false                          -- Go panics; unreachable: a negative kind is a wrapper

/-- one `Less` method body (receiver `a`), nested `Less` calls replaced by `rec`, `Equal` by `eqv` -/
def lessStep (eqv rec : Rep → Rep → Bool) (a b : Rep) : Bool :=
  -- every method starts with: `if x.Kind() != v.Kind() { return x.Kind() < v.Kind() }`
  if kind a ≠ kind b then decide (kind a < kind b)
  else match a, b with
  | .num x, .num y => decide (x < y)
  | .gtuple as, .gtuple bs =>
    if kind a < 0 then negLoop rec as bs
    else
      tupleLoop rec (isort (fun p q => strLt p.1 q.1) as) (isort (fun p q => strLt p.1 q.1) bs)
  | .charT i c, .charT j d => if i ≠ j then decide (i < j) else decide (c < d)
  | .byteT i c, .byteT j d => if i ≠ j then decide (i < j) else decide (c < d)
  | .itemT i x, .itemT j y => if i ≠ j then decide (i < j) else rec x y
  | .entryT k v, .entryT k' v' => if !eqv k k' then rec k k' else rec v v'
  | .empty, .empty => false                -- EmptySet.Less (repaired): kinds only
  | .true_, .true_ => false                -- TrueSet.Less (repaired): kinds only
  | .generic xs, .generic ys => lexLoop rec (isort rec xs) (isort rec ys)
  | .str s off, .str t off' =>             -- String.Less (repaired): offsets, then runes
    if off ≠ off' then decide (off < off') else intsLoop s t
  | .bytes s off, .bytes t off' =>         -- Bytes.Less (repaired)
    if off ≠ off' then decide (off < off') else intsLoop s t
  | .array vs off, .array ws off' =>
    if off ≠ off' then decide (off < off') else arrayLoop rec vs ws
  | .dict m, .dict m' =>
    dictLoop eqv rec (isort (fun e f => rec (entryHeadR e) (entryHeadR f)) m)
      (isort (fun e f => rec (entryHeadR e) (entryHeadR f)) m')
  | .relation ns rows, .relation ns' rows' =>    -- Relation.Less (repaired)
    if !equalNames ns ns' then lessNames ns ns'
    else if rows.length ≠ rows'.length then decide (rows.length < rows'.length)
    else rowsLoop rec (isort rec (rows.map (rowTuple ns))) (isort rec (rows'.map (rowTuple ns')))
  | .union xs, .union ys => lexLoop rec (isort rec xs) (isort rec ys)
  | _, _ => false      -- equal kinds are the same Go type (`Proofs/C06.kind_eq_same_type`): the assertion holds

def lessN : Nat → Rep → Rep → Bool
  | 0, _, _ => false
  | n + 1, a, b => lessStep equal (lessN n) a b

/-- `a.Less(b)` -/
def less (a b : Rep) : Bool := lessN (max (depth a) (depth b) + 1) a b

/-! ### the comparison operators (`compareOps`, see `Expected.compareOps`) -/
def opLt (a b : Rep) : Bool := less a b          -- "<"  : a.Less(b)
def opLe (a b : Rep) : Bool := !less b a         -- "<=" : !b.Less(a)
def opGt (a b : Rep) : Bool := less b a          -- ">"  : b.Less(a)
def opGe (a b : Rep) : Bool := !less a b         -- ">=" : !a.Less(b)
def opEq (a b : Rep) : Bool := equal a b         -- "="  : a.Equal(b)
def opNe (a b : Rep) : Bool := !equal a b        -- "!=" : !a.Equal(b)

/-- the operator named `op` of the table, by its extracted text -/
def opOfText (text : String) (a b : Rep) : Option Bool :=
  if text = "a.Less(b)" then some (less a b)
  else if text = "!b.Less(a)" then some (!less b a)
  else if text = "b.Less(a)" then some (less b a)
  else if text = "!a.Less(b)" then some (!less a b)
  else if text = "a.Equal(b)" then some (equal a b)
  else if text = "!a.Equal(b)" then some (!equal a b)
  else none

/-! ### sorting clients -/

/-- `OrderBy(s, key, less)`: values and keys collected in enumeration order, `sort.Sort` on the keys -/
def orderBy (keyf : Rep → Rep) (xs : List Rep) : List Rep :=
  isort (fun x y => less (keyf x) (keyf y)) xs

/-- `OrderedValueEnumerator(e, ValueLess)` / `OrderedValues()`: what printing walks -/
def orderedValues (xs : List Rep) : List Rep := isort less xs

/-- `Rank` for one ranking attribute: entries sorted by the ranker, an entry's rank is the position of the
first entry of its run of `Equal` rankers.  Result: `(input, rank)` in sorted order. -/
def rankLoop (keyf : Rep → Rep) : List Rep → Nat → Nat → Option Rep → List (Rep × Nat)
  | [], _, _, _ => []
  | r :: rs, i, rank, current =>
    let a := keyf r
    match current with
    | some c =>
      if !equal a c then (r, i) :: rankLoop keyf rs (i + 1) i (some a)
      else (r, rank) :: rankLoop keyf rs (i + 1) rank current
    | none => (r, i) :: rankLoop keyf rs (i + 1) i (some a)

def rank (keyf : Rep → Rep) (xs : List Rep) : List (Rep × Nat) :=
  rankLoop keyf (isort (fun x y => less (keyf x) (keyf y)) xs) 0 0 none

/-- `NewMaxExpr`: `if acc == nil || acc.Less(v) { acc = v }` over the enumeration -/
def maxLoop : Option Rep → List Rep → Option Rep
  | acc, [] => acc
  | none, v :: vs => maxLoop (some v) vs
  | some acc, v :: vs => if less acc v then maxLoop (some v) vs else maxLoop (some acc) vs
def maxOf (xs : List Rep) : Option Rep := maxLoop none xs

/-- `NewMinExpr`: `if acc == nil || v.Less(acc) { acc = v }` -/
def minLoop : Option Rep → List Rep → Option Rep
  | acc, [] => acc
  | none, v :: vs => minLoop (some v) vs
  | some acc, v :: vs => if less v acc then minLoop (some v) vs else minLoop (some acc) vs
def minOf (xs : List Rep) : Option Rep := minLoop none xs

/-! ### how values are constructed: `NewTuple`, `Negate`, `NewOffsetArray`, `SetBuilder` -/

/-- `NewTuple` / `TupleBuilder.Finish`: `(@: i, @char|@byte|@item|@value: v)` become the specialised tuples.
(A non-numeric `@`/`@char`/`@byte` panics in Go — pinned by the suite, outside the data fragment; kept generic here.) -/
def newTuple (as : List (String × Rep)) : Rep :=
  match as with
  | [(n1, v1), (n2, v2)] =>
    let a0 := if n2 = "@" then (n2, v2) else (n1, v1)
    let a1 := if n2 = "@" then (n1, v1) else (n2, v2)
    if a0.1 = "@" then
      if a1.1 = "@value" then .entryT a0.2 a1.2
      else match a0.2 with
        | .num i =>
          if a1.1 = "@item" then .itemT i a1.2
          else match a1.2 with
            | .num c => if a1.1 = "@char" then .charT i c else if a1.1 = "@byte" then .byteT i c else .gtuple as
            | _ => .gtuple as
        | _ => .gtuple as
    else .gtuple as
  | _ => .gtuple as

/-- `Negate()` of every type -/
def negate : Rep → Rep
  | .num n => .num (-n)
  | .gtuple as =>
    match negInner as with
    | some x => x
    | none => if as.isEmpty then .gtuple as else .gtuple [(negateTag, .gtuple as)]
  | .charT i c => .charT (-i) (-c)
  | .byteT i b => .byteT (-i) ((256 - b) % 256)
  | .itemT i x => .itemT (-i) (negate x)
  | .entryT k v => .entryT (negate k) (negate v)
  | r => .gtuple [(negateTag, r)]

def dropNones : List (Option Rep) → (Nat × List (Option Rep))
  | none :: r => let (n, l) := dropNones r; (n + 1, l)
  | l => (0, l)

/-- `NewOffsetArray`: holes are trimmed from both ends; nothing left is the empty set -/
def mkArray (off : Int) (vs : List (Option Rep)) : Rep :=
  let (n, l) := dropNones vs
  let l := (dropNones l.reverse).2.reverse
  if l.isEmpty then .empty else .array l (off + n)

inductive Bucket where
  | generic | chars | bytes | items | entries
  | heading (ns : List String)
  deriving DecidableEq, Inhabited

/-- `getBucket()` -/
def bucketOf : Rep → Bucket
  | .charT _ _ => .chars
  | .byteT _ _ => .bytes
  | .itemT _ _ => .items
  | .entryT _ _ => .entries
  | .gtuple as => if as.isEmpty then .generic else .heading (isort strLt (as.map (·.1)))
  | _ => .generic

/-- `SetBuilder.Add`: append to the bucket's builder (buckets in order of first use) -/
def addToBucket (v : Rep) : List (Bucket × List Rep) → List (Bucket × List Rep)
  | [] => [(bucketOf v, [v])]
  | (b, vs) :: r => if b = bucketOf v then (b, vs ++ [v]) :: r else (b, vs) :: addToBucket v r

/-- frozen set semantics: a member `Equal` to an earlier one is dropped -/
def dedupR : List Rep → List Rep → List Rep
  | acc, [] => acc.reverse
  | acc, x :: xs => if acc.any (fun y => equal y x) then dedupR acc xs else dedupR (x :: acc) xs

def minI : List Int → Int
  | [] => 0
  | [x] => x
  | x :: xs => min x (minI xs)
def maxI : List Int → Int
  | [] => 0
  | [x] => x
  | x :: xs => max x (maxI xs)

/-- `asString`/`asBytes`/`asArray`: a slice from the least to the greatest index, filled in enumeration order
(a later tuple at the same index overwrites: `KF-superimposed`) -/
def fillSlots {α : Type} (fill : α) (lo : Int) (n : Nat) (ts : List (Int × α)) : List α :=
  (List.range n).map (fun (k : Nat) =>
    match (ts.reverse.find? (fun t => t.1 == lo + Int.ofNat k)) with
    | some t => t.2
    | none => fill)

def charsOf : List Rep → List (Int × Int)
  | .charT i c :: r => (i, c) :: charsOf r
  | .byteT i c :: r => (i, c) :: charsOf r
  | _ :: r => charsOf r
  | [] => []
def itemsOf : List Rep → List (Int × Option Rep)
  | .itemT i x :: r => (i, some x) :: itemsOf r
  | _ :: r => itemsOf r
  | [] => []

/-- `NewDict(true, entries…)`: a repeated key collects its distinct values -/
def dictPut (k v : Rep) : List (List Rep) → List (List Rep)
  | [] => [[k, v]]
  | e :: r =>
    match e with
    | k' :: vs => if equal k' k then (if vs.any (fun w => equal w v) then e :: r else (k' :: (vs ++ [v])) :: r)
                  else e :: dictPut k v r
    | [] => dictPut k v r
def entriesOf : List Rep → List (List Rep) → List (List Rep)
  | .entryT k v :: r, acc => entriesOf r (dictPut k v acc)
  | _ :: r, acc => entriesOf r acc
  | [], acc => acc

def lookupAttr (n : String) : List (String × Rep) → Rep
  | [] => .empty
  | (m, v) :: r => if m = n then v else lookupAttr n r
def rowOf (ns : List String) : Rep → List Rep
  | .gtuple as => ns.map (fun n => lookupAttr n as)
  | _ => []
def rowsEqual (a b : List Rep) : Bool := equal (.generic [.array (a.map some) 0]) (.generic [.array (b.map some) 0])
def dedupRows : List (List Rep) → List (List Rep) → List (List Rep)
  | acc, [] => acc.reverse
  | acc, x :: xs => if acc.any (fun y => rowsEqual y x) then dedupRows acc xs else dedupRows (x :: acc) xs

/-- the bucket's `Finish` -/
def finishBucket : Bucket × List Rep → Rep
  | (.generic, vs) =>
    -- genericSetFinish → newSetFromFrozenSet
    match dedupR [] vs with
    | [] => .empty
    | [x] => if equal x (.gtuple []) then .true_ else .generic [x]
    | xs => .generic xs
  | (.chars, vs) =>
    let ts := charsOf vs
    let lo := minI (ts.map (·.1))
    .str (fillSlots (-1) lo (maxI (ts.map (·.1)) - lo + 1).toNat ts) lo
  | (.bytes, vs) =>
    let ts := charsOf vs
    let lo := minI (ts.map (·.1))
    .bytes (fillSlots 0 lo (maxI (ts.map (·.1)) - lo + 1).toNat ts) lo
  | (.items, vs) =>
    let ts := itemsOf vs
    let lo := minI (ts.map (·.1))
    .array (fillSlots none lo (maxI (ts.map (·.1)) - lo + 1).toNat ts) lo
  | (.entries, vs) => .dict (entriesOf vs [])
  | (.heading ns, vs) => .relation ns (dedupRows [] (vs.map (rowOf ns)))

/-- `NewSet(values…)` = `SetBuilder.Add`* ; `Finish` -/
def build (vs : List Rep) : Rep :=
  match vs.foldl (fun acc v => addToBucket v acc) [] with
  | [] => .empty
  | [g] => finishBucket g
  | gs => .union (gs.map finishBucket)

/-! ### literals -/
mutual
def ofLit : Lit → Rep
  | .num n => .num n
  | .str off cs => if cs.isEmpty then .empty else .str (cs.map Int.ofNat) off
  | .bytes off bs => if bs.isEmpty then .empty else .bytes (bs.map Int.ofNat) off
  | .arr off xs => mkArray off (ofLitOpts xs)
  | .dict kvs => if kvs.isEmpty then .empty else .dict (ofLitPairs kvs)
  | .set xs => build (ofLitList xs)
  | .tup kvs => newTuple (ofLitAttrs kvs)
  | .rel names rows => build ((ofLitRows rows).map (fun row => newTuple (zipNames names row)))
  | .tt => .true_
  | .ff => .empty
def ofLitOpts : List (Option Lit) → List (Option Rep)
  | [] => []
  | some x :: r => some (ofLit x) :: ofLitOpts r
  | none :: r => none :: ofLitOpts r
def ofLitPairs : List (Lit × Lit) → List (List Rep)
  | [] => []
  | (k, v) :: r => [ofLit k, ofLit v] :: ofLitPairs r
def ofLitList : List Lit → List Rep
  | [] => []
  | x :: r => ofLit x :: ofLitList r
def ofLitAttrs : List (String × Lit) → List (String × Rep)
  | [] => []
  | (n, v) :: r => (n, ofLit v) :: ofLitAttrs r
def ofLitRows : List (List Lit) → List (List Rep)
  | [] => []
  | row :: r => ofLitList row :: ofLitRows r
end

end Impl

/-! ## The `Less` rules before the repairs (kept as witnesses; `Proofs/C06.trichotomy_false_before_repair_*`) -/
namespace Old

def ctorId : Rep → Nat
  | .num _ => 0 | .gtuple _ => 1 | .charT _ _ => 2 | .byteT _ _ => 3 | .itemT _ _ => 4 | .entryT _ _ => 5
  | .empty => 6 | .true_ => 7 | .generic _ => 8 | .str _ _ => 9 | .bytes _ _ => 10 | .array _ _ => 11
  | .dict _ => 12 | .relation _ _ => 13 | .union _ => 14

/-- `GenericTuple.Kind` before the repair: `-x.Kind()` for every wrapper, also a wrapper of a wrapper -/
def kindAlg : RepF Int → Int
  | .gtuple as =>
    match negInner as with
    | some k => -k
    | none => kGenericTuple
  | r => C06.kindAlg r

def kind : Rep → Int := cata kindAlg

def isTupleOrNumber : Rep → Bool
  | .num _ | .gtuple _ | .charT _ _ | .byteT _ _ | .itemT _ _ | .entryT _ _ => true
  | _ => false

/-- `string(s.s)`: a hole (negative rune), a surrogate or an out-of-range rune all become U+FFFD -/
def runeOfString (c : Int) : Int :=
  if c < 0 || (0xD800 ≤ c && c ≤ 0xDFFF) || c > 0x10FFFF then 0xFFFD else c

/-- `Array.Less` before the repair: a hole in both arrays ends the comparison with `false` -/
def arrayLoop (rec : Rep → Rep → Bool) : List (Option Rep) → List (Option Rep) → Bool
  | [], bs => !bs.isEmpty
  | _ :: _, [] => false
  | av :: as, bv :: bs =>
    match bv, av with
    | none, none => false                  -- `if bv == nil { return av != nil }`
    | none, some _ => true
    | some _, none => false
    | some y, some x => if rec x y then true else if rec y x then false else arrayLoop rec as bs

/-- rows of a relation in `ArrayEnumerator` order: sorted cell by cell in the column order of `attrs` -/
def cellsLoop (rec : Rep → Rep → Bool) : List Rep → List Rep → Bool
  | [], bs => !bs.isEmpty
  | _ :: _, [] => false
  | a :: as, b :: bs => if rec a b then true else if rec b a then false else cellsLoop rec as bs

def lessStep (eqv rec : Rep → Rep → Bool) (a b : Rep) : Bool :=
  match a with
  | .empty =>                               -- EmptySet.Less: bespoke
    match b with
    | .empty => false
    | _ => !isTupleOrNumber b
  | .true_ =>                               -- TrueSet.Less: bespoke
    match b with
    | .true_ | .empty => false
    | _ => !isTupleOrNumber b
  | _ =>
  if kind a ≠ kind b then decide (kind a < kind b)
  else match a, b with
  | .num x, .num y => decide (x < y)
  | .gtuple as, .gtuple bs =>
    match negInner as, negInner bs with
    | some x, some y => rec y x
    | some _, none => false                 -- panics
    | none, _ =>
      Impl.tupleLoop rec (isort (fun p q => strLt p.1 q.1) as) (isort (fun p q => strLt p.1 q.1) bs)
  | .charT i c, .charT j d => if i ≠ j then decide (i < j) else decide (c < d)
  | .byteT i c, .byteT j d => if i ≠ j then decide (i < j) else decide (c < d)
  | .itemT i x, .itemT j y => if i ≠ j then decide (i < j) else rec x y
  | .entryT k v, .entryT k' v' => if !eqv k k' then rec k k' else rec v v'
  | .generic xs, .generic ys => Impl.lexLoop rec (isort rec xs) (isort rec ys)
  | .str s _, .str t _ => Impl.intsLoop (s.map runeOfString) (t.map runeOfString)   -- `s.String() < v.String()`
  | .bytes _ _, .bytes _ _ => false         -- panics: `v.(*Bytes)`
  | .array vs off, .array ws off' =>
    if off ≠ off' then decide (off < off') else arrayLoop rec vs ws
  | .dict m, .dict m' =>
    Impl.dictLoop eqv rec (isort (fun e f => rec (Impl.entryHeadR e) (Impl.entryHeadR f)) m)
      (isort (fun e f => rec (Impl.entryHeadR e) (Impl.entryHeadR f)) m')
  | .relation ns rows, .relation ns' rows' =>
    if Impl.lessNames ns ns' && !Impl.equalNames ns ns' then true
    else if rows.length ≠ rows'.length then decide (rows.length < rows'.length)
    else Impl.rowsLoop rec ((isort (cellsLoop rec) rows).map (Impl.rowTuple ns))
           ((isort (cellsLoop rec) rows').map (Impl.rowTuple ns'))
  | .union xs, .union ys => Impl.lexLoop rec (isort rec xs) (isort rec ys)
  | _, _ => false                           -- equal kinds, different Go types: the type assertion panics

def lessN : Nat → Rep → Rep → Bool
  | 0, _, _ => false
  | n + 1, a, b => lessStep Impl.equal (lessN n) a b

def less (a b : Rep) : Bool := lessN (max (depth a) (depth b) + 1) a b

/-- the top-level call panics: `Bytes.Less` on two byte arrays, or a failed type assertion after a kind collision -/
def panics (a b : Rep) : Bool :=
  match a, b with
  | .empty, _ | .true_, _ => false
  | .bytes _ _, .bytes _ _ => true
  | _, _ => kind a == kind b && ctorId a != ctorId b

end Old

end Arrai.C06
