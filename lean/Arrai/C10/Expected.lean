/-
  C10, part (b): the expected inventory of panic sites, per function.

  (crc32 of "pkgdir.Recv.Func", panics*1000000 + unchecked type assertions*1000 + Must*/must* calls), sorted by crc32.
  Regenerated by lib/c10_expected.py from the facts of the tree the model was written against; the
  classification after each row is hand-written (table CLASS in that script):
    U  inside a transliterated function, judged unreachable by the guard named in the row; not carried by the model
    O  modelled/known, reachable = open finding
    F  reached only by function values used as sets (open finding KF-function-as-set)
    G  guarded-internal (test just above the site, or an AST shape the grammar cannot produce; fuzzed)
    X  outside the modelled fragment (stdlib, shell, CLI, macros, imports, tools; fuzzed)
  A new, moved or removed site changes Generated.panicSites and breaks the obligation
  `panicSites_expected` in Arrai/Proofs/C10.lean; ./check then widens the search.
-/
namespace Arrai.C10.Expected

def panicSites : List (Nat × Nat) := [
  (25238772, 1000000),  -- rel.Scope.MustGet: G Must* accessor: callers pass names they read from the same tuple/scope; open only through relationBuilder.Add
  (110862611, 1000),  -- syntax.ParseContext.compileTailFunc: X compiler: assertions on AST shapes that the grammar guarantees (fuzzed: stream mut/raw; seven of them were reachable and are repaired)
  (138614474, 1003000),  -- rel.Joiner: G relation internals (C04): all rows of a relation have the heading's width, join modes are a closed enumeration, Reduce's slots are sets it made itself
  (198764430, 1000),  -- syntax.strJoin: X
  (214883418, 2000000),  -- pkg/shell.Shell: X
  (215475661, 1000),  -- rel.Number.Less: G the kinds are compared before the operand is asserted (ordering laws: C06); repaired sites of C06 included
  (218376305, 2000),  -- rel.valuesLess: G the kinds are compared before the operand is asserted (ordering laws: C06); repaired sites of C06 included
  (234044396, 1000000),  -- syntax.MustCompile: X compiler: assertions on AST shapes that the grammar guarantees (fuzzed: stream mut/raw; seven of them were reachable and are repaired)
  (264424860, 1),  -- pkg/shell.<init>: X
  (270687314, 1000),  -- rel.UnionSet.orderedSubsets: G buckets of a UnionSet hold Sets by construction; Where callbacks of Intersect/Difference never return an error
  (296895339, 1000000),  -- rel.CanonicalSet: G internal invariants (non-empty set, one name, unique kind numbers, array-shaped generic set)
  (309102836, 1000000),  -- rel.String.with: G
  (314529270, 3000),  -- syntax.ParseContext.compileSparseItems: X compiler: assertions on AST shapes that the grammar guarantees (fuzzed: stream mut/raw; seven of them were reachable and are repaired)
  (330069157, 1000000),  -- rel.Closure.Has: F
  (335157256, 3000),  -- rel.NewRelationExpr: U e.(XTupleExpr) guarded by the counters
  (335935680, 1000),  -- syntax.isMerging: X
  (340294252, 1000000),  -- rel.NewSafeTailExpr: G pattern internals: keys were inserted as Values; duplicates are reported by the compiler before the constructor (repaired)
  (350676397, 1000000),  -- rel.Relation.projectionBasedOnNames: G relation internals (C04): all rows of a relation have the heading's width, join modes are a closed enumeration, Reduce's slots are sets it made itself
  (354089401, 1000000),  -- syntax.stdOsExec: X standard library (fuzzed: stream lib / lib-ext)
  (382806878, 2001010),  -- syntax.<init>: U compareOps/binops tables
  (388327964, 1000000),  -- rel.ExprClosure.Where: F
  (408508218, 1000000),  -- rel.String.IsTrue: G the constructors return None for an empty string/byte array
  (409523665, 1000000),  -- pkg/shell.CreateDebugSession: X
  (410621894, 4000),  -- syntax.ParseContext.compileBinop: X compiler: assertions on AST shapes that the grammar guarantees (fuzzed: stream mut/raw; seven of them were reachable and are repaired)
  (424122503, 2000000),  -- rel.mustCallAll: G Must* wrapper around NewSet/NewDict on values it built itself; NewSet fails only in relationBuilder.Add (open)
  (424405408, 1000000),  -- syntax.stdOsTree: X standard library (fuzzed: stream lib / lib-ext)
  (443983798, 3001002),  -- syntax.withBundledConfig: X
  (447258380, 1000000),  -- rel.NativeFunction.With: F
  (448755519, 1000),  -- cmd/arrai.bundleCmd: X
  (477474611, 1000),  -- syntax.ParseContext.compileFunction: X compiler: assertions on AST shapes that the grammar guarantees (fuzzed: stream mut/raw; seven of them were reachable and are repaired)
  (491382653, 1000),  -- syntax.ParseContext.compileSetPattern: X compiler: assertions on AST shapes that the grammar guarantees (fuzzed: stream mut/raw; seven of them were reachable and are repaired)
  (518558370, 1),  -- rel.GenericTuple.Format: G t.Without(..).(*GenericTuple): Without of a *GenericTuple returns one
  (535426049, 1),  -- syntax.implicitDecoder: X
  (560925007, 1000000),  -- rel.UnionSet.unionSetSubsetBucket: G buckets of a UnionSet hold Sets by construction; Where callbacks of Intersect/Difference never return an error
  (573311870, 2),  -- pkg/shell.lineCollector.isBalanced: X
  (582746392, 1000000),  -- pkg/arrai.applyIfExistsConfig: X
  (585793900, 1000000),  -- syntax.stdOsFile: X standard library (fuzzed: stream lib / lib-ext)
  (590627117, 3006000),  -- syntax.ParseContext.Parse: X compiler: assertions on AST shapes that the grammar guarantees (fuzzed: stream mut/raw; seven of them were reachable and are repaired)
  (591536113, 2005001),  -- syntax.SafeStdScopeTuple: X standard library (fuzzed: stream lib / lib-ext)
  (611395173, 2001002),  -- rel.Dict.Less: G the kinds are compared before the operand is asserted (ordering laws: C06); repaired sites of C06 included
  (622975554, 1000),  -- syntax.ParseContext.compileMacro: X compiler: assertions on AST shapes that the grammar guarantees (fuzzed: stream mut/raw; seven of them were reachable and are repaired)
  (641525408, 1000),  -- pkg/arrai.outputTupleDir: X
  (669887953, 1000),  -- rel.Array.ArrayEnumerator: G x.Enumerator().(*concreteEnumerator): the method's own enumerator type
  (692712771, 1000000),  -- cmd/arrai.sync: X
  (696067615, 1000000),  -- rel.jsonEscapeExpr: X wire format / Go embedders (C13)
  (715090363, 1000),  -- rel.UnionSet.Has: G buckets of a UnionSet hold Sets by construction; Where callbacks of Intersect/Difference never return an error
  (764003510, 1000),  -- rel.dictEnumerator.MoveNext: G entry.(Value): a map entry is a Value or multipleValues, the latter handled by the case above
  (777274492, 1000000),  -- syntax.stdOsPathSeparator: X standard library (fuzzed: stream lib / lib-ext)
  (795658286, 1000),  -- rel.DictEnumerator.MoveNext: G entry.(Value): a map entry is a Value or multipleValues, the latter handled by the case above
  (813792997, 2000),  -- rel.positionalRelation.JoinKeepEverything: G relation internals (C04): all rows of a relation have the heading's width, join modes are a closed enumeration, Reduce's slots are sets it made itself
  (822591000, 4000),  -- syntax.ParseContext.compileSparsePatterns: X compiler: assertions on AST shapes that the grammar guarantees (fuzzed: stream mut/raw; seven of them were reachable and are repaired)
  (823068808, 2),  -- syntax.FixFuncs: X standard library (fuzzed: stream lib / lib-ext)
  (841059847, 1000),  -- cmd/arrai.run: X
  (843315776, 1000),  -- rel.String.Map: G x.Enumerator().(*concreteEnumerator): the method's own enumerator type
  (851943296, 1000000),  -- rel.ExprClosure.With: F
  (872806042, 1001000),  -- rel.Intersect: G buckets of a UnionSet hold Sets by construction; Where callbacks of Intersect/Difference never return an error
  (880374010, 1004000),  -- syntax.ParseContext.compileDictPattern: X compiler: assertions on AST shapes that the grammar guarantees (fuzzed: stream mut/raw; seven of them were reachable and are repaired)
  (919342694, 1000),  -- rel.Dict.Where: G entry.(Value): a map entry is a Value or multipleValues, the latter handled by the case above
  (959239396, 2),  -- rel.rankerSlice.Less: G the kinds are compared before the operand is asserted (ordering laws: C06); repaired sites of C06 included
  (959341373, 2000000),  -- syntax.createNestedFuncAttr: X standard library (fuzzed: stream lib / lib-ext)
  (959612632, 1002000),  -- syntax.ParseContext.compilePostfixAndTouch: X compiler: assertions on AST shapes that the grammar guarantees (fuzzed: stream mut/raw; seven of them were reachable and are repaired)
  (960344411, 1000000),  -- rel.emptyEnumerator.Offset: G internal invariants (non-empty set, one name, unique kind numbers, array-shaped generic set)
  (976707535, 3000),  -- syntax.ParseContext.compileBytes: X compiler: assertions on AST shapes that the grammar guarantees (fuzzed: stream mut/raw; seven of them were reachable and are repaired)
  (978493652, 1000),  -- syntax.getKeyPaths: X
  (984692064, 1000),  -- rel.Dict.OrderedEntries: G entry.(Value): a map entry is a Value or multipleValues, the latter handled by the case above
  (997326173, 1000000),  -- pkg/importcache.GetOrAddFromCache: X
  (1001181427, 2000000),  -- syntax.stdOsCwd: X standard library (fuzzed: stream lib / lib-ext)
  (1015696270, 1000),  -- pkg/ctxfs.RuntimeFsFrom: X
  (1021770428, 1000000),  -- rel.NativeFunction.Has: F
  (1044148748, 1000),  -- pkg/ctxfs.ZipCreate: X
  (1051957029, 1000),  -- rel.positionalRelation.JoinIfCommonExist: G relation internals (C04): all rows of a relation have the heading's width, join modes are a closed enumeration, Reduce's slots are sets it made itself
  (1052935788, 2000001),  -- syntax.StdScope: X standard library (fuzzed: stream lib / lib-ext)
  (1072789968, 3000000),  -- rel.positionalRelation.JoinCommonOnly: G relation internals (C04): all rows of a relation have the heading's width, join modes are a closed enumeration, Reduce's slots are sets it made itself
  (1077984099, 1000),  -- cmd/arrai.eval: X
  (1079026825, 1),  -- rel.TrueSet.With: G Must* wrapper around NewSet/NewDict on values it built itself; NewSet fails only in relationBuilder.Add (open)
  (1081678062, 1000),  -- rel.DictEntryTuple.Less: G the kinds are compared before the operand is asserted (ordering laws: C06); repaired sites of C06 included
  (1105108646, 1000),  -- rel.SeqArrowExpr.Eval: U (generic-set branch builds NewTuple: open under KF-pinned-panics)
  (1112450804, 1000),  -- pkg/ctxfs.SourceFsFrom: X
  (1132279285, 1),  -- syntax.prettifyTuple: X
  (1200389792, 1000000),  -- rel.ExprsPattern.String: G pattern internals: keys were inserted as Values; duplicates are reported by the compiler before the constructor (repaired)
  (1208750594, 2000),  -- rel.NewMaxExpr: G acc.(Agg)/(Value): the accumulator was produced by the same closure one step earlier
  (1234499970, 1000),  -- rel.GenericSet.Less: G the kinds are compared before the operand is asserted (ordering laws: C06); repaired sites of C06 included
  (1240272268, 1000),  -- rel.positionalRelation.Width: G relation internals (C04): all rows of a relation have the heading's width, join modes are a closed enumeration, Reduce's slots are sets it made itself
  (1255916012, 1000000),  -- pkg/deprecate.MustNewDeprecator: X
  (1275064909, 2000),  -- rel.NewMinExpr: G acc.(Agg)/(Value): the accumulator was produced by the same closure one step earlier
  (1328923410, 1001000),  -- rel.Difference: G buckets of a UnionSet hold Sets by construction; Where callbacks of Intersect/Difference never return an error
  (1336585710, 2000),  -- rel.NewSumExpr: G acc.(Agg)/(Value): the accumulator was produced by the same closure one step earlier
  (1349950841, 1000000),  -- rel.ExprClosure.EqualExprClosure: F
  (1365174404, 1000000),  -- rel.ExprClosure.Has: F
  (1383124373, 1000),  -- rel.DynIdentExpr.Eval: G NewFunction(...).(*Function) and scope entries inserted as Exprs
  (1385981235, 1000000),  -- rel.Relation.getIndices: G relation internals (C04): all rows of a relation have the heading's width, join modes are a closed enumeration, Reduce's slots are sets it made itself
  (1388921100, 1000),  -- rel.float64Heap.Push: G acc.(Agg)/(Value): the accumulator was produced by the same closure one step earlier
  (1389447899, 1000),  -- rel.positionalRelation.Map: G relation internals (C04): all rows of a relation have the heading's width, join modes are a closed enumeration, Reduce's slots are sets it made itself
  (1402597951, 20000),  -- syntax.ParseContext.compileArrow: X compiler: assertions on AST shapes that the grammar guarantees (fuzzed: stream mut/raw; seven of them were reachable and are repaired)
  (1417884432, 2),  -- pkg/shell.shellInstance.trimExpr: X
  (1434389297, 1000000),  -- pkg/fu.Fprintf: X
  (1469077501, 2000),  -- rel.positionalRelation.OrderedRange: G relation internals (C04): all rows of a relation have the heading's width, join modes are a closed enumeration, Reduce's slots are sets it made itself
  (1471242697, 1000000),  -- rel.Scope.String: G NewFunction(...).(*Function) and scope entries inserted as Exprs
  (1511124037, 2),  -- rel.Rank: G (repaired: every ranker tuple has the names of the first before MustGet)
  (1525980249, 2000000),  -- syntax.mustReadEmbeddedFile: X
  (1528623383, 1000000),  -- rel.registerKind: G internal invariants (non-empty set, one name, unique kind numbers, array-shaped generic set)
  (1546981011, 1000),  -- syntax.parseGrammar: O KF-grammar-parse
  (1548852698, 1000),  -- rel.Array.Less: G the kinds are compared before the operand is asserted (ordering laws: C06); repaired sites of C06 included
  (1555475093, 1),  -- syntax.stdlibUnsafeArraiz: X standard library (fuzzed: stream lib / lib-ext)
  (1571705537, 1000),  -- rel.ReduceExpr.Eval: G acc.(Agg)/(Value): the accumulator was produced by the same closure one step earlier
  (1598567688, 1000),  -- rel.Bytes.Where: G x.Enumerator().(*concreteEnumerator): the method's own enumerator type
  (1608771393, 1000),  -- rel.positionalRelation.groupBy: G relation internals (C04): all rows of a relation have the heading's width, join modes are a closed enumeration, Reduce's slots are sets it made itself
  (1632163049, 1000000),  -- syntax.Lexer.PopState: X
  (1644421730, 1000000),  -- rel.Closure.Where: F
  (1644799446, 1000000),  -- rel.Names.TheOne: G internal invariants (non-empty set, one name, unique kind numbers, array-shaped generic set)
  (1653484830, 1000000),  -- rel.GenericTuple.MustGet: G Must* accessor: callers pass names they read from the same tuple/scope; open only through relationBuilder.Add
  (1678825488, 1000000),  -- syntax.stdOsExists: X standard library (fuzzed: stream lib / lib-ext)
  (1695729007, 1000000),  -- rel.positionalRelation.Join: G relation internals (C04): all rows of a relation have the heading's width, join modes are a closed enumeration, Reduce's slots are sets it made itself
  (1704380144, 1004000),  -- syntax.parseName: X compiler: assertions on AST shapes that the grammar guarantees (fuzzed: stream mut/raw; seven of them were reachable and are repaired)
  (1708420650, 1000),  -- pkg/ctxfs.OutputZip: X
  (1747729361, 1000000),  -- rel.MustNewSet: G Must* wrapper around NewSet/NewDict on values it built itself; NewSet fails only in relationBuilder.Add (open)
  (1748707844, 1000),  -- syntax.stdDeprecatedExec: X standard library (fuzzed: stream lib / lib-ext)
  (1781191365, 1000000),  -- pkg/test.isLiteralTrue: X
  (1788789928, 1000001),  -- rel.Relation.tupleToValues: G relation internals (C04): all rows of a relation have the heading's width, join modes are a closed enumeration, Reduce's slots are sets it made itself
  (1805805476, 1),  -- syntax.ParseContext.MustParseString: X compiler: assertions on AST shapes that the grammar guarantees (fuzzed: stream mut/raw; seven of them were reachable and are repaired)
  (1830574076, 1001000),  -- syntax.ParseContext.compileSafeTails: X compiler: assertions on AST shapes that the grammar guarantees (fuzzed: stream mut/raw; seven of them were reachable and are repaired)
  (1853346475, 2),  -- syntax.PrettifyString: X
  (1867993268, 1000),  -- rel.Dict.With: G entry.(Value): a map entry is a Value or multipleValues, the latter handled by the case above
  (1879647451, 1000000),  -- pkg/test.reportFile: X
  (1900749169, 4000),  -- syntax.ParseContext.compileIf: X compiler: assertions on AST shapes that the grammar guarantees (fuzzed: stream mut/raw; seven of them were reachable and are repaired)
  (1916058278, 1),  -- pkg/bundle.MustCreateTestBundleFromFs: X
  (1917585546, 2000001),  -- syntax.mustParseBundle: X standard library (fuzzed: stream lib / lib-ext)
  (1935700615, 1),  -- syntax.decode: X
  (1967615735, 1000000),  -- pkg/fu.Fprint: X
  (1971164743, 1000000),  -- rel.ExprClosure.ArrayEnumerator: F
  (1992054641, 1000000),  -- rel.StringCharTuple.MustGet: G Must* accessor: callers pass names they read from the same tuple/scope; open only through relationBuilder.Add
  (1992089124, 2000000),  -- syntax.mustCreateNestedFunc: X standard library (fuzzed: stream lib / lib-ext)
  (2044911565, 5000),  -- rel.specialTuple: G
  (2053426421, 1000000),  -- pkg/importcache.GetOrAddFromCacheCtx: X
  (2063933775, 1),  -- pkg/shell.unsetCmd.process: X
  (2079268662, 1000000),  -- rel.ExprClosure.Hash: F
  (2089455275, 2000000),  -- rel.Relation.Join: G relation internals (C04): all rows of a relation have the heading's width, join modes are a closed enumeration, Reduce's slots are sets it made itself
  (2099633539, 1005001),  -- rel.ASTBranchFromValue: O KF-grammar-parse
  (2119285671, 2002000),  -- rel.SetPattern.Bind: O KF-pinned-panics: 'pattern type %T not supported yet' (asserted by the suite)
  (2122473201, 1),  -- syntax.parseResponse: X
  (2126431530, 2000000),  -- syntax.buildKeyPatterns: X
  (2128593660, 1000000),  -- rel.reflectNewValue: X wire format / Go embedders (C13)
  (2128680046, 1000000),  -- syntax.formatValue: X
  (2129427778, 1000000),  -- rel.Closure.With: F
  (2129690164, 2000000),  -- rel.Closure.Export: X only used by Go embedders
  (2130384935, 2000000),  -- rel.jsonEscape: X wire format / Go embedders (C13)
  (2148296478, 2000),  -- syntax.arrayTrimPrefix: X
  (2175556394, 1000),  -- rel.String.Where: G x.Enumerator().(*concreteEnumerator): the method's own enumerator type
  (2179057722, 1000000),  -- syntax.ParseContext.MustParse: X compiler: assertions on AST shapes that the grammar guarantees (fuzzed: stream mut/raw; seven of them were reachable and are repaired)
  (2193084324, 1000000),  -- rel.NativeFunction.Enumerator: F
  (2208968426, 2000),  -- syntax.ParseContext.compileGet: X compiler: assertions on AST shapes that the grammar guarantees (fuzzed: stream mut/raw; seven of them were reachable and are repaired)
  (2225085768, 2000),  -- syntax.parseEvalConfig: X
  (2232920319, 1),  -- rel.EmptySet.With: G Must* wrapper around NewSet/NewDict on values it built itself; NewSet fails only in relationBuilder.Add (open)
  (2254996242, 1000000),  -- rel.NewSetPattern: G pattern internals: keys were inserted as Values; duplicates are reported by the compiler before the constructor (repaired)
  (2271068835, 1000),  -- rel.Relation.Less: G the kinds are compared before the operand is asserted (ordering laws: C06); repaired sites of C06 included
  (2303212686, 1000000),  -- rel.ASTNodeToValue: O KF-grammar-parse
  (2310736536, 1000),  -- rel.BytesByteTuple.Less: G the kinds are compared before the operand is asserted (ordering laws: C06); repaired sites of C06 included
  (2356078580, 1000000),  -- rel.Closure.Map: F
  (2364209658, 1000),  -- cmd/arrai.observe: X
  (2373085671, 1000),  -- syntax.fromBundleConfig: X
  (2389320260, 1000000),  -- rel.MarshalToJSON: X wire format / Go embedders (C13)
  (2413847731, 1000),  -- syntax.ParseContext.compileIdent: X compiler: assertions on AST shapes that the grammar guarantees (fuzzed: stream mut/raw; seven of them were reachable and are repaired)
  (2415902987, 7000),  -- syntax.ParseContext.compileLet: X compiler: assertions on AST shapes that the grammar guarantees (fuzzed: stream mut/raw; seven of them were reachable and are repaired)
  (2420226253, 1),  -- syntax.implicitImportArrai: X
  (2424969750, 2000),  -- rel.Relation.canonicalRelation: G relation internals (C04): all rows of a relation have the heading's width, join modes are a closed enumeration, Reduce's slots are sets it made itself
  (2483479500, 1),  -- syntax.ParseContext.unpackMacro: X compiler: assertions on AST shapes that the grammar guarantees (fuzzed: stream mut/raw; seven of them were reachable and are repaired)
  (2495679098, 1),  -- syntax.tokRE: X
  (2537384033, 1000),  -- pkg/arraictx.IsCompiling: X
  (2558862662, 3000),  -- syntax.ParseContext.compileSet: X compiler: assertions on AST shapes that the grammar guarantees (fuzzed: stream mut/raw; seven of them were reachable and are repaired)
  (2593365871, 9000),  -- syntax.ParseContext.compileExpandableString: X compiler: assertions on AST shapes that the grammar guarantees (fuzzed: stream mut/raw; seven of them were reachable and are repaired)
  (2598779024, 2000),  -- rel.Reduce: G relation internals (C04): all rows of a relation have the heading's width, join modes are a closed enumeration, Reduce's slots are sets it made itself
  (2613222266, 5000),  -- syntax.ParseContext.compileCondExprs: X compiler: assertions on AST shapes that the grammar guarantees (fuzzed: stream mut/raw; seven of them were reachable and are repaired)
  (2623192261, 1000),  -- syntax.ParseContext.compileChar: X compiler: assertions on AST shapes that the grammar guarantees (fuzzed: stream mut/raw; seven of them were reachable and are repaired)
  (2630649350, 1000),  -- rel.PowerSet: G buckets of a UnionSet hold Sets by construction; Where callbacks of Intersect/Difference never return an error
  (2636678294, 3000),  -- syntax.ParseContext.compileUnop: X compiler: assertions on AST shapes that the grammar guarantees (fuzzed: stream mut/raw; seven of them were reachable and are repaired)
  (2638229779, 1004),  -- pkg/test.ForeachLeaf: X
  (2653170152, 1000000),  -- rel.NativeFunction.Without: F
  (2653239677, 2000),  -- rel.valueProjector.mapper: G relation internals (C04): all rows of a relation have the heading's width, join modes are a closed enumeration, Reduce's slots are sets it made itself
  (2658965407, 1000),  -- rel.ExprAsFunction: G NewFunction(...).(*Function) and scope entries inserted as Exprs
  (2689737223, 1),  -- syntax.stdlibSafeArraiz: X standard library (fuzzed: stream lib / lib-ext)
  (2707657748, 1000000),  -- rel.mapIndices: G relation internals (C04): all rows of a relation have the heading's width, join modes are a closed enumeration, Reduce's slots are sets it made itself
  (2714699401, 1000000),  -- rel.NativeFunction.ArrayEnumerator: F
  (2737072621, 1000000),  -- rel.NativeFunction.Map: F
  (2748991630, 5000),  -- rel.Unnest: G (repaired by C04: the nest/unnest expressions validate attributes and member kinds first)
  (2754219673, 1000),  -- syntax.getCurrentModule: X
  (2768751918, 1000000),  -- syntax.Lexer.eatRE: X
  (2785896014, 1000),  -- syntax.arrayTrimSuffix: X
  (2793977590, 1000),  -- rel.Bytes.Less: G the kinds are compared before the operand is asserted (ordering laws: C06); repaired sites of C06 included
  (2799086545, 2000),  -- syntax.parseNames: X compiler: assertions on AST shapes that the grammar guarantees (fuzzed: stream mut/raw; seven of them were reachable and are repaired)
  (2801359320, 1000000),  -- rel.emptyEnumerator.Current: G internal invariants (non-empty set, one name, unique kind numbers, array-shaped generic set)
  (2810469740, 5001),  -- syntax.cleanEmptyVal: X
  (2824614473, 1000000),  -- rel.BytesByteTuple.MustGet: G Must* accessor: callers pass names they read from the same tuple/scope; open only through relationBuilder.Add
  (2855573934, 2000),  -- rel.asArray: G v.(ArrayItemTuple): as asString
  (2859882118, 1),  -- pkg/shell.setCmd.process: X
  (2867056203, 1000),  -- rel.UnionSet.getSubset: G buckets of a UnionSet hold Sets by construction; Where callbacks of Intersect/Difference never return an error
  (2869344237, 1000000),  -- rel.ExprClosure.Without: F
  (2875057427, 1),  -- syntax.GetBuildInfo: X
  (2889787284, 1000000),  -- cmd/arrai.insertRunCommand: X
  (2895425097, 2000),  -- rel.GenericTuple.With: G t.Without(..).(*GenericTuple): Without of a *GenericTuple returns one
  (2910730750, 1000000),  -- syntax.handleAccessScanners: X
  (2917372972, 1000000),  -- pkg/fu.Write: X
  (2923560426, 4000),  -- rel.NewMedianExpr: G acc.(Agg)/(Value): the accumulator was produced by the same closure one step earlier
  (2928267934, 3000),  -- syntax.ParseContext.compileDictEntryExprs: X compiler: assertions on AST shapes that the grammar guarantees (fuzzed: stream mut/raw; seven of them were reachable and are repaired)
  (2930121262, 7000),  -- syntax.ParseContext.compilePattern: X compiler: assertions on AST shapes that the grammar guarantees (fuzzed: stream mut/raw; seven of them were reachable and are repaired)
  (2954391325, 1000),  -- syntax.Lexer.Value: X
  (2955734497, 2000),  -- rel.RecursionExpr.Eval: G NewFunction(...).(*Function) and scope entries inserted as Exprs
  (2964094726, 1000000),  -- rel.ASTNodeFromValue: O KF-grammar-parse: //grammar.parse of a value that is not an AST
  (2966679293, 4000),  -- syntax.ParseContext.compileCompare: X compiler: assertions on AST shapes that the grammar guarantees (fuzzed: stream mut/raw; seven of them were reachable and are repaired)
  (2978585837, 1000000),  -- rel.ExprClosure.CallAll: F
  (2981044293, 2002),  -- pkg/shell.shellInstance.Do: X
  (2989254078, 1000),  -- syntax.isDesugaring: X
  (3002949181, 1000000),  -- syntax.GetMainBundleSource: X
  (3025337927, 7000),  -- syntax.ParseContext.compileRelation: X compiler: assertions on AST shapes that the grammar guarantees (fuzzed: stream mut/raw; seven of them were reachable and are repaired)
  (3045164549, 1000000),  -- rel.MustNewDict: G Must* wrapper around NewSet/NewDict on values it built itself; NewSet fails only in relationBuilder.Add (open)
  (3046708522, 1000),  -- rel.StringCharTuple.Less: G the kinds are compared before the operand is asserted (ordering laws: C06); repaired sites of C06 included
  (3058098167, 2000000),  -- rel.createMode: G relation internals (C04): all rows of a relation have the heading's width, join modes are a closed enumeration, Reduce's slots are sets it made itself
  (3073099000, 1000),  -- rel.newSetFromBuckets: G buckets of a UnionSet hold Sets by construction; Where callbacks of Intersect/Difference never return an error
  (3084770158, 1000),  -- pkg/ctxrootcache.LoadRoot: X
  (3116385458, 1),  -- syntax.stdEncoding: X standard library (fuzzed: stream lib / lib-ext)
  (3124793258, 1000),  -- pkg/ctxfs.FileExists: X
  (3131126999, 1000),  -- rel.asBytes: G v.(BytesByteTuple): as asString
  (3147999042, 1),  -- syntax.mustParseExpr: X standard library (fuzzed: stream lib / lib-ext)
  (3177063569, 5000),  -- syntax.ParseContext.compileTuple: X compiler: assertions on AST shapes that the grammar guarantees (fuzzed: stream mut/raw; seven of them were reachable and are repaired)
  (3193543825, 1000000),  -- rel.Closure.Enumerator: F
  (3196080208, 4000),  -- rel.MergeTuples: G t.Without(..).(*GenericTuple): Without of a *GenericTuple returns one
  (3202280202, 1000000),  -- rel.ExprClosure.Enumerator: F
  (3218447998, 4001),  -- syntax.ParseContext.compileCondWithoutControlVar: X compiler: assertions on AST shapes that the grammar guarantees (fuzzed: stream mut/raw; seven of them were reachable and are repaired)
  (3230666490, 1001000),  -- rel.joinOneSide: G relation internals (C04): all rows of a relation have the heading's width, join modes are a closed enumeration, Reduce's slots are sets it made itself
  (3238876536, 1000000),  -- pkg/deprecate.delayDuration: X
  (3239644427, 1003001),  -- rel.nestWithFunc: G (repaired by C04: the nest/unnest expressions validate attributes and member kinds first)
  (3241743718, 1000000),  -- rel.Closure.ArrayEnumerator: F
  (3247398263, 1001),  -- rel.genericSetValueEnumerator.Current: G internal invariants (non-empty set, one name, unique kind numbers, array-shaped generic set)
  (3255193078, 1000000),  -- rel.ArrayItemTuple.MustGet: G Must* accessor: callers pass names they read from the same tuple/scope; open only through relationBuilder.Add
  (3285979199, 1000),  -- pkg/ctxrootcache.rootCacheFrom: X
  (3329951525, 1000000),  -- syntax.stdOsGetArgs: X standard library (fuzzed: stream lib / lib-ext)
  (3334310089, 1000),  -- syntax.bytesSplit: X
  (3341557625, 1000),  -- rel.Bytes.Map: G x.Enumerator().(*concreteEnumerator): the method's own enumerator type
  (3346425054, 1000),  -- syntax.ParseContext.compilePatterns: X compiler: assertions on AST shapes that the grammar guarantees (fuzzed: stream mut/raw; seven of them were reachable and are repaired)
  (3358069686, 1001),  -- rel.relationBuilder.Add: O KF-relation-bucket: MustGet(name) when two name lists share one bucket key; v.(Tuple) guarded by the bucket
  (3364981342, 1000),  -- rel.positionalRelation.CallAll: G relation internals (C04): all rows of a relation have the heading's width, join modes are a closed enumeration, Reduce's slots are sets it made itself
  (3375891591, 1000000),  -- rel.ExprClosure.Export: X only used by Go embedders
  (3378590692, 1),  -- pkg/bundle.MustCreateTestBundleFromMap: X
  (3403265798, 1000),  -- rel.Bytes.ArrayEnumerator: G x.Enumerator().(*concreteEnumerator): the method's own enumerator type
  (3432262443, 7000),  -- syntax.ParseContext.compileCondWithControlVar: X compiler: assertions on AST shapes that the grammar guarantees (fuzzed: stream mut/raw; seven of them were reachable and are repaired)
  (3454530224, 1000000),  -- rel.Bytes.IsTrue: G the constructors return None for an empty string/byte array
  (3466361813, 1000000),  -- rel.ExprClosure.Map: F
  (3467691962, 1000000),  -- syntax.which: X compiler: assertions on AST shapes that the grammar guarantees (fuzzed: stream mut/raw; seven of them were reachable and are repaired)
  (3475246861, 1000),  -- rel.positionalRelationValuesEnumerator.Values: G relation internals (C04): all rows of a relation have the heading's width, join modes are a closed enumeration, Reduce's slots are sets it made itself
  (3489400301, 1000),  -- rel.UnionSet.Less: G the kinds are compared before the operand is asserted (ordering laws: C06); repaired sites of C06 included
  (3517233075, 2000),  -- rel.positionalRelation.String: G relation internals (C04): all rows of a relation have the heading's width, join modes are a closed enumeration, Reduce's slots are sets it made itself
  (3518502999, 4000),  -- syntax.ParseContext.compileTuplePattern: X compiler: assertions on AST shapes that the grammar guarantees (fuzzed: stream mut/raw; seven of them were reachable and are repaired)
  (3532525189, 1001001),  -- syntax.xstrConcat: X
  (3547496757, 6000),  -- syntax.ParseContext.compilePackage: X compiler: assertions on AST shapes that the grammar guarantees (fuzzed: stream mut/raw; seven of them were reachable and are repaired)
  (3552056406, 1000000),  -- rel.intSet: G internal invariants (non-empty set, one name, unique kind numbers, array-shaped generic set)
  (3557130742, 1000000),  -- cmd/arrai.websocketFrontend.ServeHTTP: X
  (3578916665, 1005000),  -- syntax.ParseContext.compileRbinop: X compiler: assertions on AST shapes that the grammar guarantees (fuzzed: stream mut/raw; seven of them were reachable and are repaired)
  (3601243641, 3000),  -- syntax.ParseContext.compileCondElements: X compiler: assertions on AST shapes that the grammar guarantees (fuzzed: stream mut/raw; seven of them were reachable and are repaired)
  (3629746963, 1001),  -- syntax.AssertCodeEvalsToGrammar: X
  (3631799269, 1000),  -- rel.positionalRelation.Where: G relation internals (C04): all rows of a relation have the heading's width, join modes are a closed enumeration, Reduce's slots are sets it made itself
  (3633370087, 1000000),  -- pkg/fu.WriteString: X
  (3668764848, 2000),  -- rel.NewMeanExpr: G acc.(Agg)/(Value): the accumulator was produced by the same closure one step earlier
  (3675924988, 2000),  -- syntax.ParseContext.compileDict: X compiler: assertions on AST shapes that the grammar guarantees (fuzzed: stream mut/raw; seven of them were reachable and are repaired)
  (3682653944, 4003),  -- syntax.getFirstRuleName: X
  (3696433104, 1000000),  -- syntax.stdOsIsATty: X standard library (fuzzed: stream lib / lib-ext)
  (3698225409, 3000),  -- syntax.parseNest: X compiler: assertions on AST shapes that the grammar guarantees (fuzzed: stream mut/raw; seven of them were reachable and are repaired)
  (3753125117, 1000),  -- pkg/arrai.getDirField: X
  (3776741854, 1000),  -- syntax.ParseContext.compileNumber: X compiler: assertions on AST shapes that the grammar guarantees (fuzzed: stream mut/raw; seven of them were reachable and are repaired)
  (3785066920, 1000),  -- rel.NewDict: G entry.(Value): a map entry is a Value or multipleValues, the latter handled by the case above
  (3786019130, 1000),  -- rel.unionSetBucketRange.subset: G buckets of a UnionSet hold Sets by construction; Where callbacks of Intersect/Difference never return an error
  (3799728954, 1000000),  -- cmd/arrai.buildBinary: X
  (3814110881, 1000000),  -- rel.Closure.CallAll: G nullary-vs-unary mismatch cannot be produced by the compiler
  (3851347087, 1000000),  -- syntax.ParseArraiString: X
  (3864683139, 1000),  -- rel.ArrayItemTuple.Less: G the kinds are compared before the operand is asserted (ordering laws: C06); repaired sites of C06 included
  (3865054950, 2000),  -- rel.UnionSet.Equal: G buckets of a UnionSet hold Sets by construction; Where callbacks of Intersect/Difference never return an error
  (3883409546, 1000000),  -- syntax.Lexer.ScanOperator: X
  (3887257752, 2003000),  -- rel.GenericTuple.Less: G the kinds are compared before the operand is asserted (ordering laws: C06); repaired sites of C06 included
  (3901399566, 1),  -- rel.SingleAttrNest: G (repaired by C04: the nest/unnest expressions validate attributes and member kinds first)
  (3903752339, 1000000),  -- syntax.stdOsPathListSeparator: X standard library (fuzzed: stream lib / lib-ext)
  (3912379427, 1000),  -- syntax.ParseContext.compileString: X compiler: assertions on AST shapes that the grammar guarantees (fuzzed: stream mut/raw; seven of them were reachable and are repaired)
  (3921046878, 1000),  -- rel.String.ArrayEnumerator: G x.Enumerator().(*concreteEnumerator): the method's own enumerator type
  (3924766039, 1000000),  -- rel.NewDictPattern: G pattern internals: keys were inserted as Values; duplicates are reported by the compiler before the constructor (repaired)
  (3930228395, 1),  -- pkg/shell.predictFromValue: X
  (3931702238, 2000),  -- syntax.ParseContext.compileCond: X compiler: assertions on AST shapes that the grammar guarantees (fuzzed: stream mut/raw; seven of them were reachable and are repaired)
  (3959442198, 1000),  -- rel.UnionSet.CallAll: G buckets of a UnionSet hold Sets by construction; Where callbacks of Intersect/Difference never return an error
  (3987189841, 1000000),  -- cmd/arrai.transform: X
  (3998420257, 1004),  -- rel.<init>: G dictFinish value.(DictEntryTuple): the dict bucket only receives DictEntryTuples (modelled: bucketOf)
  (4011573598, 4),  -- translate.unparseXML: X
  (4020090964, 1000),  -- cmd/arrai.compile: X
  (4036189566, 1000001),  -- rel.toUnionSetWithItem: O KF-relation-bucket: reached by Relation.With/Union when the value's bucket key equals the relation's (modelled: withSet, unionSets)
  (4077111831, 1000000),  -- rel.NativeFunction.Where: F
  (4084871708, 1001000),  -- syntax.stdOsGetEnv: X standard library (fuzzed: stream lib / lib-ext)
  (4087410580, 2000),  -- rel.GenericJoin: G relation internals (C04): all rows of a relation have the heading's width, join modes are a closed enumeration, Reduce's slots are sets it made itself
  (4087859190, 1009000),  -- rel.ASTBranchToValue: O KF-grammar-parse
  (4119075046, 3000),  -- rel.Union: G buckets of a UnionSet hold Sets by construction; Where callbacks of Intersect/Difference never return an error
  (4122932525, 1000000),  -- rel.DictEntryTuple.MustGet: G Must* accessor: callers pass names they read from the same tuple/scope; open only through relationBuilder.Add
  (4140721017, 1002000),  -- syntax.ParseContext.compileExpr: X compiler: assertions on AST shapes that the grammar guarantees (fuzzed: stream mut/raw; seven of them were reachable and are repaired)
  (4152963597, 2000000),  -- tools/parser.main: X
  (4179684426, 1000000),  -- syntax.delimsScanner: X compiler: assertions on AST shapes that the grammar guarantees (fuzzed: stream mut/raw; seven of them were reachable and are repaired)
  (4180483125, 1000000),  -- rel.GenericSet.Any: G internal invariants (non-empty set, one name, unique kind numbers, array-shaped generic set)
  (4185411867, 1000),  -- rel.String.Less: G the kinds are compared before the operand is asserted (ordering laws: C06); repaired sites of C06 included
  (4191788449, 1000000),  -- rel.Closure.Without: F
  (4199888198, 1000000),  -- rel.Closure.Count: F
  (4208861726, 1000),  -- rel.asString: G v.(StringCharTuple): the string bucket only receives StringCharTuples (modelled: bucketOf)
  (4220996850, 4002),  -- rel.GenericSet.ArrayEnumerator: G internal invariants (non-empty set, one name, unique kind numbers, array-shaped generic set)
  (4222744984, 5000),  -- syntax.ParseContext.compileMergeop: X compiler: assertions on AST shapes that the grammar guarantees (fuzzed: stream mut/raw; seven of them were reachable and are repaired)
  (4237215187, 2000000),  -- cmd/arrai.writeTreeToBuffer: X
  (4237875231, 1000),  -- rel.TupleExpr.Eval: G t.Without(..).(*GenericTuple): Without of a *GenericTuple returns one
  (4260359527, 1000001),  -- syntax.mustParseLit: X standard library (fuzzed: stream lib / lib-ext)
  (4270182444, 1000)  -- syntax.ParseContext.compileCallGet: X compiler: assertions on AST shapes that the grammar guarantees (fuzzed: stream mut/raw; seven of them were reachable and are repaired)
]

def panicSiteTotals : List (Nat × Nat) := [
  (178151893, 0),  -- pkg/cliutil
  (999541374, 7005000),  -- cmd/arrai
  (1016561950, 2),  -- pkg/bundle
  (1108015058, 0),  -- translate/pb
  (1242588023, 4),  -- translate
  (1499047888, 1002000),  -- pkg/arrai
  (1522263777, 0),  -- pkg/buildinfo
  (1595933586, 2000000),  -- pkg/deprecate
  (1653587750, 52199040),  -- syntax
  (2153025153, 2000000),  -- tools/parser
  (2441523600, 2000000),  -- pkg/importcache
  (2601929976, 2000),  -- pkg/ctxrootcache
  (2691755006, 3002010),  -- pkg/shell
  (3108389127, 5000),  -- pkg/ctxfs
  (3525995979, 4000000),  -- pkg/fu
  (3726974848, 1000),  -- pkg/arraictx
  (3903330957, 0),  -- engine
  (3942309495, 0),  -- tools
  (4019744961, 2001004),  -- pkg/test
  (4105885629, 88138022)  -- rel
]

end Arrai.C10.Expected
