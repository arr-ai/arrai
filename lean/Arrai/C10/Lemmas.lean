/-
  C10: `Outcome.bind` and panics; each value-level function of Model.lean reaches a panic site only under the
  decidable shape that `trig` tests for its node; the same for the steps of the compile phase (`orElse`, `failOf`,
  the folding of a literal node).
-/
import Arrai.C10.Model

namespace Arrai.C10
open Arrai Outcome

/-! ## Outcome.bind -/

theorem bind_panic {α β : Type} {x : Outcome α} {f : α → Outcome β} {s : Site}
    (h : x.bind f = .panic s) : x = .panic s ∨ ∃ a, x = .ok a ∧ f a = .panic s := by
  cases x with
  | ok a => exact Or.inr ⟨a, rfl, h⟩
  | err => simp [Outcome.bind] at h
  | panic t => simp [Outcome.bind] at h; exact Or.inl (by rw [h])

theorem bind_ok_panic {α β : Type} {a : α} {f : α → Outcome β} : (Outcome.ok a).bind f = f a := rfl

theorem bind_ne_panic_iff {α β : Type} {x : Outcome α} {f : α → Outcome β} {s : Site} :
    x.bind f ≠ .panic s ↔ x ≠ .panic s ∧ ∀ a, x = .ok a → f a ≠ .panic s := by
  constructor
  · intro h
    exact ⟨fun hx => h (by rw [hx]; rfl), fun a ha => by rw [ha] at h; exact h⟩
  · intro h hb
    rcases bind_panic hb with hx | ⟨a, ha, hf⟩
    · exact h.1 hx
    · exact h.2 a ha hf

theorem bind_ne_panic {α β : Type} {x : Outcome α} {f : α → Outcome β} {s : Site}
    (hx : x ≠ .panic s) (hf : ∀ a, x = .ok a → f a ≠ .panic s) : x.bind f ≠ .panic s :=
  bind_ne_panic_iff.2 ⟨hx, hf⟩

theorem ok_ne_panic {α : Type} {a : α} {s : Site} : Outcome.ok a ≠ .panic s := nofun
theorem err_ne_panic {α : Type} {s : Site} : (Outcome.err : Outcome α) ≠ .panic s := nofun

theorem ne_panic_of_shape {α : Type} {b : Bool} {o : Outcome α} {s : Site} (hb : b = false)
    (h : o = .panic s → b = true) : o ≠ .panic s := fun hp => Bool.eq_false_iff.1 hb (h hp)

theorem bor_inl {a b : Bool} (h : a = true) : (a || b) = true := Bool.or_eq_true_iff.2 (Or.inl h)
theorem bor_inr {a b : Bool} (h : b = true) : (a || b) = true := Bool.or_eq_true_iff.2 (Or.inr h)

/-! ## tuples -/

/-- `newTuple` panics exactly on the pinned shape -/
theorem newTuple_panic_iff (attrs : List (String × V)) :
    (∃ s, newTuple attrs = .panic s) ↔ pinnedTuple attrs = true := by
  simp only [newTuple, pinnedTuple]
  generalize sugarPair (normAttrs attrs) = sp
  cases sp with
  | none => simp
  | some p =>
    obtain ⟨n, i, x⟩ := p
    by_cases h1 : (n == "@value") = true
    · simp [h1]
    · by_cases h2 : isNum i = true
      · by_cases h3 : (n == "@item") = true
        · simp [h1, h2, h3]
        · by_cases h4 : isNum x = true
          · simp [h1, h2, h3, h4]
          · simp [h1, h2, h3, h4]
      · by_cases h3 : (n == "@item") = true
        · simp [h1, h2, h3]
        · simp [h1, h2, h3]

theorem newTuple_panic {attrs : List (String × V)} {s : Site} (h : newTuple attrs = .panic s) :
    pinnedTuple attrs = true := (newTuple_panic_iff attrs).1 ⟨s, h⟩

/-! ## sets

`relAdd_nil_panic` / `newSet_panic` do not reverse: the builder asks whether the later tuple has all names of the
first, `clashPair` whether the two name lists differ.  For `.tup [("a, a", 1), ("a", 2)]` and
`.tup [("a", 1), ("a, a", 2)]` (the first not in canonical attribute order) `bucketClash` is true and `newSet` is a
value, so `trig e = true` does not say that `e` panics. -/

theorem relAddOne_mem {seen seen' : List (String × List String)} {v : V} (h : relAddOne seen v = .ok seen') :
    ∀ e, e ∈ seen' → e ∈ seen ∨ relKey v = some e := by
  intro e he
  unfold relAddOne at h
  split at h
  · cases h; exact Or.inl he
  · rename_i hk
    split at h
    · cases h
      rcases List.mem_append.1 he with h' | h'
      · exact Or.inl h'
      · rw [List.mem_singleton.1 h']; exact Or.inr hk
    · split at h
      · cases h; exact Or.inl he
      · cases h

theorem relAddOne_panic {seen : List (String × List String)} {v : V} {s : Site} (h : relAddOne seen v = .panic s) :
    ∃ e, e ∈ seen ∧ ∃ k ns, relKey v = some (k, ns) ∧ (e.1 == k) = true ∧ e.2 ≠ ns := by
  unfold relAddOne at h
  split at h
  · cases h
  · rename_i k ns hk
    split at h
    · cases h
    · rename_i first hf
      split at h
      · cases h
      · rename_i hall
        refine ⟨first, List.mem_of_find?_eq_some hf, k, ns, hk,
          List.find?_some (p := fun e : String × List String => e.1 == k) hf, fun heq => hall ?_⟩
        rw [heq]
        exact List.all_eq_true.2 fun n hn => List.contains_iff_mem.2 hn

/-- a panic of the relation builders means: some member clashes with an entry that is already there or with an
earlier member -/
theorem relAdd_panic : ∀ (vs : List V) (seen : List (String × List String)) (s : Site),
    relAdd seen vs = .panic s →
    ∃ e, (e ∈ seen ∨ ∃ a, a ∈ vs ∧ relKey a = some e) ∧
      ∃ v, v ∈ vs ∧ ∃ k ns, relKey v = some (k, ns) ∧ (e.1 == k) = true ∧ e.2 ≠ ns := by
  intro vs
  induction vs with
  | nil => intro seen s h; nomatch h
  | cons v rest ih =>
    intro seen s h
    rcases bind_panic h with h' | ⟨seen', hs, h'⟩
    · obtain ⟨e, he, k, ns, hk, h1, h2⟩ := relAddOne_panic h'
      exact ⟨e, Or.inl he, v, List.mem_cons_self, k, ns, hk, h1, h2⟩
    · obtain ⟨e, he, w, hw, k, ns, hr, h1, h2⟩ := ih seen' s h'
      refine ⟨e, ?_, w, List.mem_cons_of_mem _ hw, k, ns, hr, h1, h2⟩
      rcases he with he | ⟨a, ha, hae⟩
      · rcases relAddOne_mem hs e he with h'' | h''
        · exact Or.inl h''
        · exact Or.inr ⟨v, List.mem_cons_self, h''⟩
      · exact Or.inr ⟨a, List.mem_cons_of_mem _ ha, hae⟩

theorem relAdd_nil_panic {vs : List V} {s : Site} (h : relAdd [] vs = .panic s) : bucketClash vs = true := by
  obtain ⟨e, he, v, hv, k, ns, hr, h1, h2⟩ := relAdd_panic vs [] s h
  rcases he with he | ⟨a, ha, hae⟩
  · simp at he
  · obtain ⟨k1, n1⟩ := e
    simp only [bucketClash, List.any_eq_true]
    refine ⟨a, ha, v, hv, ?_⟩
    simp only [clashPair, hae, hr]
    simp at h1 h2 ⊢
    exact ⟨h1, h2⟩

theorem newSet_panic {vs : List V} {s : Site} (h : newSet vs = .panic s) : bucketClash vs = true := by
  unfold newSet at h
  rcases bind_panic h with h' | ⟨_, _, h'⟩
  · exact relAdd_nil_panic h'
  · simp at h'

theorem withSet_panic {xs : List V} {v : V} {s : Site} (h : withSet xs v = .panic s) :
    (xs.any fun a => clashPair a v) = true := by
  unfold withSet at h
  split at h
  · assumption
  · cases h

theorem unionSets_panic {xs ys : List V} {s : Site} (h : unionSets xs ys = .panic s) :
    (xs.any fun a => ys.any fun b => clashPair a b) = true := by
  unfold unionSets at h
  split at h
  · assumption
  · cases h

theorem concatSets_panic {xs ys : List V} {s : Site} (h : concatSets xs ys = .panic s) :
    concatClash xs ys = true := by
  unfold concatSets at h
  unfold concatClash
  split at h
  · exact newSet_panic h
  · cases h

theorem callSet_panic {xs : List V} {arg : V} {s : Site} (h : callSet xs arg = .panic s) :
    bucketClash (callResults xs arg) = true := by
  unfold callSet at h
  split at h
  · rcases bind_panic h with h' | ⟨r, _, h'⟩
    · exact newSet_panic h'
    · split at h' <;> cases h'
  · cases h

theorem offsetSet_no_panic (off : V) (xs : List V) (s : Site) : offsetSet off xs ≠ .panic s := by
  unfold offsetSet
  split
  · split
    · exact ok_ne_panic
    · split
      · split
        · exact ok_ne_panic
        · exact err_ne_panic
      · exact err_ne_panic
  · exact err_ne_panic

theorem cmpVals_no_panic (op : CmpOp) (a b : V) (s : Site) : cmpVals op a b ≠ .panic s := by
  unfold cmpVals
  extract_lets sets proper
  have hsets : ∀ f, sets f ≠ .panic s := fun f => by
    unfold sets; split
    · exact ok_ne_panic
    · exact err_ne_panic
  cases op
  case eq | ne | lt | le | gt | ge => exact ok_ne_panic
  case mem | nmem =>
    dsimp only; split
    · exact ok_ne_panic
    · exact err_ne_panic
  all_goals exact hsets _

theorem unVals_no_panic (op : UnOp) (a : V) (s : Site) : unVals op a ≠ .panic s := by
  unfold unVals
  split
  · split
    · exact ok_ne_panic
    · split <;> exact ok_ne_panic
    · exact ok_ne_panic
  · split
    · exact ok_ne_panic
    · exact err_ne_panic

theorem getAttr_no_panic (name : String) (attrs : List (String × V)) (s : Site) : getAttr name attrs ≠ .panic s := by
  unfold getAttr
  cases attrs.find? (fun p => p.1 == name) with
  | none => simp
  | some p => simp

theorem dotVal_no_panic (a : V) (name : String) (s : Site) : dotVal a name ≠ .panic s := by
  unfold dotVal
  split
  · exact getAttr_no_panic _ _ s
  · exact getAttr_no_panic _ _ s
  · exact err_ne_panic

/-- a row of a relation literal panics only as a pinned tuple under its heading -/
theorem relRow_no_panic (hd : List String) (vals : List V) (s : Site)
    (hpin : (hd.length == vals.length && pinnedTuple (Lit.zipAttrs hd vals)) = false) : relRow hd vals ≠ .panic s := by
  intro h
  unfold relRow at h
  by_cases hl : (hd.length != vals.length) = true
  · rw [if_pos hl] at h; simp at h
  · rw [if_neg hl] at h
    have hlen : (hd.length == vals.length) = true := by simpa using hl
    rw [hlen, Bool.true_and] at hpin
    have hnt : ∀ t, newTuple (Lit.zipAttrs hd vals) ≠ .panic t := by
      intro t ht
      rw [newTuple_panic ht] at hpin
      cases hpin
    simp only at h
    by_cases c1 : headingIs hd "@char" = true
    · rw [if_pos c1] at h
      split at h <;> simp at h
    · rw [if_neg c1] at h
      by_cases c2 : headingIs hd "@item" = true
      · rw [if_pos c2] at h
        split at h <;> simp at h
      · rw [if_neg c2] at h
        by_cases c3 : headingIs hd "@value" = true
        · rw [if_pos c3] at h; simp at h
        · rw [if_neg c3] at h
          exact hnt s h

theorem newDictLit_no_panic (kvs : List (V × V)) (s : Site) : newDictLit kvs ≠ .panic s := by
  unfold newDictLit
  split <;> simp

theorem binVals_panic {op : BinOp} {a b : V} {s : Site} (h : binVals op a b = .panic s) :
    binTrig op a b = true := by
  cases op with
  | sub | mul | without | inter | diff => dsimp only [binVals] at h; split at h <;> cases h
  | add | concat =>
    dsimp only [binVals] at h; split at h <;> try cases h
    exact concatSets_panic h
  | with_ => dsimp only [binVals] at h; split at h <;> try cases h
             exact withSet_panic h
  | union | symdiff =>
    dsimp only [binVals] at h; split at h <;> try cases h
    exact unionSets_panic h
  | call => dsimp only [binVals] at h; split at h <;> try cases h
            exact callSet_panic h
  | offset =>
    dsimp only [binVals] at h; split at h
    · exact absurd h (offsetSet_no_panic _ _ s)
    · split at h <;> cases h

/-! ## a >> \_ c -/

theorem seqMapTuples_panic : ∀ (xs : List V) (c : V) (s : Site), seqMapTuples c xs = .panic s →
    (xs.any (remapPinned c)) = true := by
  intro xs
  induction xs with
  | nil => intro c s h; nomatch h
  | cons v rest ih =>
    intro c s h
    unfold seqMapTuples at h
    cases hv : atAndOther v with
    | none => rw [hv] at h; simp at h
    | some p =>
      obtain ⟨i, n⟩ := p
      rw [hv] at h
      simp only at h
      rcases bind_panic h with h' | ⟨t, _, h'⟩
      · simp only [List.any_cons, remapPinned, hv, newTuple_panic h', Bool.true_or]
      · rcases bind_panic h' with h'' | ⟨ts, _, h''⟩
        · simp only [List.any_cons, ih c s h'', Bool.or_true]
        · simp at h''

theorem seqMapConst_panic {xs : List V} {c : V} {s : Site} (h : seqMapConst xs c = .panic s) :
    seqmapTrig xs c = true := by
  unfold seqMapConst at h
  unfold seqmapTrig
  split at h
  · split at h
    · cases h
    · split at h <;> cases h
  · split at h
    · cases h
    · rcases bind_panic h with h' | ⟨ts, hts, h'⟩
      · exact bor_inl (seqMapTuples_panic xs c s h')
      · rw [hts]; exact bor_inr (newSet_panic h')

/-! ## compile phase -/

/-- `orElse` is `Option.or`: one direction of `Option.or_eq_some_iff` -/
theorem orElse_some {a b : Option (Outcome V)} {o : Outcome V} (h : orElse a b = some o) : a = some o ∨ b = some o := by
  cases a with
  | none => exact Or.inr h
  | some x => exact Or.inl h

theorem failOf_panic {b : Bool} {o : Outcome V} {s : Site} (safe : b = false → o ≠ .panic s)
    (h : failOf o = some (.panic s)) : b = true := by
  cases o with
  | ok v => nomatch h
  | err => nomatch h
  | panic t => exact Decidable.byContradiction fun hb => safe (Bool.eq_false_iff.2 hb) (Option.some.inj h)

/-- the step by which `cfail` folds a literal node, `o` its `eval` -/
theorem fold_panic {c b : Bool} {o : Outcome V} {s : Site} (safe : b = false → o ≠ .panic s)
    (h : (if c then failOf o else none) = some (.panic s)) : b = true := by
  split at h
  · exact failOf_panic safe h
  · nomatch h

end Arrai.C10
