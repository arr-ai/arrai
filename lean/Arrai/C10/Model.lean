/-
  C10, part (a): a first-order operator evaluator over data values that returns `panic s` at the four
  sites of `Site`, the panic calls, unchecked type assertions and Must* calls of the (repaired) Go code
  that are open.  The other such sites of the transliterated functions were judged unreachable by
  reading (classes U and G of Expected.lean) and have no counterpart here.

  Values are meanings (`Arrai.V`: integers, tuples, finite sets).  The Go dynamic type of a value is
  taken to be a function of its meaning (canonical representation, property C02).  ASSUMED: every
  two-attribute tuple headed (@, @char|@byte|@item|@value) is of the specialised tuple type, every other
  non-empty tuple is a *GenericTuple, and the bucket a set member goes to (Value.getBucket) follows from
  that.  rel.specialTuple specialises (@, @char) only for a char in 0..0x10FFFF and (@, @byte) only for
  a byte in 0..255; outside these ranges the tuple stays a *GenericTuple and goes to a relation builder
  under the key "@, @char" / "@, @byte", which `relKey`, `clashPair` and `trig` do not see:
  `{(@: 0, @byte: 300), ('@, @byte': 1)}` panics in relationBuilder.Add, here it is admissible and a value.

  What is transliterated (same tests, same order):
    rel.NewTuple / TupleBuilder.Finish     `newTuple`   the specialisation rules and their assertions
    SetBuilder.Add/Finish, relationBuilder `newSet`     bucket choice, MustGet on the first tuple's names
    toUnionSetWithItem (With/Union paths)  `withSet`/`unionSets`
    NewRelationExpr + *TupleExpr.Eval      `relRow`     per-heading tuple expressions
    NewDict (literal)                      `newDictLit` duplicate keys
    newArithExpr, addValues, NewWithExpr, NewWithoutExpr, newSetBinExpr, Concatenate, OffsetExpr.Eval,
    Call/SetCall/CallAll, CountExpr, DotExpr, NegExpr, SeqArrowExpr.Eval (>> \_ c), the compareOps table
    (=, !=, <, <=, >, >=, <:, !<:, (<) (<=) (>) (>=) (<>) (<>=) and their negations)
    the compiler's constant folding        `cfail`/`run` which constructors run while the program is compiled
  `trig`/`Adm`: the decidable shapes of operands under which a node can reach one of the four sites.
  What is abstracted: the contents of the resulting sets are computed on member lists (FinSet);
  Less/Equal are total (C06/C07) and modelled by the structural order `V.cmp`.
-/
import Arrai.Core.Lit

namespace Arrai.C10
open Arrai

/-! ## outcomes -/

/-- the panic sites that the modelled functions contain -/
inductive Site
  | newTupleIndex   -- rel.specialTuple (from NewTuple / TupleBuilder.Finish): at.(Number) under a heading (@, @char|@byte|@item)
  | newTupleElem    -- rel.specialTuple (from NewTuple / TupleBuilder.Finish): value.(Number) under a heading (@, @char|@byte)
  | relBuilderGet   -- relationBuilder.Add: t.MustGet(name) for a name of the builder's first tuple
  | unionSetItem    -- toUnionSetWithItem: panic("... set bucket and value bucket are different")
  deriving DecidableEq, Repr, Inhabited

/-- the arr-ai/arrai function the site is reported under; for the two `newTuple` sites the assertion stands in
rel.specialTuple, which both rel.NewTuple and TupleBuilder.Finish call, and that is the frame the harness names -/
def Site.frame : Site → String
  | .newTupleIndex => "rel.NewTuple"
  | .newTupleElem => "rel.NewTuple"
  | .relBuilderGet => "rel.(*GenericTuple).MustGet"
  | .unionSetItem => "rel.toUnionSetWithItem"

/-- the known finding that keeps the site open -/
def Site.finding : Site → String
  | .newTupleIndex => "KF-pinned-panics"
  | .newTupleElem => "KF-pinned-panics"
  | .relBuilderGet => "KF-relation-bucket"
  | .unionSetItem => "KF-relation-bucket"

inductive Outcome (α : Type) where
  | ok (a : α)
  | err
  | panic (s : Site)
  deriving Repr, Inhabited, DecidableEq

namespace Outcome
def bind {α β : Type} (x : Outcome α) (f : α → Outcome β) : Outcome β :=
  match x with
  | ok a => f a
  | err => err
  | panic s => panic s

def isPanic {α : Type} : Outcome α → Bool
  | panic _ => true
  | _ => false
end Outcome

open Outcome

/-! ## shapes of values -/

def isNum : V → Bool
  | .num _ => true
  | _ => false

/-- attribute list of a tuple as Go's map holds it: sorted by name, the last binding of a name wins -/
def normAttrs (attrs : List (String × V)) : List (String × V) :=
  attrs.reverse.foldr (fun p acc => V.insAttr p.1 p.2 acc) []

/-- the heading (@, n) with n one of the four names NewTuple specialises -/
def sugarName (n : String) : Bool := n == "@char" || n == "@byte" || n == "@item" || n == "@value"

/-- a canonical two-attribute tuple (@: i, n: x) with n a sugar name: `some (n, i, x)` -/
def sugarPair : List (String × V) → Option (String × V × V)
  | [(a, i), (n, x)] => if a == "@" && sugarName n then some (n, i, x) else none
  | _ => none

/-- KF-pinned-panics, tuple shape: a tuple headed (@, @char|@byte|@item) whose @ is not a number, or headed
(@, @char|@byte) whose second attribute is not a number -/
def pinnedTuple (attrs : List (String × V)) : Bool :=
  match sugarPair (normAttrs attrs) with
  | some (n, i, x) =>
    if n == "@value" then false
    else if n == "@item" then !isNum i
    else !isNum i || !isNum x
  | none => false

/-- rel.NewTuple and TupleBuilder.Finish: both apply the same tests (rel.specialTuple) to the same map of attributes -/
def newTuple (attrs : List (String × V)) : Outcome V :=
  let m := normAttrs attrs
  match sugarPair m with
  | some (n, i, x) =>
    if n == "@value" then ok (.tup m)
    else if !isNum i then panic .newTupleIndex          -- at.(Number)
    else if n == "@item" then ok (.tup m)
    else if !isNum x then panic .newTupleElem           -- value.(Number)
    else ok (.tup m)
  | none => ok (.tup m)

/-! ## sets: SetBuilder and the relation builder -/

def names (attrs : List (String × V)) : List String := attrs.map (·.1)

/-- members that go to a relation builder: a non-empty tuple that is not a `sugarPair` (assumed specialised whatever
its values: see the head of the file for where rel.specialTuple does not); the bucket key is the names joined by ", "
(hashableNamesSlice) -/
def relKey : V → Option (String × List String)
  | .tup attrs =>
    if attrs.isEmpty then none
    else if (sugarPair attrs).isSome then none
    else some (", ".intercalate (names attrs), names attrs)
  | _ => none

/-- relationBuilder.Add for one member (`relAdd`: for every member in order): the builder of a bucket is created from
the first tuple that arrives (TupleOrderedNames), every later tuple must have all of its names -/
def relAddOne (seen : List (String × List String)) (v : V) : Outcome (List (String × List String)) :=
  match relKey v with
  | none => ok seen
  | some (k, ns) =>
    match seen.find? (fun e => e.1 == k) with
    | none => ok (seen ++ [(k, ns)])
    | some first =>
      if first.2.all (fun n => ns.contains n) then ok seen
      else panic .relBuilderGet                          -- t.MustGet(name)

def relAdd (seen : List (String × List String)) : List V → Outcome Unit
  | [] => ok ()
  | v :: rest => (relAddOne seen v).bind (fun seen' => relAdd seen' rest)

/-- KF-relation-bucket, shape: two members whose name lists differ although they join to the same key -/
def clashPair (a b : V) : Bool :=
  match relKey a, relKey b with
  | some (k1, n1), some (k2, n2) => k1 == k2 && n1 != n2
  | _, _ => false

def bucketClash (vs : List V) : Bool := vs.any (fun a => vs.any (fun b => clashPair a b))

/-- NewSet / SetBuilder.Add … Finish -/
def newSet (vs : List V) : Outcome V :=
  (relAdd [] vs).bind (fun _ => ok (V.mkSet vs))

def members : V → Option (List V)
  | .set xs => some xs
  | _ => none

/-- Set.With on a set whose members are `xs`: only Relation.With / UnionSet.With can reach
toUnionSetWithItem with equal buckets, namely when `v` goes to a relation bucket that already holds tuples
with other names -/
def withSet (xs : List V) (v : V) : Outcome V :=
  if xs.any (fun a => clashPair a v) then panic .unionSetItem
  else ok (V.mkSet (v :: xs))

/-- rel.Union: the default branch adds the members of b one by one (With), the UnionSet branches recurse per bucket -/
def unionSets (xs ys : List V) : Outcome V :=
  if xs.any (fun a => ys.any (fun b => clashPair a b)) then panic .unionSetItem
  else ok (.set (FinSet.union xs ys))

/-! ## literals that are not plain tuples or sets -/

/-- the heading of a relation literal is (@, n) in either order -/
def headingIs (hd : List String) (n : String) : Bool := hd == ["@", n] || hd == [n, "@"]

def attrVal (name : String) (attrs : List (String × V)) : V :=
  match attrs.find? (fun p => p.1 == name) with
  | some (_, v) => v
  | none => default

/-- one row of `{|n1, n2, …| (…), …}`: NewRelationExpr picks a tuple expression per heading -/
def relRow (hd : List String) (vals : List V) : Outcome V :=
  if hd.length != vals.length then err                   -- "heading-tuple mismatch"
  else
    let attrs := Lit.zipAttrs hd vals
    if headingIs hd "@char" then                         -- StringCharTupleExpr.Eval (repaired: errors)
      (if isNum (attrVal "@" attrs) && isNum (attrVal "@char" attrs) then ok (.tup (normAttrs attrs)) else err)
    else if headingIs hd "@item" then                    -- ArrayItemTupleExpr.Eval (repaired: error)
      (if isNum (attrVal "@" attrs) then ok (.tup (normAttrs attrs)) else err)
    else if headingIs hd "@value" then ok (.tup (normAttrs attrs))       -- DictEntryTupleExpr.Eval
    else newTuple attrs                                  -- NewTupleExpr → NewTuple (this is where @byte goes)

def entry (k v : V) : V := V.mkTup [("@", k), ("@value", v)]

/-- NewDict(allowDupKeys = false) for a dict literal -/
def newDictLit (kvs : List (V × V)) : Outcome V :=
  if (kvs.map (·.1)).eraseDups.length != kvs.length then err       -- "duplicate key"
  else ok (V.mkSet (kvs.map (fun kv => entry kv.1 kv.2)))

/-! ## operators -/

inductive BinOp
  | add | sub | mul | with_ | without | union | inter | diff | symdiff | concat | offset | call
  deriving DecidableEq, Repr, Inhabited

inductive CmpOp
  | eq | ne | lt | le | gt | ge | mem | nmem
  | sub | sup | subeq | supeq | subsup | subsupeq          -- (<) (>) (<=) (>=) (<>) (<>=)
  | nsub | nsup | nsubeq | nsupeq | nsubsup | nsubsupeq    -- !(<) …
  deriving DecidableEq, Repr, Inhabited

inductive UnOp
  | neg | count
  deriving DecidableEq, Repr, Inhabited

/-- (@: i, x: v) with exactly these two attributes: `some (name, i, v)` -/
def atPair : V → Option (String × V × V)
  | .tup [(a, x), (b, y)] => if a == "@" then some (b, x, y) else if b == "@" then some (a, y, x) else none
  | _ => none

/-- SetCall: CallAll collects the values stored under the argument into a SetBuilder; exactly one result is the
answer.  A set with a member that is not an (@, x) pair cannot be called (GenericSet/Relation.CallAll). -/
def callResults (xs : List V) (arg : V) : List V :=
  xs.filterMap (fun t => match atPair t with
    | some (_, i, v) => if i = arg then some v else none
    | none => none)

def callSet (xs : List V) (arg : V) : Outcome V :=
  if xs.all (fun t => (atPair t).isSome) then
    (newSet (callResults xs arg)).bind (fun s => match s with
      | .set [r] => ok r
      | _ => err)
  else err

/-- rel.Concatenate -/
def shiftAt (by_ : Int) : V → Option V
  | .tup attrs =>
    match attrs.find? (fun p => p.1 == "@") with
    | some (_, .num n) => some (.tup (normAttrs (attrs ++ [("@", .num (n + by_))])))
    | _ => none
  | _ => none

def shiftAll (by_ : Int) : List V → Option (List V)
  | [] => some []
  | v :: rest => match shiftAt by_ v, shiftAll by_ rest with
    | some t, some ts => some (t :: ts)
    | _, _ => none

/-- shape under which Concatenate's SetBuilder meets a relation-bucket clash -/
def concatClash (xs ys : List V) : Bool :=
  match shiftAll (Int.ofNat xs.length) ys with
  | some shifted => bucketClash (xs ++ shifted)
  | none => false

def concatSets (xs ys : List V) : Outcome V :=
  match shiftAll (Int.ofNat xs.length) ys with
  | some shifted => newSet (xs ++ shifted)
  | none => err                                          -- "Mismatched elt in set + set"

/-- kinds that OffsetExpr.Eval accepts: Array, Bytes, String (all members are the same kind of specialised
pair with a number index) or the empty set -/
def seqHeading (xs : List V) : Option String :=
  match xs with
  | [] => none
  | v :: _ =>
    match v with
    | .tup attrs =>
      match sugarPair attrs with
      | some (n, _, _) =>
        if n != "@value" && xs.all (fun w => match w with
            | .tup bs => (match sugarPair bs with | some (m, i, _) => m == n && isNum i | none => false)
            | _ => false)
        then some n else none
      | none => none
    | _ => none

def offsetSet (off : V) (xs : List V) : Outcome V :=
  match off with
  | .num k =>
    if xs.isEmpty then ok V.none
    else match seqHeading xs with
      | some _ => match shiftAll k xs with
        | some shifted => ok (V.mkSet shifted)
        | none => err
      | none => err                                      -- "offset not applicable to …"
  | _ => err                                             -- "offset must be a number"

/-! a >> \_ c  (SeqArrowExpr.Eval with a constant function): String and Bytes need a number back, Array and Dict
take anything, every other set must consist of tuples with an @ and one more attribute and is rebuilt with
NewTuple — where the assertions of NewTuple are live again -/

/-- the (@, n) parts of a member that the generic branch of `>>` rebuilds -/
def atAndOther : V → Option (V × String)
  | .tup attrs =>
    match attrs.find? (fun p => p.1 == "@"), attrs.find? (fun p => p.1 != "@") with
    | some (_, i), some (n, _) => some (i, n)
    | _, _ => none
  | _ => none

/-- the rebuilt tuple (@: i, n: c) of a member is a pinned tuple -/
def remapPinned (c : V) (v : V) : Bool :=
  match atAndOther v with
  | some (i, n) => pinnedTuple [("@", i), (n, c)]
  | none => false

def seqMapTuples (c : V) : List V → Outcome (List V)
  | [] => ok []
  | v :: rest =>
    match atAndOther v with
    | some (i, n) =>
      (newTuple [("@", i), (n, c)]).bind (fun t => (seqMapTuples c rest).bind (fun ts => ok (t :: ts)))
    | none => err                                        -- "lhs must be an indexed type"

def seqMapConst (xs : List V) (c : V) : Outcome V :=
  match seqHeading xs with
  | some n =>
    if n == "@item" then ok (V.mkSet (xs.filterMap (fun v => match atPair v with
        | some (_, i, _) => some (V.mkTup [("@", i), ("@item", c)])
        | none => none)))
    else if isNum c then ok (V.mkSet (xs.filterMap (fun v => match atPair v with
        | some (m, i, _) => some (V.mkTup [("@", i), (m, c)])
        | none => none)))
    else err                                             -- "must produce valid chars/bytes"
  | none =>
    if !xs.isEmpty && xs.all (fun v => match v with
        | .tup bs => (match sugarPair bs with | some (m, _, _) => m == "@value" | none => false)
        | _ => false)
    then ok (V.mkSet (xs.filterMap (fun v => match atPair v with
        | some (_, i, _) => some (entry i c)
        | none => none)))                                -- Dict
    else (seqMapTuples c xs).bind newSet                 -- generic path

def boolV (b : Bool) : V := V.bool b

def isSubset (xs ys : List V) : Bool := FinSet.subset xs ys

/-- syntax.subset / subsetOrEqual / … (repaired: non-sets are errors) and the other compareOps -/
def cmpVals (op : CmpOp) (a b : V) : Outcome V :=
  let sets (f : List V → List V → Bool) : Outcome V :=
    match members a, members b with
    | some xs, some ys => ok (boolV (f xs ys))
    | _, _ => err
  let proper (xs ys : List V) : Bool := isSubset xs ys && xs.length < ys.length
  match op with
  | .eq => ok (boolV (decide (a = b)))
  | .ne => ok (boolV (!decide (a = b)))
  | .lt => ok (boolV (V.cmp a b == .lt))
  | .le => ok (boolV (V.cmp b a != .lt))
  | .gt => ok (boolV (V.cmp b a == .lt))
  | .ge => ok (boolV (V.cmp a b != .lt))
  | .mem => match members b with
    | some ys => ok (boolV (decide (a ∈ ys)))
    | none => err
  | .nmem => match members b with
    | some ys => ok (boolV (!decide (a ∈ ys)))
    | none => err
  | .sub => sets proper
  | .sup => sets (fun xs ys => proper ys xs)
  | .subeq => sets isSubset
  | .supeq => sets (fun xs ys => isSubset ys xs)
  | .subsup => sets (fun xs ys => proper xs ys || proper ys xs)
  | .subsupeq => sets (fun xs ys => isSubset xs ys || isSubset ys xs)
  | .nsub => sets (fun xs ys => !proper xs ys)
  | .nsup => sets (fun xs ys => !proper ys xs)
  | .nsubeq => sets (fun xs ys => !isSubset xs ys)
  | .nsupeq => sets (fun xs ys => !isSubset ys xs)
  | .nsubsup => sets (fun xs ys => !(proper xs ys || proper ys xs))
  | .nsubsupeq => sets (fun xs ys => !(isSubset xs ys || isSubset ys xs))

def binVals (op : BinOp) (a b : V) : Outcome V :=
  match op with
  | .add =>                                              -- addValues
    match a, b with
    | .num x, .num y => ok (.num (x + y))
    | .tup x, .tup y => ok (.tup (normAttrs (x ++ y)))   -- MergeLeftToRight
    | .set x, .set y => concatSets x y                   -- Concatenate
    | _, _ => err
  | .sub => match a, b with                              -- newArithExpr
    | .num x, .num y => ok (.num (x - y))
    | _, _ => err
  | .mul => match a, b with
    | .num x, .num y => ok (.num (x * y))
    | _, _ => err
  | .with_ => match a with                               -- NewWithExpr
    | .set xs => withSet xs b
    | _ => err
  | .without => match a with                             -- NewWithoutExpr
    | .set xs => ok (.set (FinSet.erase xs b))
    | _ => err
  | .union => match a, b with                            -- newSetBinExpr
    | .set xs, .set ys => unionSets xs ys
    | _, _ => err
  | .inter => match a, b with
    | .set xs, .set ys => ok (.set (FinSet.inter xs ys))
    | _, _ => err
  | .diff => match a, b with
    | .set xs, .set ys => ok (.set (FinSet.diff xs ys))
    | _, _ => err
  | .symdiff => match a, b with                          -- Union(Difference(a, b), Difference(b, a))
    | .set xs, .set ys => unionSets (FinSet.diff xs ys) (FinSet.diff ys xs)
    | _, _ => err
  | .concat => match a, b with
    | .set xs, .set ys => concatSets xs ys
    | _, _ => err
  | .offset => match b with                              -- OffsetExpr.Eval (a \ b: a is the offset)
    | .set ys => offsetSet a ys
    | _ => match a with
      | .num _ => err
      | _ => err
  | .call => match a with                                -- Call
    | .set xs => callSet xs b
    | _ => err

def unVals (op : UnOp) (a : V) : Outcome V :=
  match op with
  | .neg => match a with                                 -- Negate
    | .num x => ok (.num (-x))
    | .tup [(n, x)] => if n == "@neg" then ok x else ok (.tup [("@neg", a)])
    | _ => ok (.tup [("@neg", a)])
  | .count => match a with                               -- CountExpr
    | .set xs => ok (.num (Int.ofNat xs.length))
    | _ => err

/-- DotExpr.Eval: a tuple, or (deprecated) a set with exactly one member that is a tuple -/
def getAttr (name : String) (attrs : List (String × V)) : Outcome V :=
  match attrs.find? (fun p => p.1 == name) with
  | some (_, v) => ok v
  | none => err            -- (the "&name" accessor needs a function value: not in the first-order fragment → error)

def dotVal (a : V) (name : String) : Outcome V :=
  match a with
  | .tup attrs => getAttr name attrs
  | .set [.tup attrs] => getAttr name attrs
  | _ => err

/-! ## expressions -/

inductive E where
  | num (n : Int)
  | str (cs : List Nat)
  | tuple (kvs : List (String × E))
  | set (xs : List E)
  | arr (xs : List E)
  | dict (kvs : List (E × E))
  | rel (hd : List String) (rows : List (List E))
  | bin (op : BinOp) (a b : E)
  | cmp (op : CmpOp) (a b : E)
  | un (op : UnOp) (a : E)
  | dot (a : E) (name : String)
  | seqmap (a c : E)                                     -- a >> \_ c   (c closed)
  deriving Inhabited

mutual
def eval : E → Outcome V
  | .num n => ok (.num n)
  | .str cs => ok (V.mkStr cs)
  | .tuple kvs => (evalAttrs kvs).bind newTuple
  | .set xs => (evalSetFrom [] xs).bind (fun vs => ok (V.mkSet vs))
  | .arr xs => (evalList xs).bind (fun vs => ok (V.mkArr vs))
  | .dict kvs => (evalPairs kvs).bind newDictLit
  | .rel hd rows => (evalRelFrom hd [] rows).bind (fun ts => ok (V.mkSet ts))
  | .bin op a b => (eval a).bind (fun va =>
      if op == .offset && !isNum va then err             -- OffsetExpr.Eval tests the offset before it evaluates the array
      else (eval b).bind (fun vb => binVals op va vb))
  | .cmp op a b => (eval a).bind (fun va => (eval b).bind (fun vb => cmpVals op va vb))
  | .un op a => (eval a).bind (unVals op)
  | .dot a name => (eval a).bind (fun va => dotVal va name)
  | .seqmap a c => (eval a).bind (fun va =>
      match va with
      | .set [] => ok V.none                             -- no member: the function is never called
      | .set xs => (eval c).bind (fun vc => seqMapConst xs vc)
      | _ => err)
def evalList : List E → Outcome (List V)
  | [] => ok []
  | e :: rest => (eval e).bind (fun v => (evalList rest).bind (fun vs => ok (v :: vs)))
def evalAttrs : List (String × E) → Outcome (List (String × V))
  | [] => ok []
  | (n, e) :: rest => (eval e).bind (fun v => (evalAttrs rest).bind (fun vs => ok ((n, v) :: vs)))
def evalPairs : List (E × E) → Outcome (List (V × V))
  | [] => ok []
  | (k, e) :: rest =>
    (eval k).bind (fun kv => (eval e).bind (fun v => (evalPairs rest).bind (fun vs => ok ((kv, v) :: vs))))
/-- SetExpr.Eval (and the fold in NewSetExpr): every element is evaluated and handed to the SetBuilder before the
next one is looked at -/
def evalSetFrom (seen : List (String × List String)) : List E → Outcome (List V)
  | [] => ok []
  | e :: rest =>
    (eval e).bind (fun v => (relAddOne seen v).bind (fun seen' =>
      (evalSetFrom seen' rest).bind (fun vs => ok (v :: vs))))
/-- the rows of a relation literal are tuple expressions in a set expression: the parts of a row are evaluated, its
tuple is built and added, then the next row -/
def evalRelFrom (hd : List String) (seen : List (String × List String)) : List (List E) → Outcome (List V)
  | [] => ok []
  | r :: rest =>
    (evalList r).bind (fun vs => (relRow hd vs).bind (fun t => (relAddOne seen t).bind (fun seen' =>
      (evalRelFrom hd seen' rest).bind (fun ts => ok (t :: ts)))))
end

/-- the values of the elements up to the first one that does not evaluate to a value -/
def okPrefix : List E → List V
  | [] => []
  | e :: rest => match eval e with
    | .ok v => v :: okPrefix rest
    | _ => []

/-- the row tuples up to the first row that does not produce one -/
def okRows (hd : List String) : List (List E) → List V
  | [] => []
  | r :: rest => match (evalList r).bind (relRow hd) with
    | .ok t => t :: okRows hd rest
    | _ => []

/-! ## compile time: constant folding

The compiler folds every constructor whose parts are literal values (NewTupleExpr, NewSetExpr, NewArrayExpr,
NewDictExpr; `(-1)` is a negation, not a literal; rows under the headings (@, @char) and (@, @item) become
tuple expressions that are only evaluated at run time).  The constructors of a folded literal therefore run —
and fail or panic — while the program is compiled, in source order, before anything is evaluated. -/

def runtimeHeading (hd : List String) : Bool := headingIs hd "@char" || headingIs hd "@item"

mutual
def isLit : E → Bool
  | .num n => decide (0 ≤ n)
  | .str _ => true
  | .tuple kvs => isLitAttrs kvs
  | .set xs => isLitList xs
  | .arr xs => isLitList xs
  | .dict kvs => isLitPairs kvs
  | .rel hd rows => !runtimeHeading hd && isLitRows rows
  | _ => false
def isLitList : List E → Bool
  | [] => true
  | e :: rest => isLit e && isLitList rest
def isLitAttrs : List (String × E) → Bool
  | [] => true
  | (_, e) :: rest => isLit e && isLitAttrs rest
def isLitPairs : List (E × E) → Bool
  | [] => true
  | (k, e) :: rest => isLit k && isLit e && isLitPairs rest
def isLitRows : List (List E) → Bool
  | [] => true
  | r :: rest => isLitList r && isLitRows rest
end

def failOf (o : Outcome V) : Option (Outcome V) :=
  match o with
  | .ok _ => none
  | bad => some bad

def orElse (a : Option (Outcome V)) (b : Option (Outcome V)) : Option (Outcome V) :=
  match a with
  | some o => some o
  | none => b

/-- NewRelationExpr after the rows are compiled: per row, the width test, then NewTupleExpr, which folds a row of
literals -/
def relBuild (hd : List String) : List (List E) → Option (Outcome V)
  | [] => none
  | r :: rest =>
    if r.length != hd.length then some .err
    else orElse
      (if !runtimeHeading hd && isLitList r then
        (match evalList r with
         | .ok vs => failOf (relRow hd vs)
         | _ => none)
       else none)
      (relBuild hd rest)

mutual
/-- the first failure of the compile phase, in source order: the parts first, then the fold of the node itself -/
def cfail : E → Option (Outcome V)
  | .num _ => none
  | .str _ => none
  | .tuple kvs => orElse (cfailAttrs kvs) (if isLitAttrs kvs then failOf (eval (.tuple kvs)) else none)
  | .set xs => orElse (cfailList xs) (if isLitList xs then failOf (eval (.set xs)) else none)
  | .arr xs => cfailList xs
  | .dict kvs => orElse (cfailPairs kvs) (if isLitPairs kvs then failOf (eval (.dict kvs)) else none)
  | .rel hd rows =>
    orElse (cfailRows rows) (orElse (relBuild hd rows)
      (if !runtimeHeading hd && isLitRows rows then failOf (eval (.rel hd rows)) else none))
  | .bin _ a b => orElse (cfail a) (cfail b)
  | .cmp _ a b => orElse (cfail a) (cfail b)
  | .un _ a => cfail a
  | .dot a _ => cfail a
  | .seqmap a c => orElse (cfail a) (cfail c)
def cfailList : List E → Option (Outcome V)
  | [] => none
  | e :: rest => orElse (cfail e) (cfailList rest)
def cfailAttrs : List (String × E) → Option (Outcome V)
  | [] => none
  | (_, e) :: rest => orElse (cfail e) (cfailAttrs rest)
def cfailPairs : List (E × E) → Option (Outcome V)
  | [] => none
  | (k, e) :: rest => orElse (cfail k) (orElse (cfail e) (cfailPairs rest))
def cfailRows : List (List E) → Option (Outcome V)
  | [] => none
  | r :: rest => orElse (cfailList r) (cfailRows rest)
end

/-- compile, then evaluate: what `syntax.EvaluateExpr` does with the source of `e` -/
def run (e : E) : Outcome V :=
  match cfail e with
  | some o => o
  | none => eval e

/-! ## the decidable shapes of the open findings, node by node

`trig e` is true when some constructor or operator node of `e` is applied to operand values of one of the open
shapes: a pinned tuple (`pinnedTuple`) or a relation-bucket clash (`clashPair`).  It is computed from the values
of the operands only — never from the outcome of the node itself. -/

/-- shapes under which the value-level function of a node can reach an open site -/
def binTrig (op : BinOp) (a b : V) : Bool :=
  match op, a, b with
  | .with_, .set xs, v => xs.any (fun x => clashPair x v)
  | .union, .set xs, .set ys => xs.any (fun x => ys.any (fun y => clashPair x y))
  | .symdiff, .set xs, .set ys =>
    (FinSet.diff xs ys).any (fun x => (FinSet.diff ys xs).any (fun y => clashPair x y))
  | .concat, .set xs, .set ys => concatClash xs ys
  | .add, .set xs, .set ys => concatClash xs ys
  | .call, .set xs, arg => bucketClash (callResults xs arg)
  | _, _, _ => false

/-- members of a non-sequence, non-dict set that `>> \_ c` rebuilds into a pinned tuple, or whose rebuilt tuples clash -/
def seqmapTrig (xs : List V) (c : V) : Bool :=
  match seqHeading xs with
  | some _ => false
  | none =>
    xs.any (remapPinned c) || (match seqMapTuples c xs with
      | .ok ts => bucketClash ts
      | _ => false)

/-- some row of a relation literal, taken by itself, is a pinned tuple under the heading (a row of literals is
folded into a tuple at compile time, whatever the other rows do) -/
def pinnedRows (hd : List String) : List (List E) → Bool
  | [] => false
  | r :: rest =>
    (match evalList r with
     | .ok vs => hd.length == vs.length && pinnedTuple (Lit.zipAttrs hd vs)
     | _ => false) || pinnedRows hd rest

mutual
def trig : E → Bool
  | .num _ => false
  | .str _ => false
  | .tuple kvs => trigAttrs kvs || (match evalAttrs kvs with | .ok as => pinnedTuple as | _ => false)
  | .set xs => trigList xs || bucketClash (okPrefix xs)
  | .arr xs => trigList xs
  | .dict kvs => trigPairs kvs
  | .rel hd rows => trigRows rows || pinnedRows hd rows || bucketClash (okRows hd rows)
  | .bin op a b => trig a || trig b || (match eval a, eval b with
      | .ok va, .ok vb => binTrig op va vb
      | _, _ => false)
  | .cmp _ a b => trig a || trig b
  | .un _ a => trig a
  | .dot a _ => trig a
  | .seqmap a c => trig a || trig c || (match eval a, eval c with
      | .ok (.set xs), .ok vc => seqmapTrig xs vc
      | _, _ => false)
def trigList : List E → Bool
  | [] => false
  | e :: rest => trig e || trigList rest
def trigAttrs : List (String × E) → Bool
  | [] => false
  | (_, e) :: rest => trig e || trigAttrs rest
def trigPairs : List (E × E) → Bool
  | [] => false
  | (k, e) :: rest => trig k || trig e || trigPairs rest
def trigRows : List (List E) → Bool
  | [] => false
  | r :: rest => trigList r || trigRows rest
end

/-- admissible: no node of the expression is applied to operands of an open-finding shape -/
def Adm (e : E) : Prop := trig e = false

instance (e : E) : Decidable (Adm e) := inferInstanceAs (Decidable (trig e = false))

end Arrai.C10
