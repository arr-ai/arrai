/-
  C17 helper lemmas: the engine loop refines the sequential specification, and the specification's runs in closed
  form.  The refinement goes observer by observer: on `cell` (an observer's map entry and its log) every arm of the
  loop acts by `Cell.notify` or `Cell.close`.

  `Spec.reorder`, `Spec.quiet` and `Spec.noClose`, defined here, occur in the statements of property theorems
  (`enumeration_order_irrelevant`, `delivery_live`, `closed_at_most_once`, `every_observer_closed_exactly_once`).
  Core-only.
-/
import Arrai.C17.Model
import Arrai.Core.ListLemmas

namespace Arrai.C17

/-! ## enumeration orders are permutations -/

theorem pickAt_succ {α : Type} (i : Nat) (x : α) (r : List α) :
    pickAt (i + 1) (x :: r) = (pickAt i r).map fun p => (p.1, x :: p.2) := by
  show (match pickAt i r with | some (y, r') => some (y, x :: r') | none => none) = _
  cases pickAt i r <;> rfl

theorem permBy_cons {α : Type} (c : Nat) (cs : List Nat) (l : List α) :
    permBy (c :: cs) l = match pickAt (c % l.length) l with
      | some (x, r) => x :: permBy cs r
      | none => l := rfl

theorem pickAt_perm {α : Type} : ∀ (i : Nat) (l : List α) (x : α) (r : List α),
    pickAt i l = some (x, r) → l.Perm (x :: r)
  | i, [], _, _, h => by cases i <;> cases h
  | 0, y :: t, x, r, h => by cases h; exact List.Perm.refl _
  | i + 1, y :: t, x, r, h => by
    rw [pickAt_succ] at h
    cases hp : pickAt i t with
    | none => rw [hp] at h; cases h
    | some p =>
      rw [hp] at h; cases h
      exact (List.Perm.cons y (pickAt_perm i t p.1 p.2 hp)).trans (List.Perm.swap p.1 y p.2)

theorem permBy_perm {α : Type} : ∀ (c : List Nat) (l : List α), (permBy c l).Perm l
  | [], l => List.Perm.refl _
  | c :: cs, l => by
    rw [permBy_cons]
    cases hp : pickAt (c % l.length) l with
    | none => exact List.Perm.refl _
    | some p => exact (List.Perm.cons p.1 (permBy_perm cs p.2)).trans (pickAt_perm _ _ _ _ hp).symm

theorem mem_pickAt {α : Type} : ∀ (l : List α) (x : α), x ∈ l → ∃ i r, i < l.length ∧ pickAt i l = some (x, r)
  | y :: t, x, h => by
    rcases List.mem_cons.1 h with rfl | h
    · exact ⟨0, t, Nat.succ_pos _, rfl⟩
    · obtain ⟨i, r, hi, hp⟩ := mem_pickAt t x h
      exact ⟨i + 1, y :: r, Nat.succ_lt_succ hi, by rw [pickAt_succ, hp]; rfl⟩

theorem permBy_surj {α : Type} : ∀ (l' l : List α), l'.Perm l → ∃ code, permBy code l = l'
  | [], _, h => ⟨[], h.symm.eq_nil⟩
  | x :: t, l, h => by
    obtain ⟨i, r, hi, hp⟩ := mem_pickAt l x ((h.mem_iff).1 (List.mem_cons_self ..))
    obtain ⟨c, hc⟩ := permBy_surj t r (List.Perm.cons_inv (h.trans (pickAt_perm i l x r hp)))
    exact ⟨i :: c, by rw [permBy_cons, Nat.mod_eq_of_lt hi, hp, ← hc]⟩

namespace Impl
variable {S : Type}

theorem runFrom_append (s : State S) (a b : List (Msg S)) : runFrom s (a ++ b) = runFrom (runFrom s a) b :=
  List.foldl_append

/-! ## the watcher map -/

def Distinct (ws : List (Watcher S)) : Prop := ws.Pairwise fun a b => a.id ≠ b.id

@[simp] theorem mapGet_nil (i : Nat) : mapGet ([] : List (Watcher S)) i = none := rfl

theorem mapGet_cons (w : Watcher S) (r : List (Watcher S)) (i : Nat) :
    mapGet (w :: r) i = if w.id = i then some w else mapGet r i := by
  simp only [mapGet, List.find?_cons]
  split <;> simp_all

theorem mapGet_eq_none {ws : List (Watcher S)} {i : Nat} : mapGet ws i = none ↔ ∀ w ∈ ws, w.id ≠ i := by
  simp [mapGet]

theorem mapGet_mapDel (ws : List (Watcher S)) (j i : Nat) :
    mapGet (mapDel ws j) i = if i = j then none else mapGet ws i := by
  simp only [mapGet, mapDel, List.find?_filter]
  split
  next hi => simp [hi]
  next hi =>
    congr 1; funext w
    by_cases hw : w.id = i <;> simp [hw, hi]

theorem mapGet_mapPut (ws : List (Watcher S)) (w : Watcher S) (i : Nat) :
    mapGet (mapPut ws w) i = if i = w.id then some w else mapGet ws i := by
  have h : mapGet (mapDel ws w.id ++ [w]) i = (mapGet (mapDel ws w.id) i).or (mapGet [w] i) := List.find?_append
  rw [mapPut, h, mapGet_mapDel, mapGet_cons, mapGet_nil]
  by_cases hi : i = w.id
  · simp [hi]
  · simp [hi, Ne.symm hi]

theorem Distinct.mapDel {ws : List (Watcher S)} (h : Distinct ws) (j : Nat) : Distinct (mapDel ws j) :=
  List.Pairwise.filter _ h

theorem Distinct.mapPut {ws : List (Watcher S)} (h : Distinct ws) (w : Watcher S) : Distinct (mapPut ws w) := by
  refine List.pairwise_append.2 ⟨h.mapDel w.id, List.pairwise_singleton _ _, fun a ha b hb => ?_⟩
  rw [List.mem_singleton.1 hb]
  exact bne_iff_ne.1 (List.mem_filter.1 ha).2

theorem Distinct.perm {l1 l2 : List (Watcher S)} (hp : l1.Perm l2) (h : Distinct l1) : Distinct l2 :=
  (hp.pairwise_iff fun hab => Ne.symm hab).1 h

theorem mapGet_perm {l1 l2 : List (Watcher S)} (hp : l1.Perm l2) (hd : Distinct l1) (i : Nat) :
    mapGet l1 i = mapGet l2 i :=
  find?_unique_perm _ (fun a ha b hb pa pb => inj_of_nodup_map Watcher.id (List.pairwise_map.2 hd) a ha b hb
    ((eq_of_beq pa).trans (eq_of_beq pb).symm)) hp

/-! ## what the loop emits -/

theorem logOf_append (i : Nat) (a b : List (Out S)) : logOf i (a ++ b) = logOf i a ++ logOf i b :=
  List.filterMap_append

theorem logOf_evs (i j : Nat) (evs : List (Ev S)) : logOf i (evs.map (Out.ev j)) = if j = i then evs else [] := by
  induction evs with
  | nil => exact (ite_self _).symm
  | cons e r ih =>
    simp only [logOf, List.map_cons, List.filterMap_cons, evOf] at ih ⊢
    by_cases h : j = i <;> simp only [h, if_true, if_false] at ih ⊢ <;> rw [ih]

theorem logOf_reply (i : Nat) (b : Bool) (l : List (Out S)) : logOf i (Out.reply b :: l) = logOf i l := rfl

theorem replies_append {outs : List (Out S)} (h : outs.filterMap replyOf = []) (tr : List (Out S)) :
    (tr ++ outs).filterMap replyOf = tr.filterMap replyOf := by
  rw [List.filterMap_append, h, List.append_nil]

theorem replies_evs (j : Nat) : ∀ evs : List (Ev S), (evs.map (Out.ev j)).filterMap (replyOf (S := S)) = []
  | [] => rfl
  | _ :: r => replies_evs j r

def tell (f : Watcher S → List (Ev S)) (l : List (Watcher S)) : List (Out S) :=
  l.flatMap fun w => (f w).map (Out.ev w.id)

theorem replies_tell (f : Watcher S → List (Ev S)) : ∀ l : List (Watcher S), (tell f l).filterMap replyOf = []
  | [] => rfl
  | w :: r => by rw [tell, List.flatMap_cons, List.filterMap_append, replies_evs, ← tell, replies_tell f r]; rfl

theorem logOf_tell (f : Watcher S → List (Ev S)) (i : Nat) : ∀ {l : List (Watcher S)}, Distinct l →
    logOf i (tell f l) = ((mapGet l i).map f).getD []
  | [], _ => rfl
  | w :: r, hd => by
    obtain ⟨hw, hr⟩ := List.pairwise_cons.1 hd
    rw [tell, List.flatMap_cons, logOf_append, logOf_evs, mapGet_cons, ← tell, logOf_tell f i hr]
    split
    next h => rw [mapGet_eq_none.2 fun x hx => h ▸ (hw x hx).symm]; simp
    next => simp

theorem closeAll_eq_tell (l : List (Watcher S)) : closeAll l = tell (fun _ => [.closed false]) l :=
  List.map_eq_flatMap

/-! ## `(*watcher).update` and the range loop -/

/-- why the loop never wedges: every `blocked` of `wUpdate` is `cancelSends` of a busy or cancelled watcher -/
theorem wUpdate_not_blocked (w : Watcher S) (g : S) : (wUpdate w g).blocked = false := by
  unfold wUpdate
  cases w.expr g with
  | none => rfl
  | some v =>
    simp only
    cases w.cb.headD .ok <;> rfl

def upd1 (g : S) (w : Watcher S) : Option (Watcher S) :=
  if (wUpdate w g).ok then some ⟨w.id, w.expr, (wUpdate w g).cb⟩ else none

theorem upd1_id {g : S} {w w' : Watcher S} (h : upd1 g w = some w') : w'.id = w.id := by
  unfold upd1 at h
  split at h
  · cases h; rfl
  · cases h

/-- `update` never blocks, so the range loop visits every entry: it is a `filterMap` -/
theorem rangeUpdate_eq (g : S) : ∀ l : List (Watcher S),
    rangeUpdate g l = ⟨l.filterMap (upd1 g), tell (fun w => (wUpdate w g).evs) l, false⟩
  | [] => rfl
  | w :: r => by
    simp only [rangeUpdate, wUpdate_not_blocked, Bool.false_eq_true, if_false, rangeUpdate_eq g r,
      List.filterMap_cons, upd1]
    cases (wUpdate w g).ok <;> rfl

theorem mapGet_filterMap {f : Watcher S → Option (Watcher S)} (hf : ∀ w w', f w = some w' → w'.id = w.id)
    (i : Nat) : ∀ {l : List (Watcher S)}, Distinct l → mapGet (l.filterMap f) i = (mapGet l i).bind f
  | [], _ => rfl
  | w :: r, hd => by
    obtain ⟨hw, hr⟩ := List.pairwise_cons.1 hd
    have ih := mapGet_filterMap hf i hr
    rw [List.filterMap_cons, mapGet_cons]
    by_cases hi : w.id = i
    · have hn : mapGet r i = none := mapGet_eq_none.2 fun x hx => hi ▸ (hw x hx).symm
      rw [if_pos hi, Option.bind_some]
      cases hfw : f w with
      | none => rw [ih, hn]; rfl
      | some w' => rw [mapGet_cons, if_pos ((hf w w' hfw).trans hi)]
    · rw [if_neg hi, ← ih]
      cases hfw : f w with
      | none => rfl
      | some w' => exact (mapGet_cons ..).trans (if_neg (hf w w' hfw ▸ hi))

theorem step_update_none {s : State S} {e : S → Option S} (hr : s.status = .running) (he : e s.global = none)
    (ord : List Nat) : step s (.update e ord) = { s with trace := s.trace ++ [.reply false] } := by
  simp only [step, hr, he]

theorem step_update_some {s : State S} {e : S → Option S} {v : S} (hr : s.status = .running)
    (he : e s.global = some v) (ord : List Nat) :
    step s (.update e ord) =
      { s with global := v,
               trace := s.trace ++ .reply true :: tell (fun w => (wUpdate w v).evs) (permBy ord s.watchers),
               watchers := (permBy ord s.watchers).filterMap (upd1 v) } := by
  simp only [step, hr, he, rangeUpdate_eq, Bool.false_eq_true, if_false]

/-! ## what the loop holds for one observer -/

abbrev Cell (S : Type) := Option (Watcher S) × List (Ev S)

def cell (ws : List (Watcher S)) (tr : List (Out S)) (i : Nat) : Cell S := (mapGet ws i, logOf i tr)

def Cell.pass (f : Watcher S → Option (Watcher S)) (t : Watcher S → List (Ev S)) (c : Cell S) : Cell S :=
  match c.1 with
  | some w => (f w, c.2 ++ t w)
  | none => c

/-- `(*watcher).update` -/
def Cell.notify (g : S) : Cell S → Cell S := Cell.pass (upd1 g) fun w => (wUpdate w g).evs

/-- `close()` followed by `delete` -/
def Cell.close : Cell S → Cell S := Cell.pass (fun _ => none) fun _ => [.closed false]

/-- `Observe`: `watchers[j] = w; if !w.update(..) { delete(watchers, j) }`.  `u` abbreviates the result of `wUpdate`;
callers pass `hu := rfl`. -/
theorem cell_insert (ws : List (Watcher S)) (tr : List (Out S)) (j : Nat) (e : S → Option S) (c : List Act) (g : S)
    {u : UpdRes S} (hu : wUpdate ⟨j, e, c⟩ g = u) (i : Nat) :
    cell (if u.ok then mapPut ws ⟨j, e, u.cb⟩ else mapDel (mapPut ws ⟨j, e, u.cb⟩) j) (tr ++ u.evs.map (Out.ev j)) i
      = if i = j then Cell.notify g (some ⟨j, e, c⟩, logOf j tr) else cell ws tr i := by
  subst hu
  rw [cell, logOf_append, logOf_evs]
  by_cases hi : i = j
  · subst hi
    rw [if_pos rfl, if_pos rfl]
    show (_, _) = (upd1 g _, _)
    rw [upd1]
    split
    · rw [mapGet_mapPut, if_pos rfl]
    · rw [mapGet_mapDel, if_pos rfl]
  · rw [if_neg hi, if_neg (Ne.symm hi), List.append_nil]
    split
    · rw [mapGet_mapPut, if_neg hi]; rfl
    · rw [mapGet_mapDel, if_neg hi, mapGet_mapPut, if_neg hi]; rfl

theorem cell_delete {ws : List (Watcher S)} {j : Nat} {w : Watcher S} (hg : mapGet ws j = some w)
    (tr : List (Out S)) (i : Nat) :
    cell (mapDel ws j) (tr ++ [Out.ev j (.closed false)]) i
      = if i = j then (cell ws tr i).close else cell ws tr i := by
  have he : logOf i [Out.ev j (.closed false)] = if j = i then [Ev.closed (S := S) false] else [] :=
    logOf_evs i j [.closed false]
  rw [cell, mapGet_mapDel, logOf_append, he]
  split
  next hi => rw [hi, if_pos rfl, cell, hg]; rfl
  next hi => rw [if_neg (Ne.symm hi), List.append_nil]; rfl

theorem cell_pass {f : Watcher S → Option (Watcher S)} (hf : ∀ w w', f w = some w' → w'.id = w.id)
    (t : Watcher S → List (Ev S)) {ws : List (Watcher S)} (hd : Distinct ws) (ord : List Nat) (tr : List (Out S))
    (i : Nat) :
    cell ((permBy ord ws).filterMap f) (tr ++ tell t (permBy ord ws)) i = (cell ws tr i).pass f t := by
  have hp := (permBy_perm ord ws).symm
  rw [cell, logOf_append, mapGet_filterMap hf i (hd.perm hp), logOf_tell t i (hd.perm hp), ← mapGet_perm hp hd, cell]
  cases mapGet ws i
  · exact congrArg (Prod.mk _) (List.append_nil _)
  · rfl

/-- `known`: the id has been handed out; a `Prop`, so that `abs_obs` holds by `rfl` against the `if` of `abs` -/
def Cell.obs (known : Prop) [Decidable known] (c : Cell S) : Spec.Obs S :=
  match c.1 with
  | some w => .live w.expr w.cb c.2
  | none => if known then .dead c.2 else .fresh

theorem abs_obs (s : State S) (i : Nat) :
    (abs s).obs i = (cell s.watchers s.trace i).obs (1 ≤ i ∧ i ≤ s.lastID) := rfl

/-- what the specification does with a live observer is what `update` does -/
theorem deliver_eq (w : Watcher S) (l : List (Ev S)) (g : S) :
    Spec.deliver w.expr w.cb l g =
      if (wUpdate w g).ok then .live w.expr (wUpdate w g).cb (l ++ (wUpdate w g).evs)
      else .dead (l ++ (wUpdate w g).evs) := by
  unfold wUpdate Spec.deliver
  cases w.expr g with
  | none => rfl
  | some v =>
    simp only
    cases w.cb.headD .ok <;> rfl

section
variable {known : Prop} [Decidable known]

theorem Cell.obs_notify (g : S) {c : Cell S} (hk : c.1.isSome → known) :
    (c.notify g).obs known = (c.obs known).notify g := by
  obtain ⟨_ | w, l⟩ := c
  · show (if known then _ else _) = Spec.Obs.notify g (if known then _ else _)
    split <;> rfl
  · show Cell.obs known (upd1 g w, l ++ (wUpdate w g).evs) = Spec.deliver w.expr w.cb l g
    rw [deliver_eq, upd1]
    split
    · rfl
    · exact if_pos (hk rfl)

theorem Cell.obs_close {c : Cell S} (hk : c.1.isSome → known) : c.close.obs known = (c.obs known).close := by
  obtain ⟨_ | w, l⟩ := c
  · show (if known then _ else _) = Spec.Obs.close (if known then _ else _)
    split <;> rfl
  · exact if_pos (hk rfl)

theorem Cell.obs_congr {known' : Prop} [Decidable known'] (h : known ↔ known') (c : Cell S) :
    c.obs known = c.obs known' := by
  unfold obs
  split
  · rfl
  · exact ite_congr (propext h) (fun _ => rfl) (fun _ => rfl)

end

/-! ## the invariant of the loop and the refinement step -/

structure Inv (s : State S) : Prop where
  running : s.status = .running
  distinct : Distinct s.watchers
  unborn : ∀ i, ¬ (1 ≤ i ∧ i ≤ s.lastID) → cell s.watchers s.trace i = (none, [])

theorem Inv.entry_known {s : State S} (hI : Inv s) (i : Nat) (h : (cell s.watchers s.trace i).1.isSome) :
    1 ≤ i ∧ i ≤ s.lastID :=
  Decidable.by_contra fun hn => by rw [hI.unborn i hn] at h; cases h

theorem _root_.Arrai.C17.Spec.State.ext {a b : Spec.State S} (h1 : a.db = b.db) (h2 : a.count = b.count)
    (h3 : ∀ i, a.obs i = b.obs i) (h4 : a.replies = b.replies) : a = b := by
  cases a; cases b
  simp only [Spec.State.mk.injEq] at *
  exact ⟨h1, h2, funext h3, h4⟩

private theorem known_succ (n i : Nat) : (1 ≤ i ∧ i ≤ n + 1) ↔ i = n + 1 ∨ (1 ≤ i ∧ i ≤ n) := by
  constructor
  · intro h
    rcases Nat.lt_or_eq_of_le h.2 with lt | eq
    · exact .inr ⟨h.1, Nat.le_of_lt_succ lt⟩
    · exact .inl eq
  · rintro (rfl | k)
    · exact ⟨Nat.le_add_left 1 n, Nat.le_refl _⟩
    · exact ⟨k.1, Nat.le_succ_of_le k.2⟩

theorem step_add (s : State S) (e : S → Option S) (c : List Act) (hI : Inv s) :
    Inv (step s (.add e c)) ∧ abs (step s (.add e c)) = Spec.step (abs s) (.add e c) := by
  have hnew : logOf (s.lastID + 1) s.trace = [] :=
    congrArg Prod.snd (hI.unborn _ fun h => Nat.not_succ_le_self _ h.2)
  simp only [step, hI.running, wUpdate_not_blocked, Bool.false_or, Bool.false_eq_true, if_false]
  refine ⟨⟨rfl, ?_, fun i hi => ?_⟩, Spec.State.ext rfl rfl (fun i => ?_) ?_⟩
  · show Distinct (if _ then _ else _)
    split
    · exact hI.distinct.mapPut _
    · exact (hI.distinct.mapPut _).mapDel _
  · obtain ⟨hne, hold⟩ := not_or.1 (mt (known_succ s.lastID i).2 hi)
    rw [cell_insert (hu := rfl), if_neg hne]
    exact hI.unborn i hold
  · rw [abs_obs]
    show Cell.obs (1 ≤ i ∧ i ≤ s.lastID + 1) (cell _ _ i) = if i = s.lastID + 1 then Spec.deliver e c [] s.global else _
    rw [cell_insert (hu := rfl), hnew]
    split
    next hi => exact Cell.obs_notify s.global (c := (some _, [])) fun _ => (known_succ ..).2 (.inl hi)
    next hi => exact Cell.obs_congr ((known_succ ..).trans (or_iff_right hi)) _
  · exact replies_append (replies_evs ..) _

theorem step_remove (s : State S) (id : Nat) (hI : Inv s) :
    Inv (step s (.remove id)) ∧ abs (step s (.remove id)) = Spec.step (abs s) (.remove id) := by
  cases hg : mapGet s.watchers id with
  | none =>
    simp only [step, hI.running, hg]
    refine ⟨hI, Spec.State.ext rfl rfl (fun i => ?_) rfl⟩
    show _ = if i = id then Spec.Obs.close _ else _
    split
    next hi => rw [abs_obs, ← Cell.obs_close (hI.entry_known i), cell, hi, hg]; rfl
    next => rfl
  | some w =>
    simp only [step, hI.running, hg]
    refine ⟨⟨rfl, hI.distinct.mapDel id, fun i hi => ?_⟩, Spec.State.ext rfl rfl (fun i => ?_) ?_⟩
    · rw [cell_delete hg, hI.unborn i hi]
      split <;> rfl
    · rw [abs_obs]
      show Cell.obs _ (cell _ _ i) = if i = id then Spec.Obs.close _ else _
      rw [cell_delete hg]
      split
      · exact Cell.obs_close (hI.entry_known i)
      · rfl
    · exact replies_append rfl _

theorem step_update (s : State S) (e : S → Option S) (ord : List Nat) (hI : Inv s) :
    Inv (step s (.update e ord)) ∧ abs (step s (.update e ord)) = Spec.step (abs s) (.update e ord) := by
  have hdb : (abs s).db = s.global := rfl
  cases he : e s.global with
  | none =>
    have hc : ∀ i, cell s.watchers (s.trace ++ [.reply false]) i = cell s.watchers s.trace i :=
      fun i => congrArg (Prod.mk _) ((logOf_append ..).trans (List.append_nil _))
    rw [step_update_none hI.running he]
    simp only [Spec.step, hdb, he]
    refine ⟨⟨hI.running, hI.distinct, fun i hi => (hc i).trans (hI.unborn i hi)⟩,
      Spec.State.ext rfl rfl (fun i => ?_) (List.filterMap_append ..)⟩
    exact congrArg (Cell.obs _) (hc i)
  | some v =>
    have hc : ∀ i, cell ((permBy ord s.watchers).filterMap (upd1 v))
          (s.trace ++ .reply true :: tell (fun w => (wUpdate w v).evs) (permBy ord s.watchers)) i
        = (cell s.watchers s.trace i).notify v := by
      intro i
      rw [cell, logOf_append, logOf_reply, ← logOf_append, ← cell]
      exact cell_pass (fun _ _ => upd1_id) _ hI.distinct ..
    rw [step_update_some hI.running he]
    simp only [Spec.step, hdb, he]
    refine ⟨⟨hI.running, ?_, fun i hi => ?_⟩, Spec.State.ext rfl rfl (fun i => ?_) ?_⟩
    · exact List.Pairwise.filterMap (upd1 v) (fun _ _ hne _ hb _ hb' => upd1_id hb ▸ upd1_id hb' ▸ hne)
        (hI.distinct.perm (permBy_perm ord _).symm)
    · rw [hc, hI.unborn i hi]; rfl
    · rw [abs_obs, hc]; exact Cell.obs_notify v (hI.entry_known i)
    · exact (List.filterMap_append ..).trans (congrArg (_ ++ true :: ·) (replies_tell ..))

theorem step_hangup (s : State S) (ord : List Nat) (hI : Inv s) :
    Inv (step s (.hangup ord)) ∧ abs (step s (.hangup ord)) = Spec.step (abs s) (.hangup ord) := by
  have hc : ∀ i, cell [] (s.trace ++ closeAll (permBy ord s.watchers)) i = (cell s.watchers s.trace i).close := by
    intro i
    -- the emptied map is what a pass that keeps no entry leaves
    have hn : [] = (permBy ord s.watchers).filterMap fun _ => (none : Option (Watcher S)) :=
      (List.filterMap_eq_nil_iff.2 fun _ _ => rfl).symm
    rw [closeAll_eq_tell, hn]
    exact cell_pass (fun _ _ h => by cases h) _ hI.distinct ..
  simp only [step, hI.running]
  refine ⟨⟨rfl, List.Pairwise.nil, fun i hi => ?_⟩, Spec.State.ext rfl rfl (fun i => ?_) ?_⟩
  · rw [hc, hI.unborn i hi]; rfl
  · rw [abs_obs, hc]; exact Cell.obs_close (hI.entry_known i)
  · exact replies_append ((closeAll_eq_tell _).symm ▸ replies_tell ..) _

theorem step_refines (s : State S) (m : Msg S) (hI : Inv s) :
    Inv (step s m) ∧ abs (step s m) = Spec.step (abs s) m := by
  cases m with
  | add e c => exact step_add s e c hI
  | remove id => exact step_remove s id hI
  | update e ord => exact step_update s e ord hI
  | hangup ord => exact step_hangup s ord hI

theorem runFrom_refines : ∀ (h : List (Msg S)) (s : State S), Inv s →
    Inv (runFrom s h) ∧ abs (runFrom s h) = Spec.runFrom (abs s) h
  | [], s, hI => ⟨hI, rfl⟩
  | m :: r, s, hI => by
    obtain ⟨h1, h2⟩ := step_refines s m hI
    obtain ⟨h3, h4⟩ := runFrom_refines r (step s m) h1
    exact ⟨h3, h4.trans (congrArg (Spec.runFrom · r) h2)⟩

theorem abs_init (g0 : S) : abs (init g0) = Spec.init g0 :=
  Spec.State.ext rfl rfl (fun _ => if_neg fun h => Nat.not_succ_le_zero 0 (Nat.le_trans h.1 h.2)) rfl

theorem run_refines (g0 : S) (h : List (Msg S)) :
    Inv (run g0 h) ∧ abs (run g0 h) = Spec.run g0 h := by
  have := runFrom_refines h (init g0) ⟨rfl, List.Pairwise.nil, fun _ _ => rfl⟩
  rw [abs_init] at this
  exact this

/-- the loop's return after `Stop` is not represented (there is no stopped status); `stop s ord = step s (.hangup ord)`
by `rfl`, which the `▸` relies on -/
theorem stop_refines (g0 : S) (h : List (Msg S)) (ord : List Nat) :
    Inv (stop (run g0 h) ord) ∧ abs (stop (run g0 h) ord) = Spec.stop (Spec.run g0 h) := by
  obtain ⟨hI, hr⟩ := run_refines g0 h
  exact hr ▸ step_hangup _ ord hI

/-- the log the engine produced is the log the abstraction shows -/
theorem log_abs (s : State S) (hI : Inv s) (i : Nat) : log s i = ((abs s).obs i).log := by
  rw [abs_obs]
  unfold Cell.obs
  split
  · rfl
  · split
    · rfl
    next hk => exact congrArg Prod.snd (hI.unborn i hk)

/-! ## what the property theorems read off the refinement -/

theorem run_global (g0 : S) (h : List (Msg S)) : (run g0 h).global = (Spec.run g0 h).db :=
  congrArg Spec.State.db (run_refines g0 h).2

theorem run_lastID (g0 : S) (h : List (Msg S)) : (run g0 h).lastID = (Spec.run g0 h).count :=
  congrArg Spec.State.count (run_refines g0 h).2

theorem run_replies (g0 : S) (h : List (Msg S)) : replies (run g0 h) = (Spec.run g0 h).replies :=
  congrArg Spec.State.replies (run_refines g0 h).2

theorem run_log (g0 : S) (h : List (Msg S)) (j : Nat) : log (run g0 h) j = ((Spec.run g0 h).obs j).log := by
  obtain ⟨hI, hr⟩ := run_refines g0 h
  rw [log_abs _ hI, hr]

theorem stop_log (g0 : S) (h : List (Msg S)) (ord : List Nat) (j : Nat) :
    log (stop (run g0 h) ord) j = ((Spec.stop (Spec.run g0 h)).obs j).log := by
  obtain ⟨hI, hr⟩ := stop_refines g0 h ord
  rw [log_abs _ hI, hr]

theorem abs_obs_ne_fresh (s : State S) {j : Nat} (hj : 1 ≤ j ∧ j ≤ s.lastID) : (abs s).obs j ≠ .fresh := by
  rw [abs_obs]
  unfold Cell.obs
  split
  · exact fun h => nomatch h
  · rw [if_pos hj]; exact fun h => nomatch h

end Impl

/-! ## the specification in closed form -/
namespace Spec
variable {S : Type}

theorem runFrom_append (s : State S) (a b : List (Msg S)) : runFrom s (a ++ b) = runFrom (runFrom s a) b :=
  List.foldl_append

theorem runFrom_cons (s : State S) (m : Msg S) (r : List (Msg S)) : runFrom s (m :: r) = runFrom (step s m) r := rfl

theorem step_update_none {s : State S} {e : S → Option S} (h : e s.db = none) (o : List Nat) :
    step s (.update e o) = { s with replies := s.replies ++ [false] } := by
  simp only [step, h]

theorem step_update_some {s : State S} {e : S → Option S} {v : S} (h : e s.db = some v) (o : List Nat) :
    step s (.update e o) = { s with db := v, replies := s.replies ++ [true], obs := fun i => (s.obs i).notify v } := by
  simp only [step, h]

/-- `generalizing := false`: a later field's `match` must not abstract the earlier fields, which mention `m` -/
structure StepFields (s : State S) (m : Msg S) : Prop where
  db : (step s m).db = match m with
    | .update e _ => (e s.db).getD s.db
    | _ => s.db
  count : (step s m).count = match (generalizing := false) m with
    | .add _ _ => s.count + 1
    | _ => s.count
  replies : (step s m).replies = s.replies ++ match (generalizing := false) m with
    | .update e _ => [(e s.db).isSome]
    | _ => []

theorem step_fields (s : State S) (m : Msg S) : StepFields s m := by
  cases m with
  | update e o =>
    have h : (step s (.update e o)).db = (e s.db).getD s.db ∧ (step s (.update e o)).count = s.count ∧
        (step s (.update e o)).replies = s.replies ++ [(e s.db).isSome] := by
      cases he : e s.db with
      | none => rw [step_update_none he]; exact ⟨rfl, rfl, rfl⟩
      | some v => rw [step_update_some he]; exact ⟨rfl, rfl, rfl⟩
    exact ⟨h.1, h.2.1, h.2.2⟩
  | _ => exact ⟨rfl, rfl, (List.append_nil _).symm⟩

theorem dbAfter_cons (g : S) (e : S → Option S) (r : List (S → Option S)) :
    dbAfter g (e :: r) = match e g with
      | some v => dbAfter v r
      | none => dbAfter g r := rfl

theorem acks_cons (g : S) (e : S → Option S) (r : List (S → Option S)) :
    acks g (e :: r) = match e g with
      | some v => true :: acks v r
      | none => false :: acks g r := rfl

theorem runFrom_db_replies : ∀ (h : List (Msg S)) (s : State S),
    (runFrom s h).db = dbAfter s.db (updates h) ∧ (runFrom s h).replies = s.replies ++ acks s.db (updates h)
  | [], s => ⟨rfl, (List.append_nil _).symm⟩
  | m :: r, s => by
    have ih := runFrom_db_replies r (step s m)
    rw [runFrom_cons]
    cases m with
    | add e c => exact ih
    | remove i => exact ih
    | hangup o => exact ih
    | update e o =>
      show _ = dbAfter s.db (e :: updates r) ∧ _ = _ ++ acks s.db (e :: updates r)
      rw [dbAfter_cons, acks_cons]
      cases he : e s.db with
      | none => rw [step_update_none he] at ih ⊢; exact ⟨ih.1, ih.2.trans (List.append_assoc ..)⟩
      | some v => rw [step_update_some he] at ih ⊢; exact ⟨ih.1, ih.2.trans (List.append_assoc ..)⟩

theorem acks_length : ∀ (g : S) (us : List (S → Option S)), (acks g us).length = us.length
  | _, [] => rfl
  | g, e :: r => by
    rw [acks_cons]
    cases e g with
    | none => exact congrArg (· + 1) (acks_length g r)
    | some v => exact congrArg (· + 1) (acks_length v r)

theorem step_count (s : State S) (m : Msg S) : s.count ≤ (step s m).count := by
  rw [(step_fields s m).count]
  cases m with
  | add e c => exact Nat.le_succ _
  | _ => exact Nat.le_refl _

theorem runFrom_count : ∀ (h : List (Msg S)) (s : State S), s.count ≤ (runFrom s h).count
  | [], _ => Nat.le_refl _
  | m :: r, s => by
    rw [runFrom_cons]
    exact Nat.le_trans (step_count s m) (runFrom_count r (step s m))

/-! ### what an observer hears -/

def Obs.rest (j : Nat) (o : Obs S) (g : S) (h : List (Msg S)) : List (Ev S) :=
  match o with
  | .live e c _ => expected j e c g h
  | _ => []

theorem expected_update (j : Nat) (e : S → Option S) (c : List Act) (g : S) (e' : S → Option S) (o : List Nat)
    (r : List (Msg S)) :
    expected j e c g (.update e' o :: r) = match e' g with
      | none => expected j e c g r
      | some g' => expectedFrom j e c g' r := rfl

theorem deliver_heard (j : Nat) (e : S → Option S) (c : List Act) (l : List (Ev S)) (g : S) (h : List (Msg S)) :
    (deliver e c l g).log ++ (deliver e c l g).rest j g h = l ++ expectedFrom j e c g h := by
  unfold deliver expectedFrom
  cases e g with
  | none => exact (List.append_nil _)
  | some v =>
    dsimp only
    cases c.headD .ok
    · exact List.append_assoc ..
    all_goals exact (List.append_nil _)

theorem rest_nil (j : Nat) (o : Obs S) (g : S) : o.rest j g [] = [] := by
  cases o <;> rfl

theorem close_heard (j : Nat) (o : Obs S) (g : S) (m : Msg S) (r : List (Msg S))
    (hm : ∀ e c, expected j e c g (m :: r) = [.closed false]) :
    o.close.log ++ o.close.rest j g r = o.log ++ o.rest j g (m :: r) := by
  cases o with
  | live e c l => exact (List.append_nil _).trans (congrArg (l ++ ·) (hm e c).symm)
  | _ => rfl

theorem notify_heard (j : Nat) (o : Obs S) {g v : S} {e : S → Option S} (ord : List Nat) (r : List (Msg S))
    (h : e g = some v) : (o.notify v).log ++ (o.notify v).rest j v r = o.log ++ o.rest j g (.update e ord :: r) := by
  cases o with
  | live e' c l =>
    show (deliver e' c l v).log ++ (deliver e' c l v).rest j v r = l ++ expected j e' c g (.update e ord :: r)
    rw [expected_update, h]
    exact deliver_heard ..
  | _ => rfl

theorem step_heard (j : Nat) (s : State S) (m : Msg S) (r : List (Msg S)) (hj : j ≤ s.count) :
    ((step s m).obs j).log ++ ((step s m).obs j).rest j (step s m).db r
      = (s.obs j).log ++ (s.obs j).rest j s.db (m :: r) := by
  cases m with
  | add e c =>
    have : (step s (.add e c)).obs j = s.obs j := if_neg (Nat.ne_of_lt (Nat.lt_succ_of_le hj))
    rw [this]
    cases s.obs j <;> rfl
  | remove i =>
    show Obs.log (if j = i then _ else _) ++ Obs.rest j (if j = i then _ else _) s.db r = _
    by_cases hi : j = i
    · rw [if_pos hi, ← hi]; exact close_heard j _ _ _ r fun _ _ => if_pos rfl
    · rw [if_neg hi]
      cases s.obs j with
      | live e c l => exact congrArg (l ++ ·) (if_neg (Ne.symm hi)).symm
      | _ => rfl
  | hangup o => exact close_heard j _ _ _ r fun _ _ => rfl
  | update e o =>
    cases he : e s.db with
    | none =>
      rw [step_update_none he]
      cases s.obs j with
      | live e' c l =>
        show l ++ expected j e' c s.db r = l ++ expected j e' c s.db (.update e o :: r)
        rw [expected_update, he]
      | _ => rfl
    | some v => rw [step_update_some he]; exact notify_heard j _ o r he

theorem runFrom_heard (j : Nat) : ∀ (h : List (Msg S)) (s : State S), j ≤ s.count →
    ((runFrom s h).obs j).log = (s.obs j).log ++ (s.obs j).rest j s.db h
  | [], s, _ => by rw [rest_nil, List.append_nil]; rfl
  | m :: r, s, hj => by
    rw [runFrom_cons, runFrom_heard j r _ (Nat.le_trans hj (step_count s m)), step_heard j s m r hj]

/-- delivery, on the specification -/
theorem delivery (g0 : S) (h1 : List (Msg S)) (e : S → Option S) (c : List Act) (h2 : List (Msg S)) :
    ((run g0 (h1 ++ .add e c :: h2)).obs ((run g0 h1).count + 1)).log
      = expectedFrom ((run g0 h1).count + 1) e c (run g0 h1).db h2 := by
  unfold run
  rw [runFrom_append, runFrom_cons]
  generalize runFrom (init g0) h1 = s1
  have ho : (step s1 (.add e c)).obs (s1.count + 1) = deliver e c [] s1.db := if_pos rfl
  rw [runFrom_heard (s1.count + 1) h2 (step s1 (.add e c)) (Nat.le_refl _), ho]
  exact deliver_heard ..


/-! ### isolation: an observer's log and the replies are functions of its view -/

def vstep (x : S × Obs S × List Bool) : VMsg S → S × Obs S × List Bool
  | .add none => x
  | .add (some (e, c)) => (x.1, deliver e c [] x.1, x.2.2)
  | .rm => (x.1, x.2.1.close, x.2.2)
  | .hang => (x.1, x.2.1.close, x.2.2)
  | .upd e =>
    match e x.1 with
    | none => (x.1, x.2.1, x.2.2 ++ [false])
    | some v => (v, x.2.1.notify v, x.2.2 ++ [true])

def vrun (x : S × Obs S × List Bool) (l : List (VMsg S)) : S × Obs S × List Bool := l.foldl vstep x

theorem runFrom_view (j : Nat) : ∀ (h : List (Msg S)) (s : State S),
    ((runFrom s h).db, (runFrom s h).obs j, (runFrom s h).replies) = vrun (s.db, s.obs j, s.replies) (view j s.count h)
  | [], _ => rfl
  | m :: r, s => by
    rw [runFrom_cons, runFrom_view j r (step s m)]
    cases m with
    | add e c =>
      show vrun (s.db, (if j = s.count + 1 then deliver e c [] s.db else s.obs j), s.replies) _
        = vrun (vstep _ (.add (if s.count + 1 = j then some (e, c) else none))) _
      by_cases hj : s.count + 1 = j
      · rw [if_pos hj.symm, if_pos hj]; rfl
      · rw [if_neg (Ne.symm hj), if_neg hj]; rfl
    | remove i =>
      show vrun (s.db, (if j = i then (s.obs j).close else s.obs j), s.replies) _
        = vrun _ (if i = j then .rm :: view j s.count r else view j s.count r)
      by_cases hi : i = j
      · rw [if_pos hi.symm, if_pos hi]; rfl
      · rw [if_neg (Ne.symm hi), if_neg hi]; rfl
    | hangup o => rfl
    | update e o =>
      show _ = vrun (vstep _ (.upd e)) _
      cases he : e s.db with
      | none => rw [step_update_none he, vstep, he]
      | some v => rw [step_update_some he, vstep, he]

theorem isolation (g0 : S) (j : Nat) (h h' : List (Msg S)) (hv : view j 0 h = view j 0 h') :
    (run g0 h).obs j = (run g0 h').obs j ∧ (run g0 h).replies = (run g0 h').replies := by
  have eq : ((run g0 h).db, (run g0 h).obs j, (run g0 h).replies)
      = ((run g0 h').db, (run g0 h').obs j, (run g0 h').replies) :=
    (runFrom_view j h (init g0)).trans ((congrArg (vrun _) hv).trans (runFrom_view j h' (init g0)).symm)
  exact ⟨congrArg (·.2.1) eq, congrArg (·.2.2) eq⟩

/-! ### the enumeration orders chosen for the map are invisible -/

def reorder (f : List Nat → List Nat) : Msg S → Msg S
  | .update e o => .update e (f o)
  | .hangup o => .hangup (f o)
  | m => m

theorem view_reorder (f : List Nat → List Nat) (j : Nat) : ∀ (h : List (Msg S)) (n : Nat),
    view j n (h.map (reorder f)) = view j n h
  | [], _ => rfl
  | .add e c :: r, n => congrArg (VMsg.add _ :: ·) (view_reorder f j r (n + 1))
  | .update e o :: r, n => congrArg (VMsg.upd e :: ·) (view_reorder f j r n)
  | .hangup o :: r, n => congrArg (VMsg.hang :: ·) (view_reorder f j r n)
  | .remove i :: r, n => by
    show (if i = j then _ :: view j n (r.map _) else view j n (r.map _)) = _
    rw [view_reorder f j r n]; rfl

/-! ### an observer that never fails and is never cancelled hears every installed state -/

def quiet (j : Nat) : Msg S → Bool
  | .remove i => i != j
  | .hangup _ => false
  | _ => true

theorem installed_update (g : S) (e : S → Option S) (o : List Nat) (r : List (Msg S)) :
    installed g (.update e o :: r) = match e g with
      | some v => v :: installed v r
      | none => installed g r := rfl

theorem expected_live (j : Nat) (f : S → S) : ∀ (h : List (Msg S)) (g : S), h.all (quiet j) = true →
    expected j (fun s => some (f s)) [] g h = (installed g h).map (fun s => Ev.val (f s))
  | [], _, _ => rfl
  | m :: r, g, hq => by
    obtain ⟨hm, hr⟩ := Bool.and_eq_true_iff.1 (List.all_cons.symm.trans hq)
    cases m with
    | add e c => exact expected_live j f r g hr
    | remove i =>
      have hi : i ≠ j := bne_iff_ne.1 hm
      exact (if_neg hi).trans (expected_live j f r g hr)
    | hangup o => exact Bool.noConfusion hm
    | update e o =>
      rw [expected_update, installed_update]
      cases e g with
      | none => exact expected_live j f r g hr
      | some g' => exact congrArg (Ev.val (f g') :: ·) (expected_live j f r g' hr)

/-! ### every observer is closed at most once, and hears nothing afterwards -/

def noClose (l : List (Ev S)) : Prop := ∀ x ∈ l, ∀ b, x ≠ Ev.closed b

def Obs.WF : Obs S → Prop
  | .fresh => True
  | .live _ _ l => noClose l
  | .dead l => ∃ l0 b, l = l0 ++ [Ev.closed b] ∧ noClose l0

theorem noClose_snoc_val {l : List (Ev S)} (h : noClose l) (v : S) : noClose (l ++ [Ev.val v]) := by
  intro x hx b
  simp only [List.mem_append, List.mem_singleton] at hx
  rcases hx with hx | hx
  · exact h x hx b
  · subst hx; intro h; cases h

theorem deliver_wf (e : S → Option S) (c : List Act) (l : List (Ev S)) (g : S) (h : noClose l) : (deliver e c l g).WF := by
  unfold deliver
  cases e g with
  | none => exact ⟨l, true, rfl, h⟩
  | some v =>
    have h2 : ∀ b, l ++ [.val v, .closed b] = l ++ [.val v] ++ [.closed b] :=
      fun b => (List.append_assoc l [.val v] [.closed b]).symm
    dsimp only
    cases c.headD .ok with
    | ok => exact noClose_snoc_val h v
    | err => exact ⟨_, true, h2 true, noClose_snoc_val h v⟩
    | panic => exact ⟨_, true, h2 true, noClose_snoc_val h v⟩
    | reenter => exact ⟨_, false, h2 false, noClose_snoc_val h v⟩

theorem close_wf {o : Obs S} (h : o.WF) : o.close.WF := by
  cases o with
  | fresh => exact h
  | dead l => exact h
  | live e c l => exact ⟨l, false, rfl, h⟩

theorem close_closed {o : Obs S} (hw : o.WF) (hf : o ≠ .fresh) :
    ∃ l0 b, o.close.log = l0 ++ [Ev.closed b] ∧ noClose l0 := by
  cases o with
  | fresh => exact absurd rfl hf
  | live e c l => exact ⟨l, false, rfl, hw⟩
  | dead l => exact hw

theorem notify_wf {o : Obs S} (g : S) (h : o.WF) : (o.notify g).WF := by
  cases o with
  | fresh => exact h
  | dead l => exact h
  | live e c l => exact deliver_wf e c l g h

theorem step_wf (s : State S) (m : Msg S) (h : ∀ i, (s.obs i).WF) : ∀ i, ((step s m).obs i).WF := by
  intro i
  cases m with
  | add e c =>
    show Obs.WF (if i = s.count + 1 then _ else _)
    split
    · exact deliver_wf e c [] s.db (fun _ hx => nomatch hx)
    · exact h i
  | remove j =>
    show Obs.WF (if i = j then _ else _)
    split
    · exact close_wf (h i)
    · exact h i
  | hangup o => exact close_wf (h i)
  | update e o =>
    cases he : e s.db with
    | none => rw [step_update_none he]; exact h i
    | some v => rw [step_update_some he]; exact notify_wf v (h i)

theorem runFrom_wf : ∀ (hs : List (Msg S)) (s : State S), (∀ i, (s.obs i).WF) → ∀ i, ((runFrom s hs).obs i).WF
  | [], _, h => h
  | m :: r, s, h => runFrom_wf r (step s m) (step_wf s m h)

theorem run_wf (g0 : S) (h : List (Msg S)) (i : Nat) : ((run g0 h).obs i).WF :=
  runFrom_wf h (init g0) (fun _ => trivial) i

end Spec

/-! ## one step of the loop at the `select`, field by field -/
namespace Impl
variable {S : Type} {s : State S} (hI : Inv s)
include hI

theorem step_global (m : Msg S) :
    (step s m).global = match m with
      | .update e _ => (e s.global).getD s.global
      | _ => s.global :=
  (congrArg Spec.State.db (step_refines s m hI).2).trans (Spec.step_fields (abs s) m).db

theorem step_lastID (m : Msg S) :
    (step s m).lastID = match m with
      | .add _ _ => s.lastID + 1
      | _ => s.lastID :=
  (congrArg Spec.State.count (step_refines s m hI).2).trans (Spec.step_fields (abs s) m).count

theorem step_replies (m : Msg S) :
    replies (step s m) = replies s ++ match m with
      | .update e _ => [(e s.global).isSome]
      | _ => [] :=
  (congrArg Spec.State.replies (step_refines s m hI).2).trans (Spec.step_fields (abs s) m).replies

end Impl
end Arrai.C17
