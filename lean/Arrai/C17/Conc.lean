/-
  C17 — concurrent clients: the system of any number of clients, each running its own sequence of API calls
  against the engine under any schedule (`Conc.step`), and the invariant of its executions (`Conc.Inv`, `inv_run`):
  the engine is `Impl.run` of one history, that history is an interleaving of the clients' call sequences in
  program order, and everything a client gets back (the results of its `Update` calls, the observations it holds)
  is a fold over that history alone.  The definitions down to `clientHandles` are model: part 7 of Proofs/C17.lean
  is stated in them.

  Assumed about engine.go and Go, not proved: the engine's channels are unbuffered (`Start` makes them without
  capacity; the check compares a hash of the body of `engine.Start`, no more), so a call takes effect at a
  rendezvous: the loop, at its `select`, accepts the message of exactly one of the callers blocked in a send
  (`accept c`; Go chooses arbitrarily among them, here the schedule does).  The loop is a single goroutine, so the
  arm that handles the message, including the reply `req.failed <- err` the caller of `Update` waits for, runs to
  completion before the next message is accepted.  The concurrency is in the callers: any number of clients may be
  blocked in a send (`call c`) when the loop comes back to the `select`.  `Observe` draws its id from an atomic
  counter before the send, the model numbers observations at the acceptance; ids are only keys (clients name
  observations by handle: whose, which), so the numbering is immaterial.

  Not in this system: the state test of the cancel function (engine.go, `Observe`).  Here every `cancel` call is a
  send (`toMsg`, `.remove id`) in which the client blocks until it is accepted; the real function returns without
  sending when the watcher is busy or cancelled, that is, once the loop has dropped it or while it runs one of its
  callbacks.  For histories nothing is lost: for a dropped watcher the `remove` arm finds no entry and does nothing,
  and a cancel during a callback is the entry `reenter` of the script fixed at `Observe` (`Act`), not a `cancel` of
  `progs`.  A statement about when a cancelling client blocks or proceeds would have to model the test first.
-/
import Arrai.C17.Lemmas

namespace Arrai.C17.Conc
variable {S : Type}

/-- one API call of a client program -/
inductive COp (S : Type)
  | update (e : S → Option S) (ord : List Nat)   -- Update(e)   (`ord`: the runtime's enumeration order, any)
  | observe (e : S → Option S) (cb : List Act)   -- Observe(e, onupdate, onclose)
  | cancel (owner k : Nat)                       -- call the cancel function of the k-th observation made by client `owner`
                                                 -- (always a send here: head comment, "Not in this system")
  | hangup (ord : List Nat)                      -- Hangup()

structure Client (S : Type) where
  todo : List (COp S)          -- calls not yet made
  pending : Option (Msg S)     -- the call in flight: blocked in its send on the engine's channel
  handles : List Nat           -- the observations it has made so far (engine ids), in order
  replies : List Bool          -- the results of its Update calls so far, in order
  sent : List (Msg S)          -- its messages accepted so far, in order (ghost)

structure Config (S : Type) where
  eng : Impl.State S
  client : Nat → Client S
  hist : List (Nat × Msg S)    -- (client, message) in acceptance order (ghost)

inductive Event
  | call (c : Nat)      -- client c makes its next call and blocks in the send
  | accept (c : Nat)    -- the loop, at its select, receives the message of the blocked client c and runs the arm

def toMsg (cfg : Config S) : COp S → Msg S
  | .update e ord => .update e ord
  | .observe e cb => .add e cb
  | .cancel o k => .remove (((cfg.client o).handles[k]?).getD 0)   -- no such handle (yet): 0, an id nobody has (ids start at 1)
  | .hangup ord => .hangup ord

def setClient (cfg : Config S) (c : Nat) (cl : Client S) : Nat → Client S :=
  fun i => if i = c then cl else cfg.client i

/-- the reply the loop emitted while handling the message, if any -/
def newReply (before after : Impl.State S) : Option Bool :=
  ((Impl.replies after).drop (Impl.replies before).length).head?

/-- what the call returns to the client -/
def returned (before after : Impl.State S) (cl : Client S) : Msg S → Client S
  | .add _ _ => { cl with handles := cl.handles ++ [after.lastID] }     -- Observe returns the cancel function
  | .update _ _ =>
    match newReply before after with                                    -- `return <-failed`
    | some b => { cl with replies := cl.replies ++ [b] }
    | none => cl
  | _ => cl

def step (cfg : Config S) : Event → Config S
  | .call c =>
    match (cfg.client c).pending, (cfg.client c).todo with
    | none, op :: rest =>
      { cfg with client := setClient cfg c { cfg.client c with todo := rest, pending := some (toMsg cfg op) } }
    | _, _ => cfg
  | .accept c =>
    match cfg.eng.status, (cfg.client c).pending with
    | .running, some m =>
      { eng := Impl.step cfg.eng m,
        client := setClient cfg c
          (returned cfg.eng (Impl.step cfg.eng m)
            { cfg.client c with pending := none, sent := (cfg.client c).sent ++ [m] } m),
        hist := cfg.hist ++ [(c, m)] }
    | _, _ => cfg

def start (g0 : S) (progs : Nat → List (COp S)) : Config S :=
  { eng := Impl.init g0, client := fun c => ⟨progs c, none, [], [], []⟩, hist := [] }

def runFrom (cfg : Config S) (evs : List Event) : Config S := evs.foldl step cfg
def run (g0 : S) (progs : Nat → List (COp S)) (evs : List Event) : Config S := runFrom (start g0 progs) evs

/-- the history of an execution -/
def history (cfg : Config S) : List (Msg S) := cfg.hist.map (·.2)

/-- `h` is an interleaving of the lists `f 0, f 1, …`: it is built by appending, one at a time, an
element to `h` and to one of the lists -/
inductive Merge {α : Type} : (Nat → List α) → List α → Prop
  | nil : Merge (fun _ => []) []
  | snoc {f : Nat → List α} {h : List α} (c : Nat) (x : α) :
      Merge f h → Merge (fun i => if i = c then f i ++ [x] else f i) (h ++ [x])

/-- a call or message without its ids.  Program order (`Inv.order`) is stated on shapes: the message of a
`cancel owner k` is not a function of the program, `toMsg` looks the id up in the handles `owner` holds when the call
is made. -/
inductive Shape (S : Type)
  | update (e : S → Option S) (ord : List Nat)
  | observe (e : S → Option S) (cb : List Act)
  | cancel
  | hangup (ord : List Nat)

def COp.shape : COp S → Shape S
  | .update e o => .update e o
  | .observe e c => .observe e c
  | .cancel _ _ => .cancel
  | .hangup o => .hangup o

def Msg.shape : Msg S → Shape S
  | .update e o => .update e o
  | .add e c => .observe e c
  | .remove _ => .cancel
  | .hangup o => .hangup o

/-- replies of client `c`, computed from the history alone: walk it with the database value -/
def replyAcc (c : Nat) (x : S × List Bool) (p : Nat × Msg S) : S × List Bool :=
  match p.2 with
  | .update e _ => ((e x.1).getD x.1, if p.1 = c then x.2 ++ [(e x.1).isSome] else x.2)
  | _ => x

def clientReplies (c : Nat) (g0 : S) (hist : List (Nat × Msg S)) : List Bool := (hist.foldl (replyAcc c) (g0, [])).2

/-- observations of client `c`, computed from the history alone: the n-th accepted `Observe` is observation n -/
def handleAcc (c : Nat) (x : Nat × List Nat) (p : Nat × Msg S) : Nat × List Nat :=
  match p.2 with
  | .add _ _ => (x.1 + 1, if p.1 = c then x.2 ++ [x.1 + 1] else x.2)
  | _ => x

def clientHandles (c : Nat) (hist : List (Nat × Msg S)) : List Nat := (hist.foldl (handleAcc c) (0, [])).2

theorem toMsg_shape (cfg : Config S) (op : COp S) : Msg.shape (toMsg cfg op) = op.shape := by
  cases op <;> rfl

theorem setClient_self (cfg : Config S) (c : Nat) (cl : Client S) : setClient cfg c cl c = cl := if_pos rfl

theorem setClient_ne (cfg : Config S) {c i : Nat} (cl : Client S) (h : i ≠ c) : setClient cfg c cl i = cfg.client i :=
  if_neg h

/-- after client `c` alone has changed, a projection `f` of client `i` is the old one, changed (`g`) if `i` is `c` -/
theorem setClient_proj {α : Type} (f : Client S → α) (g : α → α) {cfg : Config S} {c : Nat} {cl : Client S}
    (h : f cl = g (f (cfg.client c))) (i : Nat) :
    f (setClient cfg c cl i) = if c = i then g (f (cfg.client i)) else f (cfg.client i) := by
  by_cases hi : i = c
  · rw [hi, setClient_self, if_pos rfl, h]
  · rw [setClient_ne cfg _ hi, if_neg (Ne.symm hi)]

theorem setClient_same {α : Type} (f : Client S → α) {cfg : Config S} {c : Nat} {cl : Client S}
    (h : f cl = f (cfg.client c)) (i : Nat) : f (setClient cfg c cl i) = f (cfg.client i) :=
  (setClient_proj f id h i).trans (ite_self _)

theorem step_accept {cfg : Config S} {c : Nat} {m : Msg S} (hr : cfg.eng.status = .running)
    (hp : (cfg.client c).pending = some m) :
    step cfg (.accept c) =
      { eng := Impl.step cfg.eng m,
        client := setClient cfg c
          (returned cfg.eng (Impl.step cfg.eng m)
            { cfg.client c with pending := none, sent := (cfg.client c).sent ++ [m] } m),
        hist := cfg.hist ++ [(c, m)] } := by
  simp only [step, hr, hp]

theorem returned_pending (b a : Impl.State S) (cl : Client S) (m : Msg S) : (returned b a cl m).pending = cl.pending := by
  cases m with
  | update e o => dsimp only [returned]; cases newReply b a <;> rfl
  | _ => rfl

/-! `returned` in closed form when the loop is at its `select` (`Impl.Inv`) -/

def returnedReplies (s : Impl.State S) : Msg S → List Bool
  | .update e _ => [(e s.global).isSome]
  | _ => []

def returnedHandles (s : Impl.State S) : Msg S → List Nat
  | .add _ _ => [s.lastID + 1]
  | _ => []

section
variable {s : Impl.State S} (hE : Impl.Inv s)
include hE

theorem newReply_update (e : S → Option S) (o : List Nat) :
    newReply s (Impl.step s (.update e o)) = some (e s.global).isSome :=
  (congrArg (fun l => (l.drop (Impl.replies s).length).head?) (Impl.step_replies hE (.update e o))).trans
    (congrArg List.head? (List.drop_left ..))

theorem returned_eq (cl : Client S) (m : Msg S) :
    returned s (Impl.step s m) cl m
      = { cl with handles := cl.handles ++ returnedHandles s m, replies := cl.replies ++ returnedReplies s m } := by
  cases m with
  | add e cb => simp only [returned, returnedHandles, returnedReplies, Impl.step_lastID hE, List.append_nil]
  | update e o => simp only [returned, newReply_update hE, returnedHandles, returnedReplies, List.append_nil]
  | _ => simp only [returned, returnedHandles, returnedReplies, List.append_nil]

theorem replyAcc_step (i c : Nat) (rs : List Bool) (m : Msg S) :
    replyAcc i (s.global, rs) (c, m) = ((Impl.step s m).global, if c = i then rs ++ returnedReplies s m else rs) := by
  rw [Impl.step_global hE m]
  cases m with
  | update e o => rfl
  | _ => exact congrArg (Prod.mk _) (by simp only [returnedReplies, List.append_nil, ite_self])

theorem handleAcc_step (i c : Nat) (hs : List Nat) (m : Msg S) :
    handleAcc i (s.lastID, hs) (c, m) = ((Impl.step s m).lastID, if c = i then hs ++ returnedHandles s m else hs) := by
  rw [Impl.step_lastID hE m]
  cases m with
  | add e cb => rfl
  | _ => exact congrArg (Prod.mk _) (by simp only [returnedHandles, List.append_nil, ite_self])

end

/-- the calls of a client as shapes: those accepted, the one in flight, those still to make -/
def Client.shapes (x : Client S) : List (Shape S) :=
  x.sent.map Msg.shape ++ (x.pending.toList.map Msg.shape ++ x.todo.map COp.shape)

structure Inv (g0 : S) (progs : Nat → List (COp S)) (cfg : Config S) : Prop where
  eng : cfg.eng = Impl.run g0 (history cfg)
  merge : Merge (fun c => (cfg.client c).sent) (history cfg)
  order : ∀ c, (cfg.client c).sent.map Msg.shape ++ ((cfg.client c).pending.toList.map Msg.shape
            ++ (cfg.client c).todo.map COp.shape) = (progs c).map COp.shape
  replies : ∀ c, cfg.hist.foldl (replyAcc c) (g0, []) = (cfg.eng.global, (cfg.client c).replies)
  handles : ∀ c, cfg.hist.foldl (handleAcc c) (0, []) = (cfg.eng.lastID, (cfg.client c).handles)

theorem inv_call {g0 : S} {progs : Nat → List (COp S)} {cfg : Config S} (hI : Inv g0 progs cfg) (c : Nat)
    (op : COp S) (rest : List (COp S)) (hp : (cfg.client c).pending = none) (ht : (cfg.client c).todo = op :: rest) :
    Inv g0 progs { cfg with client := setClient cfg c { cfg.client c with todo := rest, pending := some (toMsg cfg op) } } := by
  generalize hcl : ({ cfg.client c with todo := rest, pending := some (toMsg cfg op) } : Client S) = cl
  refine ⟨hI.eng, ?_, fun i => ?_, fun i => ?_, fun i => ?_⟩
  · show Merge (fun i => (setClient cfg c cl i).sent) (history cfg)
    rw [funext (setClient_same Client.sent (by rw [← hcl]))]; exact hI.merge
  · refine (setClient_same Client.shapes ?_ i).trans (hI.order i)
    rw [← hcl, Client.shapes, Client.shapes, hp, ht]
    exact congrArg (_ ++ · :: _) (toMsg_shape cfg op)
  · exact (hI.replies i).trans (congrArg (Prod.mk _) (setClient_same Client.replies (by rw [← hcl]) i).symm)
  · exact (hI.handles i).trans (congrArg (Prod.mk _) (setClient_same Client.handles (by rw [← hcl]) i).symm)

theorem inv_accept {g0 : S} {progs : Nat → List (COp S)} {cfg : Config S} (hI : Inv g0 progs cfg) (c : Nat)
    (m : Msg S) (hp : (cfg.client c).pending = some m) :
    Inv g0 progs ⟨Impl.step cfg.eng m,
      setClient cfg c (returned cfg.eng (Impl.step cfg.eng m)
        { cfg.client c with pending := none, sent := (cfg.client c).sent ++ [m] } m),
      cfg.hist ++ [(c, m)]⟩ := by
  have hE : Impl.Inv cfg.eng := hI.eng ▸ (Impl.run_refines g0 _).1
  generalize hcl : returned cfg.eng (Impl.step cfg.eng m) _ m = cl
  rw [returned_eq hE] at hcl
  have hhist : history ⟨Impl.step cfg.eng m, setClient cfg c cl, cfg.hist ++ [(c, m)]⟩ = history cfg ++ [m] :=
    List.map_append
  refine ⟨?_, ?_, fun i => ?_, fun i => ?_, fun i => ?_⟩
  · rw [hhist, Impl.run, Impl.runFrom_append, ← Impl.run, ← hI.eng]; rfl
  · rw [hhist]
    show Merge (fun i => (setClient cfg c cl i).sent) _
    rw [funext (setClient_proj Client.sent (· ++ [m]) (by rw [← hcl]))]
    simp only [eq_comm (a := c)]   -- `Merge.snoc` tests `i = c`
    exact Merge.snoc c m hI.merge
  · refine (setClient_same Client.shapes ?_ i).trans (hI.order i)
    rw [← hcl, Client.shapes, Client.shapes, hp]
    exact (congrArg (· ++ _) List.map_append).trans (List.append_assoc ..)
  · dsimp only
    rw [List.foldl_append, hI.replies]
    exact (replyAcc_step hE i c _ m).trans (congrArg (Prod.mk _)
      (setClient_proj Client.replies (· ++ returnedReplies cfg.eng m) (by rw [← hcl]) i).symm)
  · dsimp only
    rw [List.foldl_append, hI.handles]
    exact (handleAcc_step hE i c _ m).trans (congrArg (Prod.mk _)
      (setClient_proj Client.handles (· ++ returnedHandles cfg.eng m) (by rw [← hcl]) i).symm)

theorem inv_step (g0 : S) (progs : Nat → List (COp S)) (cfg : Config S) (ev : Event) (hI : Inv g0 progs cfg) :
    Inv g0 progs (step cfg ev) := by
  cases ev with
  | call c =>
    dsimp only [step]
    split
    next hp ht => exact inv_call hI c _ _ hp ht
    next => exact hI
  | accept c =>
    dsimp only [step]
    split
    next _ hp => exact inv_accept hI c _ hp
    next => exact hI

theorem inv_runFrom (g0 : S) (progs : Nat → List (COp S)) : ∀ (evs : List Event) (cfg : Config S),
    Inv g0 progs cfg → Inv g0 progs (runFrom cfg evs)
  | [], _, h => h
  | ev :: r, cfg, h => inv_runFrom g0 progs r (step cfg ev) (inv_step g0 progs cfg ev h)

theorem inv_run (g0 : S) (progs : Nat → List (COp S)) (evs : List Event) : Inv g0 progs (run g0 progs evs) :=
  inv_runFrom g0 progs evs _ ⟨rfl, Merge.nil, fun _ => List.nil_append _, fun _ => rfl, fun _ => rfl⟩

end Arrai.C17.Conc
