/-
  C19 — `--out` writes exactly the described tree, or changes nothing.

  `Impl` is the transliteration of pkg/arrai/out.go, `Spec.valid` / `Spec.apply` the specification, `T` the
  file-system tree (equality of trees is extensional: the same files with the same bytes and the same directories).

  Keys may denote paths of several elements ('a/b'; pinned by cmd/arrai TestEvalOutDir).  The code joins
  them to the directory without creating or checking the intermediate directories, and validates every
  entry against the state before the run.  `aliasOrMissingParent v cur` (decidable, Arrai/C19/Exact.lean) is
  the class on which this matters: two sibling keys denote the same path or one a path below the other,
  or a key names an entry whose parent directory does not exist when it is written.  Outside the class
  the property holds at full strength (`out_refines`, `atomic`, `dry_predicts` carry the class hypothesis; the
  statements without it are the definitions `out_refines_full`, …); inside it the theorems `dry_exact`,
  `out_refines_seq`, `missing_parent_exact` and `alias_order_matters` say what the code does, and
  `out_refines_full_false` … exhibit the violations (known finding KF-out-key-with-separator).
-/
import Arrai.C19.ExactLemmas
import Arrai.C19.Faults

namespace Arrai.C19.Theorems
open Arrai.C19 Arrai.C19.Impl

/-- PATH exists already or its parent is a directory (so that it can be created) -/
def Creatable (arg : Path) (fs : FS) : Prop := (get arg fs).present = true ∨ parentIsDir arg fs = true

/-- outcome and final file system of a fault-free run -/
def outcome (v : Val) (mode : Mode) (arg : Path) (fs : FS) : Res Unit := (run [] v mode arg fs).1
def final (v : Val) (mode : Mode) (arg : Path) (fs : FS) : FS := (run [] v mode arg fs).2.fs

private theorem parent_of_creatable {arg : Path} {fs : FS} (hc : Creatable arg fs) :
    (get arg fs).present = false → parentIsDir arg fs = true := by
  intro h
  rcases hc with h' | h'
  · rw [h] at h'; simp at h'
  · exact h'

/-! ### Shape of the transliteration -/

/-- the `case rel.Dict` arm of the entry switch (written out in the model so that the recursion is
structural) is `outputTupleDir` of the entry, as in the Go code -/
theorem outputEntry_dict_is_outputTupleDir (e : Key × Val) (es : List (Key × Val)) (φ : List Nat) (p : Path)
    (dry : Bool) : outputEntry (.dict (e :: es)) φ p dry = outputTupleDir (.dict (e :: es)) φ p dry :=
  rfl

/-! ### The dry pass -/

/-- for EVERY description, the validation pass changes nothing and returns exactly `Sem.dryDir`:
each entry is judged on what `Stat` finds at its joined path (a missing or non-directory intermediate
element just makes the target look absent). -/
theorem dry_exact (v : Val) (arg : Path) (fs : FS) :
    Runs (outputTupleDir v [] arg true) fs (okIf (Sem.dryDir v (get arg fs))) fs :=
  dryx_dir v arg fs

/-- outside the class the validation pass succeeds exactly on the valid descriptions
(so the writing pass cannot discover an invalid entry after it has deleted or written something). -/
theorem dry_predicts (v : Val) (arg : Path) (fs : FS) (hcl : aliasOrMissingParent v (get arg fs) = false) :
    ∃ r, Runs (outputTupleDir v [] arg true) fs r fs ∧ (r = .ok () ↔ Spec.validDir v (get arg fs) = true) := by
  have hr := regularDir_of_outside hcl
  refine ⟨_, dryx_dir v arg fs, ?_⟩
  rw [dry_eq_valid_dir v _ hr]
  cases Spec.validDir v (get arg fs) <;> simp [okIf]

/-! ### `--out=dir:PATH` -/

section
set_option linter.unusedVariables false  -- `hi` plays no role: it follows from `hd` (`isDictOrEmpty_of_dryDir`)
/-- (exact, no class hypothesis) if the validation pass accepts and every entry in turn
— on the directory as the entries before it have left it — has its parent directories and can be written,
the command succeeds and PATH holds `Spec.apply` (entries applied in enumeration order). -/
theorem out_refines_seq (v : Val) (arg : Path) (fs : FS) (hi : Spec.isDictOrEmpty v = true)
    (hd : Sem.dryDir v (get arg fs) = true) (hok : Sem.okDir v (get arg fs) = true) (hc : Creatable arg fs) :
    outcome v .dir arg fs = .ok () ∧
    final v .dir arg fs = alter arg (fun _ => Spec.apply v (get arg fs)) fs :=
  run_of_runs (runs_dir_accepted hd (realx_dir v arg fs hok (parent_of_creatable hc)))
end

/-- outside the class, on a valid description over a creatable PATH the command succeeds and
the file system becomes the old one with what is at PATH replaced by `Spec.apply`. -/
theorem out_refines (v : Val) (arg : Path) (fs : FS) (hcl : aliasOrMissingParent v (get arg fs) = false)
    (hv : Spec.valid v (get arg fs) = true) (hc : Creatable arg fs) :
    outcome v .dir arg fs = .ok () ∧
    final v .dir arg fs = alter arg (fun _ => Spec.apply v (get arg fs)) fs := by
  have hr := regularDir_of_outside hcl
  rw [Spec.valid_eq_validDir] at hv
  have hdry : Sem.dryDir v (get arg fs) = true := by rw [dry_eq_valid_dir v _ hr]; exact hv
  exact out_refines_seq v arg fs (isDictOrEmpty_of_dryDir hdry) hdry (ok_of_valid_dir v _ hr hv) hc

/-- the tree under PATH is exactly the specified one -/
theorem out_inside_exact (v : Val) (arg : Path) (fs : FS) (hcl : aliasOrMissingParent v (get arg fs) = false)
    (hv : Spec.valid v (get arg fs) = true) (hc : Creatable arg fs) :
    get arg (final v .dir arg fs) = Spec.apply v (get arg fs) := by
  rw [(out_refines v arg fs hcl hv hc).2]
  exact get_alter_self arg _ fs (reach_of_creatable (parent_of_creatable hc))

/-- whatever the description, nothing that is not at or below PATH is touched (file bytes, directories, absences) -/
theorem out_outside_untouched (v : Val) (arg : Path) (fs : FS) (q : Path) (hq : ¬ arg <+: q) :
    view (get q (final v .dir arg fs)) = view (get q fs) :=
  (built_outputValue v .dir arg).within [] _ q hq

/-- outside the class, if the description is invalid anywhere (or PATH cannot be created) the command
fails and the file system is unchanged: nothing created, overwritten or deleted. -/
theorem atomic (v : Val) (arg : Path) (fs : FS) (hcl : aliasOrMissingParent v (get arg fs) = false)
    (h : ¬ (Spec.valid v (get arg fs) = true ∧ Creatable arg fs)) :
    (∃ e, outcome v .dir arg fs = .err e) ∧ final v .dir arg fs = fs := by
  have h' : ¬ (Sem.dryDir v (get arg fs) = true ∧ Creatable arg fs) := fun ⟨hd, hc⟩ => h ⟨by
    rwa [Spec.valid_eq_validDir, ← dry_eq_valid_dir v _ (regularDir_of_outside hcl)], hc⟩
  obtain ⟨e, hrun⟩ := runs_dir_unchanged h'
  exact ⟨⟨e, (run_of_runs hrun).1⟩, (run_of_runs hrun).2⟩

/-- every violation of atomicity lies in the class: an invalid description (or an uncreatable PATH) on which
the command succeeds, or after which the file system differs, has aliasing keys or a missing parent -/
theorem atomic_violations_in_class (v : Val) (arg : Path) (fs : FS)
    (h : ¬ (Spec.valid v (get arg fs) = true ∧ Creatable arg fs))
    (hviol : outcome v .dir arg fs = .ok () ∨ final v .dir arg fs ≠ fs) :
    aliasOrMissingParent v (get arg fs) = true := by
  cases hcl : aliasOrMissingParent v (get arg fs) with
  | true => rfl
  | false =>
    obtain ⟨⟨e, he⟩, hf⟩ := atomic v arg fs hcl h
    rcases hviol with h1 | h1
    · rw [he] at h1; cases h1
    · exact absurd hf h1

/-- descriptions whose keys all name a single element, pairwise distinct (`v.plain`), are outside
the class — over any pre-existing state -/
theorem plain_outside_class (v : Val) (cur : T) (h : v.plain = true) : aliasOrMissingParent v cur = false := by
  simp [aliasOrMissingParent, regular_of_plain_dir v cur h]

/-! ### Inside the class: what the code does -/

/-- PATH is a directory; the entries `pre` can be written one after the other; the next
entry is a file or a non-empty dict whose key names a path with a parent directory that does not exist at
that moment.  Then (the validation pass having accepted) the command fails with an I/O error, the entries
`pre` are written exactly as specified, and nothing else has happened. -/
theorem missing_parent_exact (pre post : List (Key × Val)) (k : Key) (w : Val) (rel : List Name) (arg : Path)
    (fs : FS) (f : Name → T) (hg : get arg fs = .dir f)
    (hd : Sem.dryDir (.dict (pre ++ (k, w) :: post)) (.dir f) = true)
    (hpre : Sem.okEntries pre f = true) (hrel : k.rel = some rel)
    (hmiss : parentsExist rel (Spec.applyEntries pre f) = false) (hw : needsParent w = true) :
    outcome (.dict (pre ++ (k, w) :: post)) .dir arg fs = .err .io ∧
    final (.dict (pre ++ (k, w) :: post)) .dir arg fs = alter arg (fun _ => .dir (Spec.applyEntries pre f)) fs := by
  have hne := rel_ne_nil hrel
  have hg1 : get arg (alter arg (fun _ => T.dir (Spec.applyEntries pre f)) fs) = .dir (Spec.applyEntries pre f) :=
    get_alter_self arg _ fs (reach_of_dir hg)
  refine run_of_runs (runs_dir_accepted (hg ▸ hd) (Runs.bind_ok (dirHead_of_dir hg false) ?_))
  refine realx_prefix pre _ arg fs f hg hpre ?_
  simp only [outputEntries, hrel]
  refine Runs.bind_err (outputEntry_no_parent w _ _ hw (by simp [hne]) ?_)
  rw [parentIsDir_append_eq arg rel _ _ hg1 hne]
  exact hmiss

/-- the names `a`, `b`, `c`, `o` and the key `a/b` -/
private def kA : Name := [97]
private def kB : Name := [98]
private def kC : Name := [99]
private def kO : Name := [111]
private def keyAB : Key := .str [97, 47, 98]

/-- `{'a/b': 'x'}` -/
private def deep : Val := .dict [(keyAB, .data false [120])]
/-- `{'c': 'x', 'a/b': 'y'}` -/
private def deep2 : Val := .dict [(.str kC, .data false [120]), (keyAB, .data false [121])]
/-- `{'a': {'b': 'y'}, 'a/b': 'x'}` and the same entries in the other order -/
private def aliasAB : Val := .dict [(.str kA, .dict [(.str kB, .data false [121])]), (keyAB, .data false [120])]
private def aliasBA : Val := .dict [(keyAB, .data false [120]), (.str kA, .dict [(.str kB, .data false [121])])]
/-- `/o` is an empty directory -/
private def fsEmptyO : FS := T.ofList [(kO, T.ofList [])]
/-- `/o/a` is a file -/
private def fsFileA : FS := T.ofList [(kO, T.ofList [(kA, .file [1])])]

/-- `'a/b'` and a sibling dict `'a'` containing `'b'` denote the same file.  Both orders pass
the validation pass (each entry is judged on the state before the run).  Enumerated with `'a'` first, the
directory exists when `'a/b'` is written: success, and `a/b` holds the bytes of the entry written last.
Enumerated with `'a/b'` first, its parent does not exist: I/O error.  (Go enumerates a dict in hash order.) -/
theorem alias_order_matters :
    aliasOrMissingParent aliasAB (get [kO] fsEmptyO) = true ∧
    outcome aliasAB .dir [kO] fsEmptyO = .ok () ∧
    view (get [kO, kA, kB] (final aliasAB .dir [kO] fsEmptyO)) = some (some [120]) ∧
    outcome aliasBA .dir [kO] fsEmptyO = .err .io ∧
    view (get [kO, kA] (final aliasBA .dir [kO] fsEmptyO)) = none := by
  decide +kernel

/-! ### Full-strength statements without the class hypothesis, and their refutations -/

def out_refines_full : Prop :=
  ∀ (v : Val) (arg : Path) (fs : FS), Spec.valid v (get arg fs) = true → Creatable arg fs →
    outcome v .dir arg fs = .ok () ∧ final v .dir arg fs = alter arg (fun _ => Spec.apply v (get arg fs)) fs

def atomic_full : Prop :=
  ∀ (v : Val) (arg : Path) (fs : FS), ¬ (Spec.valid v (get arg fs) = true ∧ Creatable arg fs) →
    (∃ e, outcome v .dir arg fs = .err e) ∧ final v .dir arg fs = fs

def dry_predicts_full : Prop :=
  ∀ (v : Val) (arg : Path) (fs : FS),
    ∃ r, Runs (outputTupleDir v [] arg true) fs r fs ∧ (r = .ok () ↔ Spec.validDir v (get arg fs) = true)

/-- `{'a/b': 'x'}` is valid over an empty directory (it describes the file a/b), but nobody creates
the directory `a`: Create fails after the validation pass has accepted the description -/
theorem out_refines_full_false : ¬ out_refines_full := by
  intro h
  have hok := (h deep [kO] fsEmptyO (by decide +kernel) (Or.inl (by decide +kernel))).1
  have hio : outcome deep .dir [kO] fsEmptyO = .err .io := by decide +kernel
  rw [hio] at hok
  cases hok

/-- `{'c': 'x', 'a/b': 'y'}` over a directory where `a` is a file is invalid, yet `c` is written before
the command fails -/
theorem atomic_full_false : ¬ atomic_full := by
  intro h
  have hfs := (h deep2 [kO] fsFileA (fun hv => absurd hv.1 (by decide +kernel))).2
  have hc : view (get [kO, kC] (final deep2 .dir [kO] fsFileA)) ≠ view (get [kO, kC] fsFileA) := by decide +kernel
  exact hc (by rw [hfs])

/-- the validation pass accepts `{'a/b': 'x'}` over a file `a`, which is not valid -/
theorem dry_predicts_full_false : ¬ dry_predicts_full := by
  intro h
  obtain ⟨r, hr, hiff⟩ := h deep [kO] fsFileA
  have hd : Sem.dryDir deep (get [kO] fsFileA) = true := by decide +kernel
  have hv : Spec.validDir deep (get [kO] fsFileA) = false := by decide +kernel
  have hok : r = .ok () := by simpa [hd] using (Runs.det hr (dry_exact deep [kO] fsFileA)).1
  rw [hiff.1 hok] at hv
  cases hv

/-- the three witnesses above are in the class (as `atomic_violations_in_class` demands of the second) -/
theorem witnesses_in_class :
    aliasOrMissingParent deep (get [kO] fsEmptyO) = true ∧
    aliasOrMissingParent deep2 (get [kO] fsFileA) = true ∧
    aliasOrMissingParent deep (get [kO] fsFileA) = true := by
  decide +kernel

/-! ### `--out=file:PATH` -/

/-- a string, byte array or empty result is written to PATH and the file holds exactly its bytes; nothing else
changes -/
theorem file_mode_writes (v : Val) (bs : Bytes) (arg : Path) (fs : FS) (hb : Spec.bytesOf v = some bs)
    (hnd : statOf (get arg fs) ≠ .isDir) (hpar : parentIsDir arg fs = true) :
    outcome v .file arg fs = .ok () ∧ final v .file arg fs = alter arg (fun _ => .file bs) fs ∧
    get arg (final v .file arg fs) = .file bs := by
  have h : Runs (outputValue [] v .file arg) fs (.ok ()) (alter arg (fun _ => .file bs) fs) :=
    real_outputFile v bs arg fs hb (by simp [Spec.notDir, hnd]) hpar
  obtain ⟨ho, hf⟩ : outcome v .file arg fs = .ok () ∧ final v .file arg fs = _ := run_of_runs h
  refine ⟨ho, hf, ?_⟩
  rw [hf]
  exact get_alter_self arg _ fs (reach_of_parentIsDir arg fs hpar)

/-- in every case `file_mode_writes` leaves out (another kind of result, PATH a directory, no parent directory,
unknown mode) the command fails and nothing changes -/
theorem file_mode_refuses (v : Val) (mode : Mode) (arg : Path) (fs : FS) (hm : mode ≠ .dir)
    (h : mode = .bad ∨ Spec.bytesOf v = none ∨ statOf (get arg fs) = .isDir ∨ parentIsDir arg fs = false) :
    (∃ e, outcome v mode arg fs = .err e) ∧ final v mode arg fs = fs := by
  have key : ∃ e, Runs (outputValue [] v mode arg) fs (.err e) fs := by
    unfold outputValue
    cases mode with
    | dir => exact absurd rfl hm
    | bad => exact ⟨.invalid, Runs.fail _ fs⟩
    | file => exact outputFile_refuses v arg fs (h.resolve_left Mode.noConfusion)
  obtain ⟨e, hrun⟩ := key
  exact ⟨⟨e, (run_of_runs hrun).1⟩, (run_of_runs hrun).2⟩

/-- an empty result (`{}`, `''`, `<<>>`: the empty set, as `.data b []`) makes PATH an empty file; for its third
spelling `.dict []` this is `file_mode_writes` with `bs = []` -/
theorem file_mode_empty (b : Bool) (arg : Path) (fs : FS)
    (hnd : statOf (get arg fs) ≠ .isDir) (hpar : parentIsDir arg fs = true) :
    outcome (.data b []) .file arg fs = .ok () ∧ get arg (final (.data b []) .file arg fs) = .file [] := by
  have := file_mode_writes (.data b []) [] arg fs rfl hnd hpar
  exact ⟨this.1, this.2.2⟩

/-- PATH is a directory: refused, nothing changes (in particular the directory and its content stay) -/
theorem file_mode_target_is_directory (v : Val) (arg : Path) (fs : FS) (h : statOf (get arg fs) = .isDir) :
    (∃ e, outcome v .file arg fs = .err e) ∧ final v .file arg fs = fs :=
  file_mode_refuses v .file arg fs (by decide) (.inr (.inr (.inl h)))

/-- the parent of PATH is missing or is not a directory: the command fails, nothing is created -/
theorem file_mode_parent_missing (v : Val) (arg : Path) (fs : FS) (h : parentIsDir arg fs = false) :
    (∃ e, outcome v .file arg fs = .err e) ∧ final v .file arg fs = fs :=
  file_mode_refuses v .file arg fs (by decide) (.inr (.inr (.inr h)))

/-! ### Faults -/

/-- whatever the description, the mode and the set `φ` of failing calls — if any
file-system call (Stat, Mkdir, Create, Write, Sync, Close, RemoveAll) fails, the command reports an error -/
theorem faults_reported (φ : List Nat) (v : Val) (mode : Mode) (arg : Path) (fs : FS)
    (h : (run φ v mode arg fs).2.fired = true) : ∃ e, (run φ v mode arg fs).1 = .err e := by
  rcases (built_outputValue v mode arg).sound φ _ h with h' | h'
  · simp at h'
  · exact h'

/-- faults are the only source of divergence — a run in which no injected fault fires
returns the outcome, leaves the file system and has made the calls of the fault-free run -/
theorem no_fault_is_fault_free (φ : List Nat) (v : Val) (mode : Mode) (arg : Path) (fs : FS)
    (h : (run φ v mode arg fs).2.fired = false) : run φ v mode arg fs = run [] v mode arg fs :=
  ((built_outputValue v mode arg).faith φ).2 _ h

/-- whatever fails and whenever, in both modes and for every description, nothing
that is not at or below PATH is touched -/
theorem faults_outside_untouched (φ : List Nat) (v : Val) (mode : Mode) (arg : Path) (fs : FS) (q : Path)
    (hq : ¬ arg <+: q) : view (get q (run φ v mode arg fs).2.fs) = view (get q fs) :=
  (built_outputValue v mode arg).within φ _ q hq

/-! ### The hypotheses are satisfiable by non-trivial values -/

/-- `{'a': 'x', 'b': (ifExists: 'replace', dir: {'c': <<1>>})}` over `/o` holding a file `b`: outside the class,
valid, creatable — the run succeeds, writes `a`, and replaces the file `b` by a directory with the file `c` -/
example :
    let v : Val := .dict [(.str kA, .data false [120]),
      (.str kB, .tup (some .replace) (some (.dict [(.str kC, .data true [1])])) none)]
    let fs : FS := T.ofList [(kO, T.ofList [(kB, .file [7])])]
    aliasOrMissingParent v (get [kO] fs) = false ∧ Spec.valid v (get [kO] fs) = true ∧ Creatable [kO] fs ∧
    outcome v .dir [kO] fs = .ok () ∧
    view (get [kO, kA] (final v .dir [kO] fs)) = some (some [120]) ∧
    view (get [kO, kB, kC] (final v .dir [kO] fs)) = some (some [1]) := by
  refine ⟨by decide +kernel, by decide +kernel, Or.inl (by decide +kernel), by decide +kernel⟩

/-- a key of two elements whose parent exists is outside the class: `{'a/b': 'x'}` over `/o/a/` is written -/
example :
    let fs : FS := T.ofList [(kO, T.ofList [(kA, T.ofList [])])]
    aliasOrMissingParent deep (get [kO] fs) = false ∧ Spec.valid deep (get [kO] fs) = true ∧
    outcome deep .dir [kO] fs = .ok () ∧ view (get [kO, kA, kB] (final deep .dir [kO] fs)) = some (some [120]) := by
  decide +kernel

/-- an invalid description (a number at depth 2) over existing content: outside the class, refused -/
example :
    let v : Val := .dict [(.str kA, .data false [120]), (.str kB, .dict [(.str kC, .other false)])]
    let fs : FS := T.ofList [(kO, T.ofList [(kB, .file [7])])]
    aliasOrMissingParent v (get [kO] fs) = false ∧ ¬ (Spec.valid v (get [kO] fs) = true ∧ Creatable [kO] fs) := by
  refine ⟨by decide +kernel, fun h => absurd h.1 (by decide +kernel)⟩

/-- missing_parent_exact applies to `{'c': 'x', 'a/b': 'y'}` over the empty `/o`: `c` is written, then the I/O error -/
example :
    outcome (.dict ([(.str kC, .data false [120])] ++ (keyAB, .data false [121]) :: [])) .dir [kO] fsEmptyO = .err .io :=
  (missing_parent_exact [(.str kC, .data false [120])] [] keyAB (.data false [121]) [kA, kB] [kO] fsEmptyO
    (fun k => lookupL k []) rfl (by decide +kernel) (by decide +kernel) (by decide +kernel) (by decide +kernel)
    (by decide +kernel)).1

/-- a fault that fires: the Close of the only file (call 7) -/
example : (run [7] (.dict [(.str kA, .data false [120])]) .dir [kO] fsEmptyO).2.fired = true := by
  decide +kernel

end Arrai.C19.Theorems
