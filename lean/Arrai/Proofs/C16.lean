/-
  C16 — local imports stay inside the module, are consistent, and cycles fail fast.

  Confinement holds for ALL path strings, working directories, source directories and file systems.  One file has
  one cache key because the resolved file name is a canonical spelling.  Compilation terminates for every import
  graph, and a reachable cycle is reported as `importCycle`.
-/
import Arrai.C16.Lemmas
import Arrai.C16.CacheLemmas

namespace Arrai.C16.Theorems
open Arrai.C16 Impl Impl.Strs Impl.Path Impl.Cache Spec

/-! ### Part 1 — confinement -/

/-- cleaning a path string does not change the file it denotes (ties `path.Clean` to `comps`) -/
theorem clean_same_file (cwd z : Str) : comps cwd (clean z) = comps cwd z := comps_clean cwd z

/-- `strings.ReplaceAll(p, "../", "")` is the three-rune scan used in the proofs -/
theorem replaceAll_is_scan (s : Str) : replaceAll s ['.', '.', '/'] [] = removeDDS s := replaceAll_dds s

/-- `//{./p}`: the file read is the source directory followed by Normal components only
(no "..", no ".", no empty component) -/
theorem dot_import_under_source_dir (w : World) (srcDir raw f : Str)
    (h : resolve w srcDir true raw = .ok f) :
    ∃ ns, ns ≠ [] ∧ (∀ c ∈ ns, Normal c) ∧ comps w.cwd f = comps w.cwd srcDir ++ ns := by
  obtain ⟨ns, hi⟩ := resolve_dot w srcDir raw f h
  exact ⟨ns, hi.ne, hi.normal, hi.comps⟩

/-- `//{/p}`: the file read is the module root followed by Normal components only -/
theorem root_import_under_root (w : World) (srcDir raw f : Str)
    (h : resolve w srcDir false raw = .ok f) :
    ∃ root ns, findRoot w srcDir = some root ∧ ns ≠ [] ∧ (∀ c ∈ ns, Normal c) ∧ comps w.cwd f = root ++ ns := by
  obtain ⟨root, ms, hi⟩ := resolve_root w srcDir raw f h
  exact ⟨root, ms, hi.found, hi.ne, hi.normal, hi.comps⟩

/-- the module root found by `findRootFromModule` is an ancestor of the source directory -/
theorem root_above_source_dir (w : World) (srcDir : Str) (root : List Str) (h : findRoot w srcDir = some root) :
    Under root (comps w.cwd srcDir) := findRoot_prefix w srcDir root h

theorem confined (w : World) (srcDir raw f : Str) (dot : Bool) (root : List Str)
    (h : resolve w srcDir dot raw = .ok f) (hroot : findRoot w srcDir = some root) :
    Under root (comps w.cwd f) := by
  have := resolve_confined w srcDir raw f dot h
  rwa [hroot] at this

theorem confined_nomod (w : World) (srcDir raw f : Str) (dot : Bool)
    (h : resolve w srcDir dot raw = .ok f) (hroot : findRoot w srcDir = none) :
    Under (comps w.cwd srcDir) (comps w.cwd f) := by
  have := resolve_confined w srcDir raw f dot h
  rwa [hroot] at this

/-- the hypotheses of `confined` are satisfiable: a module at /m, script in /m/d (relative source
directory), import `//{./x/../ y }` -/
example :
    let w : World := { cwd := "/m".toList, files := [["m".toList, "go.mod".toList]] }
    (resolve w "d".toList true "/x/../ y \t".toList).toOption = some "d/ y.arrai".toList ∧
    findRoot w "d".toList = some ["m".toList] := by decide +kernel

/-- the bundle model, C15, is built on this: its `Impl.target` appends `dotRel raw` / `rootRel raw` to component
lists by definition; `target` itself is related to `resolve` by no theorem -/
theorem dot_import_factored (w : World) (srcDir raw f : Str) (h : resolve w srcDir true raw = .ok f) :
    ∃ ns, dotRel raw = .ok ns ∧ comps w.cwd f = comps w.cwd srcDir ++ ns := by
  obtain ⟨ns, hi⟩ := resolve_dot w srcDir raw f h
  exact ⟨ns, hi.rel, hi.comps⟩

/-- …and what `//{raw}` appends to the module root is a function of `raw` alone -/
theorem root_import_factored (w : World) (srcDir raw f : Str) (h : resolve w srcDir false raw = .ok f) :
    ∃ ms root, rootRel raw = .ok ms ∧ findRoot w srcDir = some root ∧ comps w.cwd f = root ++ ms := by
  obtain ⟨root, ms, hi⟩ := resolve_root w srcDir raw f h
  exact ⟨ms, root, hi.rel, hi.found, hi.comps⟩

/-! ### Part 2 — consistency: the root cache; one file, one key -/

/-- the directories `findRootFromModule` stores in the root cache (every directory visited on the way
up) all have the root it found: the cache cannot change an answer -/
theorem root_cache_sound (w : World) (up : List Str) (r : List Str) (h : findRootUp w up = some r) :
    ∀ s, s <:+ up → r.length ≤ s.length → findRootUp w s = some r := by
  obtain ⟨hr, hex, hnear⟩ := nearest_of_findRootUp_eq_some w up r h
  intro s hs hl
  have hsp : s.reverse <+: up.reverse := List.reverse_prefix.2 hs
  exact (findRootUp_eq_some_iff w s r).2 ⟨List.prefix_of_prefix_length_le hr hsp (by simpa using hl), hex,
    fun e h1 h2 hne => hnear e h1 (h2.trans hsp) hne⟩

/-- two `//{./…}` imports from the same source directory that denote the same file have the same key -/
theorem same_file_dot (w : World) (srcDir raw1 raw2 f1 f2 : Str)
    (h1 : resolve w srcDir true raw1 = .ok f1) (h2 : resolve w srcDir true raw2 = .ok f2)
    (hc : comps w.cwd f1 = comps w.cwd f2) : f1 = f2 := by
  obtain ⟨ns1, i1⟩ := resolve_dot w srcDir raw1 f1 h1
  obtain ⟨ns2, i2⟩ := resolve_dot w srcDir raw2 f2 h2
  rw [i1.comps, i2.comps] at hc
  rw [i1.name, i2.name, List.append_cancel_left hc]

/-- with an absolute source directory the resolved file name is the canonical spelling of the file
it denotes (for `//{/…}`: when the module root is not the file-system root, where Go yields "//p") -/
theorem resolved_key_canonical (w : World) (srcDir raw f : Str) (dot : Bool)
    (habs : isAbs srcDir = true) (hroot : findRoot w srcDir ≠ some [])
    (h : resolve w srcDir dot raw = .ok f) : f = render true (comps w.cwd f) := by
  cases dot with
  | true =>
    obtain ⟨ns, hi⟩ := resolve_dot w srcDir raw f h
    rw [hi.comps, hi.name, clean_append_normal srcDir ns hi.srcDir_ne hi.ne hi.normal, habs, comps_abs _ _ habs]
  | false =>
    obtain ⟨root, ms, hi⟩ := resolve_root w srcDir raw f h
    rw [hi.comps, hi.name]
    have hrne : root ≠ [] := fun e => hroot (by rw [hi.found, e])
    simp only [render, if_true]
    rw [joinSlash_append root ms hrne hi.ne]
    simp

theorem same_file (w : World) (srcDir1 srcDir2 raw1 raw2 f1 f2 : Str) (dot1 dot2 : Bool)
    (ha1 : isAbs srcDir1 = true) (ha2 : isAbs srcDir2 = true)
    (hr1 : findRoot w srcDir1 ≠ some []) (hr2 : findRoot w srcDir2 ≠ some [])
    (h1 : resolve w srcDir1 dot1 raw1 = .ok f1) (h2 : resolve w srcDir2 dot2 raw2 = .ok f2)
    (hc : comps w.cwd f1 = comps w.cwd f2) : f1 = f2 := by
  rw [resolved_key_canonical w srcDir1 raw1 f1 dot1 ha1 hr1 h1,
    resolved_key_canonical w srcDir2 raw2 f2 dot2 ha2 hr2 h2, hc]

/-! ### Part 3 — the import cache: termination, transparency, cycles -/
section cache
variable {κ : Type} [DecidableEq κ]

/-- `rank` only matters for `PostL.dag`: where that field is not used any function will do -/
theorem terminates (g : Graph κ) (imps : List (Option κ)) :
    compileMain g imps ≠ .error .hang ∧ compileMain g imps ≠ .error .fuel :=
  ⟨(compileMain_spec g (fun _ => 0) imps).noHang, (compileMain_spec g (fun _ => 0) imps).noFuel⟩

theorem cache_transparent (g : Graph κ) (imps : List (Option κ)) (ts : List (Tree κ))
    (h : compileMain g imps = .ok ts) : UnfoldsL g imps ts :=
  (compileMain_spec g (fun _ => 0) imps).sound ts h

/-- the only failures are a missing file and an import cycle -/
theorem failure_kinds (g : Graph κ) (imps : List (Option κ)) :
    (∃ ts, compileMain g imps = .ok ts) ∨ compileMain g imps = .error (.err .notFound) ∨
      compileMain g imps = .error (.err .importCycle) := by
  have hs := compileMain_spec g (fun _ => 0) imps
  cases h : compileMain g imps with
  | ok ts => exact Or.inl ⟨ts, rfl⟩
  | error f =>
    cases f with
    | hang => exact absurd h hs.noHang
    | fuel => exact absurd h hs.noFuel
    | err e =>
      rcases hs.kinds e h with rfl | rfl
      · exact Or.inr (Or.inl rfl)
      · exact Or.inr (Or.inr rfl)

/-- `Ranked` speaks of the whole graph: a closed graph with a cycle that the main script does not reach falls
under neither this theorem nor `cycle_error`, only under `cache_transparent`.  That a key has at most one
unfolding is not stated. -/
theorem acyclic_ok (g : Graph κ) (rank : κ → Nat) (imps : List (Option κ))
    (hc : Closed g) (hr : Ranked g rank)
    (hm : ∀ o ∈ imps, ∃ k', o = some k' ∧ Graph.lookup g k' ≠ none) :
    ∃ ts, compileMain g imps = .ok ts ∧ UnfoldsL g imps ts := by
  have hs := compileMain_spec g rank imps
  rcases failure_kinds g imps with ⟨ts, h⟩ | h | h
  · exact ⟨ts, h, hs.sound ts h⟩
  · exact absurd h (hs.closed hc hm)
  · exact absurd h (hs.dag hr (by simp))

theorem cycle_error (g : Graph κ) (imps : List (Option κ))
    (hc : Closed g) (hm : ∀ o ∈ imps, ∃ k', o = some k' ∧ Graph.lookup g k' ≠ none)
    (k0 k k' : κ) (h0 : some k0 ∈ imps) (hreach : Reach g k0 k) (he : Edge g k k') (hback : Reach g k' k) :
    compileMain g imps = .error (.err .importCycle) := by
  have hs := compileMain_spec g (fun _ => 0) imps
  rcases failure_kinds g imps with ⟨ts, h⟩ | h | h
  · exfalso
    obtain ⟨t0, hu0, _⟩ := unfoldsL_mem g imps ts (hs.sound ts h) k0 h0
    obtain ⟨t, hu, _⟩ := unfolds_reach g k0 k hreach t0 hu0
    exact no_unfold_on_cycle g k k' he hback t hu
  · exact absurd h (hs.closed hc hm)
  · exact h

end cache

/-- a decidable sufficient condition for `Closed` (used for the examples) -/
def closedB (g : Graph Nat) : Bool :=
  g.files.all (fun p => p.2.all (fun o => match o with
    | some k' => (Graph.lookup g k').isSome
    | none => false))

theorem closed_of_closedB (g : Graph Nat) (h : closedB g = true) : Closed g := by
  intro k imps hl o ho
  have hmem : (k, imps) ∈ g.files := mem_of_lookup hl
  simp only [closedB, List.all_eq_true] at h
  have := h (k, imps) hmem o ho
  cases o with
  | none => simp at this
  | some k' =>
    refine ⟨k', rfl, ?_⟩
    simp at this
    intro e
    rw [e] at this
    simp at this

example :
    let g : Graph Nat := ⟨[(0, [some 1]), (1, [some 2]), (2, [some 1])]⟩
    closedB g = true ∧ compileMain g [some 0] = .error (.err .importCycle) := ⟨by decide, rfl⟩

/-- a script that imports itself: reported, not waited for -/
theorem self_import_error : compileMain (⟨[(0, [some 0])]⟩ : Graph Nat) [some 0] = .error (.err .importCycle) := rfl

theorem diamond_ok :
    compileMain (⟨[(0, [some 1, some 2]), (1, [some 3]), (2, [some 3]), (3, [])]⟩ : Graph Nat) [some 0] =
      .ok [.node 0 [.node 1 [.node 3 []], .node 2 [.node 3 []]]] := rfl

/-! ### Part 4 — what was wrong before the repairs -/

/-- with the relative source directory "." of a script in the module
root /m, `//{./ ../secret}` resolved to "../secret.arrai", which is /secret.arrai — not under /m -/
theorem confined_false_before_repair :
    let w : World := { cwd := "/m".toList, files := [["m".toList, "go.mod".toList]] }
    (Unrepaired.resolve w ".".toList true "/ ../secret".toList).toOption = some "../secret.arrai".toList ∧
    findRoot w ".".toList = some ["m".toList] ∧
    ¬ Under ["m".toList] (comps w.cwd "../secret.arrai".toList) := by decide +kernel

/-- the repaired pipeline reads a file in a directory literally called " .." inside /m instead -/
theorem escape_repaired :
    let w : World := { cwd := "/m".toList, files := [["m".toList, "go.mod".toList]] }
    (resolve w ".".toList true "/ ../secret".toList).toOption = some " ../secret.arrai".toList ∧
    Under ["m".toList] (comps w.cwd " ../secret.arrai".toList) := by decide +kernel

/-- before the repair `//{./}` in /m/main.arrai read /m.arrai, a file next to the module root -/
theorem dir_import_before_repair :
    let w : World := { cwd := "/".toList, files := [["m".toList, "go.mod".toList]] }
    (Unrepaired.resolve w "/m".toList true "/".toList).toOption = some "/m.arrai".toList ∧
    findRoot w "/m".toList = some ["m".toList] ∧
    ¬ Under ["m".toList] (comps w.cwd "/m.arrai".toList) ∧
    (resolve w "/m".toList true "/".toList).toOption = none := by decide +kernel

/-- before the repair a script importing itself made `getOrAdd` wait for its own entry -/
theorem hang_before_repair : compileMainU (⟨[(0, [some 0])]⟩ : Graph Nat) [some 0] = .error .hang := rfl

end Arrai.C16.Theorems
