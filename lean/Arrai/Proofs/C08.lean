/-
  C08 — documented source-level equivalences preserve meaning.

  Layer 1 (proved here).  `SameResult r₁ r₂` = "if both evaluations return (neither ran out of its
  closure-call budget) they return the same thing": equal data values, related closures (bodies and
  captured scopes related by the same rewrites), both an error, or both outside the model.
  `rewrite_inert` is the master statement: two programs related by `AR` — the documented rewrites closed
  under every constructor, so that they may be applied at any positions, any number of them at once; there
  is no rule for symmetry or transitivity, and the substitution rules have the `let` on the left — have the
  same result, for every pair of budgets.  The theorems proved from it have one rewrite at the root each.
  The sugar theorems `sugar_desugar_*`, the theorems on `&&`, `||`, `cond` with arbitrary guards, `lexical_scope`
  and `alias_binds_value` have no rule in `AR`: they are stated of `evalE`/`eval` directly, hence at the root of
  an evaluation (any caller or budget, any environment) and not at any position.
  Theorems are stated for `Spec.run` (the compiler that never fails at compile time) and transferred to
  `Impl.run` (today's compiler) under the decidable hypothesis that compile-time folding of literal
  collections did not fail (`Impl.compile a = Spec.compile a`); `fold_inert_full_false` shows that the
  hypothesis cannot be dropped (known finding KF-fold-unselected).

  Layer 2 (facts, not proof of the parser): `precLevels_regenerated`.
-/
import Arrai.C08.Rewrite
import Arrai.C08.Sugar
import Arrai.C08.Expected
import Arrai.Facts.Generated

namespace Arrai.C08.Theorems
open Arrai.C08 Arrai.C08.Impl

/-- both evaluations returned ⇒ same value / both failed (`oof` on either side relates to everything) -/
abbrev SameResult (r₁ r₂ : Res Val) : Prop := ResR ValR r₁ r₂

/-- `SameResult` is what the harness observes: equal canonical text whenever both sides return -/
theorem sameResult_observable {r₁ r₂ : Res Val} (h : SameResult r₁ r₂) (h₁ : r₁ ≠ .oof) (h₂ : r₂ ≠ .oof) :
    r₁.obs = r₂.obs := by
  match r₁, r₂, h with
  | .ok _, .ok _, .data _ => rfl
  | .ok _, .ok _, .clo .. => rfl
  | .err, .err, _ => rfl
  | .unsup, .unsup, _ => rfl
  | .oof, _, _ => exact absurd rfl h₁
  | .ok _, .oof, _ | .err, .oof, _ | .unsup, .oof, _ => exact absurd rfl h₂

/-- data results are literally equal -/
theorem sameResult_data {v : V} {r : Res Val} (h : SameResult (.ok (.data v)) r) (hr : r ≠ .oof) :
    r = .ok (.data v) := by
  cases r with
  | ok b => cases h; rfl
  | oof => exact absurd rfl hr
  | _ => exact h.elim

/-! ### the master theorem -/

/-- `rewrite_inert` in any pair of related environments, the left program compiled with or without folding -/
theorem rewrite_inert_env {σ : Sub} {a a' : Ast} (h : AR .expr σ a a') (fo : Bool) (n m : Nat)
    {envL envR : Env} (henv : EnvR σ envL envR) :
    SameResult (eval n (compileG fo false a) envL) (eval m (compileG true false a') envR) :=
  sim n (compileG_rel h fo) m henv

/-- rewriting a program by the documented equivalences, at any positions, never changes its value or
whether it fails -/
theorem rewrite_inert {a a' : Ast} (h : AR .expr [] a a') (n m : Nat) :
    SameResult (Spec.run n a) (Spec.run m a') :=
  rewrite_inert_env h true n m EnvR.nil

/-- every program is related to itself (so `AR` contains every context around a rewrite) -/
theorem rewrite_refl (a : Ast) : AR .expr [] a a := (AR.refl a).expr

/-! ### let / arrow / call -/

/-- `let p = e; b` and `e -> \p b` compile to the same expression -/
theorem let_is_arrow (fo po : Bool) (p : Pat) (e b : Ast) :
    compileG fo po (.let_ p e b) = compileG fo po (.opFn .arrow e p b) := rfl

/-- `let p = e; b`  =  `e -> \p b`  =  `(\p b)(e)` -/
theorem let_arrow_call (p : Pat) (e b : Ast) (n m : Nat) :
    SameResult (Spec.run n (.let_ p e b)) (Spec.run m (.opFn .arrow e p b)) ∧
    SameResult (Spec.run n (.call (.fn p b) e)) (Spec.run m (.opFn .arrow e p b)) ∧
    SameResult (Spec.run n (.let_ p e b)) (Spec.run m (.call (.fn p b) e)) :=
  ⟨rewrite_inert (AR.letL (rewrite_refl _)) n m,
   rewrite_inert (AR.callArrow (rewrite_refl e) (rewrite_refl b)) n m,
   rewrite_inert (AR.letL (AR.arrowCall (rewrite_refl e) (rewrite_refl b))) n m⟩

/-! ### sugared literals and constructors = their spelled-out sets of tuples -/

/-- `[e₀, e₁, …]` = `{(@: 0, @item: e₀), (@: 1, @item: e₁), …}` for arbitrary element expressions
(same value, same failure) -/
theorem sugar_desugar_array (c : Caller) (env : Env) (es : List Expr) :
    evalE c (.coll .arr (elems es)) env = evalE c (.coll .set (spelled "@item" (indexed es 0))) env := by
  simp only [evalE_coll, evalItems_elems, evalItems_indexed c env "@item" (by decide), Res.bind_assoc, Res.bind_ok,
    mkColl, V.mkArr, V.mkSeq, List.map_map, Function.comp_def, List.map_id']

/-- if `{k₀: v₀, …}` returns `r` (so it has no repeated key) then so does `{(@: k₀, @value: v₀), …}` -/
theorem sugar_desugar_dict (c : Caller) (env : Env) (kvs : List (Expr × Expr))
    (hk : ∀ kv ∈ kvs, isNil kv.1 = false) (r : Val)
    (hr : evalE c (.coll .dict (entriesE kvs)) env = .ok r) :
    evalE c (.coll .set (spelled "@value" kvs)) env = .ok r := by
  simp only [evalE_coll, evalItems_entries c env kvs hk, evalItems_spelled c env "@value" (by decide) kvs,
    Res.mapM'_map] at hr ⊢
  cases hm : Res.mapM' (evalKV c env) kvs with
  | ok ps =>
    simp only [hm, Res.bind_ok, mkColl, List.map_map, Function.comp_def] at hr ⊢
    by_cases hn : keysNodup (ps.map fun x => x.1) = true
    · simpa only [hn, if_true, dictEntry] using hr
    · simp only [hn] at hr
      cases hr
  | _ => rw [hm] at hr; cases hr

/-- a string literal = its spelled-out set of `(@: i, @char: c)` tuples = `Lit.den` of the literal -/
theorem sugar_desugar_string (c : Caller) (env : Env) (cs : List Nat) :
    evalE c (.coll .set (spelled "@char" (indexed (cs.map fun ch => .lit (.num (Int.ofNat ch))) 0))) env =
      evalE c (compile (.str cs)) env ∧
    evalE c (compile (.str cs)) env = .ok (.data (Lit.den (.str 0 cs))) := by
  refine ⟨?_, rfl⟩
  show _ = Res.ok (Val.data (V.mkStr cs))
  simp only [evalE_coll, evalItems_indexed c env "@char" (by decide), mapM'_lits, Res.bind_ok, mkColl, V.mkStr, V.mkSeq,
    List.map_map, Function.comp_def, List.map_id']

/-- `true` = `{()}` and `false` = `{}` (the compiler produces the same literal) -/
theorem sugar_desugar_bool :
    compile .tt = compile (.coll .set (.cons "" .nil (.coll .tup .nil) .nil)) ∧
    compile .ff = compile (.coll .set .nil) ∧
    compile .tt = .lit (Lit.den .tt) ∧ compile .ff = .lit (Lit.den .ff) := ⟨rfl, rfl, rfl, rfl⟩

/-- a relation literal `{|n₁, n₂, …| (c₁, c₂, …), …}` is the set of its rows.  `Ast` already spells each row as a
tuple that carries the heading's names (`Coll.rel`): the equation holds by definition, the transposition of heading
and cells is not modelled -/
theorem sugar_desugar_rel (c : Caller) (env : Env) (rows : Expr) :
    evalE c (.coll .rel rows) env = evalE c (.coll .set rows) env := rfl

/-- … and neither the order in which a tuple's attributes are written nor the order of a relation's heading
matters: if `(@: k, nm: v)` returns `r` then so does `(nm: v, @: k)`, and `{|@, nm| (k, v), …}` = `{|nm, @| (v, k), …}`
as literals (`Lit.den`) -/
theorem sugar_desugar_heading_order (nm : String) (h : "@" < nm) :
    (∀ (c : Caller) (env : Env) (k v : Expr) (r : Val), evalE c (tupleOf nm k v) env = .ok r →
      evalE c (.coll .tup (.cons nm .nil v (.cons "@" .nil k .nil))) env = .ok r) ∧
    (∀ rows : List (Lit × Lit),
      Lit.den (.rel ["@", nm] (rows.map fun r => [r.1, r.2])) = Lit.den (.rel [nm, "@"] (rows.map fun r => [r.2, r.1]))) := by
  have hne : nm ≠ "@" := fun e => String.lt_irrefl _ (e ▸ h)
  refine ⟨fun c env k v r hr => ?_, fun rows => ?_⟩
  · simp only [tupleOf, evalE_coll, evalItems_cons, evalItems_nil, isNil, if_true, Res.bind_ok, Res.bind_assoc] at hr ⊢
    obtain ⟨a, hk, hr⟩ := Res.bind_ok_inv hr
    obtain ⟨kv, ha, hr⟩ := Res.bind_ok_inv hr
    obtain ⟨b, hv, hr⟩ := Res.bind_ok_inv hr
    obtain ⟨vv, hb, hr⟩ := Res.bind_ok_inv hr
    simp only [hk, ha, hv, hb, Res.bind_ok, mkColl, List.reverse_cons, List.reverse_nil, List.nil_append,
      List.cons_append, List.map, V.mkTup_at_swap nm _ _ hne] at hr ⊢
    exact hr
  · have : Lit.denRows ["@", nm] (rows.map fun r => [r.1, r.2]) = Lit.denRows [nm, "@"] (rows.map fun r => [r.2, r.1]) := by
      induction rows with
      | nil => rfl
      | cons r rest ih =>
        simp only [List.map, Lit.denRows, Lit.denList, Lit.zipAttrs, ih]
        rw [V.mkTup_at_swap nm _ _ hne]
    simp only [Lit.den, this]

/-- the names in use (`+kernel`: the elaborator is slow at unfolding `String.lt`) -/
example : "@" < "@item" ∧ "@" < "@char" ∧ "@" < "@value" ∧ "@" < "@byte" := by decide +kernel

/-! ### the default binder -/

/-- `lhs op f` (f not a function literal) is `lhs op \. f` -/
theorem default_binder (op : ArrOp) (l f : Ast) (hf : isFnA f = false) (n m : Nat) :
    compile (.opDot op l f) = compile (.opFn op l (.ident ".") f) ∧
    SameResult (Spec.run n (.opDot op l f)) (Spec.run m (.opFn op l (.ident ".") f)) :=
  ⟨compileG_opDot_dot hf, rewrite_inert (AR.dotL hf (rewrite_refl _)) n m⟩

/-! ### parentheses -/

/-- redundant parentheses are inert -/
theorem paren_inert (a : Ast) (n m : Nat) : SameResult (Spec.run n (.paren a)) (Spec.run m a) :=
  rewrite_inert (AR.parenL (rewrite_refl a)) n m

/-- … also around a function literal that is the right operand of `->`, `=>`, `>>`, `where`, `orderby`
(the repaired `ExprAsFunction`) -/
theorem paren_fn_operand (op : ArrOp) (l : Ast) (p : Pat) (b : Ast) (n m : Nat) :
    SameResult (Spec.run n (.opDot op l (.paren (.fn p b)))) (Spec.run m (.opFn op l p b)) :=
  rewrite_inert (AR.dotFnL (f := .paren (.fn p b)) rfl (rewrite_refl _)) n m

/-! ### constant folding -/

/-- folding literal collections while compiling changes neither the value nor the error behaviour — for
the compiler that keeps the unfolded expression when folding fails -/
theorem fold_inert (a : Ast) (n m : Nat) :
    SameResult (eval n (compileG false false a) []) (Spec.run m a) :=
  rewrite_inert_env (rewrite_refl a) false n m EnvR.nil

/-- the compiler without compile-time failure never produces a compile-time failure -/
theorem spec_unpoisoned (fo : Bool) (a : Ast) : poisoned (compileG fo false a) = false := (compileG_poison a).1 fo

/-- the hypothesis of the partial theorems is exactly the class predicate the generator uses: today's
compiler agrees with the never-failing compiler iff it raises no compile-time failure -/
theorem compile_agree_iff (a : Ast) : Impl.compile a = Spec.compile a ↔ poisoned (Impl.compile a) = false :=
  ⟨fun h => by rw [h]; exact spec_unpoisoned true a, (compileG_poison a).2⟩

/-- today's compiler agrees with the specification wherever its compile-time folding does not fail -/
theorem impl_run_eq_spec {a : Ast} (h : Impl.compile a = Spec.compile a) (n : Nat) :
    Impl.run n a = Spec.run n a := by
  unfold Impl.run Spec.run
  rw [h, Spec.compile, spec_unpoisoned]
  rfl

/-- `fold_inert` for today's compiler, where its compile-time folding does not fail -/
theorem fold_inert_partial (a : Ast) (h : Impl.compile a = Spec.compile a) (n m : Nat) :
    SameResult (eval n (compileG false false a) []) (Impl.run m a) := by
  rw [impl_run_eq_spec h]; exact fold_inert a n m

theorem rewrite_inert_partial {a a' : Ast} (h : AR .expr [] a a')
    (ha : Impl.compile a = Spec.compile a) (ha' : Impl.compile a' = Spec.compile a') (n m : Nat) :
    SameResult (Impl.run n a) (Impl.run m a') := by
  rw [impl_run_eq_spec ha, impl_run_eq_spec ha']; exact rewrite_inert h n m

/-- full-strength statement for today's compiler -/
def fold_inert_full : Prop :=
  ∀ (a : Ast) (n m : Nat), SameResult (eval n (compileG false false a) []) (Impl.run m a)

/-- `cond {false: {1: 2, 1: 3}, _: 0}`: unfolded it is `0`; today's compiler fails on it (KF-fold-unselected) -/
def foldWitness : Ast :=
  .cond (.cons "" .ff (.coll .dict (.cons "" (.num 1) (.num 2) (.cons "" (.num 1) (.num 3) .nil)))
    (.cons "" (.ident "_") (.num 0) .nil))

theorem fold_inert_full_false : ¬ fold_inert_full := by
  intro h
  have := h foldWitness 0 0
  have h1 : eval 0 (compileG false false foldWitness) [] = .ok (.data (.num 0)) := rfl
  have h2 : Impl.run 0 foldWitness = .err := rfl
  rw [h1, h2] at this
  simp [SameResult] at this

/-- the hypothesis of the partial theorems is satisfiable by a non-trivial program -/
example : Impl.compile (.coll .dict (.cons "" (.num 1) (.num 2) (.cons "" (.num 2) (.num 3) .nil)))
    = Spec.compile (.coll .dict (.cons "" (.num 1) (.num 2) (.cons "" (.num 2) (.num 3) .nil))) := rfl

/-! ### substitution -/

/-- replacing a let-bound name by its (atomic literal) value, capture-avoiding, is inert.  `hb` is the condition of
the rule `AR.letSubst`, which holds at any position: as the key of a `cond` entry `_` is the default entry, while
`let x = lv; _` is an ordinary guard -/
theorem subst_inert (x : String) (lv : Ast) (v : V) (b : Ast) (hl : leafLit lv = some v) (hx : x ≠ "_")
    (hb : isUnderscoreA (substA x lv b) = false) (n m : Nat) :
    SameResult (Spec.run n (.let_ (.ident x) lv b)) (Spec.run m (substA x lv b)) :=
  rewrite_inert (AR.letSubst hl hx hb (substA_rel x hl hx b).expr) n m

/-- the hypotheses of `subst_inert` are satisfiable: `let x = 1; x + (let x = 5; x)` ↦ `1 + (let x = 5; x)` -/
example : leafLit (.num 1) = some (.num 1) ∧ "x" ≠ "_" ∧
    substA "x" (.num 1) (.bin .add (.ident "x") (.let_ (.ident "x") (.num 5) (.ident "x"))) =
      .bin .add (.num 1) (.let_ (.ident "x") (.num 5) (.ident "x")) ∧
    isUnderscoreA (substA "x" (.num 1) (.bin .add (.ident "x") (.let_ (.ident "x") (.num 5) (.ident "x")))) = false :=
  ⟨rfl, by decide, rfl, rfl⟩

/-! ### cond / && / || evaluate only the branches they select -/

/-- `&&` and `||` return an OPERAND, not a boolean: `a && b` is `a` when `a` is false-like and `b` otherwise;
`a || b` is `a` when `a` is true-like and `b` otherwise; `a` is always evaluated (so it is never dropped,
whatever `b` is - e.g. a literal) -/
theorem and_or_value (c : Caller) (a b : Expr) (env : Env) :
    evalE c (.and_ a b) env = (evalE c a env >>= fun va => if isTrue va then evalE c b env else .ok va) ∧
    evalE c (.or_ a b) env = (evalE c a env >>= fun va => if isTrue va then .ok va else evalE c b env) ∧
    (∀ r, r ≠ .oof → (∀ v, r ≠ .ok v) → evalE c a env = r → evalE c (.and_ a b) env = r ∧ evalE c (.or_ a b) env = r) := by
  refine ⟨evalE_and .., evalE_or .., ?_⟩
  intro r _ hv h
  rw [evalE_and, evalE_or, h]
  cases r with
  | ok v => exact absurd rfl (hv v)
  | _ => exact ⟨rfl, rfl⟩

/-- `a && b` with `a` false: `b` is not evaluated -/
theorem and_short_circuit (c : Caller) (a b b' : Expr) (env : Env) (va : Val)
    (ha : evalE c a env = .ok va) (hf : isTrue va = false) :
    evalE c (.and_ a b) env = .ok va ∧ evalE c (.and_ a b) env = evalE c (.and_ a b') env := by
  simp [evalE_and, ha, hf]

/-- `a || b` with `a` true: `b` is not evaluated -/
theorem or_short_circuit (c : Caller) (a b b' : Expr) (env : Env) (va : Val)
    (ha : evalE c a env = .ok va) (ht : isTrue va = true) :
    evalE c (.or_ a b) env = .ok va ∧ evalE c (.or_ a b) env = evalE c (.or_ a b') env := by
  simp [evalE_or, ha, ht]

/-- `cond`: the value of an entry whose condition is false is not evaluated -/
theorem cond_skips_false (c : Caller) (n n' : String) (k x x' rest : Expr) (env : Env) (vk : Val)
    (hu : isUnderscore k = false) (hk : evalE c k env = .ok vk) (hf : isTrue vk = false) :
    evalE c (.cond (.cons n k x rest)) env = evalE c (.cond rest) env ∧
    evalE c (.cond (.cons n k x rest)) env = evalE c (.cond (.cons n' k x' rest)) env := by
  simp [evalE_cond, evalCond_cons, hu, hk, hf]

/-- `cond`: after the selected entry nothing is evaluated -/
theorem cond_stops_at_true (c : Caller) (n n' : String) (k x rest rest' : Expr) (env : Env) (vk : Val)
    (hu : isUnderscore k = false) (hk : evalE c k env = .ok vk) (ht : isTrue vk = true) :
    evalE c (.cond (.cons n k x rest)) env = evalE c x env ∧
    evalE c (.cond (.cons n k x rest)) env = evalE c (.cond (.cons n' k x rest')) env := by
  simp [evalE_cond, evalCond_cons, hu, hk, ht]

/-- the same at any position of a program, for literal guards: the unselected branch (`b`, `x`, the entries
after the selected one) may be replaced by anything, including a failing term -/
theorem short_circuit {g : Ast} {v : V} (hg : leafLit g = some v) (b b' x r r' : Ast) (n m : Nat) :
    (Impl.isTrue (Val.data v) = false → SameResult (Spec.run n (.and_ g b)) (Spec.run m (.and_ g b'))) ∧
    (Impl.isTrue (Val.data v) = true → SameResult (Spec.run n (.or_ g b)) (Spec.run m (.or_ g b'))) ∧
    (Impl.isTrue (Val.data v) = false → SameResult (Spec.run n (.cond (.cons "" g b r))) (Spec.run m (.cond (.cons "" g b' r)))) ∧
    (Impl.isTrue (Val.data v) = true → SameResult (Spec.run n (.cond (.cons "" g x r))) (Spec.run m (.cond (.cons "" g x r')))) :=
  ⟨fun h => rewrite_inert (AR.andDead b b' hg h) n m,
   fun h => rewrite_inert (AR.orDead b b' hg h) n m,
   fun h => rewrite_inert (AR.cond (AR.condDead "" "" b b' hg h (AR.refl r).conds)) n m,
   fun h => rewrite_inert (AR.cond (AR.condTaken "" "" r r' hg h (rewrite_refl x))) n m⟩

/-- the hypotheses of `short_circuit` are satisfiable (`false && …`, `1 || …`) -/
example : leafLit .ff = some V.none ∧ Impl.isTrue (Val.data V.none) = false ∧
    leafLit (.num 1) = some (.num 1) ∧ Impl.isTrue (Val.data (.num 1)) = true := by decide

/-! ### lexical scope -/

/-- a closure sees the bindings at its creation: re-binding a captured name before the call is invisible.
`let x = u; let f = \y b; let x = w; f(d)`  =  `let x = u; let f = \y b; f(d)` (exactly, for every budget) -/
theorem lexical_scope (fo po : Bool) (x f y : String) (u w d : Ast) (vu vw vd : V) (b : Ast)
    (hu : leafLit u = some vu) (hw : leafLit w = some vw) (hd : leafLit d = some vd)
    (hfx : f ≠ x) (hx : x ≠ "_") (hf : f ≠ "_") (n : Nat) (env : Env) :
    eval n (compileG fo po (.let_ (.ident x) u (.let_ (.ident f) (.fn (.ident y) b)
      (.let_ (.ident x) w (.call (.ident f) d))))) env =
    eval n (compileG fo po (.let_ (.ident x) u (.let_ (.ident f) (.fn (.ident y) b) (.call (.ident f) d)))) env := by
  simp [eval, compileG, compileG_leaf hu, compileG_leaf hw, compileG_leaf hd, evalE_arrow, arrowV_arrow, evalE_lit,
    evalE_fn, evalE_call, evalE_ident, bind_ident, lookup, hfx, hx, hf]

/-- the documented instance: `let x = 1; let f = \y x + y; let x = 10; f(1)` is `2` -/
theorem lexical_scope_example :
    Impl.run 1 (.let_ (.ident "x") (.num 1) (.let_ (.ident "f")
      (.fn (.ident "y") (.bin .add (.ident "x") (.ident "y")))
      (.let_ (.ident "x") (.num 10) (.call (.ident "f") (.num 1))))) = .ok (.data (.num 2)) := rfl

/-- a name bound to a bare identifier is bound to that identifier's VALUE at the binding (not to the
identifier): `let x = u; let y = x; let x = w; y`, `let x = u; x -> \y let x = w; y` and
`let x = u; (\y let x = w; y)(x)` all are `u`, for every budget that lets the call happen -/
theorem alias_binds_value (fo po : Bool) (x y : String) (u w : Ast) (vu vw : V)
    (hu : leafLit u = some vu) (hw : leafLit w = some vw) (hxy : y ≠ x) (hx : x ≠ "_") (hy : y ≠ "_")
    (n : Nat) (env : Env) :
    eval n (compileG fo po (.let_ (.ident x) u (.let_ (.ident y) (.ident x) (.let_ (.ident x) w (.ident y))))) env
      = .ok (.data vu) ∧
    eval n (compileG fo po (.let_ (.ident x) u (.opFn .arrow (.ident x) (.ident y) (.let_ (.ident x) w (.ident y))))) env
      = .ok (.data vu) ∧
    eval (n + 1) (compileG fo po (.let_ (.ident x) u (.call (.fn (.ident y) (.let_ (.ident x) w (.ident y))) (.ident x)))) env
      = .ok (.data vu) := by
  simp [eval, compileG, compileG_leaf hu, compileG_leaf hw, evalE_arrow, arrowV_arrow, evalE_lit, evalE_fn, evalE_call,
    evalE_ident, bind_ident, lookup, callAt, hxy, hx, hy]

/-! ### the model on documented programs -/

/-- an inner default binder wins over an outer one: `{3, 1, 2} -> ((.) orderby -.)` is `[3, 2, 1]` and
`{{3, 1, 2}} => ((.) orderby -.)` is `{[3, 2, 1]}` -/
theorem nested_default_binder_example :
    Impl.run 0 (.opDot .arrow (.coll .set (.cons "" .nil (.num 3) (.cons "" .nil (.num 1) (.cons "" .nil (.num 2) .nil))))
      (.opDot .orderby (.ident ".") (.neg (.ident ".")))) = .ok (.data (V.mkArr [.num 3, .num 2, .num 1])) ∧
    Impl.run 0 (.opDot .darrow (.coll .set (.cons "" .nil
        (.coll .set (.cons "" .nil (.num 3) (.cons "" .nil (.num 1) (.cons "" .nil (.num 2) .nil)))) .nil))
      (.opDot .orderby (.ident ".") (.neg (.ident ".")))) = .ok (.data (V.mkSet [V.mkArr [.num 3, .num 2, .num 1]])) :=
  ⟨rfl, rfl⟩

/-- `Value.Negate` as the model pins it: a number is negated arithmetically, `(@neg: x)` is `x`, a set `s` becomes
`(@neg: s)`; so `-` is not an involution on `(@neg: n)`: `let w = (@neg: 2); - -w` is `-2` (= `-(-w)`), not `w` -/
theorem negate_semantics (n : Int) (x : V) (xs : List V) :
    negV (.data (.num n)) = mkNum (-n) ∧
    negV (.data (.tup [("@neg", x)])) = .ok (.data x) ∧
    negV (.data (.set xs)) = .ok (.data (.tup [("@neg", .set xs)])) ∧
    Impl.run 0 (.let_ (.ident "w") (.coll .tup (.cons "@neg" .nil (.num 2) .nil)) (.neg (.neg (.ident "w"))))
      = .ok (.data (.num (-2))) ∧
    Impl.run 0 (.let_ (.ident "w") (.coll .tup (.cons "@neg" .nil (.num 2) .nil)) (.neg (.paren (.neg (.ident "w")))))
      = .ok (.data (.num (-2))) :=
  ⟨rfl, rfl, rfl, rfl, rfl⟩

/-! ### layer 2: the precedence tower is the documented one -/

/-- the `>`-separated alternatives of rule `expr` regenerated from syntax/arrai.wbnf are the documented
precedence levels (the printers `Ast.toSource`/`toSourceFull` take their level numbers from this table) -/
theorem precLevels_regenerated : Arrai.Facts.Generated.precLevels = Expected.precLevels := rfl

/-- the level numbers the printers use -/
theorem precLevels_numbers :
    Expected.lvArrow = 0 ∧ Expected.lvOr = 4 ∧ Expected.lvAnd = 5 ∧ Expected.lvCompare = 7 ∧ Expected.lvAdd = 9 ∧
    Expected.lvMul = 11 ∧ Expected.lvPow = 12 ∧ Expected.lvUnary = 13 ∧ Expected.lvTail = 15 ∧ Expected.lvAtom = 16 := by
  decide +kernel

end Arrai.C08.Theorems
