/-
  C15 — a bundle evaluates exactly like its sources and reads nothing else.

  `fs` is the source tree, `main` the main script,
  `bundle sem fs main fuel = .ok (cfg, z)` the configuration and archive `arrai bundle` produces;
  `evalSource` / `evalBundle` are the compile-time structure (tree of file contents) from which both
  `arrai run main.arrai` and `arrai run main.arraiz` compute their value with the same function.
  `map_join` and `root_found` restate the lemmas of the same short names in `Arrai.C15`: with both namespaces
  open the short names are ambiguous.
-/
import Arrai.C15.Lemmas
import Arrai.C15.Expected
import Arrai.Facts.Generated

namespace Arrai.C15.Theorems
open Arrai.C16 Arrai.C16.Impl Arrai.C16.Impl.Strs Arrai.C16.Impl.Path Arrai.C15 Arrai.C15.Impl

/-- the module path of the main script's go.mod has Normal components (no ".", "..", empty component), so that
`path.Join(ModuleDir, path, …)`, which cleans, puts the module's files under /module/<path> itself.  The test
`cfg.mainRoot ≠ []` stands inside the quantifier because a script without module has `mainRoot = []`, and
`splitSlash [] = [[]]`. -/
def SaneModule (cfg : Cfg) : Prop := ∀ c ∈ splitSlash cfg.mainRoot, cfg.mainRoot ≠ [] → Spec.Normal c

/-- `path.Join(dir, mainRoot, TrimPrefix(Join(d, rel), absRoot))` is
`path.Join(mapPath d, rel)`: a relative import inside the archive lands on the image of its source target -/
theorem map_join (cfg : Cfg) (d rel : Path) (h : cfg.absRoot <+: d) :
    mapPath cfg (d ++ rel) = mapPath cfg d ++ rel := Arrai.C15.map_join cfg d rel h

/-- the directory of a mapped script is the mapped directory: `SourceDir` inside the archive -/
theorem map_source_dir (cfg : Cfg) (key : Path) (h : cfg.absRoot <+: dirOf key) (hne : key ≠ []) :
    dirOf (mapPath cfg key) = mapPath cfg (dirOf key) := map_dir cfg key h hne

/-- walking up inside the archive from the image of a source directory, the runtime finds
the image of that directory's module root (the sentinel is where the runtime looks, and no copied sentinel
lies in between) -/
theorem root_found (fs : Fs) (cfg : Cfg) (hs : Setup fs cfg) (z : Fs) (hz : Consistent fs cfg z) (d r : Path)
    (hd : cfg.absRoot <+: d) (hr : findRootC fs d = some r)
    (hsent : z.lookup (mapPath cfg (r ++ [sentinel])) ≠ none) :
    findRootC z (mapPath cfg d) = some (mapPath cfg r) := Arrai.C15.root_found fs cfg hs z hz d r hd hr hsent

/-- …and where the source tree has no module, the archive has none either -/
theorem no_spurious_root (fs : Fs) (cfg : Cfg) (hs : Setup fs cfg) (z : Fs) (hz : Consistent fs cfg z) (d : Path)
    (hd : cfg.absRoot <+: d) (hr : findRootC fs d = none) : findRootC z (mapPath cfg d) = none := by
  have hm : cfg.mainRoot = [] := by
    cases h : cfg.mainRoot with
    | nil => rfl
    | cons a b => exact absurd hr (hs.rootEx (by simp [h]) d hd)
  have hp := hs.noMod hm
  have hnone := (findRootC_eq_none_iff fs d).1 hr
  rw [findRootC_eq_none_iff]
  intro e he
  simp only [mapPath, hp] at he
  cases e with
  | nil =>
    -- the archive's top level holds the configuration file and /unnamed only
    cases hl : z.lookup ([] ++ [sentinel]) with
    | none => rfl
    | some c =>
      rcases hz _ _ (mem_of_lookup hl) with hc | ⟨q, _, hq, _⟩
      · simp at hc; exact absurd hc sentinel_ne_config
      · simp only [mapPath, hp, List.nil_append, List.cons_append] at hq
        injection hq with h1 _
        exact absurd h1 sentinel_ne_noModuleDir
  | cons x s1 =>
    obtain ⟨t, ht⟩ := he
    simp only [List.cons_append] at ht
    injection ht with h1 h2
    subst h1
    have hx : cfg.absRoot <+: cfg.absRoot ++ s1 := List.prefix_append _ _
    have hno := hnone (cfg.absRoot ++ s1) (by
      rw [prefix_decomp hd]; exact (List.prefix_append_right_inj _).2 ⟨t, h2⟩)
    have e : mapPath cfg (cfg.absRoot ++ s1) = noModuleDir :: s1 := by simp [mapPath, hp]
    rw [← e]
    exact no_sentinel_image fs cfg hs z hz _ hx hno

/-- `SetupBundle` establishes what the other theorems assume -/
theorem setup_establishes (fs : Fs) (main : Path) (cfg : Cfg) (z0 : Fs) (hmain : main ≠ [])
    (h : setupBundle fs main = .ok (cfg, z0)) (hname : SaneModule cfg) :
    Setup fs cfg ∧ Consistent fs cfg z0 ∧ cfg.absRoot <+: dirOf main ∧ cfg.mainFile = mapPath cfg main :=
  let ⟨a, b, c, d, _⟩ := setup_ok fs main cfg z0 hmain h hname
  ⟨a, b, c, d⟩

/-- one import: after an import has been bundled, the archive holds the imported file at
`mapPath` of its path, with the content the source tree has there — and, for a module-rooted import,
the sentinel of the module root used -/
theorem closure_import (fs : Fs) (cfg : Cfg) (hs : Setup fs cfg) (z : Fs) (hz : Consistent fs cfg z)
    (d : Path) (i : Imp) (q : Path) (c : Content) (z1 : Fs) (hd : cfg.absRoot <+: d)
    (h : bundleImport fs cfg z d i = .ok (q, c, z1)) :
    target fs d i = .ok q ∧ fs.lookup q = some c ∧ z1.lookup (mapPath cfg q) = some c ∧
    (i.dot = false → ∀ r, findRootC fs d = some r → z1.lookup (mapPath cfg (r ++ [sentinel])) ≠ none) := by
  have hb := bundleImport_ok fs cfg hs z d i q c z1 hd h
  exact ⟨hb.target, hb.content,
    archive_lookup_of_source fs cfg hs z1 (hb.grows.2 hz) q hb.below c hb.content hb.present, hb.sentinel⟩

/-- the whole walk: nothing that was put into the archive is lost or changed later, and every
entry is the image of a source file (or the configuration) -/
theorem closure_kept (sem : Sem) (fs : Fs) (cfg : Cfg) (hs : Setup fs cfg) (fuel : Nat) (chain : List Path)
    (z : Fs) (key : Path) (c : Content) (z' : Fs) (hd : cfg.absRoot <+: dirOf key)
    (h : walk sem fs cfg fuel chain z key c = .ok z') :
    Ext z z' ∧ (Consistent fs cfg z → Consistent fs cfg z') := (walk_sim sem fs cfg hs fuel chain z key c z' hd h).1

/-- the archive holds nothing else: every entry is the configuration file or a copy of a source file
beneath the main script's module root (or directory) -/
theorem archive_only_sources (sem : Sem) (fs : Fs) (main : Path) (fuel : Nat) (cfg : Cfg) (z : Fs)
    (hmain : main ≠ []) (h : bundle sem fs main fuel = .ok (cfg, z)) (hname : SaneModule cfg) :
    Consistent fs cfg z := (bundle_eval_frame sem fs main fuel cfg z hmain h hname).1

/-- running a bundle that `arrai bundle` produced yields exactly what compiling the source tree yields, for
every layout and every main-file position (at equal fuel; that both sides are then successes follows from
`walk_agree` and is not stated as a theorem) -/
theorem bundle_eval_eq (sem : Sem) (fs : Fs) (main : Path) (fuel : Nat) (cfg : Cfg) (z : Fs)
    (hmain : main ≠ []) (h : bundle sem fs main fuel = .ok (cfg, z)) (hname : SaneModule cfg) :
    evalBundle sem cfg z fuel = evalSource sem fs main fuel :=
  let ⟨hz, hframe⟩ := bundle_eval_frame sem fs main fuel cfg z hmain h hname
  hframe z hz (Ext.refl z)

/-- bundling fails only as the source compile fails — or because the go.mod has no `module` line
(the known finding) -/
theorem bundle_fails_as_source (sem : Sem) (fs : Fs) (main : Path) (fuel : Nat) (e : Fail)
    (h : bundle sem fs main fuel = .error e) :
    e = .sentinel ∨ evalSource sem fs main fuel = .error e :=
  (bundle_error sem fs main fuel e h).symm.imp (·.1) id

/-- conversely: if the sentinel parses and the source tree compiles, `arrai bundle` succeeds -/
theorem bundle_ok_of_source_ok (sem : Sem) (fs : Fs) (main : Path) (fuel : Nat) (t : T)
    (h : evalSource sem fs main fuel = .ok t)
    (hsent : ∀ root sc, findRootC fs (dirOf main) = some root → fs.lookup (root ++ [sentinel]) = some sc →
      parseModule sc.bytes ≠ none) :
    ∃ cfg z, bundle sem fs main fuel = .ok (cfg, z) := by
  cases hb : bundle sem fs main fuel with
  | ok r => exact ⟨r.1, r.2, rfl⟩
  | error e =>
    rcases bundle_error sem fs main fuel e hb with he | ⟨_, root, sc, hr, hsc, hp⟩
    · rw [h] at he; cases he
    · exact absurd hp (hsent root sc hr hsc)

/-! ### the working directory -/

theorem findRootUp_cwd (c1 c2 : Str) (files : List (List Str)) (up : List Str) :
    findRootUp ⟨c1, files⟩ up = findRootUp ⟨c2, files⟩ up := by
  induction up with
  | nil => simp [findRootUp, World.fileExists]
  | cons c up ih => simp [findRootUp, World.fileExists, ih]

/-- this is about `C16.Impl.resolve` alone: the bundle model has no working directory (its paths are absolute
component lists), and that the `sourceDir` of a script with an absolute name is absolute is not proved -/
theorem cwd_indep (files : List (List Str)) (c1 c2 srcDir raw : Str) (dot : Bool) (h : isAbs srcDir = true) :
    resolve ⟨c1, files⟩ srcDir dot raw = resolve ⟨c2, files⟩ srcDir dot raw := by
  -- the factored form of the pipeline mentions the world only through `findRoot`
  cases dot with
  | true => rw [resolve_dot_eq, resolve_dot_eq]
  | false => simp only [resolve_root_eq, findRoot, comps_abs _ _ h, findRootUp_cwd c1 c2]

theorem resolved_abs (w : World) (srcDir raw f : Str) (dot : Bool) (h : isAbs srcDir = true)
    (hr : resolve w srcDir dot raw = .ok f) : isAbs f = true := by
  cases dot with
  | true =>
    obtain ⟨ns, hi⟩ := resolve_dot w srcDir raw f hr
    rw [hi.name, isAbs_clean, isAbs_append _ _ hi.srcDir_ne, h]
  | false =>
    obtain ⟨root, ms, hi⟩ := resolve_root w srcDir raw f hr
    rw [hi.name, isAbs_append _ _ (render_true_ne_nil root), isAbs_render_true]

/-! ### witnesses -/

def sem0 : Sem := { decodeOk := fun _ _ => true }

/-- a small module: main imports ./a and /lib/b, b imports /a (a diamond), with a nested directory -/
def fs0 : Fs :=
  [ (["srv".toList, "m".toList, "go.mod".toList], { bytes := "module ex.com/m\n".toList, imps := [], val := 0 }),
    (["srv".toList, "m".toList, "main.arrai".toList],
      { bytes := [], imps := [⟨true, "/a".toList, .none⟩, ⟨false, "/lib/b".toList, .none⟩], val := 0 }),
    (["srv".toList, "m".toList, "a.arrai".toList], { bytes := [], imps := [], val := 1 }),
    (["srv".toList, "m".toList, "lib".toList, "b.arrai".toList],
      { bytes := [], imps := [⟨false, "/a".toList, .none⟩], val := 2 }) ]

def main0 : Path := ["srv".toList, "m".toList, "main.arrai".toList]

/-- module path and entry names of a bundling result -/
def summary (r : Except Fail (Cfg × Fs)) : Option (Str × List Path) :=
  match r with
  | .ok (cfg, z) => some (cfg.mainRoot, z.map (·.1))
  | .error _ => none

example :
    summary (bundle sem0 fs0 main0 5) = some ("ex.com/m".toList,
         [ ["module".toList, "ex.com".toList, "m".toList, "go.mod".toList],
           ["module".toList, "ex.com".toList, "m".toList, "main.arrai".toList],
           ["config.arrai".toList],
           ["module".toList, "ex.com".toList, "m".toList, "a.arrai".toList],
           ["module".toList, "ex.com".toList, "m".toList, "lib".toList, "b.arrai".toList] ]) := by decide +kernel

/-- before the repair of `addModuleSentinel`: for a main script without a module, the sentinel of a nested
module went under /module while the module's files are under /unnamed, so the runtime, walking up from
/unnamed/sub, found no module root; with the repaired placement it finds /unnamed/sub -/
theorem nested_sentinel_before_repair :
    let cfg : Cfg := { mainRoot := [], pfx := [noModuleDir], mainFile := [noModuleDir, "main.arrai".toList],
                       absRoot := ["srv".toList, "m".toList] }
    let root : Path := ["srv".toList, "m".toList, "sub".toList]
    let c : Content := { bytes := [], imps := [], val := 0 }
    let files : Fs := [([noModuleDir, "main.arrai".toList], c), ([noModuleDir, "sub".toList, "b.arrai".toList], c)]
    Unrepaired.sentinelLoc cfg root = [moduleDir, "sub".toList, "go.mod".toList] ∧
    findRootC (files ++ [(Unrepaired.sentinelLoc cfg root, c)]) (mapPath cfg root) = none ∧
    findRootC (files ++ [(mapPath cfg (root ++ [sentinel]), c)]) (mapPath cfg root) = some (mapPath cfg root) := by
  decide +kernel

/-! ### regenerated facts: the bundle path reads only through the source file system of the context -/

/-- the only direct I/O on the import/bundle path is the URL fetch and `go mod download` … -/
theorem facts_direct_io : Arrai.Facts.Generated.c15_direct_io = Arrai.C15.Expected.direct_io := by decide +kernel

/-- … and both are behind `if isRunningBundle(ctx) { … return … }`: a running bundle never reaches them -/
theorem facts_guarded : Arrai.Facts.Generated.c15_guarded = Arrai.C15.Expected.guarded := by decide +kernel

end Arrai.C15.Theorems
