/-
  C01 — set algebra is exact for every mix of value representations.

  The property theorems, and as `def … : Prop` the full-strength statements that are refuted or left open.
  Part 1: the specification is finite-set algebra: every operator of `Spec` has exactly the textbook
          members and returns a canonical (strictly sorted) set, so `=` on results is set equality.
  Part 2: keyed sequences (String / Bytes / Array share one library over `List (Option α)` + offset).
  Part 3: per representation, the interface contract: the enumeration lists exactly the members,
          pairwise distinct and all of the representation's own kind; Has / Count / IsTrue / Where
          refine membership / cardinality / non-emptiness / filter and return well-formed values.
  Part 4: the operators of rel/ops_set.go, the SetBuilder, the comparisons and literals, for every mix of
          representations; by induction over `E`, whole programs.
  Part 5: the known-finding classes are real: the full-strength statements fail on a witness.
  Part 6: the hypotheses of the partial theorems are satisfiable.

  The predicates the statements are made of (file under Arrai/C01/; KF-…: the known-finding class excluded).  None has a
  `Decidable` instance; `WithAllAdm` (hence `UnionAdm`, `SymdiffAdm`, `OpAdm`) and `Adm` quantify over results of the
  implementation (`a.with_ v = .ok a'`, `Impl.eval a = .ok x`), not over values of the specification.  A set is a `Rep`
  (a `Plain` set or a UnionSet of buckets); it denotes `Rep.den : List V`, strictly sorted (`Rep.denV` as a `V`).
  - Plain.WF (Contracts): what the Go constructors establish (sorted, not empty, not `{()}`, counts right, chars and
      bytes in range, dict keys distinct); holes at the ends are allowed.
  - Rep.WF (Ops): `Plain.WF`; a UnionSet has ≥ 2 buckets, distinct keys, each a well-formed non-empty set of the key's kind.
  - Plain.Norm, Rep.Norm (Contracts): an empty set is the EmptySet.
  - KSeq.Functional, KSeq.NoGap (KSeq): of pairs (index, element): no index with two elements (KF-superimposed); the
      indices form a contiguous range (KF-bytes-holes).
  - FinishAdm xs (Builder): the char, byte and item pairs among `xs` are `Functional`, the byte pairs `NoGap`.
  - FilterAdm p f (Contracts): Bytes: the bytes `f` keeps are `NoGap`.
  - WithoutAdm p v (Contracts): Bytes: a byte that is present goes only from the first or the last index (KF-bytes-holes).
  - WithAdm p v (With): String, Bytes, Array: no other element at the index of `v` (KF-superimposed); Bytes: that index
      is inside or next to the array (KF-bytes-holes).
  - RepWithAdm r v, RepWithoutAdm r v (Union), RepFilterAdm r f (Ops): the same of a plain set; for a UnionSet, of its
      subset of `v`'s kind, resp. of every bucket.
  - InterAdm a b, DiffAdm a b (Ops): `FilterAdm` of what `Intersect` / `Difference` filters (`a`, or bucket by bucket)
      with `b.has` / its negation.
  - WithAllAdm a vs (Union): every step of the loop `a = a.With(v)` over `vs` is `RepWithAdm`.
  - UnionAdm a b (Union): `WithAllAdm` on the element-wise paths of `Union`.
  - SymdiffAdm a b (Union): `DiffAdm a b ∧ DiffAdm b a ∧ UnionAdm (diff a b) (diff b a)`.
  - PowerAdm ms (PowerSet): for every sorted `l` of members of `ms` and every `c ∈ ms`: `FinishAdm l ∧ RepWithAdm
      (finish l) c`.
  - IVOK iv (Programs): `iv` is not a set, or is a set that is `WF` and `Norm`.
  - LitAdm l (Programs): chars and bytes in range, the members of a set or relation literal `FinishAdm`, dict keys
      distinct (not used by the proof).
  - OpAdm op x y (Programs): the predicate above that belongs to `op`; `True` where an operand is not a set.  `BinAdm`
      (this file): the same on two sets, for `| & &~ ~~`.
  - Adm e (Programs): over the sub-expressions of `e`: `LitAdm` of the literals and, for all results of `Impl.eval` on
      the operands, the predicate of the operator.
-/
import Arrai.C01.Programs

namespace Arrai.C01.Theorems
open Arrai Arrai.C01 Arrai.FinSet KSeq

/-! ### Part 1 — the specification is finite-set algebra -/

theorem spec_union_exact (a b : List V) (x : V) : x ∈ FinSet.union a b ↔ x ∈ a ∨ x ∈ b := FinSet.mem_union a b x
theorem spec_inter_exact (a b : List V) (x : V) : x ∈ FinSet.inter a b ↔ x ∈ a ∧ x ∈ b := FinSet.mem_inter a b x
theorem spec_diff_exact (a b : List V) (x : V) : x ∈ FinSet.diff a b ↔ x ∈ a ∧ x ∉ b := FinSet.mem_diff a b x
theorem spec_symdiff_exact (a b : List V) (x : V) :
    x ∈ FinSet.symdiff a b ↔ (x ∈ a ∧ x ∉ b) ∨ (x ∈ b ∧ x ∉ a) := FinSet.mem_symdiff a b x
theorem spec_with_exact (a : List V) (v x : V) : x ∈ FinSet.ins v a ↔ x = v ∨ x ∈ a := FinSet.mem_ins v x a
theorem spec_without_exact (a : List V) (v x : V) : x ∈ FinSet.erase a v ↔ x ∈ a ∧ x ≠ v := FinSet.mem_erase a v x
theorem spec_where_exact (p : V → Bool) (a : List V) (x : V) : x ∈ FS.filter p a ↔ x ∈ a ∧ p x = true := by
  simp [FS.filter]
theorem spec_darrow_exact (f : V → V) (a : List V) (x : V) : x ∈ FS.image f a ↔ ∃ y, y ∈ a ∧ f y = x := by
  simp [FS.image, FinSet.mem_mk]
/-- `^a` holds exactly the (canonical) subsets of `a` -/
theorem spec_powerset_exact (a : List V) (ha : Sorted a) (s : V) :
    s ∈ FS.powerset a ↔ ∃ l, s = V.set l ∧ Sorted l ∧ ∀ x, x ∈ l → x ∈ a := FS.mem_powerset a ha s
theorem spec_subset_exact (a b : List V) : FinSet.subset a b = true ↔ ∀ x, x ∈ a → x ∈ b := FinSet.subset_iff a b
theorem spec_ssubset_exact (a b : List V) :
    FS.ssubset a b = true ↔ (∀ x, x ∈ a → x ∈ b) ∧ ∃ y, y ∈ b ∧ y ∉ a := by
  simp only [FS.ssubset, Bool.and_eq_true, Bool.not_eq_true', FinSet.subset_iff]
  constructor
  · rintro ⟨h1, h2⟩
    refine ⟨h1, ?_⟩
    have : ¬ (∀ x, x ∈ b → x ∈ a) := by
      intro h; rw [← FinSet.subset_iff] at h; simp [h] at h2
    exact Classical.byContradiction fun hc => this fun x hx =>
      Classical.byContradiction fun hn => hc ⟨x, hx, hn⟩
  · rintro ⟨h1, y, hy, hny⟩
    refine ⟨h1, ?_⟩
    cases hs : FinSet.subset b a with
    | false => rfl
    | true => exact absurd ((FinSet.subset_iff b a).1 hs y hy) hny


/-- results are canonical: strictly sorted, hence determined by their members -/
theorem spec_results_canonical (a b : List V) (ha : Sorted a) (hb : Sorted b) (v : V) (p : V → Bool) (f : V → V) :
    Sorted (FinSet.union a b) ∧ Sorted (FinSet.inter a b) ∧ Sorted (FinSet.diff a b) ∧
    Sorted (FinSet.symdiff a b) ∧ Sorted (FinSet.ins v a) ∧ Sorted (FinSet.erase a v) ∧
    Sorted (FS.filter p a) ∧ Sorted (FS.image f a) ∧ Sorted (FS.powerset a) :=
  ⟨FinSet.sorted_union a b hb, FinSet.sorted_inter a b ha, FinSet.sorted_diff a b ha,
   FinSet.sorted_symdiff a b hb, FinSet.sorted_ins v a ha, FinSet.sorted_erase a v ha,
   FinSet.sorted_filter p a ha, FinSet.sorted_mk _, FS.sorted_powerset a⟩

/-- canonical sets with the same members are equal: `=` on results *is* set equality -/
theorem spec_extensional (a b : List V) (ha : Sorted a) (hb : Sorted b) (h : ∀ x, x ∈ a ↔ x ∈ b) : a = b :=
  FinSet.sorted_ext a b ha hb h

/-- `with` adds one to the count exactly for a new member -/
theorem spec_count_with (a : List V) (ha : Sorted a) (v : V) :
    FinSet.card (FinSet.ins v a) = if v ∈ a then FinSet.card a else FinSet.card a + 1 := FinSet.card_ins v a ha

/-! ### Part 2 — keyed sequences -/

/-- a keyed sequence denotes the pairs (index, element) of its filled slots -/
theorem kseq_members {α : Type} (vs : List (Option α)) (off i : Int) (x : α) :
    (i, x) ∈ kden vs off ↔ off ≤ i ∧ kget vs (i - off).toNat = some x := mem_kden vs off i x

theorem kseq_enumeration_increasing {α : Type} (vs : List (Option α)) (off : Int) :
    (kden vs off).Pairwise (fun p q => p.1 < q.1) := kden_pairwise vs off

theorem kseq_count {α : Type} (vs : List (Option α)) (off : Int) :
    (kden vs off).length = kcount vs ∧ kcount vs + kholes vs = vs.length :=
  ⟨length_kden vs off, kcount_add_kholes vs⟩

theorem kseq_trim_keeps_members {α : Type} (vs : List (Option α)) (off : Int) :
    kden (trimFront vs off).1 (trimFront vs off).2 = kden vs off ∧ kden (trimBack vs) off = kden vs off :=
  ⟨kden_trimFront vs off, kden_trimBack vs off⟩

/-- `asString`/`asArray`/`asBytes` slice: exactly the pairs given, when no index is claimed twice -/
theorem kseq_build_exact {α : Type} (ps : List (Int × α)) (hf : Functional ps) (i : Int) (x : α) :
    (i, x) ∈ kden (build ps).1 (build ps).2 ↔ (i, x) ∈ ps := mem_kden_build ps hf i x

/-! ### Part 3 — the interface contract of every representation -/

/-- every member a representation enumerates is of the representation's own kind (bucket) -/
theorem members_of_own_kind (p : Plain) (h : p.WF) : ∀ x, x ∈ p.members → bucketOf x = p.bucket :=
  Plain.members_bucket p h

/-- no member is enumerated twice (all nine representations) -/
theorem members_distinct (r : Rep) (h : r.WF) : r.members.Nodup := Rep.members_nodup r h

/-- `Has` is membership in the denoted set (all nine representations) -/
theorem has_refines (r : Rep) (h : r.WF) (v : V) : r.has v = true ↔ v ∈ r.den := Rep.has_iff_den r h v

/-- `Count` is the number of distinct members (all nine representations) -/
theorem count_eq_card (r : Rep) (h : r.WF) : r.count = FinSet.card r.den := Rep.count_eq_card r h

theorem isTrue_refines (r : Rep) (h : r.WF) : r.isTrue = true ↔ r.members ≠ [] := Rep.isTrue_iff r h

/-- `Where` keeps exactly the members that satisfy the predicate and re-establishes the invariant
(byte arrays: provided the kept bytes are contiguous — KF-bytes-holes) -/
theorem where_refines_partial (p : Plain) (h : p.WF) (f : V → Bool) (ha : FilterAdm p f) :
    (p.filter f).WF ∧ ∀ v, v ∈ (p.filter f).members ↔ v ∈ p.members ∧ f v = true :=
  ⟨(Plain.filter_spec p h f ha).1, (Plain.filter_spec p h f ha).2.1⟩

/-- `asString`, the builder behind the String bucket of the SetBuilder -/
theorem asString_exact (ps : List (Int × Nat)) (hne : ps ≠ []) (hf : Functional ps)
    (hr : ∀ p, p ∈ ps → (p.2 : Int) ≤ maxRune) :
    (asString ps).WF ∧ ∀ v, v ∈ (asString ps).members ↔ ∃ i c, v = charV i c ∧ (i, c) ∈ ps :=
  asString_spec ps hne hf hr

theorem asArray_exact (ps : List (Int × V)) (hf : Functional ps) :
    (asArray ps).WF ∧ ∀ v, v ∈ (asArray ps).members ↔ ∃ i x, v = itemV i x ∧ (i, x) ∈ ps := asArray_spec ps hf

theorem asBytes_exact_partial (ps : List (Int × Nat)) (hne : ps ≠ []) (hf : Functional ps)
    (hr : ∀ p, p ∈ ps → (p.2 : Int) ≤ 255) (hg : NoGap ps) :
    (asBytes ps).WF ∧ ∀ v, v ∈ (asBytes ps).members ↔ ∃ i c, v = byteV i c ∧ (i, c) ∈ ps :=
  asBytes_spec ps hne hf hr hg

/-- `NewDict(true, …)` keeps every entry, several values per key included -/
theorem newDict_exact (vs : List V) (he : ∀ v, v ∈ vs → (asEntry v).isSome = true) :
    (newDict vs).WF ∧ ∀ v, v ∈ (newDict vs).members ↔ v ∈ vs := newDict_spec vs he

/-! ### Part 4 — operators, builder, comparisons, literals and whole programs -/

/-- two descriptions with the same members denote the same canonical set -/
theorem den_eq_of_mem (r : Rep) (l : List V) (hl : Sorted l) (h : ∀ x, x ∈ r.members ↔ x ∈ l) : r.den = l :=
  den_eq_of_members r l hl h

theorem inter_refines_partial (a b : Rep) (ha : a.WF) (hb : b.WF) (hadm : InterAdm a b) :
    (inter a b).WF ∧ (inter a b).den = FinSet.inter a.den b.den :=
  have f := inter_step a b ha hb hadm
  ⟨f.1.1, V.set.inj f.2⟩

theorem diff_refines_partial (a b : Rep) (ha : a.WF) (hb : b.WF) (hadm : DiffAdm a b) :
    (diff a b).WF ∧ (diff a b).den = FinSet.diff a.den b.den := by
  obtain ⟨w, m, _⟩ := diff_spec a b ha hb hadm
  refine ⟨w, den_eq_of_mem _ _ (FinSet.sorted_diff _ _ (FinSet.sorted_mk _)) ?_⟩
  intro x; rw [m, FinSet.mem_diff, Rep.mem_den, Rep.mem_den]

/-- `SetBuilder.Finish`: exactly the values added, well-formed (every bucket routed to its own kind) -/
theorem finish_refines_partial (xs : List V) (hadm : FinishAdm xs) :
    (finish xs).WF ∧ (finish xs).den = FinSet.mk xs := by
  obtain ⟨w1, w2⟩ := finish_spec xs hadm
  exact ⟨w1, den_eq_of_mem _ _ (FinSet.sorted_mk _) (fun x => by rw [w2, FinSet.mem_mk])⟩

/-- `With` inserts exactly the given value (all nine representations) -/
theorem with_refines_partial (r : Rep) (h : r.WF) (hn : r.Norm) (v : V) (hadm : RepWithAdm r v) :
    ∃ r', r.with_ v = .ok r' ∧ r'.WF ∧ r'.den = FinSet.ins v r.den := by
  obtain ⟨r', e, f⟩ := with_step r h hn v hadm
  exact ⟨r', e, f.1.1, V.set.inj f.2⟩

/-- `Without` removes exactly the given value (all nine representations), unless a byte is removed from the
middle of a byte array -/
theorem without_refines_partial (r : Rep) (h : r.WF) (v : V) (hadm : RepWithoutAdm r v) :
    (r.without v).WF ∧ (r.without v).den = FinSet.erase r.den v := by
  obtain ⟨w, m⟩ := Rep.without_spec r h v hadm
  refine ⟨w, den_eq_of_mem _ _ (FinSet.sorted_erase _ _ (FinSet.sorted_mk _)) ?_⟩
  intro x; rw [m, FinSet.mem_erase, Rep.mem_den]

theorem union_refines_partial (a b : Rep) (ha : a.WF) (hb : b.WF) (hna : a.Norm) (hnb : b.Norm)
    (hadm : UnionAdm a b) :
    ∃ r, union a b = .ok r ∧ r.WF ∧ r.den = FinSet.union a.den b.den := by
  obtain ⟨r, e, f⟩ := union_step a b ha hb hna hnb hadm
  exact ⟨r, e, f.1.1, V.set.inj f.2⟩

theorem symdiff_refines_partial (a b : Rep) (ha : a.WF) (hb : b.WF) (hna : a.Norm) (hnb : b.Norm)
    (hadm : SymdiffAdm a b) :
    ∃ r, symdiff a b = .ok r ∧ r.WF ∧ r.den = FinSet.symdiff a.den b.den := by
  obtain ⟨r, e, f⟩ := symdiff_step a b ha hb hna hnb hadm
  exact ⟨r, e, f.1.1, V.set.inj f.2⟩

/-- the subset comparisons `(<) (<=) (<>) (<>=)` (and their mirror images and negations, which the
compiler builds from these four) are exact for every mix of representations -/
theorem subset_family (a b : Rep) (ha : a.WF) (hb : b.WF) :
    subsetI a b = FS.ssubset a.den b.den ∧ subsetOrEqualI a b = FinSet.subset a.den b.den ∧
    subsetOrSupersetI a b = Spec.comparable a.den b.den ∧
    subsetSupersetOrEqualI b a = (Spec.comparable a.den b.den || decide (a.den = b.den)) :=
  ⟨subsetI_eq a b ha hb, subsetOrEqualI_eq a b ha hb, subsetOrSupersetI_eq a b ha hb,
   subsetSupersetOrEqualI_eq a b ha hb⟩

/-- `Where` on any representation (UnionSets filter bucket by bucket and drop emptied buckets) -/
theorem where_rep_refines_partial (r : Rep) (h : r.WF) (f : V → Bool) (hadm : RepFilterAdm r f) :
    (r.filter f).WF ∧ (r.filter f).den = FS.filter f r.den := by
  obtain ⟨w, m⟩ := Rep.filter_spec r h f hadm
  refine ⟨w, den_eq_of_mem _ _ (FinSet.sorted_filter f _ (FinSet.sorted_mk _)) ?_⟩
  intro x; rw [m, spec_where_exact, Rep.mem_den]

/-- `=>`: the images are collected through the SetBuilder: the result is the image of the set -/
theorem darrow_refines_partial (r : Rep) (f : V → V) (hadm : FinishAdm (r.members.map f)) :
    (finish (r.members.map f)).WF ∧ (finish (r.members.map f)).den = FS.image f r.den := by
  obtain ⟨w, e⟩ := finish_refines_partial _ hadm
  refine ⟨w, ?_⟩
  rw [e]
  apply mk_congr
  intro x
  simp only [List.mem_map, Rep.den, FinSet.mem_mk]

/-- `CanonicalSet` re-buckets a GenericSet without changing what it denotes -/
theorem canonicalSet_refines (r : Rep) (h : r.WF) : (canonicalSet r).WF ∧ (canonicalSet r).den = r.den := by
  obtain ⟨w, m, _⟩ := canonicalSet_spec r h
  exact ⟨w, mk_congr m⟩

/-- `PowerSet` of every representation (EmptySet, GenericSet through frozen.Powerset, every other one
through the loop `newSets.With(s.With(c))` / `Union(result, newSets)`) is the power set of the set
denoted, provided every subset built on the way is representable -/
theorem powerSet_refines_partial (r : Rep) (h : r.WF) (hadm : PowerAdm r.members) :
    ∃ r', powerSet r = .ok r' ∧ r'.WF ∧ r'.den = FS.powerset r.den := by
  obtain ⟨r', e, w, d, _⟩ := powerSet_spec r h hadm
  exact ⟨r', e, w, d⟩

/-- `powerSet_refines_partial` with the admissibility hypothesis replaced by the specification-level class predicates
of the known findings (and without the conjunct `r'.WF`); the step from these predicates to `PowerAdm` is not proved -/
def powerSet_full : Prop :=
  ∀ r : Rep, r.WF → ¬ isSuper (.set (FS.powerset r.den)) = true → ¬ isBytesGap (.set (FS.powerset r.den)) = true →
    ∃ r', powerSet r = .ok r' ∧ r'.den = FS.powerset r.den

/-- admissibility of one binary set operator on two evaluated operands -/
def BinAdm (op : BinOp) (a b : Rep) : Prop :=
  match op with
  | .union => UnionAdm a b
  | .inter => InterAdm a b
  | .diff => DiffAdm a b
  | .symdiff => SymdiffAdm a b
  | _ => True

/-- one operator step of the evaluator agrees with the specification: `| & &~ ~~` on two sets in any
representations return a well-formed representation of exactly the specified set -/
theorem binop_refines_partial (op : BinOp) (hop : op = .union ∨ op = .inter ∨ op = .diff ∨ op = .symdiff)
    (a b : Rep) (ha : a.WF) (hb : b.WF) (hna : a.Norm) (hnb : b.Norm) (hadm : BinAdm op a b) :
    ∃ r, Impl.binop op (.set a) (.set b) = .ok (.set r) ∧ r.WF ∧ Spec.binop op a.denV b.denV = .ok r.denV := by
  -- on two sets these four operators of the specification always answer
  have step : ∀ l, Spec.binop op a.denV b.denV = .ok (.set l) → OpAdm op (.set a) (.set b) →
      ∃ r, Impl.binop op (.set a) (.set b) = .ok (.set r) ∧ r.WF ∧ Spec.binop op a.denV b.denV = .ok r.denV := by
    intro l hs ho
    obtain ⟨iv, e, f⟩ := binop_step op (.set a) (.set b) _ _ ⟨⟨ha, hna⟩, rfl⟩ ⟨⟨hb, hnb⟩, rfl⟩ ho _ hs
    obtain ⟨r, rfl, d, w, _⟩ := f.exists_rep
    exact ⟨r, e, w, by rw [hs, Rep.denV, d]⟩
  rcases hop with rfl | rfl | rfl | rfl <;> exact step _ rfl hadm

/-- `a with v` / `a without v` as evaluated (the result of `without` is re-normalised with `IsTrue`) -/
theorem with_without_step_refines_partial (a : Rep) (ha : a.WF) (hna : a.Norm) (v : Impl.IV)
    (hw : RepWithAdm a v.toV) (hwo : RepWithoutAdm a v.toV) :
    (∃ r, Impl.binop .with_ (.set a) v = .ok (.set r) ∧ r.WF ∧ Spec.binop .with_ a.denV v.toV = .ok r.denV) ∧
    (∃ r, Impl.binop .without (.set a) v = .ok (.set r) ∧ r.WF ∧ Spec.binop .without a.denV v.toV = .ok r.denV) := by
  constructor
  · obtain ⟨r, e, f⟩ := with_step a ha hna v.toV hw
    exact ⟨r, by show (a.with_ v.toV).map Impl.IV.set = _; rw [e]; rfl, f.1.1, congrArg Outcome.ok f.2.symm⟩
  · have f := without_step a ha v.toV hwo
    exact ⟨_, rfl, f.1.1, congrArg Outcome.ok f.2.symm⟩

/-- one operator step of the evaluator agrees with the specification (comparison operators) -/
theorem cmpop_refines (op : CmpOp) (a b : Rep) (ha : a.WF) (hb : b.WF)
    (hop : op ≠ .mem ∧ op ≠ .nmem) :
    Impl.cmpop op (.set a) (.set b) = Spec.cmpop op a.denV b.denV := cmpop_set_eq op a b ha hb hop

/-- `x <: s` is membership -/
theorem mem_refines (b : Rep) (hb : b.WF) (v : Impl.IV) :
    Impl.cmpop .mem v (.set b) = Spec.cmpop .mem v.toV b.denV := (mem_step b hb v).1

/-- literals are represented exactly and well-formedly -/
theorem literal_refines_partial (l : Lit) (h : LitAdm l) :
    IVOK (Impl.litIV l) ∧ (Impl.litIV l).toV = l.den := litIV_spec l h

/-- whole programs (operands produced by earlier operators, to any depth): along every admissible
evaluation, whenever the specification yields a value the evaluator on representations yields a
well-formed representation in normal form of exactly that value.  `Adm e` is the conjunction of the
step hypotheses met while evaluating `e`. -/
theorem programs_refine_partial (e : E) (h : Adm e) (v : V) (hs : Spec.eval e = .ok v) :
    ∃ iv, Impl.eval e = .ok iv ∧ IVOK iv ∧ iv.toV = v := eval_refines e h v hs

/-- hence the observable the check compares (canon of the value) agrees -/
theorem programs_observable_partial (e : E) (h : Adm e) (v : V) (hs : Spec.eval e = .ok v) :
    obsI (Impl.eval e) = obsV (Spec.eval e) := by
  obtain ⟨iv, e1, _, t⟩ := eval_refines e h v hs
  rw [e1, hs, ← t]; rfl

/-- `programs_observable_partial` with `Adm e` replaced by the generator's class predicate; not proved: neither the step from
`classOf e = "good"` to the hypotheses of `Adm e`, nor the error outcomes (where the order of evaluation of the
members would have to be related) -/
def programs_full : Prop :=
  ∀ e : E, classOf e = "good" → obsI (Impl.eval e) = obsV (Spec.eval e) ∨ Spec.eval e = .unspec

/-! ### Part 5 — the known-finding classes are real -/

def with_full : Prop :=
  ∀ (r : Rep) (v : V), r.WF → r.Norm → ∃ r', r.with_ v = .ok r' ∧ r'.WF ∧ r'.den = FinSet.ins v r.den

/-- `with_full` fails: an array cannot take a second item at an occupied index; the fall-back keeps the item
tuples in a GenericSet, which is not well-formed (KF-superimposed) -/
theorem with_full_false : ¬ with_full := by
  intro h
  obtain ⟨r', e, hw, _⟩ := h (.plain (.arr [some (.num 1)] 0 1)) (itemV 0 (.num 2)) rfl
    (Or.inr (by simp [Rep.members, Plain.members, kden]))
  have e2 : toUnionSetWithItem (newGenericSetFromSet (.arr [some (.num 1)] 0 1)) (itemV 0 (.num 2)) = .ok r' := e
  have hb : bucketOf (itemV 0 (.num 2)) ≠ (newGenericSetFromSet (.arr [some (.num 1)] 0 1)).bucket := by
    rw [bucketOf_itemV]; unfold newGenericSetFromSet; rw [fromFrozen_bucket]; intro hc; cases hc
  unfold toUnionSetWithItem at e2
  simp only [hb, if_false, Outcome.ok.injEq] at e2
  subst e2
  have hw' : BucketsWF [((newGenericSetFromSet (.arr [some (.num 1)] 0 1)).bucket,
      newGenericSetFromSet (.arr [some (.num 1)] 0 1)),
      (bucketOf (itemV 0 (.num 2)), single (itemV 0 (.num 2)))] := hw.1
  obtain ⟨gw, _, _⟩ := hw'.2 _ List.mem_cons_self
  have hm : itemV 0 (.num 1) ∈ (newGenericSetFromSet (.arr [some (.num 1)] 0 1)).members := by
    unfold newGenericSetFromSet
    rw [fromFrozen_members, FinSet.mem_mk]
    simp [Plain.members, kden]
  have hbk := Plain.members_bucket _ gw _ hm
  unfold newGenericSetFromSet at hbk
  rw [bucketOf_itemV, fromFrozen_bucket] at hbk
  cases hbk

def without_full : Prop := ∀ (r : Rep) (v : V), r.WF → (r.without v).WF

/-- `without_full` fails: removing a byte from the middle leaves a GenericSet of byte tuples (KF-bytes-holes) -/
theorem without_full_false : ¬ without_full := by
  intro h
  have hw : (Rep.plain (.bytes [1, 2, 3] 0)).WF := by
    refine ⟨by simp, ?_⟩
    intro x hx
    simp only [List.mem_cons, List.not_mem_nil, or_false] at hx
    rcases hx with rfl | rfl | rfl <;> decide
  have hwf := h _ (byteV 1 2) hw
  have hres : (Rep.plain (.bytes [1, 2, 3] 0)).without (byteV 1 2) =
      .plain (fromFrozen (FinSet.erase (FinSet.mk (Plain.bytes [1, 2, 3] 0).members) (byteV 1 2))) := rfl
  rw [hres] at hwf
  have hm : byteV 0 1 ∈ (fromFrozen (FinSet.erase (FinSet.mk (Plain.bytes [1, 2, 3] 0).members) (byteV 1 2))).members := by
    rw [fromFrozen_members, FinSet.mem_erase, FinSet.mem_mk]
    refine ⟨by simp [Plain.members, kden], ?_⟩
    intro he
    have := (byteV_inj he).1
    omega
  have hb := Plain.members_bucket (fromFrozen (FinSet.erase (FinSet.mk (Plain.bytes [1, 2, 3] 0).members) (byteV 1 2))) hwf _ hm
  rw [fromFrozen_bucket, bucketOf_byteV 0 1 (by decide)] at hb
  cases hb

def finish_full : Prop := ∀ xs : List V, ∀ x, x ∈ (finish xs).members ↔ x ∈ xs

/-- `finish_full` fails: of two chars at one index only the last one added survives (KF-superimposed) -/
theorem finish_full_false : ¬ finish_full := by
  intro h
  have h1 := (h [charV 0 97, charV 0 98] (charV 0 97)).2 (by simp)
  have hres : finish [charV 0 97, charV 0 98] = .plain (.str [some 98] 0 0) := rfl
  rw [hres] at h1
  simp only [Rep.members, Plain.members, kden, List.map_cons, List.map_nil, List.mem_singleton] at h1
  have := (charV_inj h1).2
  omega

def where_full : Prop :=
  ∀ (p : Plain) (f : V → Bool), p.WF → ∀ v, v ∈ (p.filter f).members ↔ v ∈ p.members ∧ f v = true

/-- `where_full` fails on a byte array: the bytes kept around a rejected one are joined by a zero byte (KF-bytes-holes) -/
theorem where_full_false : ¬ where_full := by
  intro h
  have hw : (Plain.bytes [1, 2, 3] 0).WF := by
    refine ⟨by simp, ?_⟩
    intro x hx
    simp only [List.mem_cons, List.not_mem_nil, or_false] at hx
    rcases hx with rfl | rfl | rfl <;> decide
  have h1 := (h (.bytes [1, 2, 3] 0) (fun v => !decide (v = byteV 1 2)) hw (byteV 1 0)).1
  have hres : (Plain.bytes [1, 2, 3] 0).filter (fun v => !decide (v = byteV 1 2)) = .bytes [1, 0, 3] 0 := rfl
  rw [hres] at h1
  have := (h1 (by simp [Plain.members, kden])).1
  simp only [Plain.members, kden, List.map_cons, List.map_nil, List.mem_cons, List.not_mem_nil, or_false] at this
  rcases this with he | he | he <;> (have := byteV_inj he; omega)

/-! ### Part 6 — the hypotheses of the partial theorems are satisfiable -/

/-- a well-formed sparse string, an admissible `with` into its hole, an admissible `without` -/
example : (Rep.plain (.str [some 97, none, some 99] 0 1)).WF ∧ (Rep.plain (.str [some 97, none, some 99] 0 1)).Norm ∧
    RepWithAdm (.plain (.str [some 97, none, some 99] 0 1)) (charV 1 98) ∧
    RepWithoutAdm (.plain (.str [some 97, none, some 99] 0 1)) (charV 0 97) := by
  refine ⟨⟨rfl, by simp [kcount], ?_⟩, Or.inr (by simp [Rep.members, Plain.members, kden]), ?_, trivial⟩
  · intro c hc
    simp only [List.mem_cons, Option.some.injEq, reduceCtorEq, List.not_mem_nil, or_false, false_or] at hc
    rcases hc with rfl | rfl <;> decide
  · intro ix c hc d hd
    obtain ⟨he, _⟩ := (asChar_eq_some _ ix c).1 hc
    obtain ⟨rfl, rfl⟩ := charV_inj he
    simp [kden] at hd

/-- a well-formed UnionSet of two buckets and a gap-free byte array -/
example : (Rep.union [(.generic, .generic [.num 1, .num 2]), (.bytesByte, .bytes [1, 2] 0)]).WF ∧
    FilterAdm (.bytes [1, 2] 0) (fun _ => true) := by
  refine ⟨⟨⟨by simp, ?_⟩, by simp⟩, ?_⟩
  · intro kp hm
    simp only [List.mem_cons, List.not_mem_nil, or_false] at hm
    rcases hm with rfl | rfl
    · refine ⟨⟨?_, by simp, by simp, ?_⟩, by simp [Plain.members], rfl⟩
      · apply List.pairwise_cons.2
        refine ⟨?_, by simp⟩
        intro x hx
        simp only [List.mem_singleton] at hx
        subst hx
        decide
      · intro x hx
        simp only [List.mem_cons, List.not_mem_nil, or_false] at hx
        rcases hx with rfl | rfl <;> rfl
    · refine ⟨⟨by simp, ?_⟩, by simp [Plain.members, kden], rfl⟩
      intro x hx
      simp only [List.mem_cons, List.not_mem_nil, or_false] at hx
      rcases hx with rfl | rfl <;> decide
  · have hl : bytePairs ((Plain.bytes [1, 2] 0).members.filter (fun _ => true)) = [(0, 1), (1, 2)] := rfl
    show NoGap (bytePairs ((Plain.bytes [1, 2] 0).members.filter (fun _ => true)))
    rw [hl]
    rintro i ⟨p, q, hp, hq, h1, h2⟩
    simp only [List.mem_cons, List.not_mem_nil, or_false] at hp hq
    have hi : i = 0 ∨ i = 1 := by
      rcases hp with rfl | rfl <;> rcases hq with rfl | rfl <;> simp at h1 h2 <;> omega
    rcases hi with rfl | rfl
    · exact ⟨1, by simp⟩
    · exact ⟨2, by simp⟩

/-- an admissible nested program: `(({1} | {2}) count)` — the union of two evaluated literals, then
an operator applied to its result -/
example : Adm (.count (.bin .union (.lit (.set [.num 1])) (.lit (.set [.num 2])))) := by
  have hl : ∀ n : Int, LitAdm (.set [.num n]) := fun n => finishAdm_single (.num n)
  refine ⟨hl 1, hl 2, ?_⟩
  intro x y hx hy
  have ex : x = Impl.litIV (.set [.num 1]) := by cases hx; rfl
  have ey : y = Impl.litIV (.set [.num 2]) := by cases hy; rfl
  subst ex; subst ey
  obtain ⟨w1, m1⟩ := finish_spec [V.num 1] (finishAdm_single _)
  obtain ⟨w2, m2⟩ := finish_spec [V.num 2] (finishAdm_single _)
  obtain ⟨p, hp⟩ := plain_of_one_bucket _ w1 .generic (fun z hz => by
    have := (m1 z).1 hz; simp only [List.mem_singleton] at this; subst this; rfl)
  obtain ⟨q, hq⟩ := plain_of_one_bucket _ w2 .generic (fun z hz => by
    have := (m2 z).1 hz; simp only [List.mem_singleton] at this; subst this; rfl)
  show OpAdm .union (.set (finish [V.num 1])) (.set (finish [V.num 2]))
  rw [hp, hq]
  show WithAllAdm (.plain p) q.members
  apply withAllAdm_of_nontuples
  intro z hz
  have : z ∈ (finish [V.num 2]).members := by rw [hq]; exact hz
  have := (m2 z).1 this
  simp only [List.mem_singleton] at this
  exact Or.inl ⟨2, this⟩

end Arrai.C01.Theorems
