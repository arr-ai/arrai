/-
  C11 — concurrent evaluation over shared values is race-free and gives serial results.

  Part (a)  protocol correctness of every piece of lazily initialised shared state: each protocol is a
            transition system over interleavings (Arrai/C11/Model.lean), every theorem holds for ALL
            schedules (lists of thread ids) and any number of callers.
  Part (b)  data-race freedom from a locking discipline, about an abstract happens-before trace model;
            the premise per location is the regenerated fact table `lazyState`.

  Not modelled (see lib/props_c11.py): the Go memory model below the documented happens-before edges, the
  scheduler, the internal goroutines of the frozen library and of other dependencies.
-/
import Arrai.C11.Lemmas
import Arrai.C11.Expected
import Arrai.Core.ListLemmas
import Arrai.Facts.Generated

namespace Arrai.C11.Theorems
open Arrai.C11

/-! ### Part (a) — protocols -/

/-- sync.Once-guarded caches: under every interleaving f runs at most once and every caller that has returned
got f's value (never the zero value of a half-initialised cache). -/
theorem once_serial {α : Type} (v : α) (sched : List Nat) :
    let s := Once.run v sched Once.init
    s.runs ≤ 1 ∧ ∀ t, s.pc t = .fin → s.res t = some (some v) := by
  have h := foldl_inv (Once.inv_step v) sched (Once.inv_init v)
  exact ⟨h.runs_le, fun _ ht => h.atPc ht⟩

/-- `Do` returns only after the single run of f has completed and its assignment is in place. -/
theorem once_returns_after_f {α : Type} (v : α) (sched : List Nat) :
    let s := Once.run v sched Once.init
    ∀ t, s.pc t = .ret → s.done = true ∧ s.cache = some v ∧ s.runs = 1 := by
  intro s t ht
  have h := foldl_inv (Once.inv_step v) sched (Once.inv_init v)
  have hd : s.done = true := h.atPc ht
  exact ⟨hd, h.done hd⟩

/-- the mutex-guarded index cache (computeIndex holds the lock while computing) and the embedded-file cache: every
caller gets fn(key) and fn runs at most once per key. -/
theorem index_serial {α : Type} (f : Nat → α) (key : Nat → Nat) (sched : List Nat) :
    let s := Keyed.run f key sched Keyed.init
    (∀ t, s.pc t = .fin → s.res t = some (f (key t))) ∧ ∀ k, s.runs k ≤ 1 := by
  have h := foldl_inv (Keyed.inv_step f key) sched (Keyed.inv_init f key)
  exact ⟨h.fin, h.runs_le⟩

/-- stdin's read-once (`stdOsStdin.read`, the mutex spans io.ReadAll): whatever the interleaving and however the
input is chopped into Reads, every caller gets the WHOLE input and the reader is drained by at most one caller. -/
theorem stdin_serial (chunks : List (List Nat)) (sched : List Nat) :
    let s := Stream.run true sched (Stream.init chunks)
    (∀ t, s.pc t = .fin → s.res t = some chunks.flatten) ∧ s.runs ≤ 1 := by
  have h := foldl_inv (Stream.inv_step chunks.flatten) sched (Stream.inv_init chunks)
  exact ⟨fun _ ht => h.atPc ht, h.runs_le⟩

/-- the premise "the lock is held during the computation" is necessary for `stdin_serial`: in the Stream machine with
the narrowed region (`held = false`: lock, fetch, unlock, compute, re-lock, store) — in which every field access is
still locked, so there is no data race to detect — two first callers both compute, and over a consuming resource they
get different results, neither of them the whole input.  Despite its name this is not a run of `index_serial`'s machine:
`Keyed` has no narrowed-lock variant (there `fn` would run twice for a key but give the same result). -/
theorem index_serial_false_if_lock_released :
    ∃ (chunks : List (List Nat)) (sched : List Nat),
      let s := Stream.run false sched (Stream.init chunks)
      s.pc 0 = .fin ∧ s.pc 1 = .fin ∧ s.runs = 2 ∧
      s.res 0 = some [104, 105] ∧ s.res 1 = some [33] ∧ chunks.flatten = [104, 105, 33] := by
  -- the input "hi!" in two chunks; both callers miss (steps 1–4) before either drains, caller 0 then reads "hi",
  -- caller 1 the rest
  exact ⟨[[104, 105], [33]], [0, 0, 1, 1, 0, 1, 0, 0, 0, 0, 1, 1, 1, 1], by decide⟩

/-- importCache.getOrAdd (before and after the repair): every caller that returned got either the value of the
successful `add` for its key (which is then the cached one, so all such callers agree), or the error / nil of
the `add` call it made itself; per key at most one `add` call ever returned a value. -/
theorem getOrAdd_serial {ν ε : Type} (repaired : Bool) (add : Nat → Nat → GetOrAdd.Outcome ν ε) (key : Nat → Nat)
    (sched : List Nat) :
    let s := GetOrAdd.run repaired add key sched GetOrAdd.init
    (∀ t, s.pc t = .fin → ∃ r, s.res t = some r ∧
        match r with
        | .val v => s.cache (key t) = .val v ∧ ∃ n, n < s.attempts (key t) ∧ add (key t) n = .val v
        | .err e => ∃ n, s.att t = some n ∧ add (key t) n = .err e
        | .nil => ∃ n, s.att t = some n ∧ add (key t) n = .nil) ∧
    (∀ t u v w, s.pc t = .fin → s.pc u = .fin → key t = key u → s.res t = some (.val v) → s.res u = some (.val w) →
        v = w) ∧
    ∀ k, s.wins k ≤ 1 := by
  intro s
  have h : GetOrAdd.Inv add key s :=
    foldl_inv (GetOrAdd.inv_step repaired add key) sched (GetOrAdd.inv_init add key)
  refine ⟨?_, ?_, ?_⟩
  · intro t ht
    obtain ⟨r, hr, hok⟩ := h.fin t ht
    refine ⟨r, hr, ?_⟩
    cases r with
    | val v => exact ⟨hok, (h.hitv _ v hok).2⟩
    | err e => exact hok
    | nil => exact hok
  · intro t u v w ht hu hk hrt hru
    exact GetOrAdd.Entry.val.inj ((h.fin_val ht hrt).symm.trans (hk ▸ h.fin_val hu hru))
  · exact h.wins_le

/-- importCache.getOrAdd as repaired: no caller waits forever.  For N callers and every schedule over them:
(1) at most N·(4N+5) scheduled steps can ever be effective (each one strictly decreases a measure), and
(2) whenever none of the N callers can take a step, all of them have returned.
Hence, informally (not stated as a theorem), under any scheduler that keeps running a runnable goroutine every caller
returns.  `add` is one step of the machine: an `add` that itself blocks is outside this theorem. -/
theorem getOrAdd_live {ν ε : Type} (add : Nat → Nat → GetOrAdd.Outcome ν ε) (key : Nat → Nat) (N : Nat)
    (sched : List Nat) (hs : ∀ x ∈ sched, x < N) :
    let s := GetOrAdd.run true add key sched GetOrAdd.init
    GetOrAdd.effective true add key sched GetOrAdd.init ≤ N * (4 * N + 5) ∧
    ((∀ u, u < N → GetOrAdd.enabled s u = false) → ∀ t, t < N → s.pc t = .fin) := by
  intro s
  have hi : GetOrAdd.Inv add key s := foldl_inv (GetOrAdd.inv_step true add key) sched (GetOrAdd.inv_init add key)
  have hl : GetOrAdd.Live key N s :=
    List.foldlRecOn (motive := GetOrAdd.Live key N) sched _ (GetOrAdd.live_init key N)
      fun s hl t ht => GetOrAdd.live_step add key N s t (hs t ht) hl
  constructor
  · have := GetOrAdd.effective_bound true add key N sched hs GetOrAdd.init
    rw [GetOrAdd.measure_init] at this
    omega
  · intro hdis t ht
    apply Classical.byContradiction
    intro hnf
    obtain ⟨u, hu, he⟩ := GetOrAdd.no_deadlock hi hl t ht hnf
    rw [hdis u hu] at he
    cases he

/-- the same statement is false of the code before the repair (no Broadcast in the clean-up after a failed
add): two callers of one key, the first one's add fails while the second waits — the second one sleeps
forever, whatever the two do afterwards. -/
theorem getOrAdd_live_false_before_repair :
    ∃ (add : Nat → Nat → GetOrAdd.Outcome Nat Nat) (key : Nat → Nat) (sched : List Nat),
      (∀ x ∈ sched, x < 2) ∧
      let s := GetOrAdd.run false add key sched GetOrAdd.init
      s.pc 0 = .fin ∧ s.pc 1 = .asleep ∧ (∀ u, u < 2 → GetOrAdd.enabled s u = false) ∧
      ∀ sched', (∀ x ∈ sched', x < 2) → (GetOrAdd.run false add key sched' s).pc 1 = .asleep := by
  -- caller 0 marks the key, caller 1 sees the marker and sleeps, caller 0's add fails and it cleans up without waking
  refine ⟨fun _ _ => .err 7, fun _ => 0, [0, 0, 1, 1, 0, 0, 0], by decide, ?_⟩
  intro s
  have h1 : s.pc 1 = .asleep := by decide
  have hdis : ∀ u, u < 2 → GetOrAdd.enabled s u = false := by decide
  refine ⟨by decide, h1, hdis, fun sched' hs' => ?_⟩
  rw [show GetOrAdd.run false _ _ sched' s = s from
    foldl_fixed fun x hx => GetOrAdd.step_disabled (hdis x (hs' x hx))]
  exact h1

/-! the cross-wait scenario: caller 0 adds key 0 and inside `add` asks for key 1 (nested call 2); caller 1 adds
key 1 and inside `add` asks for key 0 (nested call 3) -/
def xChild : Nat → Option Nat := fun t => if t = 0 then some 2 else if t = 1 then some 3 else none
def xParent : Nat → Option Nat := fun t => if t = 2 then some 0 else if t = 3 then some 1 else none
def xKey : Nat → Nat := fun t => if t = 0 then 0 else if t = 1 then 1 else if t = 2 then 1 else 0
def xAdd : Nat → Nat → GetOrAdd.Outcome Nat Nat := fun _ n => .val n
def xState : GetOrAdd.St Nat Nat := GetOrAdd.runN xChild xParent xAdd xKey [0, 0, 1, 1, 2, 2, 3, 3] GetOrAdd.init

/-- `getOrAdd_live` rests on `add` being one terminating step: when `add` itself calls getOrAdd (a script importing
other scripts) two goroutines can wait for each other.  Neither call chain repeats a key, so the import-cycle check of
one chain does not see it.  Known finding KF-import-cross-wait.  (No `getOrAdd_live_full` is defined: liveness of `runN`
is not written out as a Prop.) -/
theorem getOrAdd_live_full_false_nested_add :
    (∀ t, t < 4 → xState.pc t ≠ .fin) ∧ (∀ t, t < 4 → GetOrAdd.enabledN xChild xParent xState t = false) ∧
    ∀ sched', (∀ x ∈ sched', x < 4) → ∀ t, t < 4 →
      (GetOrAdd.runN xChild xParent xAdd xKey sched' xState).pc t = xState.pc t := by
  have dis : ∀ t, t < 4 → GetOrAdd.enabledN xChild xParent xState t = false := by decide
  refine ⟨by decide, dis, fun sched' hs' t _ => ?_⟩
  rw [show GetOrAdd.runN xChild xParent xAdd xKey sched' xState = xState from
    foldl_fixed fun x hx => by rw [GetOrAdd.stepN, dis x (hs' x hx)]; rfl]

/-- deprecate's `encountered`: `true` is returned only for a source context that is recorded; when a caller has
returned its context is recorded; and for every recorded context some caller got `false` (so the
deprecation is reported at least once). -/
theorem seen_serial (key : Nat → Nat) (sched : List Nat) :
    let s := Seen.run key sched Seen.init
    (∀ t, s.res t = some true → s.m (key t) = true) ∧
    (∀ t, s.pc t = .fin → s.m (key t) = true ∧ (s.res t = some false ∨ s.res t = some true)) ∧
    ∀ k, s.m k = true → ∃ t, key t = k ∧ s.res t = some false := by
  have h := foldl_inv (Seen.inv_step key) sched (Seen.inv_init key)
  exact ⟨h.trueOK, h.fin, h.witness⟩

/-- … but not exactly once: the read lock is dropped before the write lock is taken, so two concurrent callers
with the same context can both get `false` (the warning is then printed twice — harmless, recorded here so
that nobody mistakes `encountered` for a test-and-set). -/
theorem seen_not_test_and_set :
    ∃ sched, let s := Seen.run (fun _ => 0) sched Seen.init
      s.res 0 = some false ∧ s.res 1 = some false := by
  exact ⟨[0, 0, 1, 1, 0, 1, 0, 0, 1, 1], by decide⟩

/-! ### Part (b) — data-race freedom from a locking discipline -/

/-- If every access to location `l` follows one of the disciplines — written only inside `once_k.Do`'s function
and read inside it or after a completed `once_k.Do`; or written holding mutex `m` exclusively and read holding
`m` (shared or exclusively); or never written — where the creating goroutine may additionally access `l`
freely before a publication event that happens-before every other access, then no trace of the model has a
data race on `l`. -/
theorem discipline_sound (tr : HB.Trace) (wf : HB.WF tr) (l : Nat) (d : HB.Disc) (pub : Option (Nat × Nat))
    (h : HB.Respects tr l d pub) : ¬ HB.Race tr l := by
  rintro ⟨i, j, t, u, a, b, hij, hi, hj, htu, hla, hlb, hw, hnhb⟩
  obtain ⟨hpub, hacc⟩ := h
  apply hnhb
  rcases hacc i t a hi hla with ⟨c, p, hp, htc, hip⟩ | ⟨hposti, hoki⟩
  · rcases hacc j u b hj hlb with ⟨c', p', hp', huc, _⟩ | ⟨hpostj, _⟩
    · -- both before publication: same goroutine
      cases hp.symm.trans hp'
      exact absurd (htc.trans huc.symm) htu
    · -- i before publication by the creator, j after it
      obtain ⟨e, hpe⟩ := hpub c p hp
      subst htc
      exact .trans (.po hip hi hpe) (hpostj t p hp)
  · rcases hacc j u b hj hlb with ⟨c', p', hp', _, hjp⟩ | ⟨_, hokj⟩
    · -- i after publication, j before it: impossible, publication precedes i
      have := HB.hb_lt (hposti c' p' hp')
      omega
    · cases d with
      | once k => exact HB.hb_of_once wf hij htu hi hj hla hoki hokj hw
      | mutex m =>
        -- whichever of the two writes holds the mutex exclusively
        obtain ⟨x, hxi, hxw⟩ := HB.PostOK.mutex_holds hoki
        obtain ⟨y, hyj, hyw⟩ := HB.PostOK.mutex_holds hokj
        exact HB.hb_of_mutex wf hij htu hi hj hla hxi hyj (hw.imp hxw hyw)
      | readonly =>
        rcases hw with h | h
        · rw [hoki] at h; cases h
        · rw [hokj] at h; cases h

/-! The hypotheses of `discipline_sound` can be met (for the mutex discipline, without a publication event) by a
non-trivial trace: two goroutines that write and read location 7 under mutex 0 (the shape of `firstError.set` / `firstError.get` after the repair). -/
example : HB.WF HB.mutexTrace ∧ HB.Respects HB.mutexTrace 7 (.mutex 0) none ∧ ¬ HB.Race HB.mutexTrace 7 := by
  have hr : HB.Respects HB.mutexTrace 7 (.mutex 0) none := by
    refine ⟨nofun, ?_⟩
    intro i t e h hl
    refine .inr ⟨nofun, .inl ?_⟩
    -- of the six events only the write (1) and the read (4) touch location 7; each directly follows its Lock
    rcases i with _ | _ | _ | _ | _ | _ | i <;> cases h <;>
      first | cases hl | skip
    · exact ⟨0, by omega, rfl, fun b hb1 hb2 => by omega⟩
    · exact ⟨3, by omega, rfl, fun b hb1 hb2 => by omega⟩
  exact ⟨HB.mutexTrace_wf, hr, discipline_sound HB.mutexTrace HB.mutexTrace_wf 7 (.mutex 0) none hr⟩

/-- the trace of the captured `err` of GenericSet.Where / positionalRelation.Where before the repair: the caller
starts two workers (frozen's fan-out); one tests `err != nil` while the other assigns `err = err2`; the caller
collects both through a channel and reads `err` -/
def whereTrace : HB.Trace :=
  [(0, .go 1), (0, .go 2), (1, .start), (2, .start), (1, .rd 0), (2, .wr 0),
   (1, .send 0 0), (2, .send 0 1), (0, .recv 0 0), (0, .recv 0 1), (0, .rd 0)]

/-- for each event of `whereTrace` a set containing the events that happen-before it: all earlier events, except
that worker 2's start (3) and write (5) have only the caller's two `go`s and that start before them -/
def wherePred (j : Nat) : List Nat := if j = 3 then [0, 1] else if j = 5 then [0, 1, 3] else List.range j

/-- before the repair the two accesses of the workers are not ordered: a data race on `err` (the caller's final
read, by contrast, is ordered after both through the channel) -/
theorem where_err_race_before_repair : HB.Race whereTrace 0 := by
  refine ⟨4, 5, 1, 2, .rd 0, .wr 0, by decide, rfl, rfl, by decide, rfl, rfl, .inr rfl, fun h => ?_⟩
  exact absurd (HB.mem_pred_of_hb (pred := wherePred) (by decide +kernel) h) (by decide)

/-! ### the premise per location: the regenerated fact table -/

/-- the table extracted from the current sources is the one the disciplines below were read off -/
theorem lazyState_regenerated : Arrai.Facts.Generated.lazyState = Expected.lazyState := rfl

/-- every location of the table follows one of the disciplines: no package-level variable or field of a shared
struct is assigned after construction outside a `Once.Do` function / a `Lock…Unlock` region (or during package
initialisation / by the documented host set-up function), every read of it is guarded accordingly, and no
variable captured by a callback handed to frozen's Where/Map/Reduce/… (or started with `go`) is assigned in
that callback without a mutex.  A new unsynchronised captured assignment breaks this obligation. -/
theorem lazyState_disciplined : ∀ r ∈ Expected.lazyState, (Expected.classify r).isSome = true := by
  decide +kernel

/-- the two rows the table had before the repair (captured `err` assigned in the callbacks of
GenericSet.Where and positionalRelation.Where) are rejected -/
theorem lazyState_rejects_unrepaired :
    Expected.classify ("captured", "rel.GenericSet.Where/Where:err", [[]], [], ["GenericSet.Where"]) = none ∧
    Expected.classify ("captured", "rel.positionalRelation.Where/Where:err", [[]], [],
      ["positionalRelation.Where"]) = none := by decide

/-- the compute-and-store table extracted from the current sources is the expected one -/
theorem lazyCompute_regenerated : Arrai.Facts.Generated.lazyCompute = Expected.lazyCompute := rfl

/-- in every mutex-guarded compute-and-store function the Lock…Unlock region spans every call the stored value is
computed from (io.ReadAll in stdOsStdin.read and mustReadEmbeddedFile, fn() in computeIndex) — the premise of
`index_serial` / `stdin_serial` — except in importCache.getOrAdd, whose in-flight-marker protocol is proved on
its own.  Narrowing such a region changes the table and breaks `lazyCompute_regenerated`. -/
theorem lazyCompute_lock_spans_computation : ∀ r ∈ Expected.lazyCompute, Expected.computeOK r = true := by
  decide +kernel

/-- the row a narrowed stdin region would produce is rejected -/
theorem lazyCompute_rejects_narrowed :
    Expected.computeOK ("syntax.stdOsStdin.bytes", "stdOsStdin.read", "io.ReadAll", false) = false := by
  decide +kernel

/-- the discipline of the model that a classified row stands for (`id` numbers its Once / mutex; the name a `Kind` carries is not used) -/
def toDisc (id : Nat) : Expected.Kind → HB.Disc
  | .once _ => .once id
  | .mutex _ => .mutex id
  | .init => .readonly
  | .setup => .readonly

/-- `lazyState_disciplined` and `discipline_sound` side by side: every row of the table is classified, and in every
trace a location that respects the discipline standing for that class is race-free (init / setup rows: written only by
the initialising goroutine before publication, read-only after).  Nothing ties the row's Go location to the trace
location `l`, nor its Once / mutex to `id` (both universally quantified): reading a row as a `Respects` premise about the
program's traces is the extractor's part, not a theorem. -/
theorem lazyState_race_free (r : Expected.Row) (hr : r ∈ Expected.lazyState) :
    ∃ k, Expected.classify r = some k ∧
      ∀ (tr : HB.Trace) (l id : Nat) (pub : Option (Nat × Nat)), HB.WF tr →
        HB.Respects tr l (toDisc id k) pub → ¬ HB.Race tr l := by
  have h := lazyState_disciplined r hr
  cases hk : Expected.classify r with
  | none => rw [hk] at h; cases h
  | some k => exact ⟨k, rfl, fun tr l id pub wf hres => discipline_sound tr wf l _ pub hres⟩

end Arrai.C11.Theorems
