/-
  C07 — evaluation is deterministic across processes and hash seeds.

  The per-process hash seeds decide in which order every frozen set, frozen map and Go map is enumerated; in the model
  every such collection is a list in that order (`C06.Rep`) and an enumeration order is any permutation-valued function
  on member lists (`EnumOrder`, `PermValued`).  The theorems say that what can be observed — the canonical form of a value
  (`key`, which determines `=` and `<`), the text printed for it, the result of `orderby` without ties, ranks, the member
  bound by a set pattern — is the same for every such order.
  A run is ONE function `π` of the member list, applied wherever an operator walks an operand; two walks of equal lists
  get the same order within a run. Nothing is lost by that: no proof uses it, each result is shown key-equal to that of
  the run under the identity order on its own.

  WHAT THE THEOREMS ABOUT PROGRAMS COVER
  * `C07` (values) and `C07_printed` (printed text: `fu.Repr` and what `OutputValue` writes): programs `Ex`, nested to any
    depth, over literals of EVERY representation (numbers, tuples, sugar tuples, strings, byte arrays, arrays, dictionaries,
    relations, generic and union sets), built from
      `|`  `&`  `&~`  `where` (`. < n`, `. != n`, `. >= {}`, `true`)  `with`  `without`  `count`  `{x}`
      `=>` with `.`, a constant, `(a: .)`, `(a: ., b: n)`, `[.]`
      `orderby` (same element functions) — under NoTies, the documented exemption
      `rank (r₁: .a₁, …)` — rank = number of rows with a strictly smaller key (C06 `rank_by_less`), any number of ranking
        attributes, ties included
      `let {l₁, …, ...t} = s; t`.
    Hypothesis `Adm`, decided on the run under the identity order: no set-builder call receives two sugar tuples at one
    index (`NoSuper` — otherwise KF-superimposed, a genuine order dependence: `superimposed_order_dependent`,
    `C07_full_false`), `orderby` keys do not tie, no literal, no member of a literal and no `rank` clause repeats an
    attribute name.  The two runs evaluate the same `Ex`, so they hold each literal in the same internal order; for one
    value held in two internal orders there is `printed_text_function_of_key`.
  * `C07_setpat` (VALUES ONLY): `let {l₁, …, a} = s; a` over an admissible `s`, the "pick an element" construct, at top
    level.  `Adm` demands `rest = true` of a set pattern, so neither `C07` nor `C07_printed` speaks of this form, and
    there is no theorem about its printed text.

  WHAT RESTS ON THE N-PROCESS RUNS (a base run and 4 more processes in quick, 16 more in thorough, different hash
  seeds, compared byte for byte and with the model): the element function `-.`, and `{.}` inside `=>`/`orderby` outside the
  generic fragment of `C07_nested_partial`; the generated `Pg` program shapes that are not `Ex` terms (set patterns with
  a conditional body, `rank` over a computed attribute `.i % 3`, `nest`, `max`/`min` reducers, `orderby` with TIED keys
  where only the key sequence is predicted — `orderby_ties_only`); error MESSAGES (the model has one `err`); parsing and
  the text → `Rep` reading of literals; and that the Go code is what the model says (`members`, `build`, `Less`,
  `Format`) — the model-vs-Go comparison of every generated case is that tie.
-/
import Arrai.C07.Printed
import Arrai.C07.Nested

namespace Arrai.C07.Theorems
open Arrai.C06 Arrai.C07

/-- sorting by the C06 order does not depend on the order in which the members are enumerated -/
theorem sort_perm_invariant (xs ys : List Rep) (hn : NoTies id xs) (hp : xs.Perm ys) :
    isort C06.Impl.less xs = isort C06.Impl.less ys :=
  orderBy_perm_invariant (f := id) hn hp

/-- … and even when some members are equal, the sequence of canonical forms that is printed is the same -/
theorem print_order_invariant (xs ys : List Rep) (h : KP xs ys) :
    (C06.Impl.orderedValues xs).map key = (C06.Impl.orderedValues ys).map key :=
  orderedValues_keys_congr h

/-- the canonical form (hence `=`, `<`, and every function of them) of a generic set depends only on the multiset of
canonical forms of its members, that of a union set only on that of its buckets -/
theorem set_key_order_independent (xs ys : List Rep) (h : KP xs ys) :
    key (.generic xs) = key (.generic ys) ∧ key (.union xs) = key (.union ys) := by
  rw [key_generic, key_generic, key_union, key_union]
  exact ⟨congrArg (fun l => K.node (K.int kGenericSet :: l)) (isort_perm_invariant K.cmp h),
    congrArg (fun l => K.node (K.int kUnion :: l)) (isort_perm_invariant K.cmp h)⟩

/-- … and that of a relation only on the multiset of its rows -/
theorem relation_key_order_independent (ns : List String) (rows rows' : List (List Rep)) (h : rows.Perm rows') :
    key (.relation ns rows) = key (.relation ns rows') := by
  rw [key_relation, key_relation, h.length_eq]
  exact congrArg (fun l => K.node [K.int kRelation, K.int ns.length, K.node ((isort strLt ns).map K.name),
    K.int rows'.length, K.node l]) (isort_perm_invariant K.cmp (h.map _))

/-- `orderby` without tied keys returns the same array for every enumeration order of the set -/
theorem orderby_order_independent (keyf : Rep → Rep) (xs ys : List Rep) (hn : NoTies keyf xs) (hp : xs.Perm ys) :
    C06.Impl.orderBy keyf xs = C06.Impl.orderBy keyf ys := orderBy_perm_invariant hn hp

/-- with tied keys (the documented exemption) only tied members can trade places -/
theorem orderby_ties_only (keyf : Rep → Rep) (xs ys : List Rep) (hp : xs.Perm ys) :
    (C06.Impl.orderBy keyf xs).map (fun x => key (keyf x)) = (C06.Impl.orderBy keyf ys).map (fun x => key (keyf x)) :=
  orderBy_keys_perm_invariant keyf hp

/-- The set builder is order-independent (all buckets: generic, string, bytes, array, dict, relation, and the assembly of a
union set from the bucket map): if the values added do not superimpose two sugar tuples at one index (`NoSuper`) and no
tuple repeats an attribute name (a frozen map cannot), the canonical form of `SetBuilder.Add`* ; `Finish` depends only on
the multiset of canonical forms added — not on the order of the `Add` calls, nor on the enumeration orders inside the
values added. The hypothesis `ty` is not needed: it follows from `tx` and `h` (`tupleNodup_of_key`); `build_congr` does
not ask for it. -/
theorem build_order_independent (xs ys : List Rep) (hn : NoSuper xs)
    (tx : ∀ v ∈ xs, tupleNodup v) (ty : ∀ w ∈ ys, tupleNodup w) (h : KP xs ys) :
    key (C06.Impl.build xs) = key (C06.Impl.build ys) := Arrai.C07.build_order_independent hn tx ty h

/-- the hypotheses are satisfiable non-trivially: `{(@:0,@char:97), (@:2,@char:98), (a:1,b:2), (@:1,@value:2), [3], 4}`
(a string with a hole, a relation, a dict, a generic bucket: four buckets) -/
example : NoSuper [.charT 0 97, .charT 2 98, .gtuple [("a", .num 1), ("b", .num 2)], .entryT (.num 1) (.num 2),
      .array [some (.num 3)] 0, .num 4] ∧
    (∀ v ∈ [Rep.charT 0 97, .charT 2 98, .gtuple [("a", .num 1), ("b", .num 2)], .entryT (.num 1) (.num 2),
      .array [some (.num 3)] 0, .num 4], tupleNodup v) := by
  refine ⟨⟨by decide, by decide, by decide⟩, ?_⟩
  intro v hv
  simp only [List.mem_cons, List.not_mem_nil, or_false] at hv
  rcases hv with rfl | rfl | rfl | rfl | rfl | rfl <;> simp [tupleNodup]

/-- special case (no hypothesis on names needed): values that fall into the generic bucket -/
theorem build_order_independent_partial (xs ys : List Rep) (hx : allGeneric xs) (hy : allGeneric ys) (h : KP xs ys) :
    key (C06.Impl.build xs) = key (C06.Impl.build ys) := build_order_independent_generic hx hy h

/-- the hypotheses of the partial theorem are satisfiable by a non-trivial input: `{1, {2}, 'a', ()}` in two orders -/
example : allGeneric [.num 1, .generic [.num 2], .str [97] 0, .gtuple []] ∧
    KP [.num 1, .generic [.num 2], .str [97] 0, .gtuple []] [.gtuple [], .str [97] 0, .num 1, .generic [.num 2]] := by
  refine ⟨?_, ?_⟩
  · intro x hx
    simp only [List.mem_cons, List.not_mem_nil, or_false] at hx
    rcases hx with rfl | rfl | rfl | rfl <;> rfl
  · apply KP.of_perm
    -- [a, b, c, d] ~ [d, c, a, b]
    have h1 : [Rep.num 1, Rep.generic [Rep.num 2], Rep.str [97] 0, Rep.gtuple []].Perm
        ([Rep.gtuple [], Rep.str [97] 0] ++ [Rep.num 1, Rep.generic [Rep.num 2]]) :=
      (List.perm_append_comm (l₁ := [Rep.num 1, Rep.generic [Rep.num 2]]) (l₂ := [Rep.str [97] 0, Rep.gtuple []])).trans
        ((List.Perm.swap _ _ _).append_right _)
    exact h1

/-- `KF-superimposed`: genuine order dependence. Two enumeration orders of the same two members build different
strings (`'b'` resp. `'a'`): the set builder keeps the tuple it sees last. -/
theorem superimposed_order_dependent :
    C06.Impl.equal (C06.Impl.build [.charT 0 97, .charT 0 98]) (C06.Impl.build [.charT 0 98, .charT 0 97]) = false ∧
    C06.Impl.build [.charT 0 97, .charT 0 98] = .str [98] 0 ∧
    C06.Impl.build [.charT 0 98, .charT 0 97] = .str [97] 0 := ⟨by decide, by rfl, by rfl⟩

theorem build_order_dependent_when_superimposed :
    ¬ (∀ xs ys : List Rep, xs.Perm ys → key (C06.Impl.build xs) = key (C06.Impl.build ys)) := by
  intro h
  have := h [.charT 0 97, .charT 0 98] [.charT 0 98, .charT 0 97] (List.Perm.swap _ _ _)
  have hne := superimposed_order_dependent.1
  rw [C06.Impl.equal, this, (K.beq_iff _ _).2 rfl] at hne
  cases hne

/-- C07 for single-operator programs over literal operands (any operator of the fragment: `|`, `&`, `&~`, `=>`, `where`,
`orderby`, `with`, `without`, `count`, `{x}`): whatever order the process enumerates the operands in, the result has
the same canonical form or is the same error.
Admissible (`Adm1`): the values handed to the set builder fall into the generic bucket; `orderby` keys do not tie. -/
theorem C07_partial (e : Ex) (π₁ π₂ : EnumOrder) (h₁ : PermValued π₁) (h₂ : PermValued π₂) (ha : Adm1 e) :
    keyRes (Impl.evalUnder π₁ e) = keyRes (Impl.evalUnder π₂ e) := by
  have hπ : ∀ l, (π₁ l).Perm (π₂ l) := fun l => (h₁ l).trans (h₂ l).symm
  have hg : ∀ {l}, allGeneric l → allGeneric (π₁ l) := fun h => allGeneric_perm (h₁ _).symm h
  -- one case per clause of `Adm1`: the operands are literals, and both runs build from permuted generic values
  unfold Adm1 at ha
  split at ha
  · rfl
  · rw [Impl.evalUnder_union, Impl.evalUnder_union]
    exact keyRes_guard _ (keyRes_guard _
      (keyRes_build_perm (allGeneric_perm ((h₁ _).append (h₁ _)).symm ha) ((hπ _).append (hπ _))))
  · rw [Impl.evalUnder_inter, Impl.evalUnder_inter]
    exact keyRes_guard _ (keyRes_guard _ (keyRes_build_perm (allGeneric_filter _ (hg ha)) ((hπ _).filter _)))
  · rw [Impl.evalUnder_diff, Impl.evalUnder_diff]
    exact keyRes_guard _ (keyRes_guard _ (keyRes_build_perm (allGeneric_filter _ (hg ha)) ((hπ _).filter _)))
  · rw [Impl.evalUnder_map, Impl.evalUnder_map]
    exact keyRes_guard _ (keyRes_build_perm (allGeneric_perm ((h₁ _).map _).symm ha) ((hπ _).map _))
  · rw [Impl.evalUnder_filter, Impl.evalUnder_filter]
    exact keyRes_guard _ (keyRes_build_perm (allGeneric_filter _ (hg ha)) ((hπ _).filter _))
  · rw [Impl.evalUnder_orderby, Impl.evalUnder_orderby]
    show keyRes (if _ then _ else _) = keyRes (if _ then _ else _)
    rw [orderBy_perm_invariant (NoTies.perm ha (h₁ _).symm) (hπ _)]
  · rw [Impl.evalUnder_with, Impl.evalUnder_with]
    exact keyRes_guard _
      (keyRes_build_perm (allGeneric_perm ((h₁ _).append (List.Perm.refl _)).symm ha) ((hπ _).append (List.Perm.refl _)))
  · rw [Impl.evalUnder_without, Impl.evalUnder_without]
    exact keyRes_guard _ (keyRes_build_perm (allGeneric_filter _ (hg ha)) ((hπ _).filter _))
  · rfl
  · rfl
  · exact ha.elim

/-- `Adm1` and `PermValued` are satisfiable non-trivially: `{1, {2}, 'a'} | {(), 3}` under the reversing order -/
example : Adm1 (.union (.lit "{1, {2}, 'a'}" (.generic [.num 1, .generic [.num 2], .str [97] 0]))
                       (.lit "{(), 3}" (.generic [.gtuple [], .num 3]))) ∧ PermValued List.reverse := by
  refine ⟨?_, fun l => List.reverse_perm l⟩
  intro x hx
  simp only [members, members1, List.cons_append, List.nil_append, List.mem_cons, List.not_mem_nil, or_false] at hx
  rcases hx with rfl | rfl | rfl | rfl | rfl <;> rfl

/-- C07 for NESTED programs of the generic fragment (`GenEx`): literals are sets of generic-bucket values (numbers,
sets of any representation, the empty tuple), combined to any depth with `|`, `&`, `&~`, `where`, `with`, `without`, `{x}`
and `=>` with an element function that yields such values again (`.`, a constant, `[.]`, `{.}`).  Every enumeration order
yields a value (never an error) with the same canonical form. -/
theorem C07_nested_partial (e : Ex) (he : GenEx e = true) (π₁ π₂ : EnumOrder) (h₁ : PermValued π₁) (h₂ : PermValued π₂) :
    keyRes (Impl.evalUnder π₁ e) = keyRes (Impl.evalUnder π₂ e) ∧ (∃ r, Impl.evalUnder π₁ e = .ok r) := by
  obtain ⟨r₁, r₂, e₁, e₂, _, hk⟩ := nested_order_independent π₁ π₂ h₁ h₂ e he
  exact ⟨by rw [e₁, e₂]; simp [keyRes, hk], r₁, e₁⟩

/-- `GenEx` is satisfiable by a non-trivial nested program:
`(({1, {2}, 'a'} | {(), 3}) => [.]) &~ ({[1]} with 'b') where . != 0` -/
example : GenEx (.filter (.diff (.map (.union (.lit "{1, {2}, 'a'}" (.generic [.num 1, .generic [.num 2], .str [97] 0]))
                                             (.lit "{(), 3}" (.generic [.gtuple [], .num 3]))) .arr1)
                              (.with_ (.lit "{[1]}" (.generic [.array [some (.num 1)] 0])) (.lit "'b'" (.str [98] 0))))
                       (.neNum 0)) = true := by decide +kernel

/-- Theorem C07 (values): every admissible program evaluates to a value with the same canonical form (hence the same
`=`/`<` behaviour), or to the same error, under every enumeration order of the operand sets it walks. -/
theorem C07 (e : Ex) (h : Adm e) (π₁ π₂ : EnumOrder) (h₁ : PermValued π₁) (h₂ : PermValued π₂) :
    keyRes (Impl.evalUnder π₁ e) = keyRes (Impl.evalUnder π₂ e) :=
  (agree_adm h₁ h).keyRes.trans (agree_adm h₂ h).keyRes.symm

/-- set patterns that bind an identifier, `let {l₁, …, a} = s; a` (the construct that "picks an element"): whatever the
enumeration order, the same member is bound, or the same error is raised (no member, or several members, left) -/
theorem C07_setpat (lits : List (String × Rep)) (a : Ex) (h : Adm a) (π₁ π₂ : EnumOrder)
    (h₁ : PermValued π₁) (h₂ : PermValued π₂) :
    keyRes (Impl.evalUnder π₁ (.setpat lits false a)) = keyRes (Impl.evalUnder π₂ (.setpat lits false a)) := by
  have one : ∀ (π : EnumOrder), PermValued π →
      keyRes (Impl.evalUnder π (.setpat lits false a)) = keyRes (Impl.evalUnder idπ (.setpat lits false a)) := by
    intro π hπ
    rw [Impl.evalUnder_setpat, Impl.evalUnder_setpat]
    refine keyRes_onSet (agree_adm hπ h) fun A A₀ ka => ?_
    have hkp := enumKP hπ idπ_perm ka
    rw [hkp.litsFound lits]
    exact keyRes_guard _ (keyRes_only (hkp.litsPred lits))
  rw [one π₁ h₁, one π₂ h₂]

/-- `Adm` is satisfiable by a non-trivial program mixing buckets: `({(a: 1), 'x', 2} | {[3]}) => (a: .)` -/
example : Adm (.map (.union (.lit "{(a: 1), 'x', 2}" (.union [.relation ["a"] [[.num 1]], .generic [.str [120] 0, .num 2]]))
                            (.lit "{[3]}" (.generic [.array [some (.num 3)] 0]))) .wrapA) := by
  refine ⟨⟨⟨trivial, ?_⟩, ⟨trivial, ?_⟩, ?_⟩, rfl, ?_⟩
  · intro v hv
    simp only [members, members1, C06.Impl.rowTuple, zipNames, List.flatMap_cons, List.flatMap_nil, List.map_cons,
      List.map_nil, List.append_nil, List.cons_append, List.nil_append, List.mem_cons, List.not_mem_nil, or_false] at hv
    rcases hv with rfl | rfl | rfl <;> simp [tupleNodup]
  · intro v hv
    simp only [members, members1, List.mem_cons, List.not_mem_nil, or_false] at hv
    subst hv; trivial
  · exact ⟨by decide, by decide, by decide⟩
  · exact ⟨by decide, by decide, by decide⟩

/-- `Adm` holds for `rank` over a relation with tied keys: `{(k: 1, v: 2), (k: 1, v: 1)} rank (rk: .k, rv: .v)` -/
example : Adm (.rank (.lit "{(k: 1, v: 2), (k: 1, v: 1)}" (.relation ["k", "v"] [[.num 1, .num 2], [.num 1, .num 1]]))
    [("rk", "k"), ("rv", "v")]) := by
  refine ⟨⟨trivial, ?_⟩, by decide⟩
  intro v hv
  simp only [members, members1, C06.Impl.rowTuple, zipNames, List.map_cons, List.map_nil, List.mem_cons, List.not_mem_nil,
    or_false] at hv
  rcases hv with rfl | rfl <;> simp [tupleNodup]

/-- The printed text is a function of the canonical form, for every representation (dictionaries, relations and union sets
included). `nodupNames`: no tuple and no relation heading repeats an attribute name (a frozen map cannot). Two processes
that hold the same value with different internal enumeration orders, at any depth, print the same text. -/
theorem printed_text_function_of_key (a b : Rep) (sa : nodupNames a = true) (sb : nodupNames b = true)
    (hk : key a = key b) : Impl.repr a = Impl.repr b ∧ Impl.outText a = Impl.outText b :=
  ⟨repr_congr hered_nodupNames sa sb hk, outText_congr hered_nodupNames sa sb hk⟩

/-- non-trivial instance: the dict `{1: {2, 3}, 'k': (x: 4)}`, the relation `{|a, b| (1, 'x'), (2, 'y')}` and a union set, each
held in two different internal orders -/
example :
    nodupNames (.union [.dict [[.num 1, .generic [.num 2, .num 3]], [.str [107] 0, .gtuple [("x", .num 4)]]],
      .relation ["a", "b"] [[.num 1, .str [120] 0], [.num 2, .str [121] 0]]]) = true ∧
    key (.union [.dict [[.num 1, .generic [.num 2, .num 3]], [.str [107] 0, .gtuple [("x", .num 4)]]],
      .relation ["a", "b"] [[.num 1, .str [120] 0], [.num 2, .str [121] 0]]]) =
    key (.union [.relation ["b", "a"] [[.str [121] 0, .num 2], [.str [120] 0, .num 1]],
      .dict [[.str [107] 0, .gtuple [("x", .num 4)]], [.num 1, .generic [.num 3, .num 2]]]]) := by
  refine ⟨by decide +kernel, ?_⟩
  have h : C06.Impl.equal
      (.union [.dict [[.num 1, .generic [.num 2, .num 3]], [.str [107] 0, .gtuple [("x", .num 4)]]],
        .relation ["a", "b"] [[.num 1, .str [120] 0], [.num 2, .str [121] 0]]])
      (.union [.relation ["b", "a"] [[.str [121] 0, .num 2], [.str [120] 0, .num 1]],
        .dict [[.str [107] 0, .gtuple [("x", .num 4)]], [.num 1, .generic [.num 3, .num 2]]]]) = true := by decide +kernel
  exact (K.beq_iff _ _).1 h

/-- special case (no hypothesis on names): values without a dictionary, relation or union set anywhere inside -/
theorem printed_text_function_of_key_partial (a b : Rep) (sa : simple a = true) (sb : simple b = true)
    (hk : key a = key b) : Impl.repr a = Impl.repr b := repr_congr hered_simple sa sb hk

/-- non-trivial instance: `{[1, {2, 3}], 'a', (x: {4, 5})}` with every enumeration reversed -/
example :
    simple (.generic [.array [some (.num 1), some (.generic [.num 2, .num 3])] 0, .str [97] 0,
      .gtuple [("x", .generic [.num 4, .num 5])]]) = true ∧
    key (.generic [.array [some (.num 1), some (.generic [.num 2, .num 3])] 0, .str [97] 0,
      .gtuple [("x", .generic [.num 4, .num 5])]]) =
    key (.generic [.gtuple [("x", .generic [.num 5, .num 4])], .str [97] 0,
      .array [some (.num 1), some (.generic [.num 3, .num 2])] 0]) := by
  refine ⟨by decide +kernel, ?_⟩
  have h : C06.Impl.equal
      (.generic [.array [some (.num 1), some (.generic [.num 2, .num 3])] 0, .str [97] 0,
        .gtuple [("x", .generic [.num 4, .num 5])]])
      (.generic [.gtuple [("x", .generic [.num 5, .num 4])], .str [97] 0,
        .array [some (.num 1), some (.generic [.num 3, .num 2])] 0]) = true := by decide +kernel
  exact (K.beq_iff _ _).1 h

/-- corollary for admissible single-operator programs: the same printed text under every enumeration order -/
theorem C07_partial_printed (e : Ex) (π₁ π₂ : EnumOrder) (h₁ : PermValued π₁) (h₂ : PermValued π₂) (ha : Adm1 e)
    (r₁ r₂ : Rep) (e₁ : Impl.evalUnder π₁ e = .ok r₁) (e₂ : Impl.evalUnder π₂ e = .ok r₂)
    (s₁ : simple r₁ = true) (s₂ : simple r₂ = true) : Impl.repr r₁ = Impl.repr r₂ := by
  have h := C07_partial e π₁ π₂ h₁ h₂ ha
  rw [e₁, e₂] at h
  simp only [keyRes, Option.some.injEq] at h
  exact repr_congr hered_simple s₁ s₂ h

/-- Theorem C07 (printed text): an admissible program over well-named literals (`litsNN`) prints the same text — `fu.Repr`
and what `OutputValue` writes — or fails alike, under every enumeration order. -/
theorem C07_printed (e : Ex) (h : Adm e) (hl : litsNN e) (π₁ π₂ : EnumOrder) (h₁ : PermValued π₁) (h₂ : PermValued π₂) :
    printedRes (Impl.evalUnder π₁ e) = printedRes (Impl.evalUnder π₂ e) :=
  (printed_agree h₁ h hl).trans (printed_agree h₂ h hl).symm

/-- the statement WITHOUT the admissibility hypothesis -/
def C07_full : Prop :=
  ∀ (e : Ex) (π₁ π₂ : EnumOrder), PermValued π₁ → PermValued π₂ →
    keyRes (Impl.evalUnder π₁ e) = keyRes (Impl.evalUnder π₂ e)

/-- … is false: `{(@: 0, @char: 97), (@: 0, @char: 98)} => .` is `'b'` under one enumeration order and `'a'` under the
reverse (`KF-superimposed`, a known finding: the set builder keeps the tuple it sees last) -/
theorem C07_full_false : ¬ C07_full := by
  intro h
  have := h (.map (.lit "" (.generic [.charT 0 97, .charT 0 98])) .ident) (fun l => l) List.reverse
    (fun l => List.Perm.refl l) (fun l => List.reverse_perm l)
  have e₁ : Impl.evalUnder (fun l => l) (.map (.lit "" (.generic [.charT 0 97, .charT 0 98])) .ident) = .ok (.str [98] 0) := by rfl
  have e₂ : Impl.evalUnder List.reverse (.map (.lit "" (.generic [.charT 0 97, .charT 0 98])) .ident) = .ok (.str [97] 0) := by rfl
  rw [e₁, e₂] at this
  simp [keyRes] at this

end Arrai.C07.Theorems
