/-
  C14 — //seq functions give the same answer for strings, byte arrays and arrays.

  The dispatch of std_seq.go (`Model`) returns, for kind-consistent arguments of any one of the three
  representations, exactly what the specification demands (`SpecRes`).  `SpecRes.f` depends on the kinds only
  through the tag of its result; that the three representations give corresponding results is read off from that,
  it is not stated as a theorem.
-/
import Arrai.C14.Lemmas

namespace Arrai.C14.Theorems
open Arrai.C14

variable {α : Type} [DecidableEq α]

/-! ### Part 1 — the specification is the textbook definition -/

theorem contains_iff_window (p s : List α) : Spec.contains p s = true ↔ ∃ a b, s = a ++ p ++ b :=
  (Spec.contains_iff p s).trans ⟨fun ⟨a, b, h⟩ => ⟨a, b, h.symm⟩, fun ⟨a, b, h⟩ => ⟨a, b, h.symm⟩⟩

theorem hasPrefix_iff_append (p s : List α) : Spec.hasPrefix p s = true ↔ ∃ t, s = p ++ t :=
  (Spec.hasPrefix_iff p s).trans ⟨fun ⟨t, h⟩ => ⟨t, h.symm⟩, fun ⟨t, h⟩ => ⟨t, h.symm⟩⟩

theorem hasSuffix_iff_append (p s : List α) : Spec.hasSuffix p s = true ↔ ∃ t, s = t ++ p :=
  (Spec.hasSuffix_iff p s).trans ⟨fun ⟨t, h⟩ => ⟨t, h.symm⟩, fun ⟨t, h⟩ => ⟨t, h.symm⟩⟩

theorem join_inverts_split (d s : List α) (hd : d ≠ []) : Spec.join d (Spec.split d s) = s :=
  Spec.join_split d s hd

theorem trimPrefix_exact (p t : List α) : Spec.trimPrefix p (p ++ t) = t :=
  (if_pos ((Spec.hasPrefix_iff p _).2 ⟨t, rfl⟩)).trans (List.drop_left ..)

theorem trimPrefix_absent (p s : List α) (h : ¬ ∃ t, s = p ++ t) : Spec.trimPrefix p s = s :=
  if_neg (mt (hasPrefix_iff_append p s).1 h)

theorem trimSuffix_exact (p t : List α) : Spec.trimSuffix p (t ++ p) = t :=
  (if_pos ((Spec.hasSuffix_iff p _).2 ⟨t, rfl⟩)).trans
    (by rw [List.length_append, Nat.add_sub_cancel, List.take_left])

theorem trimSuffix_absent (p s : List α) (h : ¬ ∃ t, s = t ++ p) : Spec.trimSuffix p s = s :=
  if_neg (mt (hasSuffix_iff_append p s).1 h)

theorem sub_is_join_split (old new s : List α) (h : old ≠ []) :
    Spec.sub old new s = Spec.join new (Spec.split old s) := by
  have : old.isEmpty = false := by cases old <;> simp_all
  simp [Spec.sub, Spec.split, this]

theorem repeat_zero (s : List α) : Spec.repeat_ 0 s = [] := rfl
theorem repeat_succ (n : Nat) (s : List α) : Spec.repeat_ (n + 1) s = s ++ Spec.repeat_ n s := by
  simp [Spec.repeat_, List.replicate_succ]

/-! ### Part 2 — the Go array helpers refine the specification

The proofs are `Impl.f_eq`, which `Model.f_uniform` needs; here they stand under the property's names. -/

theorem search_finds_iff_contains (s sub : List α) : (Impl.search s sub).isSome = Spec.contains sub s :=
  Impl.search_isSome s sub

theorem arraySplit_refines (d s : List α) : Impl.arraySplit d s = Spec.split d s := Impl.arraySplit_eq d s
theorem arraySub_refines (old new s : List α) : Impl.arraySub old new s = Spec.sub old new s :=
  Impl.arraySub_eq old new s
theorem arrayHasPrefix_refines (p s : List α) : Impl.arrayHasPrefix p s = Spec.hasPrefix p s :=
  Impl.arrayHasPrefix_eq p s
theorem arrayHasSuffix_refines (p s : List α) : Impl.arrayHasSuffix p s = Spec.hasSuffix p s :=
  Impl.arrayHasSuffix_eq p s
theorem arrayJoin_refines (d : List α) (xss : List (List α)) : Impl.arrayJoin d xss = Spec.join d xss :=
  Impl.arrayJoin_eq d xss
theorem arrayTrimPrefix_refines (p s : List α) : Impl.arrayTrimPrefix p s = Spec.trimPrefix p s :=
  Impl.arrayTrimPrefix_eq p s
theorem arrayTrimSuffix_refines (p s : List α) : Impl.arrayTrimSuffix p s = Spec.trimSuffix p s :=
  Impl.arrayTrimSuffix_eq p s
theorem repeatLoop_refines (s : List α) (n : Nat) : Impl.repeatLoop s n = Spec.repeat_ n s :=
  Impl.repeatLoop_eq s n

/-! ### Part 3 — the three representations agree with the specification

For the seven dispatch operations the unnormalised results are already equal: `Model.f_spec`. -/

theorem contains_three_reprs (p subject : Sq) (h : consistent p subject = true) :
    (Model.contains p subject).norm = (SpecRes.contains p subject).norm :=
  congrArg Res.norm (Model.contains_spec h)

theorem hasPrefix_three_reprs (p subject : Sq) (h : consistent p subject = true) :
    (Model.hasPrefix p subject).norm = (SpecRes.hasPrefix p subject).norm :=
  congrArg Res.norm (Model.hasPrefix_spec h)

theorem hasSuffix_three_reprs (p subject : Sq) (h : consistent p subject = true) :
    (Model.hasSuffix p subject).norm = (SpecRes.hasSuffix p subject).norm :=
  congrArg Res.norm (Model.hasSuffix_spec h)

theorem split_three_reprs (d subject : Sq) (h : consistent d subject = true) :
    (Model.split d subject).norm = (SpecRes.split d subject).norm :=
  congrArg Res.norm (Model.split_spec h)

theorem sub_three_reprs (old new subject : Sq)
    (h₁ : consistent old subject = true) (h₂ : consistent new subject = true) :
    (Model.sub old new subject).norm = (SpecRes.sub old new subject).norm :=
  congrArg Res.norm (Model.sub_spec h₁ h₂)

theorem trimPrefix_three_reprs (p subject : Sq) (h : consistent p subject = true) :
    (Model.trimPrefix p subject).norm = (SpecRes.trimPrefix p subject).norm :=
  congrArg Res.norm (Model.trimPrefix_spec h)

theorem trimSuffix_three_reprs (p subject : Sq) (h : consistent p subject = true) :
    (Model.trimSuffix p subject).norm = (SpecRes.trimSuffix p subject).norm :=
  congrArg Res.norm (Model.trimSuffix_spec h)

/-- std_seq.go rejects byte arrays: KF-seq-bytes-repeat -/
theorem repeat_reprs_partial (n : Nat) (s : Sq) (h : s.kind ≠ .B ∨ s.isE = true) :
    (Model.repeat_ n s).norm = (SpecRes.repeat_ n s).norm := by
  obtain ⟨k, xs⟩ := s
  cases xs with
  | nil => simp [Model.repeat_, SpecRes.repeat_, Sq.isE, Spec.repeat_, Res.norm]
  | cons x xs =>
    cases k with
    | S => rfl
    | B => exact absurd h (by simp [Sq.isE])
    | A => simp [Model.repeat_, SpecRes.repeat_, Sq.isE, repeatLoop_refines]

/-- the full-strength statement that `repeat_reprs_partial` falls short of -/
def repeat_full : Prop := ∀ (n : Nat) (s : Sq), (Model.repeat_ n s).norm = (SpecRes.repeat_ n s).norm

theorem repeat_full_false : ¬ repeat_full := by
  intro h
  exact absurd (h 1 ⟨.B, [0]⟩) (by decide)

theorem join_reprs_partial (d : Sq) (k : Kind) (xss : List (List Nat)) (h : joinGood d k xss = true) :
    (Model.join d k xss).norm = (SpecRes.join d k xss).norm := by
  cases xss with
  | nil => rfl
  | cons x0 r =>
    simp only [joinGood, Bool.and_eq_true, Bool.or_eq_true, decide_eq_true_eq] at h
    obtain ⟨hd, hk⟩ := h
    have has : d.as k = true := by simpa [Sq.as] using hd
    -- the array path with everything empty: the result is empty, whatever its kind
    have empty (hE : d.isE = true) (hall : (x0 :: r).all (·.isEmpty) = true)
        (h1 : (decide (k = .S) && !x0.isEmpty) = false) :
        (Model.join d k (x0 :: r)).norm = (SpecRes.join d k (x0 :: r)).norm := by
      have hnS : (!d.isE && decide (d.kind = .S)) = false := by rw [hE]; rfl
      have hA : (decide (k = .A) || (x0 :: r).all (·.isEmpty)) = true := by rw [hall, Bool.or_true]
      have hj : (x0 :: r).flatten = [] :=
        List.flatten_eq_nil_iff.2 fun l hl => List.isEmpty_iff.1 (List.all_eq_true.1 hall l hl)
      rw [Model.join_array (Sq.as_of_isE hE _) h1 hnS hA, SpecRes.join, List.isEmpty_iff.1 hE, Spec.join_nil, hj]
      rfl
    cases k with
    | A =>
      have hnS : (!d.isE && decide (d.kind = .S)) = false := by rcases hd with h | h <;> simp [h]
      rw [Model.join_array has rfl hnS rfl]; rfl
    | S =>
      by_cases hp : x0.isEmpty = false ∨ d.isE = false
      · rw [Model.join_string has hp]; rfl
      · simp only [not_or, Bool.not_eq_false] at hp
        have hx : x0 = [] := by simpa using hp.1
        subst hx
        exact empty hp.2 (by simpa [hp.2] using hk) rfl
    | B =>
      simp only [Bool.and_eq_true] at hk
      exact empty hk.2 hk.1 rfl

theorem concat_three_reprs (k : Kind) (xss : List (List Nat)) :
    (Model.concat k xss).norm = (SpecRes.concat k xss).norm := by
  cases xss <;> rfl

/-- non-vacuity: kind-consistent, non-trivial arguments exist for every representation -/
example : consistent ⟨.A, [1, 1, 2]⟩ ⟨.A, [1, 1, 1, 2]⟩ = true ∧ consistent ⟨.S, [0]⟩ ⟨.S, [1, 0]⟩ = true
    ∧ consistent ⟨.B, []⟩ ⟨.B, [1]⟩ = true ∧ joinGood ⟨.A, [0]⟩ .A [[1], [2]] = true := by decide

end Arrai.C14.Theorems
