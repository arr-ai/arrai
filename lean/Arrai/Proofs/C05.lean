/-
  C05 — keyed collections act as functions; `>>`, `>>>`, `++` and offsets keep keys right.

  Part 1: the specification says what the property says (exactly-one rule, keys kept).
  Part 2: the transliterated Go code (`Impl`, on representations) refines the specification (`Spec`, on meanings).
-/
import Arrai.C05.Build
import Arrai.C05.Count

namespace Arrai.C05.Theorems
open Arrai Arrai.C05 Arrai.C05.KSeq

/-! ### Part 1 — the specification is the property -/

/-- a call returns `v` exactly when `v` is the one and only value paired with the key -/
theorem call_ok_iff (xs : List V) (k : Arg) (v : V) :
    Spec.call (.set xs) k = .ok v ↔ ∀ w, (∃ x ∈ xs, Spec.valAt k x = some w) ↔ w = v := by
  simp only [Spec.call, exactlyOne_ok_iff (FinSet.nodup_mk _), FinSet.mem_mk, List.mem_filterMap]

theorem call_noReturn_iff (xs : List V) (k : Arg) :
    Spec.call (.set xs) k = .error .noReturn ↔ ∀ x ∈ xs, Spec.valAt k x = none := by
  simp only [Spec.call, exactlyOne_noReturn_iff, FinSet.mem_mk, List.mem_filterMap, Option.eq_none_iff_forall_ne_some]
  exact ⟨fun h x hx w hw => h w ⟨x, hx, hw⟩, fun h w ⟨x, hx, hw⟩ => h x hx w hw⟩

theorem call_tooMany_iff (xs : List V) (k : Arg) :
    Spec.call (.set xs) k = .error .tooMany ↔
      ∃ v w, v ≠ w ∧ (∃ x ∈ xs, Spec.valAt k x = some v) ∧ (∃ x ∈ xs, Spec.valAt k x = some w) := by
  simp only [Spec.call, exactlyOne_tooMany_iff (FinSet.nodup_mk _), FinSet.mem_mk, List.mem_filterMap]

/-- `>>` / `>>>` keep every key with its attribute name (offsets and holes included):
the (key, name) pairs of the result are those of the operand -/
theorem mapVals_keeps_keys (f : F) (xs : List V) (R : V) (h : Spec.mapVals f (.set xs) = .ok R) (k : V) (n : String) :
    (∃ y ∈ Spec.members R, ∃ w, asPair y = some (k, n, w)) ↔ (∃ x ∈ xs, ∃ v, asPair x = some (k, n, v)) := by
  simp only [Spec.mapVals, mapMembers_eq] at h
  generalize Spec.modeOf (V.set xs) = m at h
  cases hm : mapE (Spec.mapMember m f) xs with
  | error e => rw [hm] at h; cases h
  | ok ys =>
    rw [hm] at h; cases h
    simp only [Spec.members, V.mkSet, FinSet.mem_mk, mapE_ok hm]
    constructor
    · rintro ⟨y, ⟨x, hx, hy⟩, w, hw⟩
      obtain ⟨k', n', v, w', hp, hq⟩ := mapMember_ok hy
      rw [hq] at hw; cases hw
      exact ⟨x, hx, v, hp⟩
    · rintro ⟨x, hx, v, hp⟩
      obtain ⟨y, hy⟩ : ∃ y, Spec.mapMember m f x = .ok y := by
        cases hh : Spec.mapMember m f x with
        | ok y => exact ⟨y, rfl⟩
        | error e =>
          have hn := mapE_none_iff.2 ⟨x, hx, congrArg Res.value? hh⟩
          rw [hm] at hn
          cases hn
      obtain ⟨k', n', v', w', hp', hq⟩ := mapMember_ok hy
      rw [hp] at hp'; cases hp'
      exact ⟨_, ⟨x, hx, hy⟩, w', hq⟩

/-! ### Part 2 — the Go code refines the specification -/

/-- calling ANY well-formed representation, keyed or not: one member that is neither a pair nor `()`
makes the call an error of class `other` (never "no value", so `?:` does not fall back); otherwise —
`true`, `'ab' | true` — the pairs answer as in `Spec.call` -/
theorem call_total (c : Coll) (k : Arg) (hwf : c.wf = true) : Impl.setCall c k = Spec.callAny c.den k := by
  rw [Coll.den, callAny_mkSet, Impl.setCall, collCallAll_eq c hwf]
  cases listCallAll c.members k with
  | error e => rfl
  | ok vs => exact exactlyOne_eq _

/-- on a keyed collection: the value, or the same class of error (no value / more than one) -/
theorem call_refines (c : Coll) (k : Arg) (hwf : c.wf = true) (hk : Spec.keyed c.den = true) :
    Impl.setCall c k = Spec.call c.den k := by
  rw [call_total c k hwf, callAny_of_keyed _ _ hk]

/-- two representations of the same set (keyed or not) answer every call identically -/
theorem call_rep_indep_total (c c' : Coll) (k : Arg) (hwf : c.wf = true) (hwf' : c'.wf = true)
    (hden : c.den = c'.den) : Impl.setCall c k = Impl.setCall c' k := by
  rw [call_total c k hwf, call_total c' k hwf', hden]

theorem call_rep_indep (c c' : Coll) (k : Arg) (hwf : c.wf = true) (hwf' : c'.wf = true)
    (hk : Spec.keyed c.den = true) (hden : c.den = c'.den) : Impl.setCall c k = Impl.setCall c' k := by
  rw [call_refines c k hwf hk, call_refines c' k hwf' (hden ▸ hk), hden]

theorem safecall_refines (c : Coll) (k : Arg) (d : V) (hwf : c.wf = true) (hk : Spec.keyed c.den = true) :
    Impl.safeCall c k d = Spec.safeCall c.den k d := by
  simp only [Impl.safeCall, Spec.safeCall, call_refines c k hwf hk]
  cases h : Spec.call c.den k with
  | ok v => rfl
  | error e => cases e <;> rfl

/-- the fallback of `c(k)?:d` is taken exactly in the no-value case (not for "more than one", not for any other error) -/
theorem safecall_fallback (c : Coll) (k : Arg) (d : V) (hwf : c.wf = true) (hk : Spec.keyed c.den = true) :
    (Impl.safeCall c k d).1 = true ↔ Spec.call c.den k = .error .noReturn := by
  rw [safecall_refines c k d hwf hk]
  simp only [Spec.safeCall]
  cases h : Spec.call c.den k with
  | ok v => simp
  | error e => cases e <;> simp

/-- `c(x)?:d` with an argument EXPRESSION that does not itself fail with a missing attribute; an argument that
fails otherwise is an error -/
theorem safecall_fallback_partial (c : Coll) (x : Spec.ArgX) (d : V) (hwf : c.wf = true)
    (hk : Spec.keyed c.den = true) (hx : x ≠ .missingAttr) :
    Impl.safeCallX c x d = Spec.safeCallX c.den x d := by
  cases x with
  | val a => exact safecall_refines c a d hwf hk
  | missingAttr => exact absurd rfl hx
  | otherErr => rfl

/-- what `Impl.safeCallX c x d = Spec.safeCallX c.den x d` says of the flag, without the side condition on `x`
(weaker than the equation, so its failure refutes the equation too); false: `safecall_fallback_full_false` -/
def safecall_fallback_full : Prop :=
  ∀ (c : Coll) (x : Spec.ArgX) (d : V), c.wf = true → Spec.keyed c.den = true →
    ((Impl.safeCallX c x d).1 = true ↔ ∃ a, x = .val a ∧ Spec.call c.den a = .error .noReturn)

/-- `>>` / `>>>` on a string, byte array, array or dictionary: the result means the operand's
meaning with every value transformed and every key kept; an error exactly when the specification
has one (a transformer error, or a non-char / non-byte result for a string / byte array) -/
theorem seqarrow_refines (f : F) (c : Coll) (h : c.isSugar = true) (hwf : c.wf = true) :
    (Impl.seqArrow f c).value?.map Coll.den = (Spec.mapVals f c.den).value? := by
  cases c with
  | one b =>
    cases b with
    | str off rs =>
      rw [Coll.den, mapVals_mkSet_mode (modeOf_string (charMember_str off rs))]
      exact seqArrow_str f off rs
    | bytes off bs =>
      rw [Coll.den, mapVals_mkSet_mode (modeOf_bytes (bytes_byte_not_char off bs hwf))]
      exact seqArrow_bytes f off bs
    | arr off vs =>
      rw [Coll.den, mapVals_mkSet_mode (modeOf_generic (arr_not_char_byte off vs))]
      exact seqArrow_arr f off vs
    | dict m =>
      rw [Coll.den, mapVals_mkSet_mode (modeOf_generic (dict_not_char_byte m))]
      exact seqArrow_dict f m
    | _ => cases h
  | _ => cases h

/-- every other set — relations, unions, `true`, sets that are not keyed at all — goes through the
generic loop and the set builder; whether it fails is exactly as specified (no hypothesis on the
result). `hm`: such a representation may still mean a string or a byte array (`.union [.str ..]`); the
loop then runs in generic mode, the specification in string / bytes mode -/
theorem seqarrow_set_error_iff (f : F) (c : Coll) (h : c.isSugar = false)
    (hm : Spec.modeOf c.den = .generic) :
    (Impl.seqArrow f c).value? = none ↔ (Spec.mapVals f c.den).value? = none := by
  rw [Coll.den] at hm ⊢
  rw [mapVals_mkSet, hm, seqArrow_set f c h]
  cases Spec.mapMembers .generic f c.members <;> simp [Res.value?]

theorem seqarrow_set_error_class (f : F) (c : Coll) (h : c.isSugar = false) (e : Err)
    (hi : Impl.seqArrow f c = .error e) : ∃ x ∈ c.members, Spec.mapMember .generic f x = .error e := by
  rw [seqArrow_set f c h, mapMembers_eq] at hi
  split at hi
  · cases hi
  · cases hi; exact mapE_error ‹_›

/-- the value is the specified one whenever that is representable (outside KF-superimposed / KF-bytes-holes) -/
theorem seqarrow_set_refines_partial (f : F) (c : Coll) (h : c.isSugar = false)
    (hm : Spec.modeOf c.den = .generic) (hrep : Spec.okRepresentable (Spec.mapVals f c.den) = true) :
    (Impl.seqArrow f c).value?.map Coll.den = (Spec.mapVals f c.den).value? := by
  rw [Coll.den] at hm hrep ⊢
  have hv := mapVals_mkSet f c.members
  rw [hm] at hv
  rw [seqArrow_set f c h, hv]
  cases hs : Spec.mapMembers .generic f c.members with
  | error e => rfl
  | ok ys => exact congrArg some (den_build_mkSet hrep (hv.trans (by rw [hs]; rfl)))

/-- in particular `>>` on a set that is not a set of pairs is an error -/
theorem seqarrow_nonkeyed_error (f : F) (c : Coll) (hk : Spec.keyed c.den = false) :
    (Impl.seqArrow f c).value? = none ∧ (Spec.mapVals f c.den).value? = none := by
  -- a member that is not a pair
  obtain ⟨x, hx, hp⟩ : ∃ x ∈ c.members, asPair x = none := by
    simpa only [Coll.den, V.mkSet, Spec.keyed, List.all_eq_false, FinSet.mem_mk, isPair,
      Bool.not_eq_true, Option.isSome_eq_false_iff, Option.isNone_iff_eq_none] using hk
  have herr : ∀ m, (Spec.mapMembers m f c.members).value? = none := fun m =>
    mapMembers_eq m f _ ▸ mapE_none_iff.2 ⟨x, hx, by simp [Spec.mapMember, hp, Res.value?]⟩
  have hsug : c.isSugar = false := by
    cases hs : c.isSugar with
    | false => rfl
    | true => rw [keyed_of_isSugar c hs] at hk; cases hk
  constructor
  · rw [seqArrow_set f c hsug]
    cases hs : Spec.mapMembers .generic f c.members with
    | error e => rfl
    | ok ys => cases hs ▸ herr .generic
  · rw [Coll.den, mapVals_mkSet, herr]
    rfl

/-- no hypothesis on the result; false: `seqarrow_full_false` -/
def seqarrow_full : Prop :=
  ∀ (f : F) (c : Coll), c.wf = true → (Impl.seqArrow f c).value?.map Coll.den = (Spec.mapVals f c.den).value?

/-- `a ++ b` means `a ∪ shift |a| b` (an error exactly when a member of `b` has no numeric `@`),
proved when that set is representable: a left operand whose element count is smaller than its extent
(offset or sparse) makes indices collide — KF-superimposed -/
theorem concat_refines_partial (a b : Coll) (hc : a.wfCount = true)
    (h : Spec.okRepresentable (Spec.concat a.den b.den) = true) :
    (Impl.concat a b).value?.map Coll.den = (Spec.concat a.den b.den).value? := by
  rw [Coll.den, Coll.den, concat_mkSet, ← Coll.den, ← count_eq_card a hc] at h ⊢
  unfold Impl.concat
  cases hs : Impl.shiftAll (Int.ofNat (Impl.count a)) b.members with
  | error e => rfl
  | ok ys =>
    rw [hs] at h
    exact congrArg some (den_build_mkSet h rfl)

/-- `Count()`, what `++` shifts the right operand by, of every representation (String with holes,
multi-valued Dict, Relation, UnionSet, …) -/
theorem count_is_card (a : Coll) (h : a.wfCount = true) : Impl.count a = Spec.card a.den :=
  count_eq_card a h

/-- `++` fails exactly when the specification does (whatever the operands) -/
theorem concat_error_iff (a b : Coll) :
    (Impl.concat a b).value? = none ↔ (Spec.concat a.den b.den).value? = none := by
  rw [Coll.den, Coll.den, concat_mkSet_none_iff _ _ (Int.ofNat (Impl.count a)), Impl.concat]
  cases Impl.shiftAll (Int.ofNat (Impl.count a)) b.members <;> simp [Res.value?]

/-- no hypothesis on the result; false: `concat_full_false` -/
def concat_full : Prop :=
  ∀ (a b : Coll), a.wf = true → b.wf = true → a.wfCount = true →
    (Impl.concat a b).value?.map Coll.den = (Spec.concat a.den b.den).value?

/-- `n \ s` on a string, byte array, array or the empty set: every index moved by `n`, nothing else -/
theorem offset_refines (c : Coll) (h : c.isSeq = true) (n : Int) :
    ∃ r, Impl.offset (.val (.num n)) c = .ok r ∧ Spec.offset (.val (.num n)) c.den = .ok r.den := by
  obtain ⟨name, off, slots, hn, hm, hoff⟩ := offset_of_isSeq h
  obtain ⟨r, hr, _, hrm⟩ := hoff n
  refine ⟨r, hr, ?_⟩
  simp only [Spec.offset, Coll.den, shift_mkSet, hm, hrm, shiftAll_seq name hn, Res.value?, Option.map_some]

/-- a non-integer or non-numeric offset is an error (it is not truncated) -/
theorem offset_bad_error (c : Coll) (n : Arg) (h : ∀ i, n ≠ .val (.num i)) :
    Impl.offset n c = .error .other ∧ Spec.offset n c.den = .error .other := by
  cases n with
  | frac m => exact ⟨rfl, rfl⟩
  | val v =>
    cases v with
    | num i => exact absurd rfl (h i)
    | tup _ => exact ⟨rfl, rfl⟩
    | set _ => exact ⟨rfl, rfl⟩

/-- offsets compose: `m \ (n \ s)` means `(m + n) \ s` -/
theorem offset_compose (c : Coll) (h : c.isSeq = true) (m n : Int) :
    ∃ r₁ r₂ r₃, Impl.offset (.val (.num n)) c = .ok r₁ ∧ Impl.offset (.val (.num m)) r₁ = .ok r₂ ∧
      Impl.offset (.val (.num (m + n))) c = .ok r₃ ∧ r₂.den = r₃.den := by
  obtain ⟨name, off, slots, hn, hm, hoff⟩ := offset_of_isSeq h
  obtain ⟨r₁, h1, hs1, hm1⟩ := hoff n
  obtain ⟨name', off', slots', hn', hm', hoff'⟩ := offset_of_isSeq hs1
  obtain ⟨r₂, h2, _, hm2⟩ := hoff' m
  obtain ⟨r₃, h3, _, hm3⟩ := hoff (m + n)
  refine ⟨r₁, r₂, r₃, h1, h2, h3, ?_⟩
  have e1 := shiftAll_seq name' hn' m off' slots'
  rw [← hm', hm1, shiftAll_seq name hn] at e1
  simp only [Except.ok.injEq] at e1
  simp only [Coll.den, hm2, hm3, ← e1]
  congr 2
  omega

/-- `n \ s` keeps `Count()` right, also for operands with holes; the result is again a sequence (on which
`wfCount` holds trivially) -/
theorem offset_result_counts (c : Coll) (h : c.isSeq = true) (n : Int) :
    ∃ r, Impl.offset (.val (.num n)) c = .ok r ∧ r.isSeq = true ∧ r.wfCount = true ∧
      Impl.count r = Spec.card r.den ∧ Impl.count r = Impl.count c := by
  obtain ⟨name, off, slots, hn, hm, hoff⟩ := offset_of_isSeq h
  obtain ⟨r, hr, hs, hrm⟩ := hoff n
  have hcr := count_eq_card r (wfCount_of_isSeq hs)
  refine ⟨r, hr, hs, wfCount_of_isSeq hs, hcr, ?_⟩
  rw [hcr, count_eq_card c (wfCount_of_isSeq h), card_den_of_seqMembers hn hrm, card_den_of_seqMembers hn hm]

/-- the results satisfy `Coll.wf`, which `call_refines` and `seqarrow_refines` ask for; `wfCount`, which
`concat_refines_partial` and `count_is_card` ask of the left operand, is established for results of `\` only -/
theorem results_wf (f : F) (a b : Coll) (n : Arg) (r : Coll) (ha : a.wf = true)
    (h : Impl.seqArrow f a = .ok r ∨ Impl.concat a b = .ok r ∨ Impl.offset n a = .ok r) : r.wf = true := by
  rcases h with h | h | h
  · exact wf_seqArrow h
  · exact wf_concat h
  · exact wf_offset ha h

/-! ### the full-strength statements are false, and the hypotheses are satisfiable -/

/-- `(2\'ab') ++ 'cd'`: the left operand has 2 elements at indices 2, 3, so 'cd' lands on 2, 3 too;
the specification's set has four members, the string that is built two -/
theorem concat_full_false : ¬ concat_full := by
  intro h
  exact absurd (h (.one (.str 2 [97, 98])) (.one (.str 0 [99, 100])) rfl rfl rfl) (by decide +kernel)

/-- a union holding two chars at index 0, mapped with the identity: the builder keeps one of them -/
theorem seqarrow_full_false : ¬ seqarrow_full := by
  intro h
  exact absurd (h (fun _ v => .ok v) (.union [.str 0 [97], .str 0 [98]]) rfl) (by decide +kernel)

/-- `'a'((a: 1).b)?:9`: the ARGUMENT expression fails with a missing attribute and the fallback is
taken although no call found "no value" (KF-safecall-arg-missing-attr) -/
theorem safecall_fallback_full_false : ¬ safecall_fallback_full := by
  intro h
  obtain ⟨a, ha, _⟩ := (h (.one (.str 0 [97])) .missingAttr (.num 9) rfl (by decide +kernel)).1 rfl
  cases ha

/-! values that meet the hypotheses of the theorems above -/

/-- mixed representation: a string with an offset and a hole, a dictionary with a two-valued key -/
abbrev ex_c : Coll := .union [.str (-2) [97, -1, 99], .dict [(.num 1, [.num 2, .num 3])]]
/-- a relation whose `>>` result is representable -/
abbrev ex_r : Coll := .one (.rel false "a" [(.num 5, .num 1), (.num 6, .num 2)])
/-- operands of `++` (offset right operand, different kinds) whose result is representable -/
abbrev ex_a : Coll := .one (.str 0 [97, 98])
abbrev ex_b : Coll := .one (.arr 3 [some (.num 1), none, some (.num 2)])

example :
    Coll.wf ex_c = true ∧ Spec.keyed (Coll.den ex_c) = true ∧
    (Impl.setCall ex_c (.val (.num (-2)))).value? = some (.num 97) ∧
    (Impl.setCall ex_c (.val (.num (-1)))).value? = none ∧
    (Impl.setCall ex_c (.val (.num 1))).value? = none := by decide +kernel

example :
    Coll.wfCount ex_c = true ∧ Impl.count ex_c = 4 ∧ Coll.wfCount ex_a = true ∧
    Spec.modeOf (Coll.den ex_r) = .generic ∧ Spec.modeOf (Coll.den ex_c) = .generic ∧
    Spec.keyed (Coll.den (Coll.union [Bucket.str 0 [97], Bucket.tt])) = false ∧
    (Spec.ArgX.otherErr ≠ .missingAttr) := by decide +kernel

example :
    Coll.isSugar ex_r = false ∧ Coll.wf ex_r = true ∧
    Spec.okRepresentable (Spec.mapVals (fun _ v => .ok v) (Coll.den ex_r)) = true ∧
    (Spec.mapVals (fun _ v => .ok v) (Coll.den ex_r)).value?.isSome = true := by decide +kernel

example :
    Spec.okRepresentable (Spec.concat (Coll.den ex_a) (Coll.den ex_b)) = true ∧
    (Spec.concat (Coll.den ex_a) (Coll.den ex_b)).value?.isSome = true ∧
    (Coll.one (.bytes 1 [7])).isSeq = true ∧ (Coll.one (.dict [(.num 1, [.num 2])])).isSugar = true := by decide +kernel

end Arrai.C05.Theorems
