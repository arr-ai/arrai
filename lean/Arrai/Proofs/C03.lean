/-
  C03 — values are immutable: deriving new values never changes existing ones.

  The property theorems (what every operation yields: Arrai/C03/Ops.lean, RelOps.lean; heap of Go backing arrays:
  Arrai/C03/Heap.lean; transliterated operations: Arrai/C03/Model.lean, Rel.lean).  Definitions the statements use that are in
  none of the model files: `Inv`, `InvWF` (Lemmas), `InvR`, `InvWFR` (RelLemmas), `NVal`, `nden`, `NLive`, `Agrees` (Nested),
  `snapO` (Refine), `Functional`, `Gapless` (Builder), `AuxOK` (RefineOps), `specVals` (here).

  The model runs HISTORIES: lists of operations, each naming earlier values as operands, so the
  same parent may be extended several times in different ways (branching).  Values are slice
  headers into a heap of backing arrays; `append` writes in place when `len < cap` and otherwise
  moves to a fresh array whose capacity an ORACLE chooses — every theorem is for all oracles, so
  none depends on Go's growth policy.

  Part 1: one step (`step_frame`, `step_writes_only_fresh`).
  Part 2: all histories (`C03_history`, `C03_let`, `C03_heap_prefix`).
  Part 3: the code as found (`append(s.s, c)`) violates all of this — concrete histories.
  Part 4: what the repaired `with` computes (the copy really is a copy of the old contents).
  Part 5: relations — headings (NamesSlice) and rows (Values) are slices too: the same theorems for histories of
          joins (all eight operators, on results of earlier joins), with/without/where/|/nest/unnest/rank/=>.
  Part 6: in-bounds well-formedness of every slice of every value (sequences and relations).
  Part 7: nested payloads — why array items may be held as denotations (reference-following view, reduction theorem).
  Part 8: refinement, step by step — the results of with / without / offset, of what goes through the set builder and of six
          //seq functions denote what `Spec` says.
  Part 9: the write sites of rel/ and syntax/std_seq*.go are the ones this model was written against, and the
          callees they rely on still return slices of their own.
-/
import Arrai.C03.Lemmas
import Arrai.C03.RelLemmas
import Arrai.C03.Nested
import Arrai.C03.RefineOps
import Arrai.C03.RefineSeq
import Arrai.C03.Expected
import Arrai.Facts.Generated

namespace Arrai.C03.Theorems
open Arrai.C03 Arrai.C03.Impl Arrai.C03.Rel

/-! ### Part 1 — one operation -/

/-- Invariant `Inv`: the slice of every value created so far points into the heap (its array exists).
One (repaired) operation keeps it, and leaves the snapshot — the denotation read through the heap —
of EVERY value created so far unchanged, whatever capacities the runtime chooses. -/
theorem step_frame (orc : Oracle) (st : St) (inv : Inv st) (op : Op) :
    Inv (step true orc st op) ∧ ∀ x, x ∈ st.vals → snap (step true orc st op).h x = snap st.h x :=
  ⟨inv.step orc op, fun x hx => snap_frame (run1_frame orc st op) (inv x hx)⟩

/-- … because it stores only into backing arrays it allocated itself: no cell of an array that
existed before the operation is written — neither inside `[lo, lo+len)` of a live slice nor in the
spare capacity `[lo+len, lo+cap)` behind it.  (This half holds of any state: `run1_frame` does not ask for `inv`.) -/
theorem step_writes_only_fresh (orc : Oracle) (st : St) (inv : Inv st) (op : Op) (a : Nat) (ha : a < st.h.length) :
    (step true orc st op).h.getD a [] = st.h.getD a [] :=
  (run1_frame orc st op).2 a ha

/-! ### Part 2 — all branching histories -/

/-- For ALL histories `pre ++ post` and ALL capacity oracles: a value that exists after `pre` is still the
k-th value after any continuation `post`, and its snapshot then is the snapshot it had when `pre` ended —
in particular (take `pre` ending with its creation) the one it had when it was created. -/
theorem C03_history (orc : Oracle) (pre post : List Op) (k : Nat) (x : HVal)
    (hk : (runAll true orc pre init).vals[k]? = some x) :
    (runAll true orc (pre ++ post) init).vals[k]? = some x ∧
      snap (runAll true orc (pre ++ post) init).h x = snap (runAll true orc pre init).h x :=
  have ⟨f, v⟩ := history_frame orc init pre post
  ⟨v k x hk, snap_frame f (inv_init.run orc pre x (List.mem_of_getElem? hk))⟩

/-- A `let`-bound name denotes the same value at every use: reading value `k` after `pre ++ mid` and
after `pre ++ mid ++ post` (two uses, with arbitrary derivations from it or anything else in between) gives
the same `V`. -/
theorem C03_let (orc : Oracle) (pre mid post : List Op) (k : Nat) (x : HVal)
    (hk : (runAll true orc pre init).vals[k]? = some x) :
    snap (runAll true orc (pre ++ mid ++ post) init).h x = snap (runAll true orc (pre ++ mid) init).h x := by
  have a := (C03_history orc pre mid k x hk).2
  have b := (C03_history orc pre (mid ++ post) k x hk).2
  rw [← List.append_assoc] at b
  rw [a, b]

/-- the heap only grows: the backing arrays present after `pre` are bit-for-bit the same after `pre ++ post` -/
theorem C03_heap_prefix (orc : Oracle) (pre post : List Op) (a : Nat) (ha : a < (runAll true orc pre init).h.length) :
    (runAll true orc (pre ++ post) init).h.getD a [] = (runAll true orc pre init).h.getD a [] :=
  (history_frame orc init pre post).1.2 a ha

/-- non-vacuity: the hypotheses are met by a real branching history (one parent extended twice, then the
first child extended) and the conclusion talks about a slice-backed value -/
example : ∃ x, (runAll true (fun _ => 1)
      [.root .S 0 [some (.num 97), some (.num 98)], .with_ 0 .S 2 (.num 99), .with_ 0 .S 2 (.num 100)] init).vals[1]?
      = some x ∧ x.slice?.isSome = true := ⟨_, rfl, rfl⟩

/-! ### Part 3 — the code as found: `append(s.s, c)` onto a shared backing array -/

def abc : List Cell := [some (.num 97), some (.num 98), some (.num 99)]

/-- `let a = 'abc'; let b = a with (@:3,@char:100); let c = a with (@:3,@char:101); [b, c]` -/
def siblings : List Op := [.root .S 0 abc, .with_ 0 .S 3 (.num 100), .with_ 0 .S 3 (.num 101)]

/-- `let a = 'abc'; let b = a without (@:2,@char:99); let c = b with (@:2,@char:100); [a, b, c]` -/
def ancestor : List Op := [.root .S 0 abc, .without 0 .S 2 (.num 99), .with_ 1 .S 2 (.num 100)]

/-- `let a = <<1,2,3>>; let b = a without (@:2,@byte:3); let c = b with (@:2,@byte:9); [a, b, c]` -/
def ancestorBytes : List Op :=
  [.root .B 0 [some (.num 1), some (.num 2), some (.num 3)], .without 0 .B 2 (.num 3), .with_ 1 .B 2 (.num 9)]

/-- the runtime gave the literal one spare cell (`[]rune("abc")` has capacity 4) -/
def spare1 : Oracle := fun _ => 1

/-- siblings alias: `b` was 'abcd' when it was created and is 'abce' once `c` exists -/
theorem alias_before_repair_siblings :
    cells (runAll false spare1 (siblings.take 2) init).h ((runAll false spare1 (siblings.take 2) init).vals.getD 1 .err)
      = abc ++ [some (.num 100)] ∧
    cells (runAll false spare1 siblings init).h ((runAll false spare1 siblings init).vals.getD 1 .err)
      = abc ++ [some (.num 101)] := by decide +kernel

/-- a descendant overwrites its ANCESTOR: `a` itself changes from 'abc' to 'abd' -/
theorem alias_before_repair_ancestor :
    cells (runAll false spare1 (ancestor.take 1) init).h ((runAll false spare1 (ancestor.take 1) init).vals.getD 0 .err)
      = abc ∧
    cells (runAll false spare1 ancestor init).h ((runAll false spare1 ancestor init).vals.getD 0 .err)
      = [some (.num 97), some (.num 98), some (.num 100)] := by decide +kernel

/-- the same through `Bytes.Without`'s re-slice `b.b[:len-1]` (needs no spare capacity at all) -/
theorem alias_before_repair_bytes :
    cells (runAll false (fun _ => 0) ancestorBytes init).h ((runAll false (fun _ => 0) ancestorBytes init).vals.getD 0 .err)
      = [some (.num 1), some (.num 2), some (.num 9)] := by decide +kernel

/-- the full-strength statement about the code as found … -/
def C03_history_unrepaired : Prop :=
  ∀ (orc : Oracle) (pre post : List Op) (k : Nat) (x : HVal), (runAll false orc pre init).vals[k]? = some x →
    cells (runAll false orc (pre ++ post) init).h x = cells (runAll false orc pre init).h x

/-- … is false -/
theorem C03_history_unrepaired_false : ¬ C03_history_unrepaired := by
  intro h
  have := h spare1 (siblings.take 2) (siblings.drop 2) 1 _ rfl
  revert this
  decide +kernel

/-- with the repair the three histories leave every earlier value as it was (what `C03_history` says of them, seen on
the cells, by evaluation) -/
theorem witnesses_after_repair :
    cells (runAll true spare1 siblings init).h ((runAll true spare1 siblings init).vals.getD 1 .err)
      = abc ++ [some (.num 100)] ∧
    cells (runAll true spare1 ancestor init).h ((runAll true spare1 ancestor init).vals.getD 0 .err) = abc ∧
    cells (runAll true (fun _ => 0) ancestorBytes init).h ((runAll true (fun _ => 0) ancestorBytes init).vals.getD 0 .err)
      = [some (.num 1), some (.num 2), some (.num 3)] := by decide +kernel

/-! ### Part 4 — the repaired `with` computes the right value -/

/-- `String.with` / `Bytes.with` at the end, as repaired: the new value reads as the old contents followed by the new
element (for any in-bounds slice, any oracle) — the copy is a copy, and it is the parent that stays untouched -/
theorem with_at_end_appends (orc : Oracle) (k : Kind) (h : Heap) (s : Slice) (off : Int) (aux : Nat) (c : V)
    (w : s.WF h) :
    cells (seqWith true orc k h s off aux (off + s.len) c).1 (seqWith true orc k h s off aux (off + s.len) c).2
      = read h s ++ [some c] ∧
    read (seqWith true orc k h s off aux (off + s.len) c).1 s = read h s :=
  ⟨seqWith_end_cells orc k h s off aux c,
   read_frame (yields_seqWith SliceInv.inHeap orc k h s off aux _ c w.arr).1 s w.arr⟩

/-- `with` at the end on any value of any history (`hx` is not needed: `seqWith_end_cells`, which this is, holds of any heap
and slice) -/
theorem with_at_end_appends_in_history (orc : Oracle) (ops : List Op) (i : Nat) (k : Kind) (s : Slice) (off : Int)
    (aux : Nat) (c : V) (hx : (runAll true orc ops init).vals[i]? = some (.seq k s off aux)) :
    cells (seqWith true orc k (runAll true orc ops init).h s off aux (off + s.len) c).1
        (seqWith true orc k (runAll true orc ops init).h s off aux (off + s.len) c).2
      = read (runAll true orc ops init).h s ++ [some c] :=
  seqWith_end_cells orc k _ s off aux c

/-! ### Part 5 — relations: headings and rows are slices too -/

/-- one repaired operation on relations keeps the invariant (heading and every row of every value created so far lie in
the heap) and leaves what EVERY earlier relation denotes — heading and rows, read through the heap — unchanged -/
theorem rel_step_frame (orc : Oracle) (st : Rel.Impl.St) (inv : InvR st) (op : ROp) :
    InvR (Rel.Impl.step Rel.Impl.repaired orc st op) ∧
      ∀ x, x ∈ st.vals → snapR (Rel.Impl.step Rel.Impl.repaired orc st op).h x = snapR st.h x := by
  have ⟨f, l⟩ := yieldsR_run1 SliceInv.inHeap orc st inv op
  exact ⟨forall_mem_snoc (fun x hx => (inv x hx).mono f.1) l, fun x hx => snapR_frame f (inv x hx)⟩

/-- … because it stores only into arrays it allocated itself: the joins' `append`s (row and heading) included (of any
state: `Rel.run1_frame` does not ask for `inv`) -/
theorem rel_step_writes_only_fresh (orc : Oracle) (st : Rel.Impl.St) (inv : InvR st) (op : ROp) (a : Nat)
    (ha : a < st.h.length) : (Rel.Impl.step Rel.Impl.repaired orc st op).h.getD a [] = st.h.getD a [] :=
  (Rel.run1_frame orc st op).2 a ha

/-- For ALL histories of relational operations (literals, the eight joins on any earlier values — results of earlier
joins included, the same parent joined any number of times —, with, without, where, |, nest, unnest, rank, =>) and ALL
capacity oracles: a relation that exists after `pre` denotes after any continuation what it denoted then -/
theorem C03_rel_history (orc : Oracle) (pre post : List ROp) (k : Nat) (x : RVal)
    (hk : (Rel.Impl.runAll Rel.Impl.repaired orc pre Rel.Impl.init).vals[k]? = some x) :
    (Rel.Impl.runAll Rel.Impl.repaired orc (pre ++ post) Rel.Impl.init).vals[k]? = some x ∧
      snapR (Rel.Impl.runAll Rel.Impl.repaired orc (pre ++ post) Rel.Impl.init).h x =
        snapR (Rel.Impl.runAll Rel.Impl.repaired orc pre Rel.Impl.init).h x :=
  have inv : InvR (Rel.Impl.runAll Rel.Impl.repaired orc pre Rel.Impl.init) :=
    foldl_inv (fun st op inv => (rel_step_frame orc st inv op).1) pre (fun _ hx => nomatch hx)
  have ⟨f, v⟩ := history_append (fun st : Rel.Impl.St => st.h) (fun st => st.vals)
    (Rel.Impl.step Rel.Impl.repaired orc) (Rel.run1_frame orc) (fun _ _ => ⟨_, rfl⟩) Rel.Impl.init pre post
  ⟨v k x hk, snapR_frame f (inv x (List.mem_of_getElem? hk))⟩

def n1 (n : Int) : V := .num n

/-- `let A = {|a,b,c| (1,2,3)}; let x = A <&> {|a,d| (1,4)}; let y = A <&> {|a,e| (1,5)}; x` -/
def relHeading : List ROp :=
  [.lit [0, 1, 2] [[n1 1, n1 2, n1 3]], .lit [0, 3] [[n1 1, n1 4]], .lit [0, 4] [[n1 1, n1 5]],
   .join .join 0 1, .join .join 0 2]

/-- `let x = {|a,b| (1,2)} <&> {|c| (3)}; let y = x <&> {|d| (4)}; let z = x <&> {|d| (5)}; y` -/
def relRows : List ROp :=
  [.lit [0, 1] [[n1 1, n1 2]], .lit [2] [[n1 3]], .join .join 0 1, .lit [3] [[n1 4]], .lit [3] [[n1 5]],
   .join .join 2 3, .join .join 2 4]

/-- the heading as found (`append(leftOutput, rightOutput...)`): `x`'s heading a,b,c,d turns into a,b,c,e when `y` is made -/
theorem rel_alias_heading_before_repair :
    (rcells (Rel.Impl.runAll ⟨false, true⟩ (fun _ => 1) (relHeading.take 4) Rel.Impl.init).h
      ((Rel.Impl.runAll ⟨false, true⟩ (fun _ => 1) (relHeading.take 4) Rel.Impl.init).vals.getD 3 .err)).head?
      = some [nameCell 0, nameCell 1, nameCell 2, nameCell 3] ∧
    (rcells (Rel.Impl.runAll ⟨false, true⟩ (fun _ => 1) relHeading Rel.Impl.init).h
      ((Rel.Impl.runAll ⟨false, true⟩ (fun _ => 1) relHeading Rel.Impl.init).vals.getD 3 .err)).head?
      = some [nameCell 0, nameCell 1, nameCell 2, nameCell 4] := by decide +kernel

/-- if `projectedValues.values()` handed out the row itself for an identity projection, `JoinKeepEverything` would append in
place into a row that an earlier join left with spare capacity: `y`'s row 1,2,3,4 turns into 1,2,3,5 when `z` is made -/
theorem rel_alias_rows_if_values_returns_row :
    (rcells (Rel.Impl.runAll ⟨true, false⟩ (fun _ => 1) (relRows.take 6) Rel.Impl.init).h
      ((Rel.Impl.runAll ⟨true, false⟩ (fun _ => 1) (relRows.take 6) Rel.Impl.init).vals.getD 5 .err)).tail
      = [[some (n1 1), some (n1 2), some (n1 3), some (n1 4)]] ∧
    (rcells (Rel.Impl.runAll ⟨true, false⟩ (fun _ => 1) relRows Rel.Impl.init).h
      ((Rel.Impl.runAll ⟨true, false⟩ (fun _ => 1) relRows Rel.Impl.init).vals.getD 5 .err)).tail
      = [[some (n1 1), some (n1 2), some (n1 3), some (n1 5)]] := by decide +kernel

/-- with both repairs (`Rel.Impl.repaired`) the two histories leave `x` / `y` as they were -/
theorem rel_witnesses_after_repair :
    (rcells (Rel.Impl.runAll Rel.Impl.repaired (fun _ => 1) relHeading Rel.Impl.init).h
      ((Rel.Impl.runAll Rel.Impl.repaired (fun _ => 1) relHeading Rel.Impl.init).vals.getD 3 .err)).head?
      = some [nameCell 0, nameCell 1, nameCell 2, nameCell 3] ∧
    (rcells (Rel.Impl.runAll Rel.Impl.repaired (fun _ => 1) relRows Rel.Impl.init).h
      ((Rel.Impl.runAll Rel.Impl.repaired (fun _ => 1) relRows Rel.Impl.init).vals.getD 5 .err)).tail
      = [[some (n1 1), some (n1 2), some (n1 3), some (n1 4)]] := by decide +kernel

/-! ### Part 6 — in-bounds well-formedness: every slice of every value lies inside its backing array -/

/-- one (repaired) operation keeps every existing value's slice inside its array — it never changes the length of an
array — and yields a value whose slice `[lo, lo+len) ⊆ [lo, lo+cap)` lies inside its array: none of the model's
re-slices (`s[1:]`, `s[:len-1]`, `b.b[:i]`, `values[i:j]` of patterns, //seq.split pieces, trim_prefix/suffix) goes out
of bounds, so Go would not have panicked where the model goes on -/
theorem wf_step (orc : Oracle) (st : St) (inv : InvWF st) (op : Op) : InvWF (step true orc st op) := by
  have y := yields_run1 SliceInv.wf orc st (fun x hx => wfh_iff.1 (inv x hx)) op
  exact forall_mem_snoc (fun x hx => (inv x hx).shape y.1.shape) (wfh_iff.2 y.2)

/-- in every history, from the empty heap, for every oracle, every value is well-formed at every later time -/
theorem C03_wf_history (orc : Oracle) (ops : List Op) : InvWF (runAll true orc ops init) :=
  foldl_inv (fun st op inv => wf_step orc st inv op) ops (fun _ hx => nomatch hx)

/-- the same for relations: heading and every row of every relation of every history lie inside their arrays -/
theorem rel_wf_step (orc : Oracle) (st : Rel.Impl.St) (inv : InvWFR st) (op : ROp) :
    InvWFR (Rel.Impl.step Rel.Impl.repaired orc st op) := by
  have y := yieldsR_run1 SliceInv.wf orc st inv op
  exact forall_mem_snoc (fun x hx => (inv x hx).shape y.1.shape) y.2

theorem C03_rel_wf_history (orc : Oracle) (ops : List ROp) :
    InvWFR (Rel.Impl.runAll Rel.Impl.repaired orc ops Rel.Impl.init) :=
  foldl_inv (fun st op inv => rel_wf_step orc st inv op) ops (fun _ hx => nomatch hx)

/-! ### Part 7 — nested payloads: array items held as denotations vs. references followed through the heap

The tree of `C03_nested_history` is any tree: that it is live and agrees with the model's cells after `pre` is assumed, not
derived from the values of the history. -/

/-- The reduction behind "array items are denotations".  Take ANY tree of payload slices `x` (an array whose cells refer
to strings, to arrays of strings, …, to any depth) that lies in the heap after `pre` and whose array cells, in the model,
hold the denotations of the items referred to.  After ANY continuation `post`, for ANY oracle:
(1) the model's snapshot of the root equals the denotation obtained by FOLLOWING the references through the current heap;
(2) that denotation is the one it had after `pre` — no operation wrote into an item's payload, because operations only read
or copy item references and store only into arrays they allocated themselves (`step_writes_only_fresh`). -/
theorem C03_nested_history (orc : Oracle) (pre post : List Op) (x : NVal)
    (l : NLive (runAll true orc pre init).h x) (a : Agrees (runAll true orc pre init).h x) :
    snap (runAll true orc (pre ++ post) init).h x.toH = nden (runAll true orc (pre ++ post) init).h x ∧
      nden (runAll true orc (pre ++ post) init).h x = nden (runAll true orc pre init).h x ∧
      Agrees (runAll true orc (pre ++ post) init).h x :=
  have f := (history_frame orc init pre post).1
  ⟨snap_eq_nden x (agrees_frame f x l a), nden_frame f x l, agrees_frame f x l a⟩

/-- non-vacuity: `let s = 'abc'; let a = [s]` — the array's cell holds the string's denotation; the tree
`arr (slice of a) [flat (slice of s)]` is live and agrees with the model in the heap the history built -/
example :
    let st := runAll true spare1 [.root .S 0 abc, .root .A 0 [some (V.mkSeq "@char" 0 abc)]] init
    NLive st.h (.arr ⟨1, 0, 1, 2⟩ 0 [some (.flat .S ⟨0, 0, 3, 4⟩ 0)]) ∧
      Agrees st.h (.arr ⟨1, 0, 1, 2⟩ 0 [some (.flat .S ⟨0, 0, 3, 4⟩ 0)]) := by
  refine ⟨⟨by decide, by (show (0 : Nat) < _; decide), trivial⟩, ⟨rfl, trivial, trivial⟩⟩

/-! ### Part 8 — refinement: what an operation yields over the heap DENOTES what the specification says

One step at a time.  `InvWF` holds along every history (`C03_wf_history`); the other hypotheses (`AuxOK`, `validElem`, dense and
non-empty operands, `Functional` / `Gapless`) are assumed of the step's operands and are not shown to be kept by `run1`: there
is no theorem `specVals (runAll …) = Spec.run …` for a whole history. -/

/-- the values so far as the specification sees them: their snapshots (`none` for a failed step) -/
def specVals (st : St) : List (Option V) := st.vals.map (fun x => snapO (st.h, x))

private theorem getV_specVals (st : St) (i : Nat) : Spec.getV (specVals st) i = snapO (st.h, st.vals.getD i .err) := by
  unfold Spec.getV specVals List.getD
  rw [List.getElem?_map]
  cases st.vals[i]? with
  | none => rfl
  | some x => simp

/-- `vI with (@: at, @char|@byte|@item: c)`, whatever `vI` is (String, Bytes, Array — at an end, on a present element, into
a hole, beyond an end, onto an occupied index —, a generic set, the empty set, a failed value): the result read through
the heap is `Spec.with_` of the operand's snapshot.  No hypothesis beyond the history's own invariant. -/
theorem with_refines_spec (orc : Oracle) (st : St) (inv : InvWF st) (i : Nat) (k : Kind) (at_ : Int) (c : V) :
    snapO (run1 true orc st (.with_ i k at_ c)) = Spec.step (specVals st) (.with_ i k at_ c) := by
  dsimp only [run1, Spec.step]
  simp only [getV_specVals]
  exact withV_refines orc st.h _ k at_ c (inv.getD i)

/-- `vI without (…)` for an operand of the tuple's kind (or a generic set) whose cached count agrees with its cells -/
theorem without_refines_spec (orc : Oracle) (st : St) (inv : InvWF st) (i : Nat) (k : Kind) (at_ : Int) (c : V)
    (haux : AuxOK st.h (st.vals.getD i .err))
    (hkind : ∀ k' s off aux, st.vals.getD i .err = .seq k' s off aux → k' = k) :
    snapO (run1 true orc st (.without i k at_ c)) = Spec.step (specVals st) (.without i k at_ c) := by
  dsimp only [run1, Spec.step]
  simp only [getV_specVals]
  exact withoutV_refines st.h _ k at_ c (inv.getD i) haux hkind

/-- `n\vI` for a String, Bytes or Array that the specification recognises as a sequence -/
theorem offset_refines_spec (orc : Oracle) (st : St) (inv : InvWF st) (i : Nat) (n : Int) (k : Kind) (s : Slice) (off : Int)
    (aux : Nat) (hx : st.vals.getD i .err = .seq k s off aux)
    (hseq : Spec.isSeqOrEmpty (snap st.h (.seq k s off aux)) = true) :
    snapO (run1 true orc st (.offset i n)) = Spec.step (specVals st) (.offset i n) := by
  have w : s.WF st.h := by have := inv.getD i; rw [hx] at this; exact this
  show snapO (st.h, offsetV st.h (st.vals.getD i .err) n) = (Spec.getV (specVals st) i).bind (Spec.offset n)
  rw [getV_specVals, hx, snapO_seq]
  exact offsetV_refines st.h k s off aux n w hseq

/-- `vI ++ vJ`, computed as "specification, then the set builder": the result denotes the specified set whenever the
builder can hold it — no two members at one index with different values, byte tuples without gaps (`viaBuilder_refines`
is the argument, for every operation computed that way) -/
theorem concat_refines_spec (orc : Oracle) (st : St) (i j : Nat)
    (hi : st.vals.getD i .err ≠ .err) (hj : st.vals.getD j .err ≠ .err)
    (hf : ∀ v, Spec.concat (snap st.h (st.vals.getD i .err)) (snap st.h (st.vals.getD j .err)) = some v →
      ∀ k ps, decodeSeq v = some (k, ps) → Functional ps ∧ (k = .B → Gapless ps)) :
    snapO (run1 true orc st (.concat i j)) = Spec.step (specVals st) (.concat i j) := by
  dsimp only [run1, Spec.step]
  simp only [getV_specVals, snapO_of_ne_err hi, snapO_of_ne_err hj, Option.bind_some]
  apply viaBuilder_refines _ _ _ hf
  intro v hv
  unfold Spec.concat at hv
  split at hv
  · simp at hv; exact ⟨_, hv.symm⟩
  · simp at hv

/-- the //seq functions (trim_prefix, trim_suffix and sub on strings and byte arrays, split on all three kinds, repeat on
strings and arrays, concat on strings): for dense, non-empty operands of admissible elements (chars are non-negative numbers,
bytes are bytes) the value the model yields — a re-slice of the subject for bytes' trim_prefix / trim_suffix, a fresh array
otherwise — denotes what the specification says (for trim_prefix whether or not the slices lie inside their arrays: its proof
does not ask for `inv`) -/
theorem seq_trimPrefix_refines_spec (orc : Oracle) (st : St) (inv : InvWF st) (p s : Nat) {kp ks : Kind} {sp ss : Slice}
    {xp xs : List V} (hp : denseCells st.h (st.vals.getD p .err) = some (kp, sp, xp))
    (hs : denseCells st.h (st.vals.getD s .err) = some (ks, ss, xs)) (hk : ks ≠ .A) (hnp : xp ≠ []) (hns : xs ≠ [])
    (hvp : ∀ y, y ∈ xp → validElem kp y = true) (hvs : ∀ y, y ∈ xs → validElem ks y = true) :
    snapO (run1 true orc st (.trimPrefix p s)) = Spec.step (specVals st) (.trimPrefix p s) := by
  have rs := (denseCells_spec hs).2
  dsimp only [Spec.step, run1]
  simp only [getV_specVals, Spec.trimPrefix, seq2_dense _ hp hs hnp hns hvp hvs, hp, hs]
  by_cases hkk : kp = ks
  · subst hkk
    simp only [ne_eq, not_true_eq_false, if_false, if_true]
    cases kp with
    | A => exact absurd rfl hk
    | S => exact snapO_freshSeq _ _ _ _
    | B =>
      simp only []
      split
      · rw [snapO_newOffsetBytes, read_reslice_from st.h ss xp.length, rs]
        simp only [Spec.enc, List.map_drop]
      · rw [snapO_seq, rs]; rfl
  · simp [hkk, snapO]

/-- here `inv` is needed: reading the re-slice `ss[:len - n]` of Bytes needs the subject inside its array -/
theorem seq_trimSuffix_refines_spec (orc : Oracle) (st : St) (inv : InvWF st) (p s : Nat) {kp ks : Kind} {sp ss : Slice}
    {xp xs : List V} (hp : denseCells st.h (st.vals.getD p .err) = some (kp, sp, xp))
    (hs : denseCells st.h (st.vals.getD s .err) = some (ks, ss, xs)) (hk : ks ≠ .A) (hnp : xp ≠ []) (hns : xs ≠ [])
    (hvp : ∀ y, y ∈ xp → validElem kp y = true) (hvs : ∀ y, y ∈ xs → validElem ks y = true) :
    snapO (run1 true orc st (.trimSuffix p s)) = Spec.step (specVals st) (.trimSuffix p s) := by
  obtain ⟨ws, hlen, rs⟩ := denseCells_wf hs (inv.getD s)
  dsimp only [Spec.step, run1]
  simp only [getV_specVals, Spec.trimSuffix, seq2_dense _ hp hs hnp hns hvp hvs, hp, hs]
  by_cases hkk : kp = ks
  · subst hkk
    simp only [ne_eq, not_true_eq_false, if_false, if_true]
    cases kp with
    | A => exact absurd rfl hk
    | S => exact snapO_freshSeq _ _ _ _
    | B =>
      simp only []
      split
      · rw [snapO_newOffsetBytes, read_reslice_to st.h ss _ (by omega), rs]
        simp only [Spec.enc, List.map_take, hlen]
      · rw [snapO_seq, rs]; rfl
  · simp [hkk, snapO]

theorem seq_sub_refines_spec (orc : Oracle) (st : St) (o n s : Nat) {ko kn ks : Kind} {so sn ss : Slice} {xo xn xs : List V}
    (ho : denseCells st.h (st.vals.getD o .err) = some (ko, so, xo)) (hn : denseCells st.h (st.vals.getD n .err) = some (kn, sn, xn))
    (hs : denseCells st.h (st.vals.getD s .err) = some (ks, ss, xs)) (hk : ks ≠ .A)
    (hno : xo ≠ []) (hnn : xn ≠ []) (hns : xs ≠ [])
    (hvo : ∀ y, y ∈ xo → validElem ko y = true) (hvn : ∀ y, y ∈ xn → validElem kn y = true) (hvs : ∀ y, y ∈ xs → validElem ks y = true) :
    snapO (run1 true orc st (.sub o n s)) = Spec.step (specVals st) (.sub o n s) := by
  dsimp only [Spec.step]
  simp only [getV_specVals, snapO_of_denseCells ho, snapO_of_denseCells hn, snapO_of_denseCells hs, Option.bind_some]
  dsimp only [run1]
  simp only [ho, hn, hs, Spec.sub, dense_enc ko xo hno hvo, dense_enc kn xn hnn hvn, dense_enc ks xs hns hvs]
  by_cases hkk : ko = ks ∧ kn = ks
  · obtain ⟨rfl, rfl⟩ := hkk
    -- `hk` (in the context) is what lets `simp` choose the `| k => freshSeq …` alternative of `run1`'s match on `ks`
    simp only [ne_eq, not_true_eq_false, or_self, if_false, and_self, if_true]
    exact snapO_freshSeq _ _ _ _
  · have : ko ≠ ks ∨ kn ≠ ks := by
      by_cases h1 : ko = ks
      · right; intro h2; exact hkk ⟨h1, h2⟩
      · left; exact h1
    simp [this, hkk, snapO]

theorem seq_split_refines_spec (orc : Oracle) (st : St) (d s : Nat) {kd ks : Kind} {sd ss : Slice} {xd xs : List V}
    (hd : denseCells st.h (st.vals.getD d .err) = some (kd, sd, xd)) (hs : denseCells st.h (st.vals.getD s .err) = some (ks, ss, xs))
    (hnd : xd ≠ []) (hns : xs ≠ []) (hvd : ∀ y, y ∈ xd → validElem kd y = true) (hvs : ∀ y, y ∈ xs → validElem ks y = true) :
    snapO (run1 true orc st (.split d s)) = Spec.step (specVals st) (.split d s) := by
  dsimp only [Spec.step, run1]
  simp only [getV_specVals, Spec.split, seq2_dense _ hd hs hnd hns hvd hvs, hd, hs]
  by_cases hkk : kd = ks
  · subst hkk
    simp only [ne_eq, not_true_eq_false, if_false, if_true]
    rw [snapO_freshSeq]; rfl
  · simp [hkk, snapO]

theorem seq_repeat_refines_spec (orc : Oracle) (st : St) (n i : Nat) {k : Kind} {s : Slice} {xs : List V}
    (hs : denseCells st.h (st.vals.getD i .err) = some (k, s, xs)) (hk : k ≠ .B) (hns : xs ≠ [])
    (hvs : ∀ y, y ∈ xs → validElem k y = true) :
    snapO (run1 true orc st (.repeat_ n i)) = Spec.step (specVals st) (.repeat_ n i) := by
  dsimp only [Spec.step]
  simp only [getV_specVals, snapO_of_denseCells hs, Option.bind_some]
  have d1 := dense_enc k xs hns hvs
  cases k with
  | B => exact absurd rfl hk
  | S =>
    dsimp only [run1]
    simp only [hs, Spec.repeat_, d1]
    rw [snapO_freshSeq]; simp
  | A =>
    dsimp only [run1]
    simp only [hs, Spec.repeat_, d1]
    have w0 := wf_mkSlice st.h none 0 0
    rw [snapO_newOffsetArray (Made.appendAll orc none _ (Made.mkSlice st.h none 0 0)).wf, read_appendAll orc none _ _ w0, read_mkSlice_self]
    simp only [Spec.enc, List.replicate_zero, List.nil_append, if_neg (by decide : ¬ Kind.A = Kind.B)]
    congr 2
    induction n with
    | zero => rfl
    | succ m _ => simp [List.replicate_succ]

theorem seq_concat_refines_spec (orc : Oracle) (st : St) (i j : Nat) {si sj : Slice} {xi xj : List V}
    (hi : denseCells st.h (st.vals.getD i .err) = some (.S, si, xi)) (hj : denseCells st.h (st.vals.getD j .err) = some (.S, sj, xj))
    (hni : xi ≠ []) (hnj : xj ≠ []) (hvi : ∀ y, y ∈ xi → validElem .S y = true) (hvj : ∀ y, y ∈ xj → validElem .S y = true) :
    snapO (run1 true orc st (.sconcat i j)) = Spec.step (specVals st) (.sconcat i j) := by
  dsimp only [Spec.step, run1]
  simp only [getV_specVals, hi, hj, ne_eq, not_true_eq_false, if_false]
  exact (snapO_freshSeq _ _ _ _).trans (seq2_dense (fun k x y => some (Spec.enc k (x ++ y))) hi hj hni hnj hvi hvj).symm

/-! ### Part 9 — regenerated facts: the write sites of rel/ and syntax/std_seq*.go -/

/-- every `x[i] = v`, `append(x, …)`, `copy(x, …)` whose destination is not a slice made in the same function:
the inventory the model was written against (a new in-place write in rel/ breaks this) -/
theorem writeSites_nonfresh_as_expected : Facts.Generated.c03_nonfresh = Expected.nonfresh := rfl

/-- the number of write sites per file and root class is the expected one -/
theorem writeSites_summary_as_expected : Facts.Generated.c03_summary = Expected.summary := rfl

/-- each non-fresh site carries its accounting (`Cover`) by construction; the ones the heap model covers are
these six: the stores of `Array.Where`/`Array.Without` (into a clone), the set builder's list, the join's
`append(values(), …)` and the two nested appends of `arraySub` -/
theorem writeSites_model_covered :
    (Expected.nonfreshNoted.filter (·.2.isModel)).map (·.1.2.1) =
      ["Array.Where", "Array.Without", "genericSetBuilder.Add", "positionalRelation.JoinKeepEverything",
       "arraySub", "arraySub"] := rfl

/-- the classification of every return statement of the callees that write sites and the heap model depend on is the
expected one: a callee that starts returning a field or a parameter (`return pv.v`) changes its row -/
theorem callees_as_expected : Facts.Generated.c03_callees = Expected.callees := rfl

/-- … and the ones assumed to return storage of their own do so on every return path -/
theorem callees_assumed_fresh :
    Expected.assumedFresh.all (fun n => Expected.callees.any (fun r => r.2.1 = n && r.2.2 = "fresh")) = true := by decide +kernel

/-- the copy constructors of rel/ and the reference fields each leaves shared with the value it copies are the reviewed ones:
a new lazily filled pointer/map/sync field that a `newBody`-style constructor does not reset changes its row -/
theorem copyCtors_as_expected : Facts.Generated.c03_copyCtors = Expected.copyCtors := rfl

end Arrai.C03.Theorems
