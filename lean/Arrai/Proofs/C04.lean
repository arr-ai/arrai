/-
  C04 — the join family, nest/unnest and rank obey their relational definitions.

  The property theorems; their lemmas are in Arrai/C04/Lemmas*.lean.  The Go code modelled is /repo with the repairs
  DESIGN.md records for C04; "as repaired" below refers to those.
  Part 1: the specification — the eight operators on values do not depend on how rows are written, the
          seven other operators are projections of `<&>`, nest is lossless, unnest inverts nest.
  Part 2: the generic path (RelationAttrs + GenericJoin + combine) refines the specification.
  Part 3: `createMode` is total on the eight partitions and selects a strategy that computes the matched pairs.
  Part 4: the positional path (`Relation.Join` with its short-cuts and re-sugaring) refines the specification;
          both paths agree; `Joiner` refines the specification for every representation of the operands that has a heading.
  Part 5: nest, rank, unnest and single-attribute nest refine their specifications.
  The hypotheses and the auxiliary functions of the statements (`Uniform`, `RepWF`, `Matched`, `SideOK`, `modeB`,
  `Unnestable`, `smallerCount`, …) are defined in the lemma modules.
-/
import Arrai.C04.LemmasRelJoin
import Arrai.C04.LemmasRank
import Arrai.C04.LemmasUnnest

namespace Arrai.C04.Theorems
open Arrai.C04 Arrai.C04.Spec Arrai.C04.Impl

/-! ### Part 1 — the specification -/

/-- the specified join of two values depends only on the rows the values denote -/
theorem join_welldefined (op : JoinOp) (A B : List Tup) :
    Spec.join op (denRows A) (denRows B) = denRows (joinRows op A B) := join_denRows op A B

/-- `<->, -&-, ---, -&>, <&-, -->, <--` are the projections of `<&>` onto the attribute classes they keep,
for any headings (any of left-only, common, right-only may be empty) -/
theorem projections_of_join (op : JoinOp) (hA hB : Names) (A B : List Tup)
    (uA : Uniform hA A) (uB : Uniform hB B) :
    denRows (joinRows op A B) = denRows ((joinRows .join A B).map (restrict (keep op hA hB))) :=
  denRows_congr (projection_of_join_rows op hA hB A B uA uB)

/-- `<&>` is exactly the set of merged tuples `t ∪ u` of agreeing pairs -/
theorem join_is_merge (A B : List Tup) (x : Tup) :
    x ∈ joinRows .join A B ↔ ∃ t ∈ A, ∃ u ∈ B,
      (∀ n v w, get n t = some v → get n u = some w → v = w) ∧ x = joined .join t u := by
  rw [mem_joinRows]
  constructor
  · rintro ⟨t, ht, u, hu, ha, e⟩; exact ⟨t, ht, u, hu, (agree_iff t u).1 ha, e⟩
  · rintro ⟨t, ht, u, hu, ha, e⟩; exact ⟨t, ht, u, hu, (agree_iff t u).2 ha, e⟩

/-- the merged tuple carries every attribute of both tuples -/
theorem joined_join_is_union (t u : Tup) (n : String) :
    get n (joined .join t u) = if has t n then get n t else get n u := by
  rw [get_joined]
  unfold sel has
  cases get n t <;> cases get n u <;> rfl

/-- nest loses no row: every row's nested part is a member of the group of its own key -/
theorem nest_lossless_covers (R : List Tup) (attrs : Names) (t : Tup) (ht : t ∈ R) :
    canonAttrs (restrict attrs.contains t) ∈ rowsOf (nestedOf R attrs t) := nest_covers R attrs t ht

/-- nest invents no row: every member of a group is the nested part of a row of `R` with that key -/
theorem nest_lossless_sound (R : List Tup) (attrs : Names) (t s : Tup)
    (hs : s ∈ rowsOf (nestedOf R attrs t)) :
    ∃ u ∈ R, keyOf attrs u = keyOf attrs t ∧ s = canonAttrs (restrict attrs.contains u) :=
  nest_sound R attrs t s hs

/-- rows with the same key get the same nested relation -/
theorem nest_lossless_disjoint (R : List Tup) (attrs : Names) (t t' : Tup)
    (h : keyOf attrs t = keyOf attrs t') : nestedOf R attrs t = nestedOf R attrs t' := by
  unfold nestedOf group
  rw [h]

/-- unnest inverts nest (for any `attrs`, empty or the whole heading included), provided the new
attribute does not clash with an attribute that stays outside -/
theorem unnest_nest (R : List Tup) (attrs : Names) (n : String)
    (hn : ∀ t ∈ R, attrs.contains n = false → get n t = none) :
    Spec.unnest (Spec.nest (denRows R) attrs n) n = denRows R := by
  rw [nest_denRows, unnest_denRows]
  exact denRows_congr (unnest_nest_rows R attrs n hn)

example : ∃ R attrs n, R ≠ [] ∧ (∀ t ∈ R, attrs.contains n = false → get n t = none) ∧
    Spec.unnest (Spec.nest (denRows R) attrs n) n = denRows R := by
  have hn : ∀ t ∈ [[("a", V.num 1), ("b", .num 2)], [("a", .num 1), ("b", .num 3)]],
      (["b"] : Names).contains "n" = false → get "n" t = none := by
    intro t ht _
    simp at ht
    rcases ht with rfl | rfl <;> rfl
  exact ⟨_, ["b"], "n", by simp, hn, unnest_nest _ _ _ hn⟩

/-! ### Part 2 — the generic path -/

/-- `SetBuilder` (as modelled by `ofMembers`) denotes exactly the set of the canonical tuples added to it -/
theorem setBuilder_faithful (xs : List V) (h : ∀ x ∈ xs, CanonT x) : den (ofMembers xs) = V.mkSet xs :=
  den_ofMembers xs h

/-- RelationAttrs + GenericJoin + the eight combine closures: for well-formed operands of any representation
(relations, strings/arrays/bytes/dicts as binary relations, `true`, generic sets of tuples) the result
denotes the specified join; no `nil` tuple is ever added -/
theorem generic_path_refines (op : JoinOp) (a b : Rep) (aN bN : Names) (wa : RepWF a) (wb : RepWF b)
    (ha : relationAttrs a = some aN) (hb : relationAttrs b = some bN) :
    ∃ r, genericPath op a b = .ok r ∧ den r = Spec.join op (den a) (den b) :=
  let ⟨r, h, e, _⟩ := genericPath_refines_ok op a b aN bN wa wb ha hb
  ⟨r, h, e⟩

/-! ### Part 3 — createMode -/

/-- the Boolean table: for every operator and every emptiness pattern of (left-only, common, right-only)
`modeB` (`createMode` on the class flags: `createMode_of_shape`) is none of the two panics and
selects a strategy whose side condition `sideB` holds -/
theorem createMode_table (op : JoinOp) (ex ey ez : Bool) :
    ∃ m, modeB (flagsOf op ex ez) ex ey ez = some m ∧
      sideB (strategyOf m) (flagsOf op ex ez) ex ey ez = true := by
  revert ex ey ez
  cases op <;> decide

/-- `createMode`, on the projectors `Relation.Join` derives from the partition of any of the eight operators
for any two headings, never panics and selects a strategy whose side condition (`SideOK`) holds -/
theorem createMode_total (A1 A2 : Names) (op : JoinOp) :
    ∃ m, createMode ((intersect A1 A2).map (idxOf A1)) ((intersect A1 A2).map (idxOf A2))
        ((partitionNames op A1 A2 (intersect A1 A2)).1.map (idxOf A1))
        ((partitionNames op A1 A2 (intersect A1 A2)).2.map (idxOf A2)) = .ok m ∧
      SideOK (strategyOf m) ((intersect A1 A2).map (idxOf A1)) ((intersect A1 A2).map (idxOf A2))
        ((partitionNames op A1 A2 (intersect A1 A2)).1.map (idxOf A1))
        ((partitionNames op A1 A2 (intersect A1 A2)).2.map (idxOf A2)) := by
  obtain ⟨m, hm, hs⟩ := createMode_table op (isSubset A1 A2) (noCommon A1 A2) (isSubset A2 A1)
  obtain ⟨hmode, hside⟩ := createMode_of_shape (partition_shape A1 A2 op)
  exact ⟨m, hmode m hm, hside _ hs⟩

/-- under the side condition of the selected strategy, `positionalRelation.Join` returns exactly the
projected matched pairs -/
theorem strategies_compute_matched (r r2 : List Row) (lk rk lo ro : Proj) (m : Mode)
    (hm : createMode lk rk lo ro = .ok m) (side : SideOK (strategyOf m) lk rk lo ro)
    (h1 : r ≠ []) (h2 : r2 ≠ [])
    (hw1 : ∀ v ∈ r, ∀ v' ∈ r, v.length = v'.length) (hw2 : ∀ v ∈ r2, ∀ v' ∈ r2, v.length = v'.length) :
    ∃ rows, posJoin r r2 lk rk lo ro = .ok rows ∧ ∀ x, x ∈ rows ↔ Matched r r2 lk rk lo ro x := by
  unfold posJoin
  rw [hm]
  dsimp only
  cases hs : strategyOf m <;> rw [hs] at side
  case keepEverything => exact ⟨_, rfl, fun x => joinKeepEverything_mem r r2 lk rk lo ro x h1 h2⟩
  case oneSideLeft =>
    obtain rfl : ro = [] := side
    exact joinOneSide_mem r r2 lk rk lo h1 h2 hw1
  case oneSideRight =>
    obtain rfl : lo = [] := side
    obtain ⟨rows, hr, hmem⟩ := joinOneSide_mem r2 r rk lk ro h2 h1 hw2
    exact ⟨rows, hr, fun x => (hmem x).trans (matched_swap r r2 lk rk ro x).symm⟩
  case commonOnly => exact joinCommonOnly_mem r r2 lk rk lo ro h1 h2 side
  case ifCommonExist =>
    obtain ⟨rfl, rfl⟩ : lo = [] ∧ ro = [] := side
    exact ⟨_, rfl, fun x => joinIfCommonExist_mem r r2 lk rk h1 h2 x⟩

/-! ### Part 4 — the positional path and Joiner -/

/-- `Relation.Join` (getIndices, compose, createMode, the five strategies, the empty / literal-true short-cuts
and the re-sugaring branch as repaired) refines the specification for every operator and all headings,
in any column order -/
theorem positional_path_refines (op : JoinOp) (r1 r2 : Relation) (w1 : RelWF r1) (w2 : RelWF r2) :
    ∃ res, relationJoin r1 r2 (intersect r1.attrs r2.attrs)
        (partitionNames op r1.attrs r2.attrs (intersect r1.attrs r2.attrs)).1
        (partitionNames op r1.attrs r2.attrs (intersect r1.attrs r2.attrs)).2 = .ok res ∧
      den res = Spec.join op (den (.relation r1)) (den (.relation r2)) ∧ RepOK res := by
  obtain ⟨cA1, cA2⟩ := intersect_sub r1.attrs r2.attrs
  obtain ⟨loA1, roA2⟩ := partition_sub op r1.attrs r2.attrs
  obtain ⟨m, hm, hside⟩ := createMode_total r1.attrs r2.attrs op
  obtain ⟨rows, hrows, hmem⟩ := strategies_compute_matched r1.rows r2.rows _ _ _ _ m hm hside w1.nonempty
    w2.nonempty w1.sameWidth w2.sameWidth
  obtain ⟨hEqv, hlen⟩ := matched_eqv op w1 w2 loA1 roA2 (partition_keep op _ _) hmem
  obtain ⟨res, hres, hden, hok⟩ := relationJoin_of_rows cA1 cA2 loA1 roA2 w1.proj w2.proj
    hrows (partition_nodup op _ _ w1.nodup w2.nodup) hlen
  refine ⟨res, hres, ?_, hok⟩
  rw [hden, den_relation w1, den_relation w2, join_denRows]
  exact denRows_congr hEqv

/-- the positional and the generic path agree whenever both apply -/
theorem join_paths_agree (op : JoinOp) (r1 r2 : Relation) (w1 : RelWF r1) (w2 : RelWF r2) :
    ∃ r r', relationJoin r1 r2 (intersect r1.attrs r2.attrs)
        (partitionNames op r1.attrs r2.attrs (intersect r1.attrs r2.attrs)).1
        (partitionNames op r1.attrs r2.attrs (intersect r1.attrs r2.attrs)).2 = .ok r ∧
      genericPath op (.relation r1) (.relation r2) = .ok r' ∧ den r = den r' := by
  obtain ⟨r, hr, e, _⟩ := positional_path_refines op r1 r2 w1 w2
  obtain ⟨r', hr', e', _⟩ := genericPath_refines_ok op (.relation r1) (.relation r2) r1.attrs r2.attrs w1 w2 rfl rfl
  exact ⟨r, r', hr, hr', by rw [e, e']⟩

/-- `A op B` for each of the eight operators: `Joiner` returns a value (never an error, never a panic) that
denotes the specified set, for well-formed operands of every representation that has a heading (`ha`, `hb`: a union
set, and a generic set whose members are not tuples of one heading, have none); the result is again a well-formed
operand with a heading (`RepOK`), so the theorem chains through nested joins -/
theorem join_refines (op : JoinOp) (a b : Rep) (aN bN : Names) (wa : RepWF a) (wb : RepWF b)
    (ha : relationAttrs a = some aN) (hb : relationAttrs b = some bN) :
    ∃ res, joiner op a b = .ok res ∧ den res = Spec.join op (den a) (den b) ∧ RepOK res := by
  have hgen := genericPath_refines_ok op a b aN bN wa wb ha hb
  have hempty : Spec.join op (den a) (den .empty) = den .empty := join_empty_right op _
  cases a with
  | empty => exact ⟨.empty, rfl, (join_empty_left op _).symm, trivial, [], rfl⟩
  | union xs1 => cases ha
  | relation r1 =>
    cases b with
    | empty => exact ⟨.empty, rfl, hempty.symm, trivial, [], rfl⟩
    | relation r2 => exact positional_path_refines op r1 r2 wa wb
    | _ => exact hgen
  | _ =>
    cases b with
    | empty => exact ⟨.empty, rfl, hempty.symm, trivial, [], rfl⟩
    | _ => exact hgen

/-- two joins in a row, `(A op₁ B) op₂ C`, in one statement -/
theorem join_refines_chain (op1 op2 : JoinOp) (a b c : Rep) (ha : RepOK a) (hb : RepOK b) (hc : RepOK c) :
    ∃ r1 res, joiner op1 a b = .ok r1 ∧ joiner op2 r1 c = .ok res ∧
      den res = Spec.join op2 (Spec.join op1 (den a) (den b)) (den c) ∧ RepOK res := by
  obtain ⟨wa, aN, ea⟩ := ha
  obtain ⟨wb, bN, eb⟩ := hb
  obtain ⟨wc, cN, ec⟩ := hc
  obtain ⟨r1, h1, d1, w1, N1, e1⟩ := join_refines op1 a b aN bN wa wb ea eb
  obtain ⟨res, h2, d2, ok2⟩ := join_refines op2 r1 c N1 cN w1 wc e1 ec
  exact ⟨r1, res, h1, h2, by rw [d2, d1], ok2⟩

-- `RepWF`, what `join_refines` asks of each operand, is met by a non-trivial pair (permuted columns, a sugar
-- heading on the right)
example : ∃ r1 ps, RepWF (.relation r1) ∧ RepWF (.seq .item ps) ∧ r1.rows.length = 2 ∧ ps.length = 2 := by
  refine ⟨⟨["b", "@"], [0, 1], [[.num 1, .num 0], [.num 2, .num 1]]⟩, [(.num 0, .num 5), (.num 1, .num 6)],
    ?_, trivial, rfl, rfl⟩
  refine ⟨by decide, rfl, ?_, by simp⟩
  intro row h
  simp at h
  rcases h with rfl | rfl <;> rfl

/-- a chained join with permuted columns, `({|b| (1)} <&> {|a| (2)}) <&> {|a,c| (2,3)}`: the intermediate
result has heading `[b, a]`, and the final result denotes the specified value -/
theorem join_chain_witness :
    ∃ r1 res, joiner .join (ofV (V.mkSet [V.mkTup [("b", .num 1)]])) (ofV (V.mkSet [V.mkTup [("a", .num 2)]]))
        = .ok (.relation r1) ∧ r1.attrs = ["b", "a"] ∧
      joiner .join (.relation r1) (ofV (V.mkSet [V.mkTup [("a", .num 2), ("c", .num 3)]])) = .ok res ∧
      den res = V.mkSet [V.mkTup [("a", .num 2), ("b", .num 1), ("c", .num 3)]] := by
  refine ⟨_, _, rfl, rfl, rfl, ?_⟩
  decide +kernel

/-- the repaired defect: read through the left operand's projector (width 1) the re-sugaring loop of
`{|@| (0)} <&> {|@item| (5)}` indexes out of range; read through the output heading's projector it yields `[5]`.
Stated on the loop; the whole `Relation.Join` with the one or the other projector is `relationJoinWith true` / `false` -/
theorem resugar_left_projector_panics :
    resugar [0] ["@", "@item"] 0 1 [[.num 0, .num 5]] = .panic "Relation.Join: index out of range" ∧
    ∃ r, resugar [0, 1] ["@", "@item"] 0 1 [[.num 0, .num 5]] = .ok r ∧
      enumerate r = [V.mkTup [("@", .num 0), ("@item", .num 5)]] := by
  refine ⟨rfl, ?_⟩
  exact ⟨_, rfl, by
    show enumerate (ofMembers [V.mkTup [("@", .num 0), ("@item", .num 5)]]) = _
    rw [enumerate_ofMembers _ (by intro x hx; simp at hx; subst hx; exact canonT_mkTup _)]
    rfl⟩

/-! ### Part 5 — nest, rank, unnest, single-attribute nest -/

/-- `Nest` (nestWithFunc + Reduce) refines the specification: for a well-formed relation of any representation,
attributes inside the heading and a target name that does not clash -/
theorem nest_refines (a : Rep) (relAttrs attrs : Names) (attr : String) (wa : RepWF a)
    (ha : relationAttrs a = some relAttrs) (hsub : isSubset attrs relAttrs = true)
    (hclash : (minus relAttrs attrs).contains attr = false) :
    ∃ res, Impl.nest a relAttrs attrs attr = .ok res ∧ den res = Spec.nest (den a) attrs attr :=
  Arrai.C04.nest_refines a relAttrs attrs attr wa ha hsub hclash

/-- `R nest |attrs| n` and the inverse form `R nest ~|attrs| n` as evaluated (`NestExpr.Eval`, as repaired) -/
theorem nestExpr_refines (inverse : Bool) (a : Rep) (relAttrs attrs : Names) (attr : String) (wa : RepWF a)
    (ha : relationAttrs a = some relAttrs) (hsub : isSubset attrs relAttrs = true)
    (hne : inverse = true → (minus relAttrs attrs).isEmpty = false)
    (hclash : (minus relAttrs (if inverse then minus relAttrs attrs else attrs)).contains attr = false) :
    ∃ res, nestExpr inverse a attrs attr = .ok res ∧
      den res = Spec.nest (den a) (if inverse then minus relAttrs attrs else attrs) attr :=
  Arrai.C04.nestExpr_refines inverse a relAttrs attrs attr wa ha hsub hne hclash

/-- one pass of the ranking loop (`rankPass`, on entries): after sorting by the key, every entry is given the number
of entries with a strictly smaller key; `Rank` on a representation against `Spec.rank` is `rank_refines_rep` -/
theorem rank_refines (es : List Entry) (attr : String) :
    ∀ e' ∈ rankPass es attr, ∃ e ∈ es, e'.ranker = e.ranker ∧
      e'.input = (attr, V.num (Int.ofNat (smallerCount es attr e))) :: e.input.filter (fun p => p.1 ≠ attr) := by
  intro e' he'
  obtain ⟨e, he, rfl⟩ := List.mem_map.1 ((perm_rankPass es attr).mem_iff.1 he')
  exact ⟨e, he, rfl, rfl⟩

/-- ranking loses no entry -/
theorem rank_complete (es : List Entry) (attr : String) :
    (rankPass es attr).length = es.length := by
  rw [(perm_rankPass es attr).length_eq, List.length_map]

/-- several rank attributes `(r₁: .k₁, r₂: .k₂, …)`, still on entries: the passes do not disturb one another — after
all of them every entry carries, for each `rᵢ`, the number of entries whose `kᵢ` is strictly smaller -/
theorem rank_refines_partial (es : List Entry) (rs : List String) :
    (rs.foldl rankPass es).length = es.length ∧
    ∀ e' ∈ rs.foldl rankPass es, ∃ e ∈ es, e'.ranker = e.ranker ∧
      e'.input = rankedInput es rs e.ranker e.input := by
  have hp := perm_foldl_rankPass es rs es fun _ _ => rfl
  refine ⟨by rw [hp.length_eq, List.length_map], fun e' he' => ?_⟩
  obtain ⟨e, he, rfl⟩ := List.mem_map.1 (hp.mem_iff.1 he')
  exact ⟨e, he, rfl, rfl⟩

/-- `R rank (r₁: .k₁, …)` on a representation (`Rank`: entries, one sorting pass per rank attribute, SetBuilder)
denotes the specification: every row gains, per `(r, k)`, the number of rows with a strictly smaller `k`;
`hnd`: the enumeration lists every member once, which the model's representation type does not force -/
theorem rank_refines_rep (a : Rep) (relAttrs : Names) (keys : List (String × String)) (wa : RepWF a)
    (ha : relationAttrs a = some relAttrs) (hnd : (enumerate a).Nodup)
    (hkeys : ∀ rk ∈ keys, relAttrs.contains rk.2 = true) :
    ∃ res, Impl.rank a keys = .ok res ∧ den res = Spec.rank (den a) keys := by
  obtain ⟨R, eR, uR, dR⟩ := enumerate_rows a relAttrs wa ha
  obtain ⟨res, hres, hden⟩ := rank_rows keys eR uR hkeys
  exact ⟨res, hres, by rw [hden, dR, rank_denRows R keys (eR ▸ hnd)]⟩

def rankWitness : V :=
  V.mkSet [V.mkTup [("x", .num 1), ("y", .num 0)], V.mkTup [("x", .num 1), ("y", .num 1)],
    V.mkTup [("x", .num 2), ("y", .num 1)], V.mkTup [("x", .num 3), ("y", .num 1)]]

/-- the example of docs/docs/lang/relops.md, `{|x,y| (1,0), (1,1), (2,1), (3,1)} rank (r: .x)`, and two rank attributes at once -/
theorem rank_refines_witness :
    (∃ res, Impl.rank (ofV rankWitness) [("r", "x")] = .ok res ∧
      den res = Spec.rank rankWitness [("r", "x")]) ∧
    (∃ res, Impl.rank (ofV rankWitness) [("r", "x"), ("s", "y")] = .ok res ∧
      den res = Spec.rank rankWitness [("r", "x"), ("s", "y")]) := by
  -- `∃ res, run = .ok res ∧ …` is decided by evaluating the run (`Impl.Res.decidableExistsOk`); so below
  decide +kernel

/-- `R unnest attr` on a representation (`Unnest`: Reduce keyed by the whole tuple) denotes the specification,
for rows whose `attr` holds a set of tuples that merge with the rest of the row (anything else is an error
in the repaired code) -/
theorem unnest_refines (a : Rep) (relAttrs : Names) (attr : String) (wa : RepWF a)
    (ha : relationAttrs a = some relAttrs) (hattr : relAttrs.contains attr = true)
    (hu : Unnestable attr (enumerate a)) :
    ∃ res, Impl.unnest a attr = .ok res ∧ den res = Spec.unnest (den a) attr := by
  obtain ⟨R, eR, uR, dR⟩ := enumerate_rows a relAttrs wa ha
  unfold Impl.unnest
  simp only [ha, hattr, unnestBad_false hu, Bool.not_true, Bool.false_eq_true, if_false]
  rw [eR] at hu ⊢
  obtain ⟨res, hres, hden⟩ := finish_reduce (key := projectT relAttrs) (red := unnestGroup attr)
    fun t ht => unnestGroup_eq _ uR hu ht
  exact ⟨res, hres, by rw [hden, dR, unnest_denRows]; rfl⟩

def unnestWitness : V :=
  V.mkSet [V.mkTup [("a", .num 1), ("n", V.mkSet [V.mkTup [("b", .num 2)], V.mkTup [("b", .num 3)]])],
    V.mkTup [("a", .num 2), ("n", V.mkSet [])]]

/-- `{|a,n| (1, {|b| (2), (3)}), (2, {})} unnest n`, and unnest after the transliterated nest -/
theorem unnest_refines_witness :
    (∃ res, Impl.unnestExpr (ofV unnestWitness) "n" = .ok res ∧ den res = Spec.unnest unnestWitness "n") ∧
    (∃ r res, Impl.nestExpr false (ofV rankWitness) ["y"] "n" = .ok r ∧ Impl.unnestExpr r "n" = .ok res ∧
      den res = rankWitness) := by
  have nested : ∃ r, Impl.nestExpr false (ofV rankWitness) ["y"] "n" = .ok r ∧
      ∃ res, Impl.unnestExpr r "n" = .ok res ∧ den res = rankWitness := by decide +kernel
  obtain ⟨r, hr, res, hres, e⟩ := nested
  exact ⟨by decide +kernel, r, res, hr, hres, e⟩

/-- `R nest a` (`SingleAttrNest`) denotes the specification: the values of `a`, grouped by the other attributes -/
theorem singleNest_refines (a : Rep) (relAttrs : Names) (attr : String) (wa : RepWF a)
    (ha : relationAttrs a = some relAttrs) (hattr : relAttrs.contains attr = true) :
    ∃ res, Impl.singleAttrNest a relAttrs attr = .ok res ∧ den res = Spec.singleNest (den a) attr := by
  obtain ⟨R, eR, uR, dR⟩ := enumerate_rows a relAttrs wa ha
  have hget : ∀ u ∈ R, get attr u = some ((get attr u).getD V.none) := fun u hu => by
    obtain ⟨v, hv⟩ := (has_true_iff _ attr).1 (by rw [uR u hu]; exact hattr)
    rw [hv]; rfl
  have hsub : isSubset [attr] relAttrs = true :=
    (isSubset_iff _ _).2 fun n hn => List.mem_singleton.1 hn ▸ List.contains_iff_mem.1 hattr
  have hclash : (minus relAttrs [attr]).contains attr = false := by
    rw [contains_minus]; simp
  obtain ⟨res, hres, hden⟩ := nestWith_refines a relAttrs [attr] attr (fun t => get attr (tupOf t))
    (fun u => (get attr u).getD V.none) eR uR hsub hclash fun u hu => (get_tupOf_mkTup u attr).trans (hget u hu)
  refine ⟨res, hres, ?_⟩
  rw [hden, dR, singleNest_denRows]
  -- every row of a group has the attribute, so collecting it loses nothing
  refine congrArg denRows (List.map_congr_left fun t _ => ?_)
  unfold nestRowWith
  rw [filterMap_eq_map_of_some]
  intro u hu
  exact hget u ((mem_group _ _ _ _).1 hu).1

/-- `{|x,y| …} nest y` and the inverse form `nest ~|x|n` -/
theorem singleNest_refines_witness :
    (∃ res, Impl.singleNestExpr (ofV rankWitness) "y" = .ok res ∧ den res = Spec.singleNest rankWitness "y") ∧
    (∃ res, Impl.nestExpr true (ofV rankWitness) ["x"] "n" = .ok res ∧ den res = Spec.nest rankWitness ["y"] "n") := by
  decide +kernel

end Arrai.C04.Theorems
