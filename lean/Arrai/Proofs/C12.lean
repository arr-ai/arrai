/-
  C12 — printed values read back as the same value.

  Part 0  regenerated facts = the tables/shapes the model was written against (by `rfl`, else `decide`, every run).
  Part 1  TEXT LEVEL, proved for ALL inputs: the escape codec (parseArraiStringFragment ∘ reprEscape, both quote
          characters, every Unicode scalar and control character, byte level through UTF-8), the STR token boundary,
          attribute names, integers (Number.String → NUM), offsets, Go's %q as read by arr.ai (bundle config).
  Part 2  TREE LEVEL: `Impl.repr : Rep → PT` (Format of every type, leaves = the token texts of part 1) followed by
          `PT.den` (reader of the printed sub-language) is the identity on meanings for every printable
          representation.  `Rep.printable` is the decidable class: numbers under the 15-character guard, strings
          without holes over Unicode scalars, single-valued dict keys, attribute names over Unicode scalars, no
          attribute named `*`, no attribute `x` together with `&x`, no hole at either end of an array, relation rows
          as wide as the heading.
          Without the hypothesis the statement is false (`C12_full_false`); the witnesses are the open findings
          KF-string-holes-print, KF-dict-dupkey-print, KF-string-nonscalar-print, KF-star-attr-print and
          KF-tuple-amp-counterpart.
  Part 3  the reader before the repairs to syntax/parse_string.go (`Old`): its two defects on their witnesses; the
          repaired reader on bad escapes.
  What is NOT proved here: that `PT.den` agrees with arr.ai's real parser on the printed texts (structure of
  brackets, commas, operator precedence of `-` and `\`): that tie is the correspondence run of ./check only.
-/
import Arrai.C12.Lemmas
import Arrai.Facts.Generated

namespace Arrai.C12.Theorems
open Arrai Arrai.C12 Arrai.C12.Impl
open Arrai.Facts

/-! ### Part 0 — regenerated facts -/

theorem fact_reprEscapes : Generated.c12_reprEscapes = Expected.reprEscapes := by first | rfl | decide
theorem fact_reprEscapesSize : Generated.c12_reprEscapesSize = Expected.reprEscapesSize := by first | rfl | decide
theorem fact_reprEscapeBranches : Generated.c12_reprEscapeBranches = Expected.reprEscapeBranches := by first | rfl | decide
theorem fact_reprOffset : Generated.c12_reprOffset = Expected.reprOffset := by first | rfl | decide
theorem fact_reprStr : Generated.c12_reprStr = Expected.reprStr := by first | rfl | decide
theorem fact_reprString : Generated.c12_reprString = Expected.reprString := by first | rfl | decide
theorem fact_escapeCases : Generated.c12_escapeCases = Expected.escapeCases := by first | rfl | decide
theorem fact_escapeOther : Generated.c12_escapeOther = Expected.escapeOther := by first | rfl | decide
theorem fact_escapeDefault : Generated.c12_escapeDefault = Expected.escapeDefault := by first | rfl | decide
theorem fact_numberParams : Generated.c12_numberParams = Expected.numberParams := by first | rfl | decide
theorem fact_numberParse : Generated.c12_numberParse = Expected.numberParse := by first | rfl | decide
theorem fact_numberReturn : Generated.c12_numberReturn = Expected.numberReturn := by first | rfl | decide
theorem fact_fragmentLoop : Generated.c12_fragmentLoop = Expected.fragmentLoop := by first | rfl | decide
theorem fact_fragmentGuards : Generated.c12_fragmentGuards = Expected.fragmentGuards := by first | rfl | decide
theorem fact_renderableShape : Generated.c12_renderableShape = Expected.renderableShape := by first | rfl | decide
theorem fact_renderableBytes : Generated.c12_renderableBytes = Expected.renderableBytes := by first | rfl | decide
theorem fact_identRE : Generated.c12_identRE = Expected.identRE := by first | rfl | decide
theorem fact_namePatShape : Generated.c12_namePatShape = Expected.namePatShape := by first | rfl | decide
theorem fact_identStart : Generated.c12_identStart = Expected.identStart := by first | rfl | decide
theorem fact_identRest : Generated.c12_identRest = Expected.identRest := by first | rfl | decide
theorem fact_tupleNameRepr : Generated.c12_tupleNameRepr = Expected.tupleNameRepr := by first | rfl | decide
theorem fact_wbnf_STR : Generated.c12_wbnf_STR = Expected.wbnf_STR := by first | rfl | decide
theorem fact_wbnf_NUM : Generated.c12_wbnf_NUM = Expected.wbnf_NUM := by first | rfl | decide
theorem fact_wbnf_IDENT : Generated.c12_wbnf_IDENT = Expected.wbnf_IDENT := by first | rfl | decide
theorem fact_wbnf_names : Generated.c12_wbnf_names = Expected.wbnf_names := by first | rfl | decide
theorem fact_bundleConfigString : Generated.c12_bundleConfigString = Expected.bundleConfigString := by first | rfl | decide
theorem fact_outputValueCases : Generated.c12_outputValueCases = Expected.outputValueCases := by first | rfl | decide
theorem fact_formatFloatLens : Generated.c12_formatFloatLens = Expected.formatFloatLens := by first | rfl | decide
theorem fact_numberString : Generated.c12_numberString = Expected.numberString := by first | rfl | decide
theorem fact_formatLiterals : Generated.c12_formatLiterals = Expected.formatLiterals := by first | rfl | decide
theorem fact_consts : Generated.c12_consts = Expected.consts := by first | rfl | decide

/-- the printer's escape table fits the reader's case table: every entry of reprEscapes is a one-letter case writing that
byte, `x`/`u`/`U` take the digit counts the printers write, `\\ ' "` stand for themselves, hex digits parse -/
theorem tables_compatible : tablesOK = true := tablesOK_true

/-! ### Part 1 — text level -/

/-- parseArraiStringFragment (reprEscape s) = s, on bytes: every string of runes (any `Nat`; non-scalars are
what `string(rune)` makes of them), both delimiters, any `indent` argument -/
theorem escape_roundtrip (s : List Nat) (q : Nat) (hq : q = 39 ∨ q = 34) (indent : List Nat) :
    parseFragment (utf8s (reprEscapeBody s q)) indent = some (utf8s s) :=
  (reprEscapeBody_reads_back hq s indent []).1

/-- Go's `[]rune(string(rs)) = rs` on Unicode scalars (the model of the conversions used on both sides) -/
theorem utf8_roundtrip (s : List Nat) (h : ∀ c ∈ s, isScalar c = true) : utf8dec (utf8s s) = s :=
  utf8dec_utf8s s h

/-- … hence on runes: every string over Unicode scalars (all controls, DEL, both quotes, backslash, BMP, astral,
U+FFFD) reads back as itself -/
theorem escape_roundtrip_runes (s : List Nat) (q : Nat) (hq : q = 39 ∨ q = 34) (h : ∀ c ∈ s, isScalar c = true) :
    (parseFragment (utf8s (reprEscapeBody s q))).map utf8dec = some s := by
  rw [escape_roundtrip s q hq, Option.map_some, utf8_roundtrip s h]

/-- the STR token of the grammar ends exactly at the closing quote the printer wrote, whatever follows -/
theorem str_token_boundary (s : List Nat) (q : Nat) (hq : q = 39 ∨ q = 34) (rest : List Nat) :
    scanStr q (reprEscapeBody s q ++ q :: rest) = some (reprEscapeBody s q, rest) :=
  (reprEscapeBody_reads_back hq s [] rest).2

/-- reprStr, whose quote is `chooseQuote s` -/
theorem reprStr_roundtrip (s : List Nat) (h : ∀ c ∈ s, isScalar c = true) (rest : List Nat) :
    scanStr (chooseQuote s) (reprEscapeBody s (chooseQuote s) ++ chooseQuote s :: rest)
        = some (reprEscapeBody s (chooseQuote s), rest)
    ∧ (parseFragment (utf8s (reprEscapeBody s (chooseQuote s)))).map utf8dec = some s :=
  ⟨str_token_boundary s _ (chooseQuote_cases s) rest, escape_roundtrip_runes s _ (chooseQuote_cases s) h⟩

/-- attribute names: bare identifier or quoted form, both read back as the name -/
theorem name_roundtrip (n : List Nat) (h : ∀ c ∈ n, isScalar c = true) : parseName (tupleNameRepr n) = some n :=
  parseName_tupleNameRepr n (List.all_eq_true.2 h)

/-- integers: whenever formatFloat64 returns the shortest form (text under 15 characters), reading it gives the number -/
theorem int_roundtrip (n : Int) (p : Bool × NumTok) (h : reprNum n = some p) : readNum p = some n := by
  unfold reprNum at h
  dsimp only at h
  obtain ⟨-, hp⟩ := Option.ite_none_right_eq_some.1 h
  cases hp
  exact readNum_formatG n

/-- the guard is met by every integer of at most six digits (so `int_roundtrip` is not vacuous there) -/
theorem int_guard_small (n : Int) (h1 : -1000000 < n) (h2 : n < 1000000) : (reprNum n).isSome = true := by
  have hm : n.natAbs < 10 ^ (5 + 1) := by omega
  have hlen := length_digitsRev_le n.natAbs n.natAbs 5 hm
  have h15 : Expected.formatFloatLens.headD 0 = 15 := by decide
  unfold reprNum
  simp only [h15]
  have hc : (formatG n.natAbs).chars.length ≤ 6 := by
    unfold formatG
    by_cases h0 : n.natAbs = 0
    · simp [h0, NumTok.chars]
    · have h6 : ¬ (digitsRev n.natAbs n.natAbs).length - 1 ≥ 6 := by omega
      simpa [h0, h6, NumTok.chars] using hlen
  have : (formatG n.natAbs).chars.length + (if n < 0 then 1 else 0) < 15 := by split <;> omega
  simp [this]

example : (reprNum 1234567).isSome = true ∧ (reprNum 123456789000).isSome = true ∧ (reprNum (-123456789000)).isSome = false
    ∧ (reprNum 9007199254740991).isSome = false := by decide +kernel

/-- offsets (`%d\`) -/
theorem offset_roundtrip (off : Int) : readOff (reprOff off) = off := readOff_reprOff off

/-- Go's %q (strconv.Quote, whatever `unicode.IsPrint` says) is read by arr.ai's string reader as the same bytes;
the STR token ends at the closing quote; hence the same runes for Unicode scalars -/
theorem goquote_roundtrip (isPrint : Nat → Bool) (s : List Nat) (h : ∀ c ∈ s, isScalar c = true) (rest : List Nat) :
    scanStr 34 (goQuoteBody isPrint s ++ 34 :: rest) = some (goQuoteBody isPrint s, rest)
    ∧ (parseFragment (utf8s (goQuoteBody isPrint s))).map utf8dec = some s := by
  obtain ⟨hp, hs⟩ := goQuoteBody_reads_back isPrint s (fun c hc => isScalar_lt_two_pow_32 (h c hc)) [] rest
  exact ⟨hs, by rw [hp, Option.map_some, utf8_roundtrip s h]⟩

/-- the text written by bundleConfig.String(): `(main_root: %q, main_file: %q)` -/
def bundleConfigText (isPrint : Nat → Bool) (root file : List Nat) : PT :=
  .tup [(.bare [109, 97, 105, 110, 95, 114, 111, 111, 116], .str none 34 (goQuoteBody isPrint root)),
        (.bare [109, 97, 105, 110, 95, 102, 105, 108, 101], .str none 34 (goQuoteBody isPrint file))]

/-- … evaluates to the tuple of the same two strings -/
theorem bundle_config (isPrint : Nat → Bool) (root file : List Nat)
    (hr : ∀ c ∈ root, isScalar c = true) (hf : ∀ c ∈ file, isScalar c = true) :
    (bundleConfigText isPrint root file).den
      = some (V.mkTup [("main_root", V.mkSeq "@char" 0 (root.map numV)), ("main_file", V.mkSeq "@char" 0 (file.map numV))]) := by
  have h1 := den_str none (goQuoteBody_reads_back isPrint root (fun c hc => isScalar_lt_two_pow_32 (hr c hc)) [] []) hr
  have h2 := den_str none (goQuoteBody_reads_back isPrint file (fun c hc => isScalar_lt_two_pow_32 (hf c hc)) [] []) hf
  rw [bundleConfigText, PT.den]
  simp only [List.filterMap_cons, List.filterMap_nil, PT.denAttrs, h1, h2, readOff]
  -- closed: the two names are identifiers, not `*`, no `&` pair; `nameStr` gives the two strings
  rfl

/-! ### Part 2 — tree level -/

/-- printing then reading is the identity on meanings, for every printable representation -/
theorem C12_partial (r : Rep) (h : r.printable = true) : (Impl.repr r).den = some r.den := den_repr r h

def C12_full : Prop := ∀ r : Rep, (Impl.repr r).den = some r.den

/-- KF-dict-dupkey-print: a multi-valued key prints as a repeated key, which the dict literal rejects -/
def dupKeyDict : Rep := .dict [(.num 1, .num 2), (.num 1, .num 3)]
/-- KF-string-holes-print: `{(@: 0, @char: 97), (@: 2, @char: 99)}` (String "a", hole, "c") -/
def holeyString : Rep := .str 0 [97, -1, 99]
/-- KF-string-nonscalar-print: a surrogate code point inside a String -/
def surrogateString : Rep := .str 0 [0xD800]

/-- KF-star-attr-print: `//tuple({'*': 1})` — the attribute name `*` is the wildcard marker of tuple literals -/
def starTuple : Rep := .tup [([42], .num 1)]

/-- KF-tuple-amp-counterpart: `('': 1, '&': <<'a'>>)` — an attribute and its view counterpart `&x` -/
def ampTuple : Rep := .tup [([], .num 1), ([38], .bytes 0 [97])]

theorem C12_full_false : ¬ C12_full := by
  intro hf
  exact absurd (hf dupKeyDict) (by decide +kernel)

theorem dict_multivalued_key_is_rejected : (Impl.repr dupKeyDict).den = none := by decide +kernel

/-- `('*': 1)` is rejected ("Wildcard attr cannot have a name") -/
theorem star_attribute_is_rejected : (Impl.repr starTuple).den = none := by decide +kernel

/-- the model reader does not commit to a value for a tuple literal naming both `x` and `&x` (the evaluator keeps
both when every value is a literal and strips the counterpart otherwise) -/
theorem amp_counterpart_is_outside_the_fragment : (Impl.repr ampTuple).den = none := by decide +kernel

/-- the hole markers are printed as U+FFFD inside the quotes: the text reads back as a dense string -/
theorem string_holes_read_back_dense :
    (Impl.repr holeyString).den = some (Rep.den (.str 0 [97, 0xFFFD, 99]))
    ∧ Rep.den (.str 0 [97, 0xFFFD, 99]) ≠ holeyString.den := ⟨den_repr_str 0 _, by decide +kernel⟩

theorem nonscalar_char_reads_back_as_replacement :
    (Impl.repr surrogateString).den = some (Rep.den (.str 0 [0xFFFD])) ∧ Rep.den (.str 0 [0xFFFD]) ≠ surrogateString.den :=
  ⟨den_repr_str 0 _, by decide +kernel⟩

/-- a non-trivial value satisfying every hypothesis: offsets, holes inside an array, both quote characters, controls,
astral characters, quoted and bare names, a relation with a non-identifier heading, byte arrays of both forms, an attribute named `@neg` -/
def sample : Rep :=
  .tup [([97], .arr 2 [some (.num (-1234567)), none, some (.str (-1) [39, 34, 92, 10, 1, 127, 0x1F600])]),
        ([97, 32, 98], .dict [(.str 0 [107], .set [.tt, .set []]), (.num 2, .bytes 3 [0, 255])]),
        ([64, 110, 101, 103], .rel [[120], [121, 32]] [[.num 1, .bytes (-2) [97, 10]], [.num 2, .tt]]),
        ([], .rel [[120], [121]] [[.num 1, .tup []], [.num 2, .str 0 [233]]])]

example : sample.printable = true ∧ dupKeyDict.printable = false ∧ holeyString.printable = false
    ∧ surrogateString.printable = false ∧ starTuple.printable = false ∧ ampTuple.printable = false := by decide +kernel

/-- Relation.Format's heading is a permutation of the stored attribute names: nothing is lost or invented -/
theorem relation_heading_is_permutation (phys : List (List Nat)) : (sortNames phys).Perm phys := by
  induction phys with
  | nil => exact List.Perm.refl _
  | cons n r ih =>
    show (insName n (sortNames r)).Perm (n :: r)
    exact (insName_perm n (sortNames r)).trans (List.Perm.cons n ih)

/-- Relation.Format's row projection: under every name of the printed heading stands the value the row stores for that
attribute, whatever the physical column order (sorted, as in a literal, or permuted, as in a join result) -/
theorem relation_row_projection {α : Type} (phys : List (List Nat)) (row : List α) (n : List Nat) (h : n ∈ phys) :
    lookupName n ((sortNames phys).zip (projectRow phys row (sortNames phys))) = some (lookupName n (phys.zip row)) := by
  have hn : n ∈ sortNames phys := (relation_heading_is_permutation phys).mem_iff.2 h
  exact lookupName_zip_map (fun m => lookupName m (phys.zip row)) (sortNames phys) n hn

/-- the join result `{|a, c| (1, 2)} <&> {|a, b, d| (1, 3, 4)}` is stored as a, c, b, d and must print (1, 3, 2, 4);
taking the stored row as it stands (a "contiguous" slice) would print (1, 2, 3, 4) -/
theorem relation_view_of_a_join_result :
    relView [[97], [99], [98], [100]] [[1, 2, 3, 4]]
      = ([[97], [98], [99], [100]], [[some 1, some 3, some 2, some 4]]) := by decide +kernel

/-- what `arrai eval` writes at top level (pkg/arrai/out.go): raw for strings and byte arrays, nothing for the
empty set, the printed form for everything else -/
theorem output_modes : outputMode holeyString = .raw ∧ outputMode (.bytes 0 [1]) = .raw ∧ outputMode (.set []) = .empty
    ∧ outputMode sample = .repr ∧ outputMode .tt = .repr ∧ outputMode (.num 0) = .repr := by decide +kernel

/-! ### Part 3 — the reader before the repairs -/

/-! `Old`: `number` and the loop as they stood before /repo's commits aa20a1f and 8b685e0, transcribed by hand: the tree
under /repo does not have that code, so neither a regenerated fact nor the correspondence run ties them to a source. -/
namespace Old

/-- `number` as it was: bit size `size*base/4`, returns the index AFTER the last digit -/
def number (s : List Nat) (i size base : Nat) : Option (List Nat × Nat) :=
  if i + size ≤ s.length then
    match parseUint ((s.drop i).take size) base (size * base / 4) with
    | some n => some (utf8 n, i + size)
    | none => none
  else none

/-- `Impl.loop` with that `number`; it runs on the repaired case table, whose fourth entry (`bits`) it ignores -/
def loop (s indent : List Nat) : Nat → Nat → List Nat → Option (List Nat)
  | 0, _, _ => none
  | fuel + 1, i, acc =>
    match s[i]? with
    | none => some acc
    | some c =>
      if c = 92 then
        match s[i + 1]? with
        | none => none
        | some e =>
          match escAct e with
          | .number off size base _ =>
            match number s (i + 1 + off) size base with
            | some (out, j) => loop s indent fuel (j + 1) (acc ++ out)
            | none => none
          | .byte b => loop s indent fuel (i + 2) (acc ++ [b])
          | .indent => loop s indent fuel (i + 2) (acc ++ indent)
          | .bad => none
      else loop s indent fuel (i + 1) (acc ++ [c])

def parseFragment (s : List Nat) : Option (List Nat) := loop s [] (s.length + 1) 0 []

end Old

/-- `"\x41BC"`: `AC` before the repair (the character after the digits is skipped), `ABC` after it -/
theorem old_reader_dropped_a_character :
    Old.parseFragment [92, 120, 52, 49, 66, 67] = some [65, 67]
    ∧ parseFragment [92, 120, 52, 49, 66, 67] = some [65, 66, 67] := by decide +kernel

/-- `"\101"`: a panic before the repair (6-bit limit for three octal digits), `A` after it -/
theorem old_reader_octal_limit :
    Old.parseFragment [92, 49, 48, 49] = none ∧ parseFragment [92, 49, 48, 49] = some [65] := by decide +kernel

/-- with the first defect the escape round trip is false: the printed form of "\x01" followed by "A" reads back
without the "A" -/
theorem old_escape_roundtrip_false :
    Old.parseFragment (utf8s (reprEscapeBody [1, 65] 39)) = some [1] := by decide +kernel

/-- a trailing backslash, an unknown escape, too few digits, an octal escape above \377: the reader reports an error
(`none`): a compile error in the repaired reader, a panic before the repair -/
theorem bad_escapes_are_rejected :
    parseFragment [97, 92] = none ∧ parseFragment [92, 113] = none ∧ parseFragment [92, 120, 52] = none
    ∧ parseFragment [92, 52, 48, 48] = none ∧ parseFragment [92, 117, 49, 50, 32, 120] = none := by decide +kernel

end Arrai.C12.Theorems
