/-
  C20 — `arrai test` passes exactly when every leaf of every test file is the literal true.
-/
import Arrai.C20.Lemmas

namespace Arrai.C20.Theorems
open Arrai.C20 Arrai.C20.Spec

/-! ### Part 1 — leaves -/

/-- ForeachLeaf calls the leaf action exactly on the specified leaves, in the specified order,
whatever the tree (sparse/offset arrays, sets and relations as leaves, any nesting) and path prefix -/
theorem leaves_spec (t : Tree) (p : Name) :
    (Impl.foreachLeaf t p).map Prod.snd = (leaves t).map Prod.snd := by
  rw [foreachLeaf_eq, map_snd_named]

/-- the path ForeachLeaf hands over is the rendered structured path -/
def leaves_paths_full : Prop :=
  ∀ t : Tree, Impl.foreachLeaf t [] = (leaves t).map (fun pl => (render pl.1, pl.2))

/-- `namesOk` asks more than is needed: only the name in the FIRST step of a path matters (`below_root`);
`(a: ('.x': true))` is not `namesOk` and the equation holds for it -/
theorem leaves_paths_partial (t : Tree) (h : namesOk t = true) :
    Impl.foreachLeaf t [] = (leaves t).map (fun pl => (render pl.1, pl.2)) := by
  rw [foreachLeaf_eq]
  exact List.map_congr_left fun pl hm => congrArg (·, pl.2) (below_root_of_namesOk h hm)

/-- `('': (b: true))`: reported as `b`, rendered as `.b` (TrimPrefix eats the dot that the empty first name
leaves in front) -/
theorem leaves_paths_full_false : ¬ leaves_paths_full := by
  intro h
  have := h (.tup [([], .tup [(['b'], .leaf .trueSet)])])
  revert this
  decide +kernel

example : namesOk (.tup [(['a'], .arr 2 [some (.leaf .trueSet), none, some (.dict [(.num 1, .leaf .other)])])])
    = true := by decide +kernel

theorem leaf_of_path (t : Tree) (p : Path) (l : Leaf) (h : subtree t p = some (.leaf l)) :
    (p, l) ∈ leaves t :=
  mem_of_reaches (reaches_of_subtree h)

/-- `Impl` occurs neither here nor in `leaves_once_full`: what is refuted is that `subtree` and structured paths fit a
dictionary with a repeated key, no defect of pkg/test -/
def path_of_leaf_full : Prop :=
  ∀ (t : Tree) (p : Path) (l : Leaf), (p, l) ∈ leaves t → subtree t p = some (.leaf l)

theorem path_of_leaf_partial (t : Tree) (hw : wf t = true) (p : Path) (l : Leaf) (h : (p, l) ∈ leaves t) :
    subtree t p = some (.leaf l) :=
  subtree_of_reaches hw (reaches_of_mem h)

/-- `{1: true} | {1: false}`, two values under one key: navigation finds the first -/
theorem path_of_leaf_full_false : ¬ path_of_leaf_full := by
  intro h
  have := h (.dict [(.num 1, .leaf .trueSet), (.num 1, .leaf .emptySet)]) [.key (.num 1)] .emptySet (by decide +kernel)
  have e : subtree (.dict [(.num 1, .leaf .trueSet), (.num 1, .leaf .emptySet)]) [.key (.num 1)]
      = some (.leaf .trueSet) := rfl
  cases e.symm.trans this

def leaves_once_full : Prop := ∀ t : Tree, ((leaves t).map Prod.fst).Nodup

/-- of report names this says nothing: `render` is not injective, and `(a: (b: true), 'a.b': false)`, which is `wf` and
`namesOk`, reports both leaves as `a.b` -/
theorem leaves_once_partial (t : Tree) (hw : wf t = true) : ((leaves t).map Prod.fst).Nodup :=
  nodup_leaves t hw

theorem leaves_once_full_false : ¬ leaves_once_full := by
  intro h
  have := h (.dict [(.num 1, .leaf .trueSet), (.num 1, .leaf .emptySet)])
  revert this
  decide +kernel

example : wf (.tup [(['a'], .arr 2 [some (.leaf .trueSet), none, some (.dict [(.num 1, .leaf .other)])]),
    (['b'], .leaf .emptySet)]) = true := by decide +kernel

/-- for EVERY tree, also when a dictionary holds several values under one key (`{k: v} | {k: v'}`): every
(key, value) pair of a dictionary is a member under the key's path -/
theorem leaf_iff_reaches (t : Tree) (p : Path) (l : Leaf) : (p, l) ∈ leaves t ↔ Reaches t p (.leaf l) :=
  ⟨reaches_of_mem, mem_of_reaches⟩

/-- the leaves of a dictionary are, entry by entry, the leaves of each value under its key's step:
entries sharing a key share path prefixes (so two results may carry one name) but none is dropped,
and the number of leaves is the sum over the entries -/
theorem dict_leaves (es : List (Key × Tree)) :
    leaves (.dict es) = es.flatMap (fun e => (leaves e.2).map (pre (.key e.1))) ∧
    (leaves (.dict es)).length = (es.map (fun e => (leaves e.2).length)).sum := by
  have h : leaves (.dict es) = es.flatMap (fun e => (leaves e.2).map (pre (.key e.1))) := by
    rw [leaves, leavesEntries_flatMap]
  refine ⟨h, ?_⟩
  rw [h, List.length_flatMap]
  simp

/-- the multiset of reported (name, leaf) pairs of a dictionary does not depend on the order in which
its entries are enumerated (Go: `OrderedEntries`), repeated keys included: it is the specified one
(`hn` is not needed: every path of a dictionary starts with a key step, and only a first attribute step can lose a dot) -/
theorem dict_report_multiset (es es' : List (Key × Tree)) (h : es.Perm es')
    (hn : namesOk (.dict es') = true) :
    (Impl.foreachLeaf (.dict es') []).Perm ((leaves (.dict es)).map (fun pl => (render pl.1, pl.2))) := by
  rw [leaves_paths_partial _ hn]
  apply List.Perm.map
  rw [(dict_leaves es).1, (dict_leaves es').1]
  exact (List.Perm.flatMap_right _ h).symm

/-! ### Part 2 — test files -/

/-- getTestFiles' walk finds exactly the files whose path ends in `_test.arrai` and that are not
below (or in) a hidden directory, for every directory layout -/
theorem test_files_spec (n : Node) (path : Name) (f : TestFile) :
    f ∈ Impl.walk n path ↔ Under n path f :=
  walk_iff

/-! ### Part 3 — verdict, counts, nothing skipped -/

/-- `arrai test <path>` succeeds iff there is at least one test file under the target, every test
file compiles and evaluates, and every leaf of every test file is the literal true (`rel.TrueSet`).
A file without a leaf passes: `()`, in Go as here; `Tree.dict []` and an array without a member are no values of Go
(`{}` and `[]` are `rel.EmptySet`, a leaf that fails) -/
theorem verdict_iff (w : World) (path : Name) :
    (Impl.runTests w path).passed = true ↔
      (∃ f, IsTestFile w path f) ∧
      ∀ f, IsTestFile w path f → ∃ t, f.content = some t ∧ ∀ pl ∈ leaves t, pl.2 = .trueSet := by
  constructor
  · intro h
    cases hr : Impl.runTests w path with
    | error e => rw [hr] at h; cases h
    | reported runs st =>
      obtain ⟨n, hl, hne, hgood, rfl, rfl⟩ := runTests_reported_iff.1 hr
      rw [hr, Run.passed, Bool.not_eq_true'] at h
      obtain ⟨f, hf⟩ := List.exists_mem_of_ne_nil _ hne
      exact ⟨⟨f, (isTestFile_iff hl).2 hf⟩, fun f hf =>
        (allFilesTrue_iff _).2 ⟨hgood, h⟩ f ((isTestFile_iff hl).1 hf)⟩
  · rintro ⟨⟨f0, n, hl, hu0⟩, hall⟩
    obtain ⟨hgood, hs⟩ := (allFilesTrue_iff _).1 fun f hf => hall f ((isTestFile_iff hl).2 hf)
    rw [runTests_reported_iff.2 ⟨n, hl, List.ne_nil_of_mem (walk_iff.2 hu0), hgood, rfl, rfl⟩, Run.passed, hs]
    rfl

/-- a test file that does not compile, or any leaf that is false, a non-boolean (number, string, set,
relation, function …) or fails to evaluate, anywhere in any test file, makes the run fail -/
theorem no_silent_skip (w : World) (path : Name) (f : TestFile) (hf : IsTestFile w path f)
    (hbad : f.content = none ∨ ∃ t pl, f.content = some t ∧ pl ∈ leaves t ∧ pl.2 ≠ .trueSet) :
    (Impl.runTests w path).passed = false := by
  cases hp : (Impl.runTests w path).passed with
  | false => rfl
  | true =>
    obtain ⟨t, hc, hall⟩ := ((verdict_iff w path).1 hp).2 f hf
    rcases hbad with h | ⟨t', pl, hc', hpl, hne⟩
    · rw [h] at hc; cases hc
    · rw [hc] at hc'
      cases hc'
      exact absurd (hall pl hpl) hne

/-- under package rel's representation invariant (a GenericSet is neither `{}` nor `{()}`) "is
`rel.TrueSet`" means "denotes `{()}`" -/
theorem literal_true_iff_denotes (l : Leaf) (h : l.canonical = true) : l = .trueSet ↔ l.isTrue = true := by
  revert h
  cases l with
  | genericSet s => cases s <;> decide
  | _ => decide

example : Leaf.canonical (.genericSet .proper) = true := by decide

/-- calcStats: the four counters add up to the total, which is the number of results; the run
fails iff some result is Failed or Invalid — an Ignored result is counted and never fails the run -/
theorem counts_add_up (files : List FileRun) :
    (Impl.calcStats files).passed + (Impl.calcStats files).failed + (Impl.calcStats files).invalid
        + (Impl.calcStats files).ignored = (Impl.calcStats files).total ∧
    (Impl.calcStats files).total = (files.map (fun f => f.results.length)).sum ∧
    ((Impl.calcStats files).runFailed = true ↔
        ∃ f ∈ files, ∃ r ∈ f.results, r.outcome = .failed ∨ r.outcome = .invalid) := by
  refine ⟨?_, ?_, ?_⟩
  · rw [calcStats_eq_tally]
    exact cnt_total _
  · rw [calcStats_eq_spec]
    rfl
  · rw [calcStats_eq_spec]
    simp only [Spec.stats, List.any_eq_true, outcome_bad_iff]

/-- Ignored results, which only a caller of Report could supply, do not fail the run -/
theorem ignored_does_not_fail (files : List FileRun)
    (h : ∀ f ∈ files, ∀ r ∈ f.results, r.outcome = .passed ∨ r.outcome = .ignored) :
    (Impl.calcStats files).runFailed = false := by
  rw [calcStats_eq_tally, tally_runFailed_false_iff]
  intro o ho
  simp only [outcomes, List.mem_flatMap, List.mem_map] at ho
  obtain ⟨f, hf, r, hr, rfl⟩ := ho
  exact h f hf r hr

/-- when RunTests reports, the summary counts are the numbers of leaves of the test files, by the
outcome each leaf must get; RunTests itself never produces an Ignored result -/
theorem counts_are_leaf_counts (w : World) (path : Name) (runs : List FileRun) (st : Stats)
    (h : Impl.runTests w path = .reported runs st) :
    ∃ n, w.lstat (Impl.targetPath w path) = some n ∧
      let os := ((Impl.walk n (Impl.targetPath w path)).map leafOutcomes).flatten
      st.total = os.length ∧
      st.passed = (os.filter (fun x => x = .passed)).length ∧
      st.failed = (os.filter (fun x => x = .failed)).length ∧
      st.invalid = (os.filter (fun x => x = .invalid)).length ∧
      st.ignored = 0 := by
  obtain ⟨n, hl, _, _, rfl, rfl⟩ := runTests_reported_iff.1 h
  exact ⟨n, hl, rfl, rfl, rfl, rfl, cnt_ignored_leafOutcomes _⟩

/-- when RunTests reports, it reports every test file, in walk order, with exactly one result per
leaf, in leaf order, carrying the outcome the leaf must get: nothing dropped, nothing added -/
theorem report_complete (w : World) (path : Name) (runs : List FileRun) (st : Stats)
    (h : Impl.runTests w path = .reported runs st) :
    ∃ n, w.lstat (Impl.targetPath w path) = some n ∧
      runs.map (·.path) = (Impl.walk n (Impl.targetPath w path)).map (·.path) ∧
      runs.map (fun r => r.results.map (·.outcome)) = (Impl.walk n (Impl.targetPath w path)).map leafOutcomes ∧
      st = Spec.stats runs := by
  obtain ⟨n, hl, _, _, rfl, rfl⟩ := runTests_reported_iff.1 h
  refine ⟨n, hl, ?_, ?_, ?_⟩
  · rw [List.map_map]
    rfl
  · rw [List.map_map]
    exact List.map_congr_left fun f _ => reportOf_outcomes f
  · rw [← outcomes_map_reportOf, ← calcStats_eq_tally, calcStats_eq_spec]

/-! ### Part 4 — the transliteration computes the specified run -/

def run_spec_full : Prop := ∀ (w : World) (path : Name), Impl.runTests w path = Spec.run w path

/-- on `Clean` trees RunTests + Report produce exactly the specified run: same error, or the same names, outcomes and
statistics for the files the walk finds (`Spec.run` takes them from `Impl.walk`; discovery is specified by
`test_files_spec`) -/
theorem run_spec_partial (w : World) (path : Name)
    (h : ∀ f, IsTestFile w path f → ∀ t, f.content = some t → Clean t) :
    Impl.runTests w path = Spec.run w path := by
  rw [runTests_eq_runFiles, Spec.run]
  cases hl : w.lstat (Impl.targetPath w path) with
  | none => rfl
  | some n =>
    dsimp only
    rw [runFiles_clean _ fun f hf => h f ((isTestFile_iff hl).2 hf)]
    cases Spec.firstBad (Impl.walk n (Impl.targetPath w path)) with
    | some p => rfl
    | none => simp only [calcStats_eq_spec]

/-- the names a run reports (projection used by the counterexample below) -/
def reportedNames : Run → List (List Name)
  | .reported fs _ => fs.map (fun f => f.results.map (·.name))
  | .error _ => []

/-- the tree of `leaves_paths_full_false` as the one test file; the world answers every `lstat` with that file -/
theorem run_spec_full_false : ¬ run_spec_full := by
  intro h
  have := congrArg reportedNames (h ⟨['/'], fun _ => some (.file ['x']
    (some (.tup [([], .tup [(['b'], .leaf .trueSet)])])))⟩ "/a_test.arrai".toList)
  revert this
  decide +kernel

example : Clean (.tup [(['a'], .arr 2 [some (.leaf .trueSet), none, some (.leaf (.genericSet .proper))])]) :=
  ⟨by decide +kernel, by decide +kernel⟩

/-- on canonical values isLiteralTrue's panic ("true set is not of type TrueSet") is unreachable -/
theorem no_crash_of_canonical (w : World) (path : Name)
    (h : ∀ f, IsTestFile w path f → ∀ t, f.content = some t → ∀ pl ∈ leaves t, pl.2.canonical = true) :
    Impl.runTests w path ≠ .error .crash := by
  intro hc
  obtain ⟨f, hf, he⟩ := runTests_crash hc
  obtain ⟨t, hct, hn⟩ := fileErr_crash he
  rw [noUnit_of_canonical (h f hf t hct)] at hn
  cases hn

/-! ### Part 5 — the discovery rule, case by case -/

/-- "hidden" is exactly "the name starts with a dot": `_wip`, `testdata`, `vendor`, `node_modules` …
are walked like any other directory -/
theorem hidden_iff_dot (n : Name) : isHidden n = true ↔ ∃ r, n = '.' :: r := by
  cases n <;> simp [isHidden]

/-- only directories are tested for the dot: a file is a test file iff its path has the suffix,
whatever its name (hidden files included) -/
theorem file_found_iff_suffix (n : Name) (c : Option Tree) (path : Name) (f : TestFile) :
    f ∈ Impl.walk (.file n c) path ↔ isTestPath path = true ∧ f = ⟨path, c⟩ := by
  by_cases h : isTestPath path = true <;> simp [Impl.walk, h]

/-- a directory whose name does not start with a dot hides nothing: the test files found under it
are exactly those found under its children -/
theorem visible_dir_walked (n : Name) (ch : List Node) (path : Name) (f : TestFile)
    (hn : ∀ r, n ≠ '.' :: r) :
    f ∈ Impl.walk (.dir n ch) path ↔ ∃ c ∈ ch, f ∈ Impl.walk c (joinPath path c.name) := by
  have hh : isHidden n = false := by
    cases h : isHidden n with
    | false => rfl
    | true => obtain ⟨r, hr⟩ := (hidden_iff_dot n).1 h; exact absurd hr (hn r)
  simp only [Impl.walk, hh, Bool.false_eq_true, if_false, walkAll_iff]
  constructor
  · rintro ⟨c, hc, hu⟩; exact ⟨c, hc, walk_iff.2 hu⟩
  · rintro ⟨c, hc, hu⟩; exact ⟨c, hc, walk_iff.1 hu⟩

end Arrai.C20.Theorems
