/-
  C18 — sandboxed evaluation reaches only the scope and library it was given.

  The facts regenerated from /repo equal the expected tables (Part 1); the safe library built from the tables has no
  file-reading, network or command function (Part 2); the transliterated evaluator (Impl) is confined for every source,
  configuration and fuel (Part 3); every repair is necessary: switched off, the model escapes (Part 4; `importLib`
  together with `importReject`, which otherwise rejects the import before imported code runs).
  The caller's dynamic variables `@{x}` are a route of their own (KF-dynvar-leak), closed by the barrier in
  withSandbox (`dynBarrier`): `confinement` holds for every calling context; `unrepaired_dynvar_*` show the leak with
  `dynBarrier` off.
-/
import Arrai.C18.Library
import Arrai.Facts.Generated

namespace Arrai.C18.Theorems
open Arrai.C18 Arrai.C18.Impl Arrai.C18.Expected
open Arrai.Facts

/-! ### Part 1 — regenerated facts = expected tables (re-checked on every run) -/

/-- the attribute paths and constructor shapes of the Go tuple built by SafeStdScopeTuple -/
theorem facts_safe_tuple : Generated.c18SafeGo = facts safeGo := rfl

/-- what SafeStdScopeTuple merges on top: //std.safe, the tuple itself -/
theorem facts_safe_merged : Generated.c18SafeMerged = facts safeMerged := rfl

/-- what StdScope adds to `SafeStdScopeTuple()`: //os.file, //net.http.*, //deprecated.exec and nothing else; and
`SafeStdScopeTuple()` is what it adds them to (second conjunct) -/
theorem facts_unsafe_only :
    Generated.c18UnsafeOnly = facts unsafeOnly ∧ Generated.c18StdScopeBase = stdScopeBase := ⟨rfl, rfl⟩

/-- the embedded arr.ai wrapper scripts are the ones `wrapSafe`/`fullLib` transliterate, and the bundled
scripts refer to no library member except //seq.split -/
theorem facts_wrappers :
    Generated.c18SafeWrapper = safeWrapper ∧ Generated.c18UnsafeWrapper = unsafeWrapper ∧
    Generated.c18WrapperPkgRefs = wrapperPkgRefs := ⟨rfl, rfl, rfl⟩

/-- every call site that evaluates source, resets a scope or reaches the outside world is one the model
knows (a new route — say a new library function that evaluates strings — breaks this) -/
theorem facts_sites : Generated.c18Sites = siteFacts := rfl

/-- the primitives behind library members (exec.Command, http, ReadFile, Getenv, Walk) sit behind members
carrying exactly that capability tag -/
theorem site_tags_agree : siteTagsAgree = true := by decide +kernel

/-! ### Part 2 — the libraries -/

open Arrai.C18.Spec

/-- the safe library — its members, the closures of the wrapper script, their environments, //std.safe —
stays within the capabilities that holding the evaluator stands for (the leaf tags decided over the whole table) -/
theorem safe_within_safeCaps : safeLib.reach ⊆ safeCaps :=
  safeLibOf_reach (by decide) (by decide +kernel)

/-- no file-reading, network or command-execution capability is reachable from the safe library -/
theorem safe_is_safe : ∀ c ∈ safeLib.reach, c ∉ dangerous :=
  fun c hc => (by decide : ∀ c ∈ safeCaps, c ∉ dangerous) c (safe_within_safeCaps hc)

/-- the tags are not vacuous: the full library does reach all three -/
theorem full_reaches_dangerous : ∀ c ∈ dangerous, c ∈ fullLib.reach := by decide +kernel

/-- before the repair (//deprecated.exec built into the safe tuple) the safe library reached `exec` -/
theorem unrepaired_safe_has_exec : Cap.exec ∈ (safeLibOf safeGoUnrepaired).reach := by decide +kernel

/-! ### Part 3 — confinement -/

/-- **Confinement.** For every file system, configuration `ec`, capability set `C` containing what the
configuration hands over (its stdlib — the safe library when absent — and its scope), every source `a`,
every fuel and every calling context (whatever dynamic variables the caller bound): the value returned by
sandboxed evaluation reaches only capabilities in `C`, and every effect performed on the way exercises a
capability in `C`. -/
theorem confinement (fs : List (String × File)) (ec : EvalConfig) (C : List Cap)
    (hC : cfgCaps (world fs) ec ⊆ C) (a : Ast) (ha : a.isSource = true) (fuel : Nat) (c : Ctx) :
    Spec.Confined C (sandboxEval (world fs) fuel c ec a) :=
  confinement_general (world fs) ⟨rfl, rfl, rfl, rfl⟩ safe_within_safeCaps ec C hC a (Ast.reach_sub_of_source ha C)
    fuel c (Or.inl rfl)

/-- the hypotheses of `confinement` are satisfiable by non-trivial values: a configuration handing over
//os.file, an escape attempt as source -/
example : cfgCaps (world []) ⟨some (.cons "os" (.cons "file" (.nat ["file"] .readFile .nil) .nil) .nil), .nil⟩
      ⊆ [.readFile] ∧
    Ast.isSource (.app (.dot (.pkg "eval") "value") (.quote (.dot (.pkg "os") "file"))) = true := by decide

/-- //eval.eval (empty configuration): nothing dangerous is reachable from the result and no file is
read, no request sent, no command run — whatever the source does -/
theorem default_sandbox_is_safe (fs : List (String × File)) (a : Ast) (ha : a.isSource = true)
    (fuel : Nat) (c : Ctx) :
    (∀ v, (sandboxEval (world fs) fuel c ⟨none, .nil⟩ a).1 = some v → ∀ d ∈ dangerous, d ∉ v.reach) ∧
    (∀ cap arg, Eff.did cap arg ∈ (sandboxEval (world fs) fuel c ⟨none, .nil⟩ a).2 → cap ∉ dangerous) := by
  have h := confinement fs ⟨none, .nil⟩ safeLib.reach (cfgCaps_default _) a ha fuel c
  constructor
  · intro v hv d hd hin
    exact safe_is_safe d (h.1 v hv hin) hd
  · intro cap arg he hd
    exact safe_is_safe cap (h.2 cap arg he) hd

/-- a configuration that hands over nothing dangerous gets nothing dangerous back (stated for the value only;
`confinement` gives the same for the effects) -/
theorem harmless_config_stays_harmless (fs : List (String × File)) (ec : EvalConfig)
    (hcfg : ∀ d ∈ dangerous, d ∉ cfgCaps (world fs) ec) (a : Ast) (ha : a.isSource = true)
    (fuel : Nat) (c : Ctx) :
    ∀ v, (sandboxEval (world fs) fuel c ec a).1 = some v → ∀ d ∈ dangerous, d ∉ v.reach := by
  intro v hv d hd hin
  exact hcfg d hd ((confinement fs ec _ (fun _ h => h) a ha fuel c).1 v hv hin)

/-- **Unbound references fail.** `//x` with `x` not a member of the library in effect fails.  The library in effect
is what the sandbox scope binds to `//`: `cfg.stdlib` or the safe library, unless the configuration's scope has a member
named `//`, which `addAll` binds over it. -/
theorem unbound_fails (fs : List (String × File)) (ec : EvalConfig) (l : Val) (x : String)
    (hl : (sandboxScope (world fs) ec).get "//" = some l) (hx : l.get x = none) (fuel : Nat) (c : Ctx) :
    (sandboxEval (world fs) fuel c ec (.pkg x)).1 = none :=
  match fuel with
  | 0 => rfl
  | n+1 => evalWithScope_unbound hl hx n _

/-- the hypotheses of `unbound_fails` are satisfiable by a non-trivial value: a one-member library -/
example : ∃ l, (sandboxScope (world []) ⟨some (.cons "str" .data .nil), .nil⟩).get "//" = some l ∧
    l.get "os" = none := ⟨_, rfl, rfl⟩

/-- **No import reads in a sandbox.** Whatever the source does — nested //eval.*, macros, functions called
later — sandboxed evaluation never opens a file through import syntax.  (`ha` is not used: this holds of every
expression, compiled forms included.) -/
theorem sandbox_never_imports (fs : List (String × File)) (ec : EvalConfig) (a : Ast) (ha : a.isSource = true)
    (fuel : Nat) (c : Ctx) (p : String) : Eff.imported p ∉ (sandboxEval (world fs) fuel c ec a).2 :=
  sandbox_never_imports_general (world fs) ⟨rfl, rfl, rfl, rfl⟩ safe_within_safeCaps ec a fuel c p

/-- **The direct entry.** `syntax.EvalWithScope(ctx, "", src, syntax.SafeStdScope())` outside any sandbox: import
syntax is allowed and reads files (the one effect this entry permits beyond the library's own), imported code
runs under the importer's `//` (the safe library).  For every file system of source text, source, fuel and
context whose dynamic variables are within bounds:
 (a) the result reaches only capabilities of the safe library — hence nothing that reads files, talks to the
     network or runs commands;
 (b) every capability exercised by a call is one of the safe library;
 (c) the importer opens only files named by import syntax in the source or in an .arrai file of the file system. -/
theorem direct_confinement (fs : List (String × File)) (hfs : FsSource fs) (a : Ast) (ha : a.isSource = true)
    (fuel : Nat) (c : Ctx) (hd : c.dyn.reach ⊆ safeLib.reach) :
    Spec.Confined safeLib.reach (evalWithScope (world fs) fuel c a (.cons "//" safeLib .nil)) ∧
    (∀ p, Eff.imported p ∈ (evalWithScope (world fs) fuel c a (.cons "//" safeLib .nil)).2 →
      p ∈ a.imports ++ fsImports fs) :=
  direct_general (world fs) ⟨rfl, rfl, rfl, rfl⟩ safe_within_safeCaps (FsSource.fsOK (W := world fs) hfs _) _
    Val.hasLib_cons_lib (Val.cons_reach (List.Subset.refl _) (List.nil_subset _)) a (Ast.reach_sub_of_source ha _)
    fuel c hd

/-- corollary of (a): no imported file, however written, hands the direct entry a dangerous function (stated at
`ctx0`; (a) gives it for every context within bounds) -/
theorem direct_result_not_dangerous (fs : List (String × File)) (hfs : FsSource fs) (a : Ast)
    (ha : a.isSource = true) (fuel : Nat) :
    ∀ v, (evalWithScope (world fs) fuel ctx0 a (.cons "//" safeLib .nil)).1 = some v →
      ∀ d ∈ dangerous, d ∉ v.reach := by
  intro v hv d hd hin
  exact safe_is_safe d ((direct_confinement fs hfs a ha fuel ctx0 (List.nil_subset _)).1.1 v hv hin) hd

/-- the hypotheses of `direct_confinement` are satisfiable by non-trivial values: a file that tries to hand
out //os.file, a source that imports and calls it -/
example : FsSource [("lib.arrai", .code (.lam "u" (.dot (.pkg "os") "file"))), ("canary.txt", .bytes)] ∧
    Ast.isSource (.app (.imp "lib.arrai") (.num 0)) = true :=
  ⟨.code rfl (.bytes .nil), rfl⟩

/-- sandboxed source that is an import (`//{./p}`) fails at compile time and touches nothing -/
theorem import_rejected_in_sandbox (fs : List (String × File)) (ec : EvalConfig) (p : String)
    (fuel : Nat) (c : Ctx) : sandboxEval (world fs) fuel c ec (.imp p) = (none, []) :=
  import_rejected_general (world fs) rfl ec p fuel c

/-! ### Part 4 — each repair is necessary (the defects of the unrepaired tree, in the model)

The fuels 8, 12, 14 are ample, not minimal.  A conjunct `… = none` stands at the fuel at which the same program escapes
with the repair off, so it is not fuel running out. -/

/-- a small world: the safe library has //eval.value and the grammar, the full one also //os.file -/
def tinySafe : Val :=
  .cons "eval" (.cons "value" (.nat ["value"] .eval .nil) .nil)
    (.cons "grammar" (.cons "lang" (.cons "wbnf" .data .nil) .nil)
      (.cons "os" (.cons "cwd" .data .nil) .nil))
def tinyFull : Val := .cons "os" (.cons "file" (.nat ["file"] .readFile .nil) (.cons "cwd" .data .nil)) tinySafe
def osFile : Ast := .dot (.pkg "os") "file"
def tinyWorld (fx : Fixes) : World :=
  ⟨tinySafe, tinyFull, [("lib.arrai", .code osFile), ("secret.txt", .bytes)], fx, []⟩

def reaches (r : Res) (c : Cap) : Bool :=
  match r.1 with
  | some v => v.reach.contains c
  | none => false

def did (r : Res) (c : Cap) : Bool :=
  r.2.any fun e => match e with | .did c' _ => c' == c | _ => false

def importedFile (r : Res) (f : String) : Bool :=
  r.2.any fun e => match e with | .imported f' => f' == f | _ => false

/-- the context of `(\@{x} //eval.eval("…"))(//os.file)`: the caller bound `@{x}` to the file function -/
def leakCtx : Ctx := { ctx0 with dyn := .cons "@{x}" (.nat ["file"] .readFile .nil) .nil }

/-- with `dynBarrier` off, `(\@{x} //eval.eval("@{x}"))(//os.file)` hands the sandboxed source a file-reading
function that is neither in its scope nor in its library; with the barrier the dynamic variable is unbound -/
theorem unrepaired_dynvar_leaks :
    reaches (sandboxEval (tinyWorld Fixes.beforeDynBarrier) 8 leakCtx ⟨none, .nil⟩ (.var "@{x}")) .readFile = true ∧
    (sandboxEval (tinyWorld Fixes.tree) 8 leakCtx ⟨none, .nil⟩ (.var "@{x}")).1 = none := by decide +kernel

/-- … so without the barrier, confinement as stated (for every calling context) is false of the real libraries -/
theorem unrepaired_dynvar_breaks_confinement :
    ¬ (∀ (C : List Cap), cfgCaps (world []) ⟨none, .nil⟩ ⊆ C → ∀ (c : Ctx),
        Spec.Confined C (sandboxEval { world [] with fixes := Fixes.beforeDynBarrier } 8 c ⟨none, .nil⟩ (.var "@{x}"))) := by
  intro h
  have h1 := (h safeLib.reach (cfgCaps_default _) leakCtx).1 (.nat ["file"] .readFile .nil) rfl
  exact safe_is_safe .readFile (h1 List.mem_cons_self) (by decide)

/-- `//eval.eval("//eval.value(\"//os.file\")")` -/
def valueEscape : Ast := .app (.dot (.pkg "eval") "value") (.quote osFile)
/-- `//eval.eval("{:(@grammar: …, @transform: (r: \\a //os.file)):x:}")` -/
def macroEscape : Ast := .mac (.lam "a" osFile)
/-- `//eval.eval("//{./lib.arrai}")` where lib.arrai is `//os.file` -/
def importEscape : Ast := .imp "lib.arrai"

theorem unrepaired_value_escapes :
    reaches (sandboxEval (tinyWorld { Fixes.tree with valueEmpty := false }) 12 ctx0 ⟨none, .nil⟩ valueEscape)
      .readFile = true := by decide +kernel

theorem unrepaired_macro_escapes :
    reaches (sandboxEval (tinyWorld { Fixes.tree with macroLib := false }) 12 ctx0 ⟨none, .nil⟩ macroEscape)
      .readFile = true := by decide +kernel

theorem unrepaired_import_escapes :
    reaches (sandboxEval (tinyWorld { Fixes.tree with importReject := false, importLib := false }) 12 ctx0
      ⟨none, .nil⟩ importEscape) .readFile = true := by decide +kernel

/-- even with imported code confined, import syntax in a sandbox reads a file it was not given -/
theorem unrepaired_import_reads :
    importedFile (sandboxEval (tinyWorld { Fixes.tree with importReject := false }) 12 ctx0 ⟨none, .nil⟩
      (.imp "secret.txt")) "secret.txt" = true := by decide +kernel

/-- with all repairs the three witnesses fail -/
theorem repaired_witnesses_fail :
    (sandboxEval (tinyWorld Fixes.tree) 12 ctx0 ⟨none, .nil⟩ valueEscape).1 = none ∧
    (sandboxEval (tinyWorld Fixes.tree) 12 ctx0 ⟨none, .nil⟩ macroEscape).1 = none ∧
    sandboxEval (tinyWorld Fixes.tree) 12 ctx0 ⟨none, .nil⟩ importEscape = (none, []) := by
  refine ⟨?_, ?_, ?_⟩
  · decide +kernel
  · decide +kernel
  · exact import_rejected_general (tinyWorld Fixes.tree) rfl _ _ _ _

/-- `//eval.eval("let x = //os; {:(@grammar: …, @transform: (r: \\a (.).file)):x:}")`: the transform mentions `.`,
which the parser's `bind` hook bound to an ExprClosure over the parse-time scope -/
def letDotEscape : Ast := .letE "x" (.pkg "os") (.mac (.lam "a" (.dot (.var ".") "file")))
/-- the same through the name the `let` binds -/
def letNameEscape : Ast := .letE "x" (.pkg "os") (.mac (.lam "a" (.dot (.var "x") "file")))

/-- **The parse-time scope must start from the library in effect.** On the model variant in which Parse seeds
its scope stack with the empty scope, an ExprClosure pushed by the `bind` hook closes over a scope without
`//`, PackageExpr falls back to the full library when the macro looks the name up, and confinement is false:
the sandboxed source obtains the file-reading function. -/
theorem confinement_false_if_parse_scope_empty :
    reaches (sandboxEval (tinyWorld { Fixes.tree with macroLib := false }) 14 ctx0 ⟨none, .nil⟩ letDotEscape)
      .readFile = true ∧
    reaches (sandboxEval (tinyWorld { Fixes.tree with macroLib := false }) 14 ctx0 ⟨none, .nil⟩ letNameEscape)
      .readFile = true ∧
    ¬ Spec.Confined safeCaps
      (sandboxEval (tinyWorld { Fixes.tree with macroLib := false }) 14 ctx0 ⟨none, .nil⟩ letDotEscape) := by
  have escapes : ∀ r, reaches r .readFile = true → ¬ Spec.Confined safeCaps r := by
    intro r hr h
    unfold reaches at hr
    split at hr
    · next v hv => exact absurd (h.1 v hv (List.contains_iff_mem.1 hr)) (by decide)
    · cases hr
  have hdot : reaches (sandboxEval (tinyWorld { Fixes.tree with macroLib := false }) 14 ctx0 ⟨none, .nil⟩
      letDotEscape) .readFile = true := by decide +kernel
  exact ⟨hdot, by decide +kernel, escapes _ hdot⟩

/-- with the parse-time scope seeded from the library in effect, a transform may use names bound by enclosing
`let`s — and reaches through them exactly what the sandbox's library has: the escape attempts fail, a
library member that is there is found -/
theorem let_bound_names_in_macros :
    (sandboxEval (tinyWorld Fixes.tree) 14 ctx0 ⟨none, .nil⟩ letDotEscape).1 = none ∧
    (sandboxEval (tinyWorld Fixes.tree) 14 ctx0 ⟨none, .nil⟩ letNameEscape).1 = none ∧
    reaches (sandboxEval (tinyWorld Fixes.tree) 14 ctx0 ⟨none, .nil⟩
      (.letE "x" (.dot (.pkg "eval") "value") (.mac (.lam "a" (.var "x"))))) .eval = true := by decide +kernel

end Arrai.C18.Theorems
