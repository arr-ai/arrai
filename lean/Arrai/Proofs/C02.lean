/-
  C02 — equality is extensional; equal values are interchangeable.

  The property theorems (model: Arrai/C02/Model.lean and, for the constructor statements, Arrai/C02/Ctors.lean).

  `Rep` has one constructor per Go value type, `den : Rep → V` is the denotation, `wf` the canonical-form
  invariant the Go constructors are supposed to establish, `Impl.equal` the transliteration of every `Equal`
  method and `hashG true`/`hashKey` the symbolic value of the (repaired) `Hash` methods.  frozen identifies
  the elements of a set by their full hash (`Set.Equal` = same count and same XOR of element hashes), so
  `Equal` of every set nested in a set is decided by `Hash`: the hash has to be *injective* up to
  denotation, not only to respect `Equal`.

  All property theorems are full statements: they hold for ALL canonical representations (`wf`), every
  constructor of `Rep` nested arbitrarily - numbers, generic tuples, character/byte/item/entry tuples, strings
  and byte arrays (offsets, holes), arrays (offsets, holes), dictionaries (keys with one or several values,
  incl. `Dict.Equal` against any other set), relations (column order irrelevant), union sets (one subset per
  bucket), booleans and generic sets.  They are about `hashG true`: in `hashG false` `ArrayItemTuple.Hash` and
  `DictEntryTuple.Hash` return the item's/value's hash under the derived seed unfinished, which makes differently
  nested tuples hash alike (`seed_threading_false_before_repair`).  The one bounded statement is the set builder
  (`set_builder_wf_small`).
-/
import Arrai.C02.Lemmas
import Arrai.C02.Ctors
import Arrai.C02.CtorsGen

namespace Arrai.C02.Theorems
open Arrai Arrai.C02 Arrai.C02.Rep Arrai.C02.Impl

/-! ### Part 1 — `Equal` is equality of denotations on canonical forms -/

theorem equal_iff_den (a b : Rep) (ha : wf a = true) (hb : wf b = true) : equal a b = true ↔ den a = den b :=
  equalDen_all (depth a + 1) a b (by omega) ha hb

theorem equal_symm (a b : Rep) (ha : wf a = true) (hb : wf b = true) : equal a b = equal b a := by
  have h1 := equal_iff_den a b ha hb
  have h2 := equal_iff_den b a hb ha
  cases h : equal a b <;> cases h' : equal b a
  · rfl
  · exact absurd (h1.2 (h2.1 h').symm) (by simp [h])
  · exact absurd (h2.2 (h1.1 h).symm) (by simp [h'])
  · rfl

/-- `GenericTuple.Equal` accepts any `Tuple`: outside canonical forms `Equal` is not symmetric -/
theorem equal_symm_needs_wf :
    equal (.gtuple [("@", .num 0), ("@char", .num 97)]) (.charT 0 97) = true ∧
    equal (.charT 0 97) (.gtuple [("@", .num 0), ("@char", .num 97)]) = false := by decide +kernel

/-! ### Part 2 — the hash contract, in both directions (frozen trusts hashes) -/

theorem hash_contract (a b : Rep) (ha : wf a = true) (hb : wf b = true) (h : equal a b = true) :
    hashKey a = hashKey b :=
  (hash_inj a b ha hb [] []).2 ⟨rfl, (equal_iff_den a b ha hb).1 h⟩

/-- different values have different (symbolic) hashes: what frozen's hash-trusting `Set.Equal` needs -/
theorem hash_injective (a b : Rep) (ha : wf a = true) (hb : wf b = true) (h : hashKey a = hashKey b) :
    den a = den b :=
  ((hash_inj a b ha hb [] []).1 h).2

/-- under any seed (hashes are also used as seeds of the hashes of enclosing tuples and arrays) -/
theorem hash_seeded (a b : Rep) (ha : wf a = true) (hb : wf b = true) (s s' : HV) :
    hashG true a s = hashG true b s' ↔ (s = s' ∧ den a = den b) :=
  hash_inj a b ha hb s s'

/-! ### Part 3 — canonical forms are unique -/

/-- same constructor, same scalar fields, same hole pattern; children and collections compared up to
enumeration order and the representation of the children (by denotation) -/
def sameRep : Rep → Rep → Prop
  | .num a, .num b => a = b
  | .gtuple as, .gtuple bs => as.length = bs.length ∧ ∀ k, lookupV k (denAttrs as) = lookupV k (denAttrs bs)
  | .charT i c, .charT j d => i = j ∧ c = d
  | .byteT i c, .byteT j d => i = j ∧ c = d
  | .itemT i x, .itemT j y => i = j ∧ den x = den y
  | .entryT k v, .entryT k' v' => den k = den k' ∧ den v = den v'
  | .empty, .empty => True
  | .true_, .true_ => True
  | .str s o h, .str s' o' h' => s = s' ∧ o = o' ∧ h = h'
  | .bytes b o, .bytes b' o' => b = b' ∧ o = o'
  | .array vs o c, .array vs' o' c' => o = o' ∧ c = c' ∧ denOpts vs = denOpts vs'
  | .generic xs, .generic ys =>
    xs.length = ys.length ∧ ∀ v, v ∈ denList xs ↔ v ∈ denList ys   -- a permutation up to member denotation
  | .dict m, .dict m' => m.length = m'.length ∧ ∀ v, v ∈ denDict m ↔ v ∈ denDict m'
  | .relation ns rows, .relation ns' rows' =>
    sortStrs ns = sortStrs ns' ∧ rows.length = rows'.length ∧ ∀ v, v ∈ denRows ns rows ↔ v ∈ denRows ns' rows'
  | .union bs, .union bs' =>
    bs.length = bs'.length ∧ ∀ k, (lookupAttr k bs).map den = (lookupAttr k bs').map den
  | _, _ => False

/-- canonical forms are unique — for ALL representations (no fragment restriction): two canonical
representations with the same denotation have the same constructor, the same scalar fields and children
and collections that agree up to denotation and enumeration order -/
theorem wf_unique (a b : Rep) (ha : wf a = true) (hb : wf b = true) (h : den a = den b) : sameRep a b := by
  cases sameCtor_of_den a b ha hb h with
  | num x y => simpa [den, sameRep] using h
  | gtuple as bs =>
    simp only [den] at h
    -- the sorted attribute lists are the same list, and each is a permutation of what it was made from
    have pa := V.attrs_perm _ (denAttrs_names as ▸ ((wf_gtuple_iff as).1 ha).1)
    have pb := V.attrs_perm _ (denAttrs_names bs ▸ ((wf_gtuple_iff bs).1 hb).1)
    rw [show V.attrs (denAttrs as) = V.attrs (denAttrs bs) from V.tup.inj h] at pa
    exact ⟨by simpa only [denAttrs_length] using (pa.symm.trans pb).length_eq, (mkTup_eq_iff_lookupV _ _).1 h⟩
  | charT i c j d => simpa [den, vpair, sameRep] using h
  | byteT i c j d => simpa [den, vpair, sameRep] using h
  | itemT i x j y => simpa [den, vpair, sameRep] using h
  | entryT k v k' v' => simpa [den, vpair, sameRep] using h
  | empty => trivial
  | true_ => trivial
  | str s o h1 s' o' h2 =>
    obtain ⟨e1, e2, e3⟩ := (str_den_inj s s' o o' h1 h2 ha hb).1 h
    exact ⟨e2, e1, e3⟩
  | bytes b o b' o' =>
    obtain ⟨e1, e2⟩ := (bytes_den_inj b b' o o' ha hb).1 h
    exact ⟨e2, e1⟩
  | array vs o c vs' o' c' => exact (array_den_inj vs vs' o o' c c' ha hb).1 h
  | dict m m' =>
    exact ⟨((dict_den_iff m m' ha hb).1 h).1, (V.mkSet_eq_iff _ _).1 h⟩
  | relation ns rows ns' rows' => exact relation_of_den_eq ns ns' rows rows' ha hb h
  | union bs bs' => exact union_of_den_eq bs bs' ha hb h
  | generic xs ys => exact (generic_den_iff xs ys ha hb).1 h

/-! ### Part 4 — equal values collapse: one member in a frozen set builder (`dedupFrozen`, which finishes the generic
bucket of `NewSet`), the same dictionary entry -/

theorem collapse (x y : Rep) (hx : wf x = true) (hy : wf y = true) (h : den x = den y) :
    dedupFrozen [x, y] = [x] ∧ ∀ v, dictGet (newDict [(x, v)]) y = [v] := by
  have he : equal x y = true := (equal_iff_den x y hx hy).2 h
  have hh : hashKey x = hashKey y := hash_contract x y hx hy he
  constructor
  · simp [dedupFrozen, memFrozen, hh, he]
  · intro v
    simp [newDict, dictGet, hh, he]

/-- and different values stay apart -/
theorem no_collapse (x y : Rep) (hx : wf x = true) (hy : wf y = true) (h : den x ≠ den y) :
    dedupFrozen [x, y] = [x, y] ∧ ∀ v, dictGet (newDict [(x, v)]) y = [] := by
  have he : equal x y = false := by
    cases e : equal x y with
    | false => rfl
    | true => exact absurd ((equal_iff_den x y hx hy).1 e) h
  constructor
  · simp [dedupFrozen, memFrozen, he]
  · intro v
    simp [newDict, dictGet, he]

/-! ### Part 5 — the modelled constructors return canonical forms of the intended denotation
(general: every input; `NewSet`/`SetBuilder` bounded-exhaustive) -/

/-- `NewOffsetString(s, off)` for a rune list without holes at its ends (what its callers pass) -/
theorem new_offset_string_wf (s : List Int) (off : Int)
    (hends : s = [] ∨ (headNonneg s = true ∧ lastNonneg s = true)) (hr : runesOk s = true) :
    wf (newOffsetString s off) = true ∧ den (newOffsetString s off) = .set (strMembers off s) := by
  unfold newOffsetString
  rcases hends with rfl | ⟨h1, h2⟩
  · simp [wf, den, strMembers]
  · have : s.isEmpty = false := by cases s <;> simp [headNonneg] at h1 ⊢
    simp only [this, Bool.false_eq_true, if_false]
    exact ⟨(wf_str_iff _ _ _).2 ⟨h1, h2, hr, rfl⟩, den_str _ _ _⟩

/-- `NewOffsetArray(off, vs)` trims holes at both ends and counts: canonical, denotes the present items -/
theorem new_offset_array_wf (off : Int) (vs : List (Option Rep)) (hw : wfOpts vs = true) :
    wf (newOffsetArray off vs) = true ∧
    den (newOffsetArray off vs) = V.mkSet (arrMembers off (denOpts vs)) := by
  obtain ⟨h1, h2⟩ := new_offset_array_wf_den off vs hw
  refine ⟨h1, ?_⟩
  rw [h2, arrMembers_eq, V.mkSet, FinSet.mk_of_sorted _ (seqM_sorted _ _ _)]

/-- `String.Without` (repaired), every string, index and character: canonical result, exactly that member removed -/
theorem string_without_wf (s : List Int) (off holes ix ch : Int)
    (hw : wf (.str s off holes) = true) (hc : inRune ch = true) :
    wf (strWithout s off holes ix ch) = true ∧
    den (strWithout s off holes ix ch) = specWithout (strMembers off s) (vpair "@char" (.num ix) (.num ch)) :=
  string_without_wf_den s off holes ix ch hw hc

/-- `Array.Without` (repaired), every canonical array, index and canonical item: canonical result, exactly that
member removed -/
theorem array_without_wf (vs : List (Option Rep)) (off c ix : Int) (item : Rep)
    (hw : wf (.array vs off c) = true) (wi : wf item = true) :
    wf (arrWithout vs off c ix item) = true ∧
    den (arrWithout vs off c ix item) =
      specWithout (arrMembers off (denOpts vs)) (vpair "@item" (.num ix) (den item)) := by
  apply array_without_wf_den vs off c ix item hw
  intro v hv
  exact equal_iff_den v item (wfOpts_mem vs v ((wf_array_iff vs off c).1 hw).2.2.1 hv) wi

/-- `NewTuple`/`TupleBuilder.Finish` (repair 20 of DESIGN.md §5): unless Go panics (non-number under a sugar heading,
pinned by the suite) the result is canonical and denotes the attributes given -/
theorem new_tuple_wf (as : List (String × Rep)) (r : Rep) (hn : (namesOf as).Nodup) (hw : wfAttrs as = true)
    (h : newTuple as = .ok r) : wf r = true ∧ den r = V.mkTup (denAttrs as) :=
  new_tuple_wf_den as r hn hw h

/-- `+>` (repaired) on canonical tuples of any representation: canonical result, right operand wins -/
theorem merge_wf (t u r : Rep) (ht : isTuple t = true) (hu : isTuple u = true)
    (wt : wf t = true) (wu : wf u = true) (h : mergeLeftToRight t u = .ok r) :
    wf r = true ∧ den r = V.mkTup (denAttrs (mergeAttrs (attrsOf t) (attrsOf u))) := by
  obtain ⟨ok, lk⟩ := merge_acc (attrsOf u) t (attrsOf t) (tupOk_of_wf t ht wt) (fun _ => rfl) (wfAttrs_attrsOf u hu wu)
  unfold mergeLeftToRight mergeLeftToRightOld at h
  obtain ⟨o1, o2, o3, o4⟩ := ok
  cases hm : (attrsOf u).foldl (fun acc nv => tupleWith acc nv.1 nv.2) t with
  | gtuple as =>
    rw [hm] at h lk o2 o3
    simp only [] at h
    obtain ⟨w, d⟩ := new_tuple_wf_den as r o2 o3 h
    exact ⟨w, by rw [d, mkTup_eq_iff_lookupV]; exact lk⟩
  | _ =>
    rw [hm] at h lk o1 o4
    simp only [Res.ok.injEq] at h
    subst h
    refine ⟨o4 (fun as e => by cases e), ?_⟩
    rw [den_attrsOf _ o1, mkTup_eq_iff_lookupV]
    exact lk

/-- the statement for every number of members, all taken from the thirteen values `smallMembers` of C02/Ctors.lean;
neither proved nor used -/
def set_builder_wf_full : Prop := ∀ n, setBuilderOk n = true

/-- `NewSet` (bucket routing, asString/asArray/asBytes/NewDict, union of buckets) on ≤ 2 members -/
theorem set_builder_wf_small : setBuilderOk 2 = true := by decide +kernel

/-! ### Part 6 — behaviour before the repairs (each witness is also a corpus case of the check) -/

/-- without the trim, `String.Without`/`Array.Without` break the invariant already on length ≤ 3 -/
theorem without_false_before_repair : strWithoutOk false 3 = false ∧ arrWithoutOk false 3 = false := by decide +kernel

/-- `+>` left a generic tuple with heading (@, @char): not canonical, and not `Equal` to the character tuple
from the other side -/
theorem merge_false_before_repair :
    wf (mergeLeftToRightOld (.gtuple [("@", .num 0)]) (.gtuple [("@char", .num 97)])) = false ∧
    equal (.charT 0 97) (mergeLeftToRightOld (.gtuple [("@", .num 0)]) (.gtuple [("@char", .num 97)])) = false := by
  decide +kernel

theorem merge_repaired :
    mergeLeftToRight (.gtuple [("@", .num 0)]) (.gtuple [("@char", .num 97)]) = .ok (.charT 0 97) := by rfl

/-- `[1, , 3] without (@: 0, @item: 1)` kept the leading hole -/
theorem array_without_false_before_repair :
    wf (arrWithoutOld [some (.num 1), none, some (.num 3)] 0 2 0 (.num 1)) = false ∧
    equal (arrWithoutOld [some (.num 1), none, some (.num 3)] 0 2 0 (.num 1)) (.array [some (.num 3)] 2 1) = false := by
  decide +kernel

theorem array_without_repaired :
    arrWithout [some (.num 1), none, some (.num 3)] 0 2 0 (.num 1) = .array [some (.num 3)] 2 1 := by rfl

/-- `('a' ++ 1\'c') without (@: 0, @char: 97)` kept the leading hole -/
theorem string_without_false_before_repair :
    wf (strWithoutOld [97, -1, 99] 0 1 0 97) = false ∧
    equal (strWithoutOld [97, -1, 99] 0 1 0 97) (.str [99] 2 0) = false := by decide +kernel

theorem string_without_repaired : strWithout [97, -1, 99] 0 1 0 97 = .str [99] 2 0 := by rfl

/-- `(@: 0, @byte: 300)` became `(@: 0, @byte: 44)` -/
theorem special_tuple_false_before_repair :
    newTupleOld [("@", .num 0), ("@byte", .num 300)] = .ok (.byteT 0 44) ∧
    newTuple [("@", .num 0), ("@byte", .num 300)] = .ok (.gtuple [("@", .num 0), ("@byte", .num 300)]) := by
  constructor <;> rfl

/-- XOR-linear set hashes: `{{1, 2}, {3}} = {{1, 3}, {2}}` was true -/
theorem nested_set_hash_false_before_repair :
    equalOld (.generic [.generic [.num 1, .num 2], .generic [.num 3]])
             (.generic [.generic [.num 1, .num 3], .generic [.num 2]]) = true ∧
    equal (.generic [.generic [.num 1, .num 2], .generic [.num 3]])
          (.generic [.generic [.num 1, .num 3], .generic [.num 2]]) = false := by decide +kernel

/-- the same regrouping inside arrays: `{[{1, 2}, {3}]} = {[{1, 3}, {2}]}` was true -/
theorem nested_array_hash_false_before_repair :
    equalOld (.generic [.array [some (.generic [.num 1, .num 2]), some (.generic [.num 3])] 0 2])
             (.generic [.array [some (.generic [.num 1, .num 3]), some (.generic [.num 2])] 0 2]) = true ∧
    equal (.generic [.array [some (.generic [.num 1, .num 2]), some (.generic [.num 3])] 0 2])
          (.generic [.array [some (.generic [.num 1, .num 3]), some (.generic [.num 2])] 0 2]) = false := by decide +kernel

/-- offset-blind string hash: `{'a'} = {1\'a'}` was true; `{'a'} = {<<97>>}` too -/
theorem string_hash_false_before_repair :
    equalOld (.generic [.str [97] 0 0]) (.generic [.str [97] 1 0]) = true ∧
    equal (.generic [.str [97] 0 0]) (.generic [.str [97] 1 0]) = false ∧
    equalOld (.generic [.str [97] 0 0]) (.generic [.bytes [97] 0]) = true ∧
    equal (.generic [.str [97] 0 0]) (.generic [.bytes [97] 0]) = false := by decide +kernel

/-- `ArrayItemTuple.Hash`/`DictEntryTuple.Hash` returned the item's/value's hash under the seed derived from
the index/key, unfinished: the same chain of seeds arises when such tuples are nested the other way round -/
theorem seed_threading_false_before_repair (i : Int) (a b : Rep) (s : HV) :
    hashG false (.entryT (.itemT i a) b) s = hashG false (.itemT i (.entryT a b)) s := by
  simp [hashG, tfin]

/-- … so arrays holding them hashed alike and sets of such arrays compared equal (frozen trusts hashes); on the
unrepaired tree `{[(@: (@: 1, @item: 5), @value: 7)]} = {[(@: 1, @item: (@: 5, @value: 7))]}` was true -/
theorem seed_threading_sets_false_before_repair :
    let a : Rep := .generic [.array [some (.entryT (.itemT 1 (.num 5)) (.num 7))] 0 1]
    let b : Rep := .generic [.array [some (.itemT 1 (.entryT (.num 5) (.num 7)))] 0 1]
    wf a = true ∧ wf b = true ∧ den a ≠ den b ∧ equalOld a b = true := by decide +kernel

theorem seed_threading_repaired :
    let x : Rep := .entryT (.itemT 1 (.num 5)) (.num 7)
    let y : Rep := .itemT 1 (.entryT (.num 5) (.num 7))
    hashKey x ≠ hashKey y ∧
    equal (.generic [.array [some x] 0 1]) (.generic [.array [some y] 0 1]) = false := by decide +kernel

/-! ### every hypothesis is satisfiable by non-trivial values -/

example : let a : Rep := .generic [.generic [.num 1, .str [97, -1, 99] 2 1], .true_, .gtuple [],
                                   .array [some (.gtuple [("a", .num 1), ("b", .bytes [7] 1)]), none, some .empty] (-1) 2]
    wf a = true := by decide +kernel

example : let a : Rep := .generic [.num 1, .bytes [1, 2] 3]
          let b : Rep := .generic [.bytes [1, 2] 3, .num 1]
    wf a = true ∧ wf b = true ∧ den a = den b ∧ equal a b = true := by decide +kernel

example : let a : Rep := .union [("rel.generic", .generic [.num 1, .num 2]),
      ("rel.DictEntryTuple", .dict [(.num 1, [.num 2]), (.str [97] 0 0, [.num 3, .true_])]),
      ("rel.StringCharTuple", .str [97, -1, 98] 4 1)]
    wf a = true := by decide +kernel

example : let a : Rep := .relation ["b", "a"] [[.num 1, .gtuple [("x", .num 2)]], [.num 2, .empty]]
          let b : Rep := .relation ["a", "b"] [[.empty, .num 2], [.gtuple [("x", .num 2)], .num 1]]
    wf a = true ∧ wf b = true ∧ den a = den b := by decide +kernel

end Arrai.C02.Theorems
