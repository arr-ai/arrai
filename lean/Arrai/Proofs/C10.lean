/-
  C10 "Every program ends in a value or an error, never a crash or a hang".

  (a) modelled fragment: the transliterated first-order evaluator (`Arrai.C10.eval`, with the compile-time
      folding order `run`) reaches a panic site only on expressions that have one of the decidable shapes of
      the open known findings (`trig`); termination is structural (all functions are total Lean functions).
  (b) inventory: the panic sites regenerated from the Go sources are the expected, classified ones.
  (c) arbitrary source text, the standard library and hangs are validated by fuzzing only (lib/props_c10.py).
-/
import Arrai.Facts.Generated
import Arrai.C10.Expected
import Arrai.C10.Lemmas

namespace Arrai.C10
open Arrai Outcome

/-! ## (a) no panic outside the open shapes -/

/- No case rewrites with the equations of `eval`/`trig` (`rw [eval]` is slow on these mutual definitions): by unfolding,
`h` is the disjunction that `trig` is at the node and the goal the chain of `bind`s that `eval` is. -/
mutual
theorem eval_safe : ∀ (e : E), trig e = false → ∀ s, eval e ≠ .panic s
  | .num _, _, s => ok_ne_panic
  | .str _, _, s => ok_ne_panic
  | .tuple kvs, h, s => by
    obtain ⟨h1, h2⟩ := Bool.or_eq_false_iff.1 h
    refine bind_ne_panic (evalAttrs_safe kvs h1 s) fun as has => ?_
    rw [has] at h2
    exact ne_panic_of_shape h2 newTuple_panic
  | .set xs, h, s => by
    obtain ⟨h1, h2⟩ := Bool.or_eq_false_iff.1 h
    exact bind_ne_panic (evalSetFrom_safe xs [] h1 (fun _ => ne_panic_of_shape h2 relAdd_nil_panic) s)
      fun _ _ => ok_ne_panic
  | .arr xs, h, s => bind_ne_panic (evalList_safe xs h s) fun _ _ => ok_ne_panic
  | .dict kvs, h, s => bind_ne_panic (evalPairs_safe kvs h s) fun vs _ => newDictLit_no_panic vs s
  | .rel hd rows, h, s => by
    obtain ⟨h12, h3⟩ := Bool.or_eq_false_iff.1 h
    obtain ⟨h1, h2⟩ := Bool.or_eq_false_iff.1 h12
    exact bind_ne_panic (evalRelFrom_safe hd rows [] h1 h2 (fun _ => ne_panic_of_shape h3 relAdd_nil_panic) s)
      fun _ _ => ok_ne_panic
  | .bin op a b, h, s => by
    obtain ⟨h12, h3⟩ := Bool.or_eq_false_iff.1 h
    obtain ⟨h1, h2⟩ := Bool.or_eq_false_iff.1 h12
    refine bind_ne_panic (eval_safe a h1 s) fun va hva => ?_
    split
    · exact err_ne_panic
    · refine bind_ne_panic (eval_safe b h2 s) fun vb hvb => ?_
      rw [hva, hvb] at h3
      exact ne_panic_of_shape h3 binVals_panic
  | .cmp op a b, h, s => by
    obtain ⟨h1, h2⟩ := Bool.or_eq_false_iff.1 h
    exact bind_ne_panic (eval_safe a h1 s) fun va _ =>
      bind_ne_panic (eval_safe b h2 s) fun vb _ => cmpVals_no_panic op va vb s
  | .un op a, h, s => bind_ne_panic (eval_safe a h s) fun va _ => unVals_no_panic op va s
  | .dot a name, h, s => bind_ne_panic (eval_safe a h s) fun va _ => dotVal_no_panic va name s
  | .seqmap a c, h, s => by
    obtain ⟨h12, h3⟩ := Bool.or_eq_false_iff.1 h
    obtain ⟨h1, h2⟩ := Bool.or_eq_false_iff.1 h12
    refine bind_ne_panic (eval_safe a h1 s) fun va hva => ?_
    split
    · exact ok_ne_panic
    · refine bind_ne_panic (eval_safe c h2 s) fun vc hvc => ?_
      rw [hva, hvc] at h3
      exact ne_panic_of_shape h3 seqMapConst_panic
    · exact err_ne_panic
theorem evalList_safe : ∀ (xs : List E), trigList xs = false → ∀ s, evalList xs ≠ .panic s
  | [], _, s => ok_ne_panic
  | e :: rest, h, s => by
    obtain ⟨h1, h2⟩ := Bool.or_eq_false_iff.1 h
    exact bind_ne_panic (eval_safe e h1 s) fun _ _ =>
      bind_ne_panic (evalList_safe rest h2 s) fun _ _ => ok_ne_panic
theorem evalAttrs_safe : ∀ (kvs : List (String × E)), trigAttrs kvs = false → ∀ s, evalAttrs kvs ≠ .panic s
  | [], _, s => ok_ne_panic
  | (n, e) :: rest, h, s => by
    obtain ⟨h1, h2⟩ := Bool.or_eq_false_iff.1 h
    exact bind_ne_panic (eval_safe e h1 s) fun _ _ =>
      bind_ne_panic (evalAttrs_safe rest h2 s) fun _ _ => ok_ne_panic
theorem evalPairs_safe : ∀ (kvs : List (E × E)), trigPairs kvs = false → ∀ s, evalPairs kvs ≠ .panic s
  | [], _, s => ok_ne_panic
  | (k, e) :: rest, h, s => by
    obtain ⟨h12, h3⟩ := Bool.or_eq_false_iff.1 h
    obtain ⟨h1, h2⟩ := Bool.or_eq_false_iff.1 h12
    exact bind_ne_panic (eval_safe k h1 s) fun _ _ =>
      bind_ne_panic (eval_safe e h2 s) fun _ _ =>
        bind_ne_panic (evalPairs_safe rest h3 s) fun _ _ => ok_ne_panic
theorem evalSetFrom_safe : ∀ (xs : List E) (seen : List (String × List String)), trigList xs = false →
    (∀ t, relAdd seen (okPrefix xs) ≠ .panic t) → ∀ s, evalSetFrom seen xs ≠ .panic s
  | [], _, _, _, s => ok_ne_panic
  | e :: rest, seen, h, hr, s => by
    obtain ⟨h1, h2⟩ := Bool.or_eq_false_iff.1 h
    refine bind_ne_panic (eval_safe e h1 s) fun v hv => ?_
    -- `hr`: the builder run on the values so far; its first step is this element's `relAddOne`
    simp only [okPrefix, hv, relAdd, bind_ne_panic_iff] at hr
    have hone : relAddOne seen v ≠ .panic s := (hr s).1
    refine bind_ne_panic hone fun seen' hs => ?_
    have hrest : ∀ t, relAdd seen' (okPrefix rest) ≠ .panic t := fun t => (hr t).2 seen' hs
    exact bind_ne_panic (evalSetFrom_safe rest seen' h2 hrest s) fun _ _ => ok_ne_panic
theorem evalRelFrom_safe : ∀ (hd : List String) (rows : List (List E)) (seen : List (String × List String)),
    trigRows rows = false → pinnedRows hd rows = false → (∀ t, relAdd seen (okRows hd rows) ≠ .panic t) →
    ∀ s, evalRelFrom hd seen rows ≠ .panic s
  | _, [], _, _, _, _, s => ok_ne_panic
  | hd, r :: rest, seen, h, hpin, hr, s => by
    obtain ⟨h1, h2⟩ := Bool.or_eq_false_iff.1 h
    obtain ⟨p1, p2⟩ := Bool.or_eq_false_iff.1 hpin
    refine bind_ne_panic (evalList_safe r h1 s) fun vs hvs => ?_
    rw [hvs] at p1
    refine bind_ne_panic (relRow_no_panic hd vs s p1) fun t ht => ?_
    simp only [okRows, hvs, bind_ok_panic, ht, relAdd, bind_ne_panic_iff] at hr
    have hone : relAddOne seen t ≠ .panic s := (hr s).1
    refine bind_ne_panic hone fun seen' hs => ?_
    have hrest : ∀ u, relAdd seen' (okRows hd rest) ≠ .panic u := fun u => (hr u).2 seen' hs
    exact bind_ne_panic (evalRelFrom_safe hd rest seen' h2 p2 hrest s) fun _ _ => ok_ne_panic
end

/-- read against the Go code this rests on the typing assumption at the head of Arrai/C10/Model.lean -/
theorem no_panic (e : E) (h : Adm e) : ∀ s, eval e ≠ .panic s := eval_safe e h

/-! ### compile phase: constant folding runs the same constructors earlier, never other ones -/

theorem relBuild_panic : ∀ (hd : List String) (rows : List (List E)) (s : Site),
    relBuild hd rows = some (.panic s) → pinnedRows hd rows = true
  | _, [], s, h => nomatch h
  | hd, r :: rest, s, h => by
    unfold relBuild at h
    split at h
    · cases h
    · rcases orElse_some h with h' | h'
      · split at h'
        · split at h'
          · rename_i vs hv
            refine bor_inl ?_
            rw [hv]
            exact failOf_panic (relRow_no_panic hd vs s) h'
          · cases h'
        · cases h'
      · exact bor_inr (relBuild_panic hd rest s h')
mutual
theorem cfail_panic : ∀ (e : E) (s : Site), cfail e = some (.panic s) → trig e = true
  | .num _, s, h => nomatch h
  | .str _, s, h => nomatch h
  | .tuple kvs, s, h =>
    (orElse_some h).elim (fun h' => bor_inl (cfailAttrs_panic kvs s h'))
      (fold_panic (b := trig (.tuple kvs)) fun hn => eval_safe (.tuple kvs) hn s)
  | .set xs, s, h =>
    (orElse_some h).elim (fun h' => bor_inl (cfailList_panic xs s h'))
      (fold_panic (b := trig (.set xs)) fun hn => eval_safe (.set xs) hn s)
  | .arr xs, s, h => cfailList_panic xs s h
  | .dict kvs, s, h =>
    (orElse_some h).elim (cfailPairs_panic kvs s) (fold_panic (b := trig (.dict kvs)) fun hn => eval_safe (.dict kvs) hn s)
  | .rel hd rows, s, h =>
    (orElse_some h).elim (fun h' => bor_inl (bor_inl (cfailRows_panic rows s h'))) fun h' =>
      (orElse_some h').elim (fun h'' => bor_inl (bor_inr (relBuild_panic hd rows s h'')))
        (fold_panic (b := trig (.rel hd rows)) fun hn => eval_safe (.rel hd rows) hn s)
  | .bin _ a b, s, h =>
    (orElse_some h).elim (fun h' => bor_inl (bor_inl (cfail_panic a s h')))
      fun h' => bor_inl (bor_inr (cfail_panic b s h'))
  | .cmp _ a b, s, h =>
    (orElse_some h).elim (fun h' => bor_inl (cfail_panic a s h')) fun h' => bor_inr (cfail_panic b s h')
  | .un _ a, s, h => cfail_panic a s h
  | .dot a _, s, h => cfail_panic a s h
  | .seqmap a c, s, h =>
    (orElse_some h).elim (fun h' => bor_inl (bor_inl (cfail_panic a s h')))
      fun h' => bor_inl (bor_inr (cfail_panic c s h'))
theorem cfailList_panic : ∀ (xs : List E) (s : Site), cfailList xs = some (.panic s) → trigList xs = true
  | [], s, h => nomatch h
  | e :: rest, s, h =>
    (orElse_some h).elim (fun h' => bor_inl (cfail_panic e s h')) fun h' => bor_inr (cfailList_panic rest s h')
theorem cfailAttrs_panic : ∀ (kvs : List (String × E)) (s : Site), cfailAttrs kvs = some (.panic s) → trigAttrs kvs = true
  | [], s, h => nomatch h
  | (_, e) :: rest, s, h =>
    (orElse_some h).elim (fun h' => bor_inl (cfail_panic e s h')) fun h' => bor_inr (cfailAttrs_panic rest s h')
theorem cfailPairs_panic : ∀ (kvs : List (E × E)) (s : Site), cfailPairs kvs = some (.panic s) → trigPairs kvs = true
  | [], s, h => nomatch h
  | (k, e) :: rest, s, h =>
    (orElse_some h).elim (fun h' => bor_inl (bor_inl (cfail_panic k s h'))) fun h' =>
      (orElse_some h').elim (fun h'' => bor_inl (bor_inr (cfail_panic e s h'')))
        fun h'' => bor_inr (cfailPairs_panic rest s h'')
theorem cfailRows_panic : ∀ (rows : List (List E)) (s : Site), cfailRows rows = some (.panic s) → trigRows rows = true
  | [], s, h => nomatch h
  | r :: rest, s, h =>
    (orElse_some h).elim (fun h' => bor_inl (cfailList_panic r s h')) fun h' => bor_inr (cfailRows_panic rest s h')
end

theorem run_no_panic (e : E) (h : Adm e) : ∀ s, run e ≠ .panic s := by
  intro s hr
  unfold run at hr
  split at hr
  · rename_i o hc
    rw [hr] at hc
    exact Bool.false_ne_true (h.symm.trans (cfail_panic e s hc))
  · exact eval_safe e h s hr

/-- C10 for the modelled fragment -/
theorem run_value_or_error (e : E) (h : Adm e) : (∃ v, run e = .ok v) ∨ run e = .err := by
  cases hr : run e with
  | ok v => exact Or.inl ⟨v, rfl⟩
  | err => exact Or.inr rfl
  | panic s => exact absurd hr (run_no_panic e h s)

/-! ### `Adm` cannot be dropped: a witness for each of the four sites

The `concatClash`, `call` and `pinnedRows` disjuncts of `trig` have no witness here. -/

/-- the full-strength statement: no expression of the fragment panics -/
def no_panic_full : Prop := ∀ (e : E) (s : Site), run e ≠ .panic s

/-- `(@: {}, @item: 2)`: asserted to panic by syntax/expr_tuple_test.go (KF-pinned-panics) -/
def wPinnedIndex : E := .tuple [("@", .set []), ("@item", .num 2)]
/-- `(@: 1, @char: 'x')`: asserted to panic by syntax/expr_tuple_test.go (KF-pinned-panics) -/
def wPinnedElem : E := .tuple [("@", .num 1), ("@char", .str [120])]
/-- `{('a, b': 1), (a: 1, b: 2)}` (KF-relation-bucket, relationBuilder.Add) -/
def wBucket : E := .set [.tuple [("a, b", .num 1)], .tuple [("a", .num 1), ("b", .num 2)]]
/-- `{(a: 1, b: 2)} with ('a, b': 1)` (KF-relation-bucket, toUnionSetWithItem) -/
def wBucketWith : E := .bin .with_ (.set [.tuple [("a", .num 1), ("b", .num 2)]]) (.tuple [("a, b", .num 1)])
/-- `{(@: 0, @char: 97), (@: 0, @item: 1)} >> \z 'a'`: no ill-typed tuple is written, `>>` builds it (KF-pinned-panics) -/
def wSeqmap : E :=
  .seqmap (.set [.tuple [("@", .num 0), ("@char", .num 97)], .tuple [("@", .num 0), ("@item", .num 1)]]) (.str [97])

-- `+kernel`: the elaborator's `whnf` is slow on `run`
theorem wPinnedIndex_panics : run wPinnedIndex = .panic .newTupleIndex := by decide +kernel
theorem wPinnedElem_panics : run wPinnedElem = .panic .newTupleElem := by decide +kernel
theorem wBucket_panics : run wBucket = .panic .relBuilderGet := by decide +kernel
theorem wBucketWith_panics : run wBucketWith = .panic .unionSetItem := by decide +kernel
theorem wSeqmap_panics : run wSeqmap = .panic .newTupleElem := by decide +kernel

theorem no_panic_full_false : ¬ no_panic_full := fun h => h wPinnedIndex .newTupleIndex wPinnedIndex_panics

/-- `Adm` is satisfiable by non-trivial expressions:
`({(a: 1, b: 'x'), (a: 2, b: {})} with (a: 3, b: ())) count` is admissible and evaluates to 3,
`1 (<) {2}` is admissible and is an (ordinary) error -/
def okExample : E :=
  .un .count (.bin .with_
    (.set [.tuple [("a", .num 1), ("b", .str [120])], .tuple [("a", .num 2), ("b", .set [])]])
    (.tuple [("a", .num 3), ("b", .tuple [])]))

example : Adm okExample ∧ run okExample = .ok (.num 3) := by decide +kernel
example : Adm (.cmp .sub (.num 1) (.set [.num 2])) ∧ run (.cmp .sub (.num 1) (.set [.num 2])) = .err := by decide +kernel

/-! ## (b) inventory -/

/-- every function of rel/, syntax/, engine/, translate/, tools/, pkg/*, cmd/arrai has exactly the expected number of
`panic(` calls, unchecked type assertions and `Must*` calls (identified by the crc32 of its qualified name) -/
theorem panicSites_expected : Arrai.Facts.Generated.panicSites = Expected.panicSites := rfl

theorem panicSiteTotals_expected : Arrai.Facts.Generated.panicSiteTotals = Expected.panicSiteTotals := rfl

end Arrai.C10
