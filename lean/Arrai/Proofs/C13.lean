/-
  C13 — data codecs round-trip: JSON, YAML, CSV, //bits and the server wire format.

  A document is its tree `J`: the text layers (encoding/json, yaml.v3, UTF-8) are trusted and validated by the
  correspondence run; YAML shares ToArrai/FromArrai with JSON.

  A `_partial` theorem holds under the guard in its statement; where the unguarded statement is false of the
  repaired code (a known finding) it is written down as `_full` and refuted by `_full_false`; an `example` after each
  guarded theorem shows the guard satisfiable.
-/
import Arrai.C13.Lemmas

namespace Arrai.C13.Theorems
open Arrai.C13 Arrai.C13.Impl Arrai.C13.Spec

/-! ### Part 1 — JSON / YAML round trips -/

/-- decode (strict) then encode returns the document, duplicate keys resolved — for ALL documents
(nested, empty containers, null, booleans, numbers, strings incl. the empty key) -/
theorem json_strict_rt (j : J) : fromArrai true (toArrai true j) = .ok j.norm := rt_strict j

/-- the document itself when no object binds a key twice -/
theorem json_strict_rt_same (j : J) (h : j.hasDupKeys = false) : fromArrai true (toArrai true j) = .ok j := by
  rw [rt_strict j, norm_eq_self j h]

example : (J.obj [([97], .num 1), ([98], .obj [([97], .null)])]).hasDupKeys = false := by decide

/-- decode ∘ encode ∘ decode = decode, strict mode, all documents -/
theorem json_idem_strict (j : J) : reDecode true j = .ok (toArrai true j) := by
  simp [reDecode, rt_strict, toArrai_norm]

/-- non-strict decode then encode: what comes back (`false`, `""`, `[]`, `{}` become `null`) -/
theorem json_nonstrict_rt (j : J) : fromArrai false (toArrai false j) = .ok j.nsNorm := rt_nonstrict j

/-- decode ∘ encode ∘ decode = decode, non-strict mode, for documents without `false`, `""`, `[]`, `{}` -/
theorem json_idem_nonstrict_partial (j : J) (h : j.hasEmptyish = false) :
    reDecode false j = .ok (toArrai false j) := by
  simp [reDecode, rt_nonstrict, nsNorm_eq_norm j h, toArrai_norm]

/-- the full-strength statement `json_idem_nonstrict_partial` falls short of -/
def json_idem_nonstrict_full : Prop := ∀ j : J, reDecode false j = .ok (toArrai false j)

/-- `false` decodes to `{}`, encodes as `null`, decodes to `()` (KF-json-nonstrict-empty) -/
theorem json_idem_nonstrict_full_false : ¬ json_idem_nonstrict_full := by
  intro h
  have e : Out.ok (R.tuple []) = Out.ok R.empty := h (.bool false)
  cases e

example : (J.obj [([107], .arr [.num 1, .str [97], .null, .bool true])]).hasEmptyish = false := by decide

/-! ### Part 2 — values a codec cannot represent are rejected, not silently changed -/

/-- the repaired encoder has no panic site: `{1: 2}` and `(b: 1)` give errors -/
theorem json_encode_never_panics (strict : Bool) (v : R) : fromArrai strict v ≠ .panic :=
  fromArrai_ne_panic strict v

/-- only a first key that is a number; `entryStep_not_str` is the statement for any key and position -/
theorem json_nonstring_key_rejected (strict : Bool) (n : Int) (v : R) (r : List (R × R)) :
    fromArrai strict (.dict ((.num n, v) :: r)) = .err :=
  congrArg (Out.map _) (entryStep_not_str (j := .num n) rfl nofun (json_encode_never_panics strict v))

/-- strict encoding is faithful on values without plain sets and offsets: if it succeeds, decoding the
document gives the value back (in its strictly tagged form) — so such a value is rejected or preserved -/
theorem json_rejects_partial (v : R) (hv : strictOk v = true) (j : J) (h : fromArrai true v = .ok j) :
    toArrai true j = tag v := rejects v hv j h

/-- the class is not an artefact: every strictly decoded value lies in it (so `json_rejects_partial`
covers all values a document can denote) -/
theorem json_decoded_in_class (j : J) : strictOk (toArrai true j) = true := strictOk_toArrai j

/-- the full-strength statement: every value is rejected or preserved -/
def json_rejects_full : Prop := ∀ (v : R) (j : J), fromArrai true v = .ok j → toArrai true j = tag v

/-- the plain set `{1, 2}` encodes as `{}` (KF-json-strict-sets) -/
theorem json_rejects_full_false : ¬ json_rejects_full := by
  intro h
  have e : R.empty = R.gset [.num 1, .num 2] := h (.gset [.num 1, .num 2]) (.obj []) rfl
  cases e

/-- an offset string loses its offset (KF-codec-offsets), which is why `strictOk` excludes offsets -/
theorem json_offset_dropped : fromArrai true (.tuple [(kS, .str 2 [97, 98])]) = .ok (.str [97, 98])
    ∧ toArrai true (.str [97, 98]) = .tuple [(kS, .str 0 [97, 98])] := ⟨rfl, rfl⟩

example : strictOk (.dict [(.str 0 [107], .tuple [(kA, .arr 0 [.num 1, .tuple [(kS, .str 0 [97])], .tuple [],
    .tuple [(kB, .tt)]])]), (.empty, .str 0 [120])]) = true := by decide

/-- the encoder accepts that value, the other hypothesis of `json_rejects_partial` -/
example : (fromArrai true (.dict [(.str 0 [107], .tuple [(kA, .arr 0 [.num 1, .tuple [(kS, .str 0 [97])], .tuple [],
    .tuple [(kB, .tt)]])]), (.empty, .str 0 [120])])).isOk = true := by decide

/-! ### Part 3 — the server wire format -/

/-- what an observer receives equals what the server serialised, for every value in the class `wireOk` -/
theorem wire_rt_partial (v : R) (h : wireOk v = true) : Wire.roundTrip v = .ok v := wire_rt v h

def wire_rt_full : Prop := ∀ v : R, Wire.roundTrip v = .ok v

/-- a set that is not an array comes back as an array (KF-wire-sets) -/
theorem wire_rt_full_false : ¬ wire_rt_full := by
  intro h
  have e : Out.ok (R.arr 0 [.num 1, .num 2]) = Out.ok (R.gset [.num 1, .num 2]) := h (.gset [.num 1, .num 2])
  cases e

/-- a dict comes back as an array of its entries (KF-wire-sets) -/
theorem wire_dict_becomes_array :
    Wire.roundTrip (.dict [(.str 0 [107], .num 1)]) = .ok (.arr 0 [.entryT (.str 0 [107]) (.num 1)]) := rfl

/-- an attribute named `{||}` is misread (KF-wire-reserved-name) -/
theorem wire_reserved_name : Wire.roundTrip (.tuple [(kSet, .arr 0 [.num 1])]) = .err := rfl

example : wireOk (.tuple [([97], .arr 0 [.str 0 [120], .tt, .empty, .tuple [], .num 5]), ([98], .itemT 1 (.num 2))])
    = true := by decide

/-! ### Part 4 — //bits -/

/-- `//bits.mask(//bits.set(n)) = n`; 2^53: up to there the float64 sum in `mask` is exact (the model needs only 2^63) -/
theorem bits_mask_set (n : Nat) (h : n < 2 ^ 53) : (Bits.set n).map Bits.mask = .ok n := by
  rw [Bits.set, if_pos (Nat.lt_trans h (by decide)), Out.map_ok, Bits.mask_setLoop]

/-- `//bits.set(//bits.mask(S)) = S` for a set `S ⊂ [0, 53)` (listed in increasing order) -/
theorem bits_set_mask (S : List Nat) (hs : S.Pairwise (· < ·)) (hb : ∀ x ∈ S, x < 53) :
    Bits.set (Bits.mask S) = .ok S := by
  rw [Bits.set, if_pos (Nat.lt_trans (Bits.mask_lt hs hb) (by decide)), Bits.setLoop_mask S hs]

example : [0, 2, 52].Pairwise (· < ·) ∧ (∀ x ∈ [0, 2, 52], x < 53) ∧ 5 < 2 ^ 53 := by decide

/-- an integer the `int` conversion cannot hold is rejected -/
theorem bits_set_rejects_large (n : Nat) (h : 2 ^ 63 ≤ n) : Bits.set n = .err := by
  rw [Bits.set, if_neg (Nat.not_lt.2 h)]

/-! ### Part 5 — //encoding.csv -/

/-- character level, for EVERY valid separator (`fieldNeedsQuotes` tests the writer's configured `Comma`):
encoding/csv's reader returns the records its writer was given, for every rectangular matrix of strings
without "\r\n" inside a field and without rows `[]` / `[""]` -/
theorem csv_text_rt_partial (sep : Nat) (hs : Csv.ValidSep sep) (m : List (List Key)) (h : csvOk m = true) :
    Csv.parse sep (Csv.writeAll sep m) = .ok m := Csv.parse_writeAll hs m h

/-- value level: `decoder((comma: c))(encoder((comma: c))(m)) = m` on that class, for every valid separator
(incl. the default `,` and the empty matrix), `m` as the decoder builds it (`Csv.roundTrip_of_matrixOf`: any value
the encoder accepts) -/
theorem csv_rt_partial (sep : Nat) (hs : Csv.ValidSep sep) (m : List (List Key)) (h : csvOk m = true) :
    Csv.roundTrip sep (Csv.matrixR m) = .ok (Csv.matrixR m) :=
  Csv.roundTrip_of_matrixOf hs (Csv.matrixOf_matrixR m) h

/-- a cell containing the configured separator is quoted: `[['a;b','c']]` with `;` is written `"a;b";c` -/
theorem csv_separator_cell_quoted :
    Csv.writeAll 59 [[[97, 59, 98], [99]]] = [34, 97, 59, 98, 34, 59, 99, 10] := by decide

example : Csv.ValidSep 44 ∧ Csv.ValidSep 59 ∧ Csv.ValidSep 9 ∧ Csv.ValidSep 124 ∧ Csv.ValidSep 32 :=
  ⟨⟨by decide, by decide, by decide⟩, ⟨by decide, by decide, by decide⟩, ⟨by decide, by decide, by decide⟩,
   ⟨by decide, by decide, by decide⟩, ⟨by decide, by decide, by decide⟩⟩

def csv_rt_full : Prop := ∀ m : List (List Key), Csv.roundTrip 44 (Csv.matrixR m) = .ok (Csv.matrixR m)

/-- the shapes `csvOk` excludes are really lost (KF-csv-stdlib): a row `[""]` disappears -/
theorem csv_blank_row_lost : Csv.roundTrip 44 (Csv.matrixR [[[]]]) = .ok (Csv.matrixR []) := rfl
/-- "\r\n" inside a field comes back as "\n" -/
theorem csv_crlf_changed :
    Csv.roundTrip 44 (Csv.matrixR [[[97, 13, 10, 98]]]) = .ok (Csv.matrixR [[[97, 10, 98]]]) := rfl
/-- a ragged matrix is written but cannot be read back -/
theorem csv_ragged_rejected : Csv.roundTrip 44 (Csv.matrixR [[[97], [98]], [[99]]]) = .err := rfl

theorem csv_rt_full_false : ¬ csv_rt_full := by
  intro h
  have e : Out.ok (Csv.matrixR []) = Out.ok (Csv.matrixR [[[]]]) := (csv_blank_row_lost).symm.trans (h [[[]]])
  cases e

example : csvOk [[[97], [], [34, 44, 10]], [[13], [32, 120], [92, 46]]] = true := by decide

end Arrai.C13.Theorems
