/-
  C06 — `<` is a strict total order consistent with `=`, and sorting follows it.

  Property theorems only (helper lemmas: Arrai/C06/{Lemmas,Embed,Clients,Den,Unique}.lean).  They are about
  `Impl.less` / `Impl.equal` of Arrai/C06/Model.lean — the transliteration of every `Less` method of
  /repo/rel as repaired.  Parts 0, 1, 2 hold for ALL representations `Rep` (no well-formedness hypothesis):
  numbers, generic and specialised tuples, `(@neg: x)` wrappers, every set representation, nested.

  Part 0: regenerated facts (kind numbers, operator table).
  Part 1: the order laws, via the embedding `less a b ↔ key a < key b` into the linear order `K`.
  Part 1b: `=` is sound for the meaning `den` (given `nodupNames`); on `Canonical` representations it is equality of meanings.
  Part 2: sorting clients — a strict total order has one sorted arrangement; orderby, rank, max/min,
          and the order in which sets are printed follow `less`.
  Part 3: the rules before the repairs violate trichotomy (witnesses).
-/
import Arrai.C06.Clients
import Arrai.C06.Unique
import Arrai.Facts.Generated

namespace Arrai.C06.Theorems
open Arrai.C06 Arrai.C06.Impl

/-! ### Part 0 — regenerated facts -/

theorem kinds_table : Arrai.Facts.Generated.kinds = Expected.kinds := rfl

theorem compareOps_table : Arrai.Facts.Generated.c06_compareOps = Expected.compareOps := rfl

/-- the constants of the model are the regenerated kind numbers -/
theorem kind_constants :
    Expected.kindOf "numberKind" = kNumber ∧ Expected.kindOf "emptySetKind" = kEmpty ∧
    Expected.kindOf "trueSetKind" = kTrue ∧ Expected.kindOf "genericSetKind" = kGenericSet ∧
    Expected.kindOf "stringKind" = kString ∧ Expected.kindOf "bytesKind" = kBytes ∧
    Expected.kindOf "arrayKind" = kArray ∧ Expected.kindOf "dictKind" = kDict ∧
    Expected.kindOf "unionSetKind" = kUnion ∧ Expected.kindOf "relationKind" = kRelation ∧
    Expected.kindOf "genericTupleKind" = kGenericTuple ∧ Expected.kindOf "stringCharTupleKind" = kCharT ∧
    Expected.kindOf "arrayItemTupleKind" = kItemT ∧ Expected.kindOf "dictValueTupleKind" = kEntryT ∧
    Expected.kindOf "bytesByteTupleKind" = kByteT := by decide +kernel

/-- the kind numbers of the data fragment are pairwise distinct and positive -/
theorem kinds_distinct :
    ([kNumber, kEmpty, kTrue, kGenericSet, kString, kBytes, kArray, kDict, kUnion, kRelation, kGenericTuple,
      kCharT, kItemT, kEntryT, kByteT].Nodup) ∧
    ([kNumber, kEmpty, kTrue, kGenericSet, kString, kBytes, kArray, kDict, kUnion, kRelation, kGenericTuple,
      kCharT, kItemT, kEntryT, kByteT].all (fun k => decide (0 < k))) = true := by decide +kernel

/-- equal kinds are the same Go type: the type assertion after the kind test of every `Less` method holds -/
theorem kind_eq_same_type (a b : Rep) (h : kind a = kind b) : ctorId a = ctorId b := kind_eq_ctor h

/-! ### Part 1 — the order laws -/

/-- the order embedding: `a.Less(b)` is the strict order of the canonical keys -/
theorem less_iff_key_lt (a b : Rep) : less a b = K.lt (key a) (key b) := less_eq a b

/-- the fuel of `less` is immaterial: any number of unfoldings above the nesting depth gives the same answer -/
theorem less_fuel_stable (n : Nat) (a b : Rep) (ha : depth a < n) (hb : depth b < n) :
    lessN n a b = less a b := by rw [lessN_eq n a b ha hb, less_eq]

theorem less_irrefl (a : Rep) : less a a = false := by rw [less_eq]; exact K.lt_irrefl _

theorem less_trans (a b c : Rep) (h₁ : less a b = true) (h₂ : less b c = true) : less a c = true := by
  rw [less_eq] at *; exact K.lt_trans h₁ h₂

theorem less_asymm (a b : Rep) (h : less a b = true) : less b a = false := by
  rw [less_eq] at *; exact K.lt_asymm h

/-- exactly one of `a < b`, `a = b`, `b < a` -/
theorem trichotomy (a b : Rep) :
    (less a b = true ∧ equal a b = false ∧ less b a = false) ∨
    (less a b = false ∧ equal a b = true ∧ less b a = false) ∨
    (less a b = false ∧ equal a b = false ∧ less b a = true) := by
  simp only [less_eq, equal]
  rcases K.trichotomy (key a) (key b) with h | h | h
  · exact Or.inl ⟨h.1, (K.beq_eq_false_iff _ _).2 h.2.1, h.2.2⟩
  · exact Or.inr (Or.inl ⟨h.1, (K.beq_iff _ _).2 h.2.1, h.2.2⟩)
  · exact Or.inr (Or.inr ⟨h.1, (K.beq_eq_false_iff _ _).2 h.2.1, h.2.2⟩)

theorem equal_refl (a : Rep) : equal a a = true := (equal_iff_key a a).2 rfl
theorem equal_symm (a b : Rep) (h : equal a b = true) : equal b a = true :=
  (equal_iff_key b a).2 ((equal_iff_key a b).1 h).symm
theorem equal_trans (a b c : Rep) (h₁ : equal a b = true) (h₂ : equal b c = true) : equal a c = true :=
  (equal_iff_key a c).2 (((equal_iff_key a b).1 h₁).trans ((equal_iff_key b c).1 h₂))

/-- `<` cannot tell equal values apart -/
theorem less_respects (a a' b b' : Rep) (ha : equal a a' = true) (hb : equal b b' = true) :
    less a b = less a' b' := by
  rw [less_eq, less_eq, (equal_iff_key a a').1 ha, (equal_iff_key b b').1 hb]

/-- every comparison operator of `compareOps` is the stated combination of `Less` / `Equal` -/
theorem derived_ops (a b : Rep) :
    Expected.compareOps.map (fun e => (e.1, opOfText e.2 a b)) =
      [("!=", some (opNe a b)), ("<", some (opLt a b)), ("<=", some (opLe a b)),
       ("=", some (opEq a b)), (">", some (opGt a b)), (">=", some (opGe a b))] := by
  simp [Expected.compareOps, opOfText, opNe, opLt, opLe, opEq, opGt, opGe]

/-- … and these combinations are the derived relations of the strict order -/
theorem derived_ops_meaning (a b : Rep) :
    opLe a b = (less a b || equal a b) ∧ opGe a b = (less b a || equal a b) ∧
    opGt a b = less b a ∧ opNe a b = !equal a b ∧ opLt a b = less a b ∧ opEq a b = equal a b := by
  rcases trichotomy a b with h | h | h <;> simp [opLe, opGe, opGt, opNe, opLt, opEq, h.1, h.2.1, h.2.2]

/-! ### Part 1b — canonical-form equality and the meaning of values -/

/-- `=` (canonical-form equality) is sound for the meaning: values that are `=` denote the same `V`
(tuples and relation headings without repeated names — a frozen map cannot repeat a key) -/
theorem equal_sound (a b : Rep) (na : nodupNames a = true) (nb : nodupNames b = true) (h : equal a b = true) :
    den a = den b := key_sound a na b nb ((equal_iff_key a b).1 h)

/-- hence: if neither `a < b` nor `b < a`, the two values mean the same -/
theorem incomparable_same_meaning (a b : Rep) (na : nodupNames a = true) (nb : nodupNames b = true)
    (h₁ : less a b = false) (h₂ : less b a = false) : den a = den b :=
  equal_sound a b na nb (equal_of_not_less h₁ h₂)

/-- the hypothesis is satisfiable non-trivially: `{(b: 1, a: {2, 3}), [4]}` and the same value enumerated otherwise -/
example : nodupNames (.union [.relation ["a", "b"] [[.generic [.num 2, .num 3], .num 1]], .generic [.array [some (.num 4)] 0]]) = true ∧
    equal (.union [.relation ["a", "b"] [[.generic [.num 2, .num 3], .num 1]], .generic [.array [some (.num 4)] 0]])
          (.union [.generic [.array [some (.num 4)] 0], .relation ["b", "a"] [[.num 1, .generic [.num 3, .num 2]]]]) = true := by
  decide +kernel

/-- canonical representations with the same meaning have the same order key (Arrai/C06/Unique.lean: C02's
`wf_unique`, one layer at a time); with `equal_sound`: on canonical representations `=` is equality of meanings -/
theorem equal_iff_den (a b : Rep) (ca : Canonical a) (cb : Canonical b) : equal a b = true ↔ den a = den b := by
  constructor
  · exact equal_sound a b (canon_nn a ca) (canon_nn b cb)
  · exact fun h => (equal_iff_key a b).2 (key_complete a ca b cb h)

/-- trichotomy with the meaning in the middle: for canonical representations (that the constructors of /repo/rel build
such is C02's claim, see `Canonical`) exactly one of `a < b`, `den a = den b`, `b < a` -/
theorem trichotomy_den (a b : Rep) (ca : Canonical a) (cb : Canonical b) :
    (less a b = true ∧ den a ≠ den b ∧ less b a = false) ∨
    (less a b = false ∧ den a = den b ∧ less b a = false) ∨
    (less a b = false ∧ den a ≠ den b ∧ less b a = true) := by
  have he := equal_iff_den a b ca cb
  have ne : equal a b = false → den a ≠ den b := fun hf e => by rw [he.2 e] at hf; cases hf
  rcases trichotomy a b with h | h | h
  · exact Or.inl ⟨h.1, ne h.2.1, h.2.2⟩
  · exact Or.inr (Or.inl ⟨h.1, he.1 h.2.1, h.2.2⟩)
  · exact Or.inr (Or.inr ⟨h.1, ne h.2.1, h.2.2⟩)

/-- the hypothesis is satisfiable non-trivially -/
example : Canonical (.union [.generic [.num 2, .gtuple [], .relation ["b", "a"] [[.num 1, .str [97] 0]]],
    .array [some (.dict [[.num 1, .num 2, .num 3]]), none, some .true_] 5]) := by
  unfold Canonical; decide +kernel

/-- without canonicity: at most one of `a < b`, `b < a`; and if neither, the meanings agree -/
theorem trichotomy_den_partial (a b : Rep) (na : nodupNames a = true) (nb : nodupNames b = true) :
    (less a b = true ∧ less b a = false) ∨ (less a b = false ∧ den a = den b ∧ less b a = false) ∨
    (less a b = false ∧ less b a = true) := by
  rcases trichotomy a b with h | h | h
  · exact Or.inl ⟨h.1, h.2.2⟩
  · exact Or.inr (Or.inl ⟨h.1, equal_sound a b na nb h.2.1, h.2.2⟩)
  · exact Or.inr (Or.inr ⟨h.1, h.2.2⟩)

/-- the canonicity hypothesis of `trichotomy_den` cannot be dropped: a non-canonical representation (a repeated
member, which a frozen set cannot hold) is ordered against the canonical one although they mean the same -/
theorem trichotomy_den_needs_canonical :
    less (.generic [.num 1]) (.generic [.num 1, .num 1]) = true ∧
    den (.generic [.num 1]) = den (.generic [.num 1, .num 1]) := by decide +kernel

/-! ### Part 2 — sorting follows the order -/

/-- a strict total order has exactly one sorted arrangement of a list: two arrangements of the same members
that are both strictly increasing w.r.t. an asymmetric relation are the same list -/
theorem sort_unique {α : Type} (lt : α → α → Prop) (asymm : ∀ a b, lt a b → lt b a → False)
    (l₁ l₂ : List α) (h₁ : l₁.Pairwise lt) (h₂ : l₂.Pairwise lt) (hp : l₁.Perm l₂) : l₁ = l₂ :=
  pairwise_perm_eq asymm h₁ h₂ hp

/-- … and insertion sort (the model of `sort.Sort`/`sort.Slice`) finds it when no two members are equal -/
theorem sort_exists (xs : List Rep) (hn : NoTies id xs) :
    (isort less xs).Perm xs ∧ (isort less xs).Pairwise (fun x y => less x y = true) := by
  exact ⟨isort_perm _ _, orderBy_strict (f := id) hn⟩

/-- the result of sorting does not depend on the order in which the members are enumerated -/
theorem sort_perm_invariant (xs ys : List Rep) (hn : NoTies id xs) (hp : xs.Perm ys) :
    isort less xs = isort less ys := orderBy_perm_invariant (f := id) hn hp

/-- `orderby`: a rearrangement of the members, non-decreasing in the key -/
theorem orderby_sorted (keyf : Rep → Rep) (xs : List Rep) :
    (orderBy keyf xs).Perm xs ∧ (orderBy keyf xs).Pairwise (fun x y => less (keyf y) (keyf x) = false) := by
  refine ⟨orderBy_perm keyf xs, ?_⟩
  exact (orderBy_sortedLE keyf xs).imp (fun {x y} h => (kcmp_ne_gt_iff keyf x y).1 h)

/-- without tied keys `orderby` is strictly increasing, is the only such arrangement, and does not depend on the
enumeration order of the set -/
theorem orderby_unique (keyf : Rep → Rep) (xs : List Rep) (hn : NoTies keyf xs) :
    (orderBy keyf xs).Pairwise (fun x y => less (keyf x) (keyf y) = true) ∧
    (∀ l : List Rep, l.Perm xs → l.Pairwise (fun x y => less (keyf x) (keyf y) = true) → l = orderBy keyf xs) ∧
    (∀ ys : List Rep, xs.Perm ys → orderBy keyf ys = orderBy keyf xs) := by
  have hs := orderBy_strict hn
  refine ⟨hs, fun l hp hl => ?_, fun ys hp => (orderBy_perm_invariant hn hp).symm⟩
  exact pairwise_perm_eq (fun a b hab hba => Bool.false_ne_true ((less_asymm _ _ hab).symm.trans hba)) hl hs
    (hp.trans (orderBy_perm keyf xs).symm)

/-- with tied keys only the tied members may swap: the sequence of keys is still determined -/
theorem orderby_keys_determined (keyf : Rep → Rep) (xs ys : List Rep) (hp : xs.Perm ys) :
    (orderBy keyf xs).map (fun x => key (keyf x)) = (orderBy keyf ys).map (fun x => key (keyf x)) :=
  orderBy_keys_perm_invariant keyf hp

/-- `rank`: the entries come out in `orderby` order and the rank of an entry is the number of entries whose
key is strictly smaller -/
theorem rank_by_less (keyf : Rep → Rep) (xs : List Rep) :
    (rank keyf xs).map (·.1) = orderBy keyf xs ∧
    ∀ p ∈ rank keyf xs, p.2 = (xs.filter (fun y => less (keyf y) (keyf p.1))).length := by
  have h : rank keyf xs = _ :=
    rankLoop_eq keyf (orderBy keyf xs) 0 0 none (orderBy_sortedLE keyf xs) (fun c hc => nomatch hc)
  rw [h]
  refine ⟨by rw [List.map_map]; exact List.map_id _, fun p hp => ?_⟩
  obtain ⟨r, _, rfl⟩ := List.mem_map.1 hp
  simp only [Option.any_none, Bool.false_eq_true, if_false, Nat.zero_add]
  rw [((orderBy_perm keyf xs).filter _).length_eq]
  exact congrArg List.length (List.filter_congr fun y _ => by rw [less_eq])

/-- `max`/`min` (with `.` as key): a member that no member exceeds / undercuts; `none` only for the empty set -/
theorem min_max_by_less (xs : List Rep) :
    (∀ m, maxOf xs = some m → m ∈ xs ∧ ∀ y ∈ xs, less m y = false) ∧
    (∀ m, minOf xs = some m → m ∈ xs ∧ ∀ y ∈ xs, less y m = false) ∧
    (xs ≠ [] → (maxOf xs).isSome = true ∧ (minOf xs).isSome = true) := by
  refine ⟨?_, ?_, ?_⟩
  · intro m hm
    exact pickLoop_spec less_irrefl (less_trans _ _ _) xs m (maxLoop_eq_pick none xs ▸ hm)
  · intro m hm
    exact pickLoop_spec (better := fun a v => less v a) less_irrefl
      (fun h₁ h₂ => less_trans _ _ _ h₂ h₁) xs m (minLoop_eq_pick none xs ▸ hm)
  · intro hne
    cases xs with
    | nil => exact absurd rfl hne
    | cons v vs =>
      obtain ⟨m, hm⟩ := pickLoop_some less vs v
      obtain ⟨m', hm'⟩ := pickLoop_some (fun a v => less v a) vs v
      simp [maxOf, minOf, Impl.maxLoop, Impl.minLoop, maxLoop_eq_pick, minLoop_eq_pick, hm, hm']

/-- the maximum is unique up to `=` -/
theorem max_unique (xs : List Rep) (m m' : Rep) (hm : maxOf xs = some m) (hm' : m' ∈ xs)
    (hmax : ∀ y ∈ xs, less m' y = false) : equal m m' = true :=
  have ⟨hmem, hall⟩ := (min_max_by_less xs).1 m hm
  equal_of_not_less (hall m' hm') (hmax m hmem)

/-- printing a set walks `OrderedValues()`: the members in the one order `less`, whatever the enumeration order.
(`NoTies id xs` holds of the members of a canonical set, but no lemma states that.) -/
theorem print_order_by_less (xs ys : List Rep) (hn : NoTies id xs) (hp : xs.Perm ys) :
    orderedValues xs = orderedValues ys ∧ (orderedValues xs).Pairwise (fun x y => less x y = true) :=
  ⟨sort_perm_invariant xs ys hn hp, (sort_exists xs hn).2⟩

/-! ### Part 3 — before the repairs trichotomy failed (witnesses) -/

/-- `()` vs `{}`: neither is less, and they are not equal (`EmptySet.Less`) -/
theorem trichotomy_false_before_repair_empty :
    Old.less (.gtuple []) .empty = false ∧ Old.less .empty (.gtuple []) = false ∧
    equal (.gtuple []) .empty = false := by decide +kernel

/-- `()` vs `true` (`TrueSet.Less`) -/
theorem trichotomy_false_before_repair_true :
    Old.less (.gtuple []) .true_ = false ∧ Old.less .true_ (.gtuple []) = false ∧
    equal (.gtuple []) .true_ = false := by decide +kernel

/-- `'abc'` vs `1\'abc'`: the offset was ignored (`String.Less`) -/
theorem trichotomy_false_before_repair_string_offset :
    Old.less (.str [97, 98, 99] 0) (.str [97, 98, 99] 1) = false ∧
    Old.less (.str [97, 98, 99] 1) (.str [97, 98, 99] 0) = false ∧
    equal (.str [97, 98, 99] 0) (.str [97, 98, 99] 1) = false := by decide +kernel

/-- a hole and U+FFFD coincide in `string(s.s)` -/
theorem trichotomy_false_before_repair_string_hole :
    Old.less (.str [97, -1, 98] 0) (.str [97, 65533, 98] 0) = false ∧
    Old.less (.str [97, 65533, 98] 0) (.str [97, -1, 98] 0) = false ∧
    equal (.str [97, -1, 98] 0) (.str [97, 65533, 98] 0) = false := by decide +kernel

/-- `[1,,2]` vs `[1,,3]`: a hole in both arrays ended the comparison (`Array.Less`) -/
theorem trichotomy_false_before_repair_array_holes :
    Old.less (.array [some (.num 1), none, some (.num 2)] 0) (.array [some (.num 1), none, some (.num 3)] 0) = false ∧
    Old.less (.array [some (.num 1), none, some (.num 3)] 0) (.array [some (.num 1), none, some (.num 2)] 0) = false ∧
    equal (.array [some (.num 1), none, some (.num 2)] 0) (.array [some (.num 1), none, some (.num 3)] 0) = false := by
  decide +kernel

/-- `{|b| (1)}` vs `{|a,b| (1,2)}`: each was less than the other — headings were tested in one direction only
(`Relation.Less`) -/
theorem trichotomy_false_before_repair_relation :
    Old.less (.relation ["b"] [[.num 1]]) (.relation ["a", "b"] [[.num 1, .num 2]]) = true ∧
    Old.less (.relation ["a", "b"] [[.num 1, .num 2]]) (.relation ["b"] [[.num 1]]) = true := by decide +kernel

/-- the repaired rules order the same witnesses -/
theorem witnesses_ordered_after_repair :
    less .empty (.gtuple []) = true ∧ less .true_ (.gtuple []) = true ∧
    less (.str [97, 98, 99] 0) (.str [97, 98, 99] 1) = true ∧
    less (.str [97, -1, 98] 0) (.str [97, 65533, 98] 0) = true ∧
    less (.array [some (.num 1), none, some (.num 2)] 0) (.array [some (.num 1), none, some (.num 3)] 0) = true ∧
    less (.bytes [1] 0) (.bytes [2] 0) = true ∧
    less (.num 3) (.gtuple [("@neg", .gtuple [("@neg", .num 1)])]) = true ∧
    less (.relation ["b"] [[.num 1]]) (.relation ["a", "b"] [[.num 1, .num 2]]) = true ∧
    less (.relation ["a", "b"] [[.num 1, .num 2]]) (.relation ["b"] [[.num 1]]) = false := by decide +kernel

/-- `<<1>> < <<2>>` panicked (`Bytes.Less` asserted `*Bytes`) -/
theorem old_bytes_less_panics : Old.panics (.bytes [1] 0) (.bytes [2] 0) = true := by decide +kernel

/-- `3 < (@neg: (@neg: 1))` panicked: the nested wrapper had the kind of a number (`GenericTuple.Kind`) -/
theorem old_kind_collision_panics :
    Old.kind (.gtuple [("@neg", .gtuple [("@neg", .num 1)])]) = Old.kind (.num 3) ∧
    Old.panics (.num 3) (.gtuple [("@neg", .gtuple [("@neg", .num 1)])]) = true := by decide +kernel

end Arrai.C06.Theorems
