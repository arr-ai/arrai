/-
  C17 — the server engine applies updates atomically, in order, and never wedges.

  Parts 1–5 quantify over every type `S` of database values, every initial value, every finite history (list of
  messages accepted by the loop), every expression (`S → Option S`), every callback script — including callbacks
  that fail, panic, or have their own cancel function called while they run — and every enumeration order of the
  watcher map (part 0: the codes of enumeration orders are exactly the permutations).  Part 7 discharges the
  concurrency quantifier: every execution of any number of concurrent clients under any schedule is such a history.

  `Impl` is the repaired loop; part 6 runs the witnesses of the defects on `Old`, `Prev` and `Mut`.
-/
import Arrai.C17.Conc

namespace Arrai.C17.Theorems
open Arrai.C17

variable {S : Type}

/-- a history that exercises everything: failing and state-dependent expressions, callbacks that
return an error, panic or cancel themselves, cancel twice, cancel of an unknown id, hang-up -/
def eventful : List (Msg Nat) :=
  [.add (fun _ => none) [], .update (fun s => some (s + 1)) [], .add (fun s => some s) [.ok, .err],
   .add (fun s => if s % 2 = 0 then some s else none) [.panic], .add (fun s => some (2 * s)) [],
   .add (fun s => some s) [.ok, .reenter],
   .update (fun s => some (s + 1)) [1], .update (fun _ => none) [], .remove 4, .remove 4, .remove 9,
   .update (fun s => some (s + 1)) [], .hangup [], .add (fun s => some s) [], .update (fun s => some (s + 1)) []]

/-- the model on that history (sanity check of the definitions the theorems are about) -/
example : Impl.replies (Impl.run 0 eventful) = [true, true, false, true, true]
    ∧ Impl.log (Impl.run 0 eventful) 2 = [.val 1, .val 2, .closed true]
    ∧ Impl.log (Impl.run 0 eventful) 4 = [.val 2, .val 4, .closed false]
    ∧ Impl.log (Impl.run 0 eventful) 5 = [.val 1, .val 2, .closed false] := by decide +kernel

/-! ### Part 0 — the model of Go's unspecified map iteration order -/

theorem enumeration_is_permutation {α : Type} (code : List Nat) (l : List α) : (permBy code l).Perm l :=
  permBy_perm code l

/-- and every enumeration order of the map is chosen by some code: quantifying over codes is quantifying
over all orders in which Go may range over the map -/
theorem every_enumeration_has_a_code {α : Type} (l l' : List α) (h : l'.Perm l) : ∃ code, permBy code l = l' :=
  permBy_surj l' l h

/-! ### Part 1 — the loop never crashes and never wedges -/

/-- after every history the loop is back at its `select` -/
theorem no_wedge (g0 : S) (h : List (Msg S)) : (Impl.run g0 h).status = .running :=
  (Impl.run_refines g0 h).1.running

/-- no arm of `Impl.step` sets `crashed`: the claim rests on the `remove` arm being a faithful copy of
`if w, has := watchers[id]; has { … }` (correspondence run, body hash of `engine.Start`); `Old.step` has the arm that
did crash -/
theorem no_crash (g0 : S) (h : List (Msg S)) : (Impl.run g0 h).status ≠ .crashed := by
  rw [no_wedge]; exact fun e => Impl.Status.noConfusion e

/-- the cancel function returns without sending when the watcher is busy or cancelled, its state at each of the
three places where the loop calls `onclose` (`Impl.closeSiteStates`).  Inside `(*watcher).update` the model asks
`cancelSends` at these states (`blocked` of `Impl.wUpdate`); for `close()` in the cancel, hang-up and stop arms it
has no blocked outcome, and this theorem is what justifies leaving it out. -/
theorem cancel_inside_onclose_returns : ∀ st ∈ Impl.closeSiteStates, Impl.cancelSends st = false := by decide +kernel

/-! ### Part 2 — the loop refines the sequential specification -/

theorem refines (g0 : S) (h : List (Msg S)) : abs (Impl.run g0 h) = Spec.run g0 h :=
  (Impl.run_refines g0 h).2

/-- `Stop` closes exactly the observers that are still live -/
theorem stop_refines (g0 : S) (h : List (Msg S)) (ord : List Nat) :
    abs (Impl.stop (Impl.run g0 h) ord) = Spec.stop (Spec.run g0 h) :=
  (Impl.stop_refines g0 h ord).2

/-! ### Part 3 — every update is answered, exactly once, before anything else happens; effects in
acknowledgement order -/

theorem every_update_answered (g0 : S) (h1 : List (Msg S)) (e : S → Option S) (ord : List Nat) :
    ∃ evs, (Impl.run g0 (h1 ++ [.update e ord])).trace
        = (Impl.run g0 h1).trace ++ Impl.Out.reply (e (Impl.run g0 h1).global).isSome :: evs
      ∧ evs.filterMap Impl.replyOf = [] := by
  have : Impl.run g0 (h1 ++ [.update e ord]) = Impl.step (Impl.run g0 h1) (.update e ord) :=
    Impl.runFrom_append ..
  rw [this]
  cases he : e (Impl.run g0 h1).global with
  | none => rw [Impl.step_update_none (no_wedge g0 h1) he]; exact ⟨[], rfl, rfl⟩
  | some v => rw [Impl.step_update_some (no_wedge g0 h1) he]; exact ⟨_, rfl, Impl.replies_tell ..⟩

/-- the database is the result of applying the accepted updates one at a time in the order of the
rendezvous (= the order of the acknowledgements), and the acknowledgements are those of that sequential run -/
theorem order (g0 : S) (h : List (Msg S)) :
    (Impl.run g0 h).global = Spec.dbAfter g0 (Spec.updates h)
    ∧ Impl.replies (Impl.run g0 h) = Spec.acks g0 (Spec.updates h) := by
  rw [Impl.run_global, Impl.run_replies]
  exact (Spec.runFrom_db_replies h (Spec.init g0)).imp_right (·.trans (List.nil_append _))

theorem one_reply_per_update (g0 : S) (h : List (Msg S)) :
    (Impl.replies (Impl.run g0 h)).length = (Spec.updates h).length := by
  rw [(order g0 h).2, Spec.acks_length]

/-! ### Part 4 — delivery -/

/-- the observer subscribed by `add e c` after `h1` is told the value of `e` on the state at its
subscription and on every state installed afterwards, in order, until its expression fails, its
callback fails, it is cancelled (from outside or from inside its callback) or the engine hangs up;
and nothing after that -/
theorem delivery (g0 : S) (h1 : List (Msg S)) (e : S → Option S) (c : List Act) (h2 : List (Msg S)) :
    Impl.log (Impl.run g0 (h1 ++ .add e c :: h2)) ((Impl.run g0 h1).lastID + 1)
      = Spec.expectedFrom ((Impl.run g0 h1).lastID + 1) e c (Impl.run g0 h1).global h2 := by
  rw [Impl.run_log, Impl.run_lastID, Impl.run_global]
  exact Spec.delivery g0 h1 e c h2

/-- in particular: an observer whose expression `f` and callback never fail and that is not cancelled is
told `f` of the state at subscription and of every state installed afterwards, in order -/
theorem delivery_live (g0 : S) (h1 : List (Msg S)) (f : S → S) (h2 : List (Msg S))
    (hq : h2.all (Spec.quiet ((Impl.run g0 h1).lastID + 1)) = true) :
    Impl.log (Impl.run g0 (h1 ++ .add (fun s => some (f s)) [] :: h2)) ((Impl.run g0 h1).lastID + 1)
      = ((Impl.run g0 h1).global :: Spec.installed (Impl.run g0 h1).global h2).map (fun s => Ev.val (f s)) := by
  rw [delivery g0 h1 _ [] h2]
  simp only [Spec.expectedFrom, List.headD_nil, List.tail_nil, List.map_cons]
  rw [Spec.expected_live _ f h2 _ hq]

/-! ### Part 5 — isolation -/

/-- what an observer is told, and every reply, depend only on that observer's view of the history: the
updates, the hang-ups, its own subscription and its own cancellations, and the places among these at which
other observers subscribed (`.add none` in `Spec.VMsg`).  Only how many of those precede its own subscription
matters, so the hypothesis asks for more than is needed: moving another observer's `Observe` across an update
changes the view.  Other observers — whatever their expressions and callbacks do, however often and from wherever
they are cancelled, with known or unknown ids — and the enumeration orders of the map change nothing. -/
theorem isolation (g0 : S) (j : Nat) (h h' : List (Msg S)) (hv : Spec.view j 0 h = Spec.view j 0 h') :
    Impl.log (Impl.run g0 h) j = Impl.log (Impl.run g0 h') j
    ∧ Impl.replies (Impl.run g0 h) = Impl.replies (Impl.run g0 h') := by
  simp only [Impl.run_log, Impl.run_replies]
  exact (Spec.isolation g0 j h h' hv).imp_left (congrArg Spec.Obs.log)

/-- the order in which Go enumerates the watcher map is invisible to every observer and in every reply -/
theorem enumeration_order_irrelevant (g0 : S) (j : Nat) (h : List (Msg S)) (f : List Nat → List Nat) :
    Impl.log (Impl.run g0 (h.map (Spec.reorder f))) j = Impl.log (Impl.run g0 h) j
    ∧ Impl.replies (Impl.run g0 (h.map (Spec.reorder f))) = Impl.replies (Impl.run g0 h) :=
  isolation g0 j _ h (Spec.view_reorder f j h 0)

/-! ### Part 5b — onclose at most once; exactly once after `Stop` -/

/-- onclose is called at most once per observer, and nothing is sent to an observer after it -/
theorem closed_at_most_once (g0 : S) (h : List (Msg S)) (j : Nat) :
    Spec.noClose (Impl.log (Impl.run g0 h) j)
    ∨ ∃ l0 b, Impl.log (Impl.run g0 h) j = l0 ++ [Ev.closed b] ∧ Spec.noClose l0 := by
  rw [Impl.run_log]
  have hw := Spec.run_wf g0 h j
  cases ho : (Spec.run g0 h).obs j with
  | fresh => left; intro x hx; simp [Spec.Obs.log] at hx
  | live e c l => rw [ho] at hw; left; exact hw
  | dead l => rw [ho] at hw; right; exact hw

/-- after `Stop`, every observer that ever subscribed has been closed exactly once, as the last thing it heard -/
theorem every_observer_closed_exactly_once (g0 : S) (h : List (Msg S)) (ord : List Nat)
    (j : Nat) (hj : 1 ≤ j ∧ j ≤ (Impl.run g0 h).lastID) :
    ∃ l0 b, Impl.log (Impl.stop (Impl.run g0 h) ord) j = l0 ++ [Ev.closed b] ∧ Spec.noClose l0 := by
  rw [Impl.stop_log]
  exact Spec.close_closed (Spec.run_wf g0 h j) (refines g0 h ▸ Impl.abs_obs_ne_fresh _ hj)

/-! ### Part 6 — the loop before the repairs: the defects, machine-checked -/

/-- an observer whose expression fails to evaluate; then an `Update` -/
def failingObserver : List (Msg Nat) := [.add (fun _ => none) [], .update (fun _ => some 1) []]

/-- `cancel(); cancel()`; then an `Update` -/
def doubleCancel : List (Msg Nat) := [.add (fun s => some s) [], .remove 1, .remove 1, .update (fun _ => some 1) []]

/-- the second invocation of observer 1's callback calls its own cancel function -/
def reentrant : List (Msg Nat) :=
  [.add (fun s => some s) [.ok, .reenter], .add (fun s => some s) [],
   .update (fun _ => some 1) [], .update (fun _ => some 2) []]

/-- before any repair the loop deadlocked (blocked in its own `w.cancel()`): the observer is never told
why, and the `Update` that follows is never answered -/
theorem no_wedge_false_before_repair :
    (Old.run 0 failingObserver).status = .wedged ∧ Impl.replies (Old.run 0 failingObserver) = []
    ∧ Impl.log (Old.run 0 failingObserver) 1 = [] := by decide +kernel

/-- before any repair a second cancel dereferenced a nil watcher: the process died -/
theorem no_crash_false_before_repair :
    (Old.run 0 doubleCancel).status = .crashed ∧ Impl.replies (Old.run 0 doubleCancel) = [] := by decide +kernel

/-- before any repair an `onupdate` error deadlocked the loop as well, and an observer whose callback
panicked was closed but stayed registered: it was notified again and closed a second time -/
theorem old_callback_failures :
    (Old.run 0 ([.add (fun s => some s) [.err]] : List (Msg Nat))).status = .wedged
    ∧ Impl.log (Old.run 0 ([.add (fun s => some s) [.panic], .update (fun _ => some 1) [], .remove 1] : List (Msg Nat))) 1
        = [.val 0, .closed true, .val 1, .closed false] := by decide +kernel

/-- before the re-entrant-cancel repair (finding KF-engine-reentrant-cancel) a callback that called its own
cancel function blocked the loop in `e.removeWatcher <- id`: the observer is never closed, the other
observer misses the state installed by the same update, and the next `Update` is never answered -/
theorem no_wedge_false_before_reentrant_repair :
    (Prev.run 0 reentrant).status = .wedged
    ∧ Impl.replies (Prev.run 0 reentrant) = [true]
    ∧ Impl.log (Prev.run 0 reentrant) 1 = [.val 0, .val 1]
    ∧ Impl.log (Prev.run 0 reentrant) 2 = [.val 0] := by decide +kernel

/-- a variant that makes the watcher idle again before the `onclose(nil)` of a watcher cancelled during its
callback (`Mut`): a cancel from inside that onclose goes on to the send and blocks the loop; the update
that triggered it was already acknowledged, the next one never is -/
theorem no_wedge_false_when_idle_during_onclose :
    (Mut.run 0 reentrant).status = .wedged ∧ Impl.replies (Mut.run 0 reentrant) = [true]
    ∧ Impl.log (Mut.run 0 reentrant) 2 = [.val 0] := by decide +kernel

/-- the repaired loop on the same histories -/
theorem repaired_on_witnesses :
    (Impl.run 0 failingObserver).status = .running ∧ Impl.replies (Impl.run 0 failingObserver) = [true]
    ∧ Impl.log (Impl.run 0 failingObserver) 1 = [.closed true]
    ∧ (Impl.run 0 doubleCancel).status = .running ∧ Impl.replies (Impl.run 0 doubleCancel) = [true]
    ∧ Impl.log (Impl.run 0 doubleCancel) 1 = [.val 0, .closed false]
    ∧ (Impl.run 0 reentrant).status = .running ∧ Impl.replies (Impl.run 0 reentrant) = [true, true]
    ∧ Impl.log (Impl.run 0 reentrant) 1 = [.val 0, .val 1, .closed false]
    ∧ Impl.log (Impl.run 0 reentrant) 2 = [.val 0, .val 1, .val 2] := by decide +kernel

/-! ### Part 7 — all interleavings of concurrent clients

What is assumed about engine.go and Go, and what of the cancel function is left out: head of Arrai/C17/Conc.lean. -/

/-- every execution of concurrent clients under every schedule is the run of one history -/
theorem interleaving_is_history (g0 : S) (progs : Nat → List (Conc.COp S)) (evs : List Conc.Event) :
    (Conc.run g0 progs evs).eng = Impl.run g0 (Conc.history (Conc.run g0 progs evs)) :=
  (Conc.inv_run g0 progs evs).eng

/-- that history is an interleaving of the messages of the individual clients … -/
theorem history_is_merge_of_clients (g0 : S) (progs : Nat → List (Conc.COp S)) (evs : List Conc.Event) :
    Conc.Merge (fun c => ((Conc.run g0 progs evs).client c).sent) (Conc.history (Conc.run g0 progs evs)) :=
  (Conc.inv_run g0 progs evs).merge

/-- … and each client's messages are its calls, in program order: accepted ones, then the one in flight,
then those not yet made -/
theorem clients_in_program_order (g0 : S) (progs : Nat → List (Conc.COp S)) (evs : List Conc.Event) (c : Nat) :
    ((Conc.run g0 progs evs).client c).sent.map Conc.Msg.shape
      ++ (((Conc.run g0 progs evs).client c).pending.toList.map Conc.Msg.shape
      ++ ((Conc.run g0 progs evs).client c).todo.map Conc.COp.shape) = (progs c).map Conc.COp.shape :=
  (Conc.inv_run g0 progs evs).order c

/-- the results a client got from its `Update` calls depend only on the history: they are the
acknowledgements of its own updates in the sequential run of the history (`Conc.replyAcc` walks the database
itself; no lemma relates it to `Spec.acks` of `order`) -/
theorem client_replies_from_history (g0 : S) (progs : Nat → List (Conc.COp S)) (evs : List Conc.Event) (c : Nat) :
    ((Conc.run g0 progs evs).client c).replies = Conc.clientReplies c g0 (Conc.run g0 progs evs).hist :=
  (congrArg Prod.snd ((Conc.inv_run g0 progs evs).replies c)).symm

/-- the observations a client holds depend only on the history: its n-th accepted `Observe` is the
observation numbered by the count of `Observe`s accepted before it; what each of them is told is
`Impl.log` of the history's run (`interleaving_is_history`), given in closed form by `delivery` (no theorem
composes the two: to apply `delivery` the history has to be split at the `Observe` by hand) -/
theorem client_handles_from_history (g0 : S) (progs : Nat → List (Conc.COp S)) (evs : List Conc.Event) (c : Nat) :
    ((Conc.run g0 progs evs).client c).handles = Conc.clientHandles c (Conc.run g0 progs evs).hist :=
  (congrArg Prod.snd ((Conc.inv_run g0 progs evs).handles c)).symm

/-- under every schedule the loop is at its `select` whenever it is asked: a caller blocked in its send
can always be served, and its message becomes the next element of the history -/
theorem blocked_caller_can_always_be_served (g0 : S) (progs : Nat → List (Conc.COp S)) (evs : List Conc.Event)
    (c : Nat) (m : Msg S) (hp : ((Conc.run g0 progs evs).client c).pending = some m) :
    (Conc.run g0 progs (evs ++ [.accept c])).hist = (Conc.run g0 progs evs).hist ++ [(c, m)]
    ∧ ((Conc.run g0 progs (evs ++ [.accept c])).client c).pending = none := by
  have hr : (Conc.run g0 progs evs).eng.status = .running := by
    rw [interleaving_is_history]; exact no_wedge _ _
  have : Conc.run g0 progs (evs ++ [.accept c]) = Conc.step (Conc.run g0 progs evs) (.accept c) :=
    List.foldl_append
  rw [this, Conc.step_accept hr hp]
  exact ⟨rfl, (congrArg Conc.Client.pending (Conc.setClient_self ..)).trans (Conc.returned_pending ..)⟩

end Arrai.C17.Theorems
