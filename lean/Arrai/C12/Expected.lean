/-
  C12 — what the model was written against (read from the tree under /repo as repaired, DESIGN A.5):
  the tables and source shapes of the printer (rel/value_repr.go, value_tuple.go, value_set_bytes.go,
  value_number.go, the Format methods), of the string-literal reader (syntax/parse_string.go), the
  token regexes of syntax/arrai.wbnf, bundleConfig.String and OutputValue.
  `Arrai/Proofs/C12.lean` proves `Generated.c12_x = Expected.x` by `rfl`, else `decide`, on every run; the model
  (`Arrai/C12/Model.lean`) looks characters up in *these* tables.
  `escapeCases`: (label, action, args) with action 1 = `i = number(i+args[0], args[1], args[2], args[3])`,
  2 = `sb.WriteByte(args[0])`, 3 = `sb.WriteString(indent)`.
  `fragmentGuards`: every `if` of parseArraiStringFragment in source order (the slice-bounds and error guards
  that make a bad escape an error).
  Core-only (linked into the driver).
-/
namespace Arrai.C12.Expected

def reprEscapes : List (Nat × List Nat) := [(7, [92, 97]), (8, [92, 98]), (9, [92, 116]), (10, [92, 110]), (11, [92, 118]), (12, [92, 102]), (13, [92, 114]), (27, [92, 101])]
def reprEscapesSize : Nat := 32
def reprEscapeBranches : List String := ["range s", "if c == '\\\\' || c == rune(delim) => { fu.Fprintf(w, `\\%c`, c) }", "if c >= 32 => { fu.Fprintf(w, \"%c\", c) }", "if escape := reprEscapes[c]; escape != nil => { fu.Write(w, escape) }", "else => { fu.Fprintf(w, `\\x%02x`, c) }"]
def reprOffset : String := "{ if offset != 0 { fu.Fprintf(w, `%d\\`, offset) } }"
def reprStr : String := "{ switch { case !strings.Contains(s, \"'\"): reprEscape(s, '\\'', w) default: reprEscape(s, '\"', w) } }"
def reprString : String := "{ reprOffset(str.offset, w) reprStr(string(str.s), w) }"
def escapeCases : List (Nat × Nat × List Nat) := [
  (34, 2, [34]),
  (39, 2, [39]),
  (48, 1, [0, 3, 8, 8]),
  (49, 1, [0, 3, 8, 8]),
  (50, 1, [0, 3, 8, 8]),
  (51, 1, [0, 3, 8, 8]),
  (52, 1, [0, 3, 8, 8]),
  (53, 1, [0, 3, 8, 8]),
  (54, 1, [0, 3, 8, 8]),
  (55, 1, [0, 3, 8, 8]),
  (85, 1, [1, 8, 16, 32]),
  (92, 2, [92]),
  (97, 2, [7]),
  (98, 2, [8]),
  (101, 2, [27]),
  (102, 2, [12]),
  (105, 3, []),
  (110, 2, [10]),
  (114, 2, [13]),
  (116, 2, [9]),
  (117, 1, [1, 4, 16, 16]),
  (118, 2, [11]),
  (120, 1, [1, 2, 16, 8])]
def escapeOther : List String := []
def escapeDefault : String := "{ return \"\", fmt.Errorf(\"unrecognized \\\\-escape: %q\", s[i]) }"
def numberParams : String := "func(i, size, base, bits int) (int, error)"
def numberParse : String := "strconv.ParseUint(s[i:i+size], base, bits)"
def numberReturn : String := "0 | 0 | i + size - 1"
def fragmentLoop : String := "i := 0; i < len(s); i++"
def fragmentGuards : List String := ["strings.HasPrefix(validEscapes, \"`\")", "i+size > len(s)", "err != nil", "i == len(s)", "err != nil"]
def renderableShape : String := "^[]+$"
def renderableBytes : List Nat := [7, 8, 9, 10, 11, 12, 13, 27, 32, 33, 34, 35, 36, 37, 38, 39, 40, 41, 42, 43, 44, 45, 46, 47, 48, 49, 50, 51, 52, 53, 54, 55, 56, 57, 58, 59, 60, 61, 62, 63, 64, 65, 66, 67, 68, 69, 70, 71, 72, 73, 74, 75, 76, 77, 78, 79, 80, 81, 82, 83, 84, 85, 86, 87, 88, 89, 90, 91, 92, 93, 94, 95, 96, 97, 98, 99, 100, 101, 102, 103, 104, 105, 106, 107, 108, 109, 110, 111, 112, 113, 114, 115, 116, 117, 118, 119, 120, 121, 122, 123, 124, 125, 126]
def identRE : String := "regexp.MustCompile(`\\A` + LexerNamePat + `\\z`)"
def namePatShape : String := "([][]*)"
def identStart : List Nat := [36, 64, 65, 66, 67, 68, 69, 70, 71, 72, 73, 74, 75, 76, 77, 78, 79, 80, 81, 82, 83, 84, 85, 86, 87, 88, 89, 90, 95, 97, 98, 99, 100, 101, 102, 103, 104, 105, 106, 107, 108, 109, 110, 111, 112, 113, 114, 115, 116, 117, 118, 119, 120, 121, 122]
def identRest : List Nat := [36, 48, 49, 50, 51, 52, 53, 54, 55, 56, 57, 64, 65, 66, 67, 68, 69, 70, 71, 72, 73, 74, 75, 76, 77, 78, 79, 80, 81, 82, 83, 84, 85, 86, 87, 88, 89, 90, 95, 97, 98, 99, 100, 101, 102, 103, 104, 105, 106, 107, 108, 109, 110, 111, 112, 113, 114, 115, 116, 117, 118, 119, 120, 121, 122]
def tupleNameRepr : String := "{ if identRE.Match([]byte(name)) { return name } var sb strings.Builder switch { case !strings.Contains(name, \"'\"): reprEscape(name, '\\'', &sb) default: reprEscape(name, '\"', &sb) } return sb.String() }"
def wbnf_STR : String := "STR -> /{ \" (?: \\\\. | [^\\\\\"] )* \" | ' (?: \\\\. | [^\\\\'] )* ' | ‵ (?: ‵‵ | [^‵ ] )* ‵ };"
def wbnf_NUM : String := "NUM -> /{ (?: \\d+(?:\\.\\d*)? | \\.\\d+ ) (?: [Ee][-+]?\\d+ )? };"
def wbnf_IDENT : String := "IDENT -> /{ \\. | @{ (?:[^{}]|{ [^}]+ \\})+ \\} | [$@A-Za-z_][0-9$@A-Za-z_]* };"
def wbnf_names : String := "names -> C* \"|\" C* IDENT:\",\" C* \"|\" C*;"
def bundleConfigString : String := "{ return fmt.Sprintf(\"(main_root: %q, main_file: %q)\", b.mainRoot, b.mainFile) }"
def outputValueCases : List String := ["rel.String => { s = v.String() }", "rel.Bytes => { s = v.String() }", "rel.Set => { if !v.IsTrue() { s = \"\" } else { s = fu.Repr(v) } }", "default => { s = fu.Repr(v) }"]
def formatFloatLens : List Nat := [15, 10, 10]
def numberString : String := "{ return formatFloat64(float64(n), 'G', -1) }"
def formatLiterals : List String := [
  "Array.Format: %d\\ ¦ [ ¦ ,  ¦ ]",
  "Bytes.Format: << ¦ ,  ¦ >>",
  "Dict.Format: { ¦ ,  ¦ %v: %v ¦ }",
  "GenericSet.Format: ",
  "UnionSet.Format: { ¦ ,  ¦ }",
  "Relation.Format: { ¦ |%s|  ¦ ,  ¦ ,  ¦ }",
  "GenericTuple.Format: ( ¦ ,  ¦ :  ¦ %v ¦ )",
  "String.Format: ",
  "ArrayItemTuple.Format: (@: %d,  ¦ : %v)",
  "BytesByteTuple.Format: (@: %d, %s: %d)",
  "DictEntryTuple.Format: (@: %v, %s: %v)",
  "StringCharTuple.Format: (@: %d, %s: %d)",
  ".reprOrderableSet: { ¦ ,  ¦ }",
  ".reprEscape: %c ¦ \\%c ¦ %c ¦ \\x%02x ¦ %c",
  ".reprOffset: %d\\"]
def consts : List String := ["sTrue=true", "sFalse=false", "sEmptySet={}", "negateTag=@neg"]

end Arrai.C12.Expected
