/-
  Number.String on integers against the NUM reader (`readNum_formatG`: every integer reads back), and offsets (`%d\`).
-/
import Arrai.C12.Model

namespace Arrai.C12
open Impl

theorem ofRev_digitsRev : ∀ (f n : Nat), n ≤ f → ofRev (digitsRev f n) = n := by
  intro f
  induction f with
  | zero => intro n h; have : n = 0 := by omega
            subst this; rfl
  | succ f ih =>
    intro n h
    unfold digitsRev
    by_cases h10 : n < 10
    · simp [h10, ofRev]
    · simp only [h10, if_false, ofRev]
      rw [ih (n / 10) (by omega)]
      omega

theorem ofMSD_reverse (l : List Nat) : ofMSD l.reverse = ofRev l := by
  unfold ofMSD
  rw [List.foldl_reverse]
  induction l with
  | nil => rfl
  | cons d r ih => simp only [List.foldr_cons, ofRev, ih]; omega

theorem ofMSD_natDigits (n : Nat) : ofMSD (natDigits n) = n := by
  unfold natDigits
  rw [ofMSD_reverse, ofRev_digitsRev n n (Nat.le_refl n)]

theorem ofMSD_pad2 (ds : List Nat) : ofMSD (pad2 ds) = ofMSD ds := by
  unfold pad2; split <;> simp [ofMSD]

theorem sign_natAbs (n : Int) : (if decide (n < 0) = true then -(n.natAbs : Int) else (n.natAbs : Int)) = n := by
  by_cases h : n < 0 <;> simp only [h, decide_true, decide_false, if_true, Bool.false_eq_true, if_false] <;> omega

theorem ofRev_dropZeros (l : List Nat) :
    ofRev l = ofRev (l.dropWhile (· == 0)) * 10 ^ (l.length - (l.dropWhile (· == 0)).length) := by
  induction l with
  | nil => simp [ofRev]
  | cons d r ih =>
    by_cases hd : d = 0
    · subst hd
      have hle := (List.dropWhile_sublist (l := r) (· == 0)).length_le
      have : (0 :: r).length - (List.dropWhile (· == 0) r).length
          = (r.length - (List.dropWhile (· == 0) r).length) + 1 := by simp; omega
      simp only [List.dropWhile_cons, beq_self_eq_true, if_true, ofRev, this, Nat.pow_succ]
      rw [ih]
      generalize ofRev (List.dropWhile (· == 0) r) = a
      generalize 10 ^ (r.length - (List.dropWhile (· == 0) r).length) = b
      rw [Nat.zero_add, Nat.mul_comm 10, Nat.mul_assoc]
    · have : (d == 0) = false := by simp [hd]
      simp [this]

/-- the NUM token printed for a non-negative integer reads back as that integer -/
theorem readTok_formatG (n : Nat) : readTok (formatG n) = some n := by
  unfold formatG
  by_cases h0 : n = 0
  · subst h0; simp [readTok, ofMSD]
  · simp only [h0, if_false]
    have hdr : ofRev (digitsRev n n) = n := ofRev_digitsRev n n (Nat.le_refl n)
    by_cases h6 : (digitsRev n n).length - 1 ≥ 6
    · simp only [h6, if_true]
      -- `d.ddd E+xx`: mantissa `dw`, exponent `dr.length - 1`, `dw.length - 1` digits behind the point
      have hval := ofRev_dropZeros (digitsRev n n)
      have hle := (List.dropWhile_sublist (l := digitsRev n n) (· == 0)).length_le
      have hpos : 0 < ((digitsRev n n).dropWhile (· == 0)).length := List.length_pos_iff.2 fun hnil => by
        rw [hnil, hdr] at hval; simp [ofRev] at hval; exact h0 hval
      generalize (digitsRev n n).dropWhile (· == 0) = dw at *
      rw [hdr] at hval
      unfold readTok
      simp only [List.take_append_drop, ofMSD_reverse, ofMSD_pad2, ofMSD_natDigits, Bool.false_eq_true, if_false,
        List.length_drop, List.length_reverse]
      have he : ((((digitsRev n n).length - 1 : Nat) : Int) - ((dw.length - 1 : Nat) : Int))
          = (((digitsRev n n).length - dw.length : Nat) : Int) := by omega
      rw [he]
      simp only [Int.natCast_nonneg, ge_iff_le, if_true, Int.toNat_natCast]
      rw [← hval]
    · simp only [h6, if_false]
      unfold readTok
      simp [ofMSD_reverse, hdr]

theorem readNum_formatG (n : Int) : readNum (decide (n < 0), formatG n.natAbs) = some n := by
  rw [readNum, readTok_formatG]
  exact congrArg some (sign_natAbs n)

theorem length_digitsRev_le : ∀ (f m k : Nat), m < 10 ^ (k + 1) → (digitsRev f m).length ≤ k + 1 := by
  intro f
  induction f with
  | zero => intro m k _; simp [digitsRev]
  | succ f ih =>
    intro m k h
    unfold digitsRev
    by_cases h10 : m < 10
    · simp [h10]
    · simp only [h10, if_false, List.length_cons]
      cases k with
      | zero => simp at h; omega
      | succ k =>
        have : m / 10 < 10 ^ (k + 1) := by
          rw [Nat.pow_succ] at h
          omega
        have := ih (m / 10) k this
        omega

theorem readOff_reprOff (off : Int) : readOff (reprOff off) = off := by
  unfold reprOff
  by_cases h0 : off = 0
  · rw [if_pos h0, h0]; rfl
  · rw [if_neg h0, readOff, ofMSD_natDigits, sign_natAbs]

end Arrai.C12
