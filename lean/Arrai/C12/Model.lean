/-
  C12 — printed values read back as the same value.

  TEXT LEVEL (bytes / code points; proved completely, `Arrai/C12/Utf8.lean`, `Escape.lean`, `Number.lean`):
    * `Impl.escRune`, `Impl.reprEscapeBody`, `Impl.chooseQuote`  = reprEscape / reprStr (rel/value_repr.go)
    * `Impl.parseFragment` (+ `Impl.number`, `Impl.parseUint`)    = parseArraiStringFragment (syntax/parse_string.go),
      literally: byte indices, `i++`, `number(i, size, base, bits)` returning the index of the last digit
    * `Impl.scanStr`                                              = the STR token regex of syntax/arrai.wbnf
    * `Impl.isIdent`, `Impl.tupleNameRepr`, `Impl.parseName`      = identRE / TupleNameRepr (rel/value_tuple.go), parseName
    * `Impl.formatG`, `Impl.reprNum`, `Impl.readNum`              = Number.String → formatFloat64 → strconv 'G' on integers, NUM reader
    * `Impl.goQuoteBody`                                          = Go's %q (strconv.Quote), used by bundleConfig.String
    * `utf8`, `utf8dec`                                           = Go's rune ↔ UTF-8 conversions (string(rune), []rune(string))
  TREE LEVEL (`Rep` → `PT` → `V`):
    * `Rep`        a value as the Go representation the printer walks (String with hole markers, Bytes, Array with
                   nil holes, Dict entries, GenericSet/UnionSet members, GenericTuple, Relation, true)
    * `Impl.repr`  Format of every type: which literal form is printed, with the text-level leaves inside
    * `PT.den`     the reader of exactly the literal sub-language the printer emits (leaves through the text-level
                   readers above).  It models a fragment of the real parser; that tie is the correspondence run only.
  Core-only.
-/
import Arrai.Core.Lit
import Arrai.C12.Expected

namespace Arrai.C12

/-! ## Go's rune ↔ UTF-8 conversions -/

def isScalar (c : Nat) : Bool := c < 0xD800 || (0xE000 ≤ c && c < 0x110000)

/-- `utf8.AppendRune` (`strings.Builder.WriteRune`, `%c`, `string(rune)`): invalid runes become U+FFFD -/
def utf8 (c : Nat) : List Nat :=
  if c < 0x80 then [c]
  else if c < 0x800 then [0xC0 + c / 64, 0x80 + c % 64]
  else if !isScalar c then [0xEF, 0xBF, 0xBD]
  else if c < 0x10000 then [0xE0 + c / 4096, 0x80 + c / 64 % 64, 0x80 + c % 64]
  else [0xF0 + c / 262144, 0x80 + c / 4096 % 64, 0x80 + c / 64 % 64, 0x80 + c % 64]

def utf8s (s : List Nat) : List Nat := s.flatMap utf8

def isCont (b : Nat) : Bool := 0x80 ≤ b && b < 0xC0

/-- `utf8.DecodeRune` in a loop (`[]rune(s)`, `for _, c := range s`): one unit of fuel per rune;
anything that is not a well-formed sequence yields U+FFFD and consumes one byte -/
def utf8decF : Nat → List Nat → List Nat
  | 0, _ => []
  | _ + 1, [] => []
  | f + 1, b0 :: r =>
    if b0 < 0x80 then b0 :: utf8decF f r
    else if 0xC2 ≤ b0 && b0 < 0xE0 then
      match r with
      | b1 :: r1 => if isCont b1 then ((b0 - 0xC0) * 64 + (b1 - 0x80)) :: utf8decF f r1 else 0xFFFD :: utf8decF f r
      | [] => 0xFFFD :: utf8decF f r
    else if 0xE0 ≤ b0 && b0 < 0xF0 then
      match r with
      | b1 :: b2 :: r2 =>
        if (if b0 = 0xE0 then 0xA0 else 0x80) ≤ b1 && b1 ≤ (if b0 = 0xED then 0x9F else 0xBF) && isCont b2 then
          ((b0 - 0xE0) * 4096 + (b1 - 0x80) * 64 + (b2 - 0x80)) :: utf8decF f r2
        else 0xFFFD :: utf8decF f r
      | _ => 0xFFFD :: utf8decF f r
    else if 0xF0 ≤ b0 && b0 < 0xF5 then
      match r with
      | b1 :: b2 :: b3 :: r3 =>
        if (if b0 = 0xF0 then 0x90 else 0x80) ≤ b1 && b1 ≤ (if b0 = 0xF4 then 0x8F else 0xBF)
            && isCont b2 && isCont b3 then
          ((b0 - 0xF0) * 262144 + (b1 - 0x80) * 4096 + (b2 - 0x80) * 64 + (b3 - 0x80)) :: utf8decF f r3
        else 0xFFFD :: utf8decF f r
      | _ => 0xFFFD :: utf8decF f r
    else 0xFFFD :: utf8decF f r

def utf8dec (bs : List Nat) : List Nat := utf8decF bs.length bs

def lookupNat {β : Type} (c : Nat) : List (Nat × β) → Option β
  | [] => none
  | (k, v) :: r => if k = c then some v else lookupNat c r

namespace Impl

/-! ## rel/value_repr.go: reprEscape, reprStr -/

/-- `%02x` / strconv's `lowerhex` -/
def hexDigit (n : Nat) : Nat := if n < 10 then 48 + n else 87 + n

/-- one iteration of reprEscape's loop: the runes written for rune `c` (branch order as in the source;
`Expected.reprEscapes` is the regenerated table, indexed only below 32) -/
def escRune (delim c : Nat) : List Nat :=
  if c = 92 || c = delim then [92, c]
  else if c ≥ 32 then [c]
  else match lookupNat c Expected.reprEscapes with
    | some bs => bs
    | none => [92, 120, hexDigit (c / 16), hexDigit (c % 16)]

/-- the runes between the delimiters -/
def reprEscapeBody (s : List Nat) (delim : Nat) : List Nat := s.flatMap (escRune delim)

/-- reprStr / TupleNameRepr: single quotes unless the text contains one -/
def chooseQuote (s : List Nat) : Nat := if !s.contains 39 then 39 else 34

/-- `string(str.s)` followed by `range`: a rune that is not a Unicode scalar (the hole marker −1,
surrogates, values above U+10FFFF) is seen as U+FFFD -/
def sanitize (r : Int) : Nat := if r < 0 then 0xFFFD else if isScalar r.toNat then r.toNat else 0xFFFD

/-! ## syntax/parse_string.go: parseArraiStringFragment (as repaired) -/

/-- value of one digit for `strconv.ParseUint` (no underscores: the base is explicit) -/
def digitVal (base c : Nat) : Option Nat :=
  let d : Option Nat :=
    if 48 ≤ c && c ≤ 57 then some (c - 48)
    else if 97 ≤ c && c ≤ 122 then some (c - 97 + 10)
    else if 65 ≤ c && c ≤ 90 then some (c - 65 + 10)
    else none
  match d with
  | some v => if v < base then some v else none
  | none => none

def parseDigits (base : Nat) : Nat → List Nat → Option Nat
  | acc, [] => some acc
  | acc, c :: r =>
    match digitVal base c with
    | some v => parseDigits base (acc * base + v) r
    | none => none

/-- `strconv.ParseUint(ds, base, bits)`: `none` = error (syntax or range) -/
def parseUint (ds : List Nat) (base bits : Nat) : Option Nat :=
  if ds.isEmpty then none
  else match parseDigits base 0 ds with
    | some n => if n < 2 ^ bits then some n else none
    | none => none

/-- the `number` closure: parses `s[i:i+size]`, returns (bytes written by `sb.WriteRune(rune(n))`,
the index of the last digit); `none` = the error return (`i+size > len(s)`, or ParseUint fails) -/
def number (s : List Nat) (i size base bits : Nat) : Option (List Nat × Nat) :=
  if i + size ≤ s.length then
    match parseUint ((s.drop i).take size) base bits with
    | some n => some (utf8 n, i + size - 1)
    | none => none
  else none

inductive EscAct
  | number (off size base bits : Nat)
  | byte (b : Nat)
  | indent
  | bad
  deriving DecidableEq, Inhabited

/-- the `switch s[i]` after a backslash, read from the regenerated case table -/
def escAct (e : Nat) : EscAct :=
  match lookupNat e Expected.escapeCases with
  | some (1, [off, size, base, bits]) => .number off size base bits
  | some (2, [b]) => .byte b
  | some (3, []) => .indent
  | _ => .bad

/-- the `for i := 0; i < len(s); i++` loop over the bytes of `s`; `acc` is the strings.Builder;
`none` = the error return (a trailing backslash: `i == len(s)`; bad digits; unrecognised escape) — a compile
error since the repair, a panic before it -/
def loop (s indent : List Nat) : Nat → Nat → List Nat → Option (List Nat)
  | 0, _, _ => none
  | fuel + 1, i, acc =>
    match s[i]? with
    | none => some acc                                   -- i >= len(s)
    | some c =>
      if c = 92 then
        match s[i + 1]? with                             -- i++ ; if i == len(s) {error} ; switch s[i]
        | none => none
        | some e =>
          match escAct e with
          | .number off size base bits =>
            match number s (i + 1 + off) size base bits with
            | some (out, j) => loop s indent fuel (j + 1) (acc ++ out)
            | none => none
          | .byte b => loop s indent fuel (i + 2) (acc ++ [b])
          | .indent => loop s indent fuel (i + 2) (acc ++ indent)
          | .bad => none
      else loop s indent fuel (i + 1) (acc ++ [c])

/-- `parseArraiStringFragment(s, validEscapes, indent)` for the quote-delimited forms (the back-quote
form does not go through the loop; `validEscapes` is only consulted for that). -/
def parseFragment (s : List Nat) (indent : List Nat := []) : Option (List Nat) :=
  loop s indent (s.length + 1) 0 []

/-! ## syntax/arrai.wbnf: STR token,  q (?: \\. | [^\\q] )* q   on runes, after the opening quote -/

/-- scans for the closing quote: (body, rest after the closing quote); `.` does not match a newline -/
def scanStr (q : Nat) : List Nat → Option (List Nat × List Nat)
  | [] => none
  | c :: r =>
    if c = 92 then
      match r with
      | [] => none
      | d :: r' => if d = 10 then none else (scanStr q r').map (fun p => (c :: d :: p.1, p.2))
    else if c = q then some ([], r)
    else (scanStr q r).map (fun p => (c :: p.1, p.2))

/-! ## rel/value_tuple.go: identRE, TupleNameRepr; syntax/parse.go: parseName -/

def isIdent (n : List Nat) : Bool :=
  match n with
  | [] => false
  | c :: r => Expected.identStart.contains c && r.all (fun d => Expected.identRest.contains d)

inductive NameTok
  | bare (cs : List Nat)
  | quoted (q : Nat) (body : List Nat)
  deriving DecidableEq, Inhabited

def tupleNameRepr (n : List Nat) : NameTok :=
  if isIdent n then .bare n else .quoted (chooseQuote n) (reprEscapeBody n (chooseQuote n))

def parseName : NameTok → Option (List Nat)
  | .bare cs => if isIdent cs then some cs else none
  | .quoted _ body => (parseFragment (utf8s body)).map utf8dec

/-! ## rel/value_number.go: Number.String on integers; NUM reader -/

/-- decimal digits, least significant first (`0` has the single digit 0) -/
def digitsRev : Nat → Nat → List Nat
  | 0, _ => [0]
  | f + 1, n => if n < 10 then [n] else (n % 10) :: digitsRev f (n / 10)

def ofRev : List Nat → Nat
  | [] => 0
  | d :: r => d + 10 * ofRev r

/-- most significant first -/
def ofMSD (ds : List Nat) : Nat := ds.foldl (fun acc d => acc * 10 + d) 0

def natDigits (n : Nat) : List Nat := (digitsRev n n).reverse

/-- a NUM token: integer part, fraction digits, exponent (sign, digits) -/
structure NumTok where
  int : List Nat
  frac : List Nat
  exp : Option (Bool × List Nat)
  deriving DecidableEq, Inhabited

def pad2 (ds : List Nat) : List Nat := if ds.length < 2 then 0 :: ds else ds

/-- `strconv.FormatFloat(n, 'G', -1, 64)` for a non-negative integer: shortest digits = the decimal digits without
trailing zeros; exponent form when the decimal exponent is ≥ 6 (`eprec = 6` for the shortest form; never
< −4 for an integer), exponent printed with at least two digits -/
def formatG (n : Nat) : NumTok :=
  let dr := digitsRev n n
  let sig := (dr.dropWhile (· == 0)).reverse
  if n = 0 then ⟨[0], [], none⟩
  else if dr.length - 1 ≥ 6 then ⟨sig.take 1, sig.drop 1, some (false, pad2 (natDigits (dr.length - 1)))⟩
  else ⟨dr.reverse, [], none⟩

def NumTok.chars (t : NumTok) : List Nat :=
  t.int.map (· + 48) ++ (if t.frac.isEmpty then [] else 46 :: t.frac.map (· + 48)) ++
  (match t.exp with
   | none => []
   | some (neg, ds) => 69 :: (if neg then 45 else 43) :: ds.map (· + 48))

/-- formatFloat64: the text is returned as is when shorter than 15 characters (`Expected.formatFloatLens`);
longer texts go through the one-ulp heuristic, which needs float semantics and is outside the model
(and outside the property: "numbers whose shortest decimal form is under 15 characters") -/
def reprNum (n : Int) : Option (Bool × NumTok) :=
  let t := formatG n.natAbs
  let len := t.chars.length + (if n < 0 then 1 else 0)
  if len < Expected.formatFloatLens.headD 0 then some (decide (n < 0), t) else none

/-- the value of a NUM token when it is an integer (strconv.ParseFloat on `int[.frac][E±exp]`) -/
def readTok (t : NumTok) : Option Nat :=
  let mant := ofMSD (t.int ++ t.frac)
  let e : Int := (match t.exp with
    | none => 0
    | some (neg, ds) => if neg then - (ofMSD ds : Int) else (ofMSD ds : Int)) - t.frac.length
  if e ≥ 0 then some (mant * 10 ^ e.toNat)
  else if mant % 10 ^ (-e).toNat = 0 then some (mant / 10 ^ (-e).toNat) else none

/-- unary minus applied to a NUM literal -/
def readNum (p : Bool × NumTok) : Option Int :=
  (readTok p.2).map (fun m => if p.1 then - (m : Int) else (m : Int))

/-! ## Go's %q (strconv.Quote) as used by bundleConfig.String -/

/-- `strconv.appendEscapedRune(r, '"', ASCIIonly=false, graphicOnly=false)`; `isPrint` = `unicode.IsPrint`
(an opaque table: the round trip holds whatever it says) -/
def goQuoteRune (isPrint : Nat → Bool) (r : Nat) : List Nat :=
  if r = 34 || r = 92 then [92, r]
  else if isPrint r then [r]
  else if r = 7 then [92, 97] else if r = 8 then [92, 98] else if r = 12 then [92, 102]
  else if r = 10 then [92, 110] else if r = 13 then [92, 114] else if r = 9 then [92, 116]
  else if r = 11 then [92, 118]
  else if r < 32 || r = 127 then [92, 120, hexDigit (r / 16), hexDigit (r % 16)]
  else if r < 0x10000 then
    [92, 117, hexDigit (r / 4096 % 16), hexDigit (r / 256 % 16), hexDigit (r / 16 % 16), hexDigit (r % 16)]
  else
    [92, 85, hexDigit (r / 268435456 % 16), hexDigit (r / 16777216 % 16), hexDigit (r / 1048576 % 16),
     hexDigit (r / 65536 % 16), hexDigit (r / 4096 % 16), hexDigit (r / 256 % 16), hexDigit (r / 16 % 16),
     hexDigit (r % 16)]

def goQuoteBody (isPrint : Nat → Bool) (s : List Nat) : List Nat := s.flatMap (goQuoteRune isPrint)

end Impl

/-! ## Tree level -/

/-- a data value as the Go representation the printer walks.  Lists are in the printer's enumeration
order (TupleOrderedNames, OrderedEntries, OrderedValues); the meaning does not depend on it. -/
inductive Rep where
  | num (n : Int)                                        -- Number (integers)
  | str (off : Int) (rs : List Int)                      -- String{s, offset}; a negative rune is a hole
  | bytes (off : Int) (bs : List Nat)                    -- Bytes{b, offset}
  | arr (off : Int) (xs : List (Option Rep))             -- Array{values, offset}; nil = hole
  | dict (es : List (Rep × Rep))                         -- Dict entries (a multi-valued key repeats)
  | set (xs : List Rep)                                  -- GenericSet / UnionSet members; [] = EmptySet
  | tup (as : List (List Nat × Rep))                     -- GenericTuple and the four specialised tuples
  | rel (names : List (List Nat)) (rows : List (List Rep))   -- Relation: sorted names, rows in that order
  | tt                                                   -- TrueSet
  deriving Inhabited

/-- an offset as printed by `%d\`: absent when 0, else sign and decimal digits -/
abbrev Off := Option (Bool × List Nat)

/-- the printed literal, as a tree whose leaves are token texts -/
inductive PT where
  | num (neg : Bool) (t : Impl.NumTok)
  | str (off : Off) (q : Nat) (body : List Nat)          -- off\ q body q      (body: runes)
  | bytesNums (off : Off) (bs : List (List Nat))         -- off\<<12, 255>>    (decimal digits)
  | bytesStr (off : Off) (q : Nat) (body : List Nat)     -- off\<<'abc'>>
  | arr (off : Off) (xs : List (Option PT))              -- off\[a, , b]
  | dict (kvs : List (PT × PT))                          -- {k: v, …}
  | set (xs : List PT)                                   -- {a, b}   ({} when empty)
  | tup (kvs : List (Impl.NameTok × PT))                 -- (name: v, …)
  | rel (names : List (List Nat)) (rows : List (List PT))    -- {|a, b| (1, 2), …}
  | kwTrue                                               -- true
  deriving Inhabited

def nameStr (cs : List Nat) : String := String.ofList (cs.map Char.ofNat)

def entryV (p : V × V) : V := V.mkTup [("@", p.1), ("@value", p.2)]

def nodupKeys (ps : List (V × V)) : Bool := decide ((ps.map Prod.fst).Nodup)

/-- a sequence literal may not begin or end with a hole -/
def holeEnds {α : Type} (xs : List (Option α)) : Bool :=
  (xs.head?.map Option.isNone).getD false || (xs.getLast?.map Option.isNone).getD false

def numV (n : Nat) : Option V := some (.num (Int.ofNat n))

/-- some attribute `x` together with its view counterpart `&x` (GenericTuple.With strips the counterpart, NewTuple
does not: what a tuple expression naming both evaluates to depends on whether all its values are literals) -/
def ampPair (names : List (List Nat)) : Bool := names.any (fun n => names.contains (38 :: n))

namespace Rep

/-! ### meaning of a representation -/
mutual
def den : Rep → V
  | .num n => .num n
  | .str off rs => V.mkSeq "@char" off (rs.map (fun r => if r < 0 then none else some (.num r)))
  | .bytes off bs => V.mkSeq "@byte" off (bs.map numV)
  | .arr off xs => V.mkSeq "@item" off (denOpts xs)
  | .dict es => V.mkSet ((denPairs es).map entryV)
  | .set xs => V.mkSet (denList xs)
  | .tup as => V.mkTup (denAttrs as)
  | .rel names rows => V.mkSet (denRows names rows)
  | .tt => V.tt
def denOpts : List (Option Rep) → List (Option V)
  | [] => []
  | some x :: r => some (den x) :: denOpts r
  | none :: r => none :: denOpts r
def denPairs : List (Rep × Rep) → List (V × V)
  | [] => []
  | (k, v) :: r => (den k, den v) :: denPairs r
def denList : List Rep → List V
  | [] => []
  | x :: r => den x :: denList r
def denAttrs : List (List Nat × Rep) → List (String × V)
  | [] => []
  | (n, v) :: r => (nameStr n, den v) :: denAttrs r
def denRows (names : List (List Nat)) : List (List Rep) → List V
  | [] => []
  | row :: r => V.mkTup (Lit.zipAttrs (names.map nameStr) (denList row)) :: denRows names r
end

end Rep

namespace Impl

def reprOff (off : Int) : Off := if off = 0 then none else some (decide (off < 0), natDigits off.natAbs)

def readOff : Off → Int
  | none => 0
  | some (neg, ds) => if neg then - (ofMSD ds : Int) else (ofMSD ds : Int)

/-- renderableBytesRE: `^[…]+$` over the regenerated byte set -/
def renderable (bs : List Nat) : Bool := !bs.isEmpty && bs.all (fun b => Expected.renderableBytes.contains b)

def zipNT : List (List Nat) → List PT → List (NameTok × PT)
  | n :: ns, v :: vs => (tupleNameRepr n, v) :: zipNT ns vs
  | _, _ => []

/-! ### Format of every type -/
mutual
def repr : Rep → PT
  | .num n => .num (decide (n < 0)) (formatG n.natAbs)                      -- Number.String (under the length guard)
  | .str off rs =>                                                          -- reprString: reprOffset, reprStr(string(s))
    .str (reprOff off) (chooseQuote (rs.map sanitize)) (reprEscapeBody (rs.map sanitize) (chooseQuote (rs.map sanitize)))
  | .bytes off bs =>                                                        -- Bytes.Format (as repaired: offset first)
    if renderable bs then .bytesStr (reprOff off) (chooseQuote bs) (reprEscapeBody bs (chooseQuote bs))
    else .bytesNums (reprOff off) (bs.map natDigits)
  | .arr off xs => .arr (reprOff off) (reprOpts xs)                         -- Array.Format
  | .dict es => .dict (reprPairs es)                                        -- Dict.Format over OrderedEntries
  | .set xs => .set (reprList xs)                                           -- reprOrderableSet / EmptySet
  | .tup as => .tup (reprAttrs as)                                          -- GenericTuple.Format
  | .rel names rows =>                                                      -- Relation.Format (as repaired)
    if names.all isIdent then .rel names (reprRows rows) else .set (reprRowTups names rows)
  | .tt => .kwTrue
def reprOpts : List (Option Rep) → List (Option PT)
  | [] => []
  | some x :: r => some (repr x) :: reprOpts r
  | none :: r => none :: reprOpts r
def reprPairs : List (Rep × Rep) → List (PT × PT)
  | [] => []
  | (k, v) :: r => (repr k, repr v) :: reprPairs r
def reprList : List Rep → List PT
  | [] => []
  | x :: r => repr x :: reprList r
def reprAttrs : List (List Nat × Rep) → List (NameTok × PT)
  | [] => []
  | (n, v) :: r => (tupleNameRepr n, repr v) :: reprAttrs r
def reprRows : List (List Rep) → List (List PT)
  | [] => []
  | row :: r => reprList row :: reprRows r
def reprRowTups (names : List (List Nat)) : List (List Rep) → List PT
  | [] => []
  | row :: r => .tup (zipNT names (reprList row)) :: reprRowTups names r
end

/-! ### Relation.Format and the physical column order

`Rep.rel names rows` is the relation as Relation.Format must show it: heading `attrs.GetSorted()`, every row projected
to that heading (`projectionBasedOnNames`, `Values.project`).  The relation itself stores its columns in some physical
order `phys` (sorted for a literal; left operand's columns then the right operand's new ones for a join result).
`relView` is that step of Format; `Arrai/Proofs/C12.lean` proves that it hands every attribute the value stored for
it, whatever the physical order (`relation_row_projection`, `relation_heading_is_permutation`). -/

/-- Go's string order on names (bytes of the UTF-8 text = code points) -/
def nameLt : List Nat → List Nat → Bool
  | [], [] => false
  | [], _ :: _ => true
  | _ :: _, [] => false
  | a :: as, b :: bs => if a < b then true else if b < a then false else nameLt as bs

def insName (n : List Nat) : List (List Nat) → List (List Nat)
  | [] => [n]
  | m :: r => if nameLt m n then m :: insName n r else n :: m :: r

/-- TupleOrderedNames / attrs.GetSorted (an insertion sort: it has to reduce in the kernel) -/
def sortNames (ns : List (List Nat)) : List (List Nat) := ns.foldr insName []

def lookupName {α : Type} (n : List Nat) : List (List Nat × α) → Option α
  | [] => none
  | (k, v) :: r => if k = n then some v else lookupName n r

/-- `Values.project(projectionBasedOnNames(heading))` on a row stored in the order `phys` -/
def projectRow {α : Type} (phys : List (List Nat)) (row : List α) (heading : List (List Nat)) : List (Option α) :=
  heading.map (fun n => lookupName n (phys.zip row))

/-- heading and rows as printed, from the physical representation -/
def relView {α : Type} (phys : List (List Nat)) (rows : List (List α)) : List (List Nat) × List (List (Option α)) :=
  (sortNames phys, rows.map (fun row => projectRow phys row (sortNames phys)))

/-- pkg/arrai/out.go OutputValue at top level: strings and byte arrays are written raw, the empty set as
nothing, everything else through fu.Repr -/
inductive OutMode | raw | empty | repr
  deriving DecidableEq, Inhabited

def outputMode : Rep → OutMode
  | .str _ _ => .raw
  | .bytes _ _ => .raw
  | .set [] => .empty
  | _ => .repr

end Impl

namespace PT
open Impl

/-! ### the reader of the printed sub-language -/
mutual
def den : PT → Option V
  | .num neg t => (readNum (neg, t)).map V.num
  | .str off q body =>
    if scanStr q (body ++ [q]) = some (body, []) then
      (parseFragment (utf8s body)).map (fun bs => V.mkSeq "@char" (readOff off) ((utf8dec bs).map numV))
    else none
  | .bytesNums off bs => some (V.mkSeq "@byte" (readOff off) (bs.map (fun ds => numV (ofMSD ds))))
  | .bytesStr off q body =>
    if scanStr q (body ++ [q]) = some (body, []) then
      (parseFragment (utf8s body)).map (fun bs => V.mkSeq "@byte" (readOff off) (bs.map numV))
    else none
  | .arr off xs => if holeEnds xs then none else (denOpts xs).map (V.mkSeq "@item" (readOff off))
  | .dict kvs =>
    match denPairs kvs with
    | some ps => if nodupKeys ps then some (V.mkSet (ps.map entryV)) else none      -- "duplicate key"
    | none => none
  | .set xs => (denList xs).map V.mkSet
  | .tup kvs =>
    if ampPair (kvs.filterMap (fun p => parseName p.1)) then none      -- outside the modelled fragment, see `ampPair`
    else (denAttrs kvs).map V.mkTup
  | .rel names rows => if names.all isIdent then (denRows names rows).map V.mkSet else none
  | .kwTrue => some V.tt
def denOpts : List (Option PT) → Option (List (Option V))
  | [] => some []
  | some x :: r =>
    match den x, denOpts r with
    | some v, some vs => some (some v :: vs)
    | _, _ => none
  | none :: r => (denOpts r).map (none :: ·)
def denPairs : List (PT × PT) → Option (List (V × V))
  | [] => some []
  | (k, v) :: r =>
    match den k, den v, denPairs r with
    | some a, some b, some ps => some ((a, b) :: ps)
    | _, _, _ => none
def denList : List PT → Option (List V)
  | [] => some []
  | x :: r =>
    match den x, denList r with
    | some v, some vs => some (v :: vs)
    | _, _ => none
def denAttrs : List (NameTok × PT) → Option (List (String × V))
  | [] => some []
  | (n, x) :: r =>
    match parseName n, den x, denAttrs r with
    | some cs, some v, some as =>
      if cs = [42] then none                         -- rel.NewAttrExpr: "Wildcard attr cannot have a name"
      else some ((nameStr cs, v) :: as)
    | _, _, _ => none
def denRows (names : List (List Nat)) : List (List PT) → Option (List V)
  | [] => some []
  | row :: r =>
    match denList row, denRows names r with
    | some vs, some ts =>
      if vs.length = names.length then some (V.mkTup (Lit.zipAttrs (names.map nameStr) vs) :: ts) else none
    | _, _ => none
end

end PT

/-! ### the values the property quantifies over, as a decidable predicate on representations -/
namespace Rep
open Impl

mutual
def printable : Rep → Bool
  | .num n => (reprNum n).isSome                                  -- shortest form under 15 characters
  | .str _ rs => rs.all (fun r => decide (0 ≤ r) && isScalar r.toNat)      -- no holes, Unicode scalars only
  | .bytes _ _ => true
  | .arr _ xs => !holeEnds xs && prOpts xs
  | .dict es => prPairs es && nodupKeys (denPairs es)             -- single-valued keys
  | .set xs => prList xs
  | .tup as => !ampPair (as.map Prod.fst) && prAttrs as
  | .rel names rows =>
    !ampPair names && names.all (fun n => n.all isScalar && decide (n ≠ [42])) && prRows names.length rows
  | .tt => true
def prOpts : List (Option Rep) → Bool
  | [] => true
  | some x :: r => printable x && prOpts r
  | none :: r => prOpts r
def prPairs : List (Rep × Rep) → Bool
  | [] => true
  | (k, v) :: r => printable k && printable v && prPairs r
def prList : List Rep → Bool
  | [] => true
  | x :: r => printable x && prList r
def prAttrs : List (List Nat × Rep) → Bool
  | [] => true
  | (n, v) :: r => n.all isScalar && decide (n ≠ [42]) && printable v && prAttrs r   -- `*` is the wildcard marker
def prRows (w : Nat) : List (List Rep) → Bool
  | [] => true
  | row :: r => decide (row.length = w) && prList row && prRows w r
end

end Rep
end Arrai.C12
