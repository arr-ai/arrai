/-
  Go's rune ↔ UTF-8 conversions (`utf8`, `utf8dec`) against the UTF-8 table (`Utf8Seq`): the encoder writes a row, the
  decoder reads it back, hence `[]rune(string(runes)) = runes` on Unicode scalars (`utf8dec_utf8s`).
-/
import Arrai.C12.Model

namespace Arrai.C12
open Impl

theorem isScalar_iff {c : Nat} : isScalar c = true ↔ c < 0xD800 ∨ (0xE000 ≤ c ∧ c < 0x110000) := by
  simp only [isScalar, Bool.or_eq_true, Bool.and_eq_true, decide_eq_true_eq]

theorem isScalar_lt_two_pow_32 {c : Nat} (h : isScalar c = true) : c < 2 ^ 32 := by
  rw [isScalar_iff] at h; omega

theorem isCont_add {x : Nat} (h : x < 64) : isCont (128 + x) = true := by
  simp only [isCont, Bool.and_eq_true, decide_eq_true_eq]; omega

/-- The UTF-8 table (RFC 3629 §3): `bs` is the shortest form that holds the Unicode scalar `c` -/
inductive Utf8Seq : List Nat → Nat → Prop
  | one {c : Nat} : c < 0x80 → Utf8Seq [c] c
  | two {a b c : Nat} : b < 64 → c = a * 64 + b → 0x80 ≤ c → c < 0x800 → Utf8Seq [0xC0 + a, 0x80 + b] c
  | three {a b d c : Nat} : b < 64 → d < 64 → c = a * 4096 + b * 64 + d → 0x800 ≤ c → c < 0x10000 →
      isScalar c = true → Utf8Seq [0xE0 + a, 0x80 + b, 0x80 + d] c
  | four {a b d e c : Nat} : b < 64 → d < 64 → e < 64 → c = a * 262144 + b * 4096 + d * 64 + e → 0x10000 ≤ c →
      isScalar c = true → Utf8Seq [0xF0 + a, 0x80 + b, 0x80 + d, 0x80 + e] c

/-- the ranges `utf8.DecodeRune` checks on the first two bytes are what "shortest form", "no surrogate" and "at most
U+10FFFF" come to on the groups -/
theorem Utf8Seq.step {bs : List Nat} {c : Nat} (h : Utf8Seq bs c) (f : Nat) (r : List Nat) :
    utf8decF (f + 1) (bs ++ r) = c :: utf8decF f r := by
  cases h with
  | one h => cases r <;> exact if_pos h
  | @two a b _ hb e h1 h2 =>
    subst e
    show utf8decF (f + 1) ((0xC0 + a) :: (0x80 + b) :: r) = _
    rw [utf8decF, if_neg (by omega), if_pos (by simp; omega), if_pos (isCont_add hb), Nat.add_sub_cancel_left,
      Nat.add_sub_cancel_left]
  | @three a b d _ hb hd e h1 h2 hs =>
    subst e
    rw [isScalar_iff] at hs
    have hc : (if 0xE0 + a = 0xE0 then 0xA0 else 0x80) ≤ 0x80 + b ∧ 0x80 + b ≤ (if 0xE0 + a = 0xED then 0x9F else 0xBF) := by
      constructor <;> split <;> omega
    show utf8decF (f + 1) ((0xE0 + a) :: (0x80 + b) :: (0x80 + d) :: r) = _
    rw [utf8decF, if_neg (by omega), if_neg (by simp), if_pos (by simp; omega)]
    dsimp only
    rw [if_pos (by simpa [isCont_add hd] using hc), Nat.add_sub_cancel_left, Nat.add_sub_cancel_left,
      Nat.add_sub_cancel_left]
  | @four a b d e _ hb hd he e' h1 hs =>
    subst e'
    rw [isScalar_iff] at hs
    have hc : (if 0xF0 + a = 0xF0 then 0x90 else 0x80) ≤ 0x80 + b ∧ 0x80 + b ≤ (if 0xF0 + a = 0xF4 then 0x8F else 0xBF) := by
      constructor <;> split <;> omega
    show utf8decF (f + 1) ((0xF0 + a) :: (0x80 + b) :: (0x80 + d) :: (0x80 + e) :: r) = _
    rw [utf8decF, if_neg (by omega), if_neg (by simp; omega), if_neg (by simp), if_pos (by simp; omega)]
    dsimp only
    rw [if_pos (by simpa [isCont_add hd, isCont_add he] using hc), Nat.add_sub_cancel_left, Nat.add_sub_cancel_left,
      Nat.add_sub_cancel_left, Nat.add_sub_cancel_left]

theorem Utf8Seq.ge128 {bs : List Nat} {c : Nat} (h : Utf8Seq bs c) (hc : 128 ≤ c) : bs ≠ [] ∧ ∀ b ∈ bs, 128 ≤ b := by
  cases h with
  | one h => omega
  | two | three | four => exact ⟨nofun, by simp [Nat.le_add_right_of_le]⟩

theorem utf8_ascii {c : Nat} (h : c < 128) : utf8 c = [c] := by rw [utf8, if_pos h]

theorem utf8_nonscalar {c : Nat} (h : isScalar c = false) : utf8 c = [239, 191, 189] := by
  have : 2048 ≤ c := by
    simp only [isScalar, Bool.or_eq_false_iff, decide_eq_false_iff_not] at h; omega
  rw [utf8, if_neg (by omega), if_neg (by omega), if_pos (by rw [h]; rfl)]

theorem utf8_seq {c : Nat} (hc : isScalar c = true) : Utf8Seq (utf8 c) c := by
  have hns : ¬ (!isScalar c) = true := by rw [hc]; decide
  have m (x : Nat) : x % 64 < 64 := Nat.mod_lt _ (by decide)
  by_cases h1 : c < 0x80
  · rw [utf8, if_pos h1]; exact .one h1
  by_cases h2 : c < 0x800
  · rw [utf8, if_neg h1, if_pos h2]; exact .two (m _) (by omega) (by omega) h2
  by_cases h3 : c < 0x10000
  · rw [utf8, if_neg h1, if_neg h2, if_neg hns, if_pos h3]
    exact .three (m _) (m _) (by omega) (by omega) h3 hc
  · rw [utf8, if_neg h1, if_neg h2, if_neg hns, if_neg h3]
    exact .four (m _) (m _) (m _) (by omega) (by omega) hc

theorem utf8decF_step {c : Nat} (hc : isScalar c = true) (f : Nat) (r : List Nat) :
    utf8decF (f + 1) (utf8 c ++ r) = c :: utf8decF f r := (utf8_seq hc).step f r

theorem utf8_ge128 {c : Nat} (h : 128 ≤ c) : utf8 c ≠ [] ∧ ∀ b ∈ utf8 c, 128 ≤ b := by
  cases hs : isScalar c with
  | false => rw [utf8_nonscalar hs]; decide
  | true => exact (utf8_seq hs).ge128 h

theorem utf8_ne_nil (c : Nat) : utf8 c ≠ [] := by
  by_cases h : c < 128
  · rw [utf8_ascii h]; nofun
  · exact (utf8_ge128 (Nat.le_of_not_lt h)).1

theorem utf8s_cons (c : Nat) (s : List Nat) : utf8s (c :: s) = utf8 c ++ utf8s s := by simp [utf8s]
theorem utf8s_nil : utf8s [] = [] := rfl
theorem utf8s_append (a b : List Nat) : utf8s (a ++ b) = utf8s a ++ utf8s b := by simp [utf8s]

theorem utf8s_hex_list (l : List Nat) (h : ∀ x ∈ l, x < 128) : utf8s l = l := by
  induction l with
  | nil => rfl
  | cons c s ih =>
    rw [utf8s_cons, utf8_ascii (h c (by simp)), ih (fun x hx => h x (by simp [hx]))]
    rfl

theorem utf8decF_utf8s : ∀ (s : List Nat), (∀ c ∈ s, isScalar c = true) → ∀ f, s.length ≤ f →
    utf8decF f (utf8s s) = s := by
  intro s
  induction s with
  | nil => intro _ f _; cases f <;> rfl
  | cons c s ih =>
    intro h f hf
    obtain ⟨f', rfl⟩ : ∃ f', f = f' + 1 := ⟨f - 1, by simp at hf; omega⟩
    rw [utf8s_cons, utf8decF_step (h c (by simp)), ih (fun x hx => h x (by simp [hx])) f' (by simp at hf; omega)]

theorem length_le_utf8s (s : List Nat) : s.length ≤ (utf8s s).length := by
  induction s with
  | nil => exact Nat.le_refl _
  | cons c s ih =>
    rw [utf8s_cons, List.length_append, List.length_cons]
    have := List.length_pos_iff.2 (utf8_ne_nil c)
    omega

/-- `[]rune(string(runes)) = runes` for Unicode scalars -/
theorem utf8dec_utf8s (s : List Nat) (h : ∀ c ∈ s, isScalar c = true) : utf8dec (utf8s s) = s :=
  utf8decF_utf8s s h _ (length_le_utf8s s)

end Arrai.C12
