/-
  The escape codec: both printers (reprEscape, Go's %q) write only spellings of a rune (`Enc`) that the index loop of
  parseArraiStringFragment reads back (`Reads`) and the STR scanner passes over (`Skips`), hence whole strings (`reads_back`).
-/
import Arrai.C12.Utf8

namespace Arrai.C12
open Impl

/-! ## the printer's table against the reader's; hex digits -/

/-- the decidable compatibility conditions between the printer's escape table and the reader's case table -/
def tablesOK : Bool :=
  (List.range 32).all (fun c =>
    match lookupNat c Expected.reprEscapes with
    | some [92, l] => decide (l < 128) && decide (l ≠ 10) && decide (escAct l = .byte c)
    | some _ => false
    | none => true)
  && decide (escAct 120 = .number 1 2 16 8)
  && decide (escAct 117 = .number 1 4 16 16)
  && decide (escAct 85 = .number 1 8 16 32)
  && decide (escAct 92 = .byte 92) && decide (escAct 39 = .byte 39) && decide (escAct 34 = .byte 34)
  && (List.range 16).all (fun d => decide (digitVal 16 (hexDigit d) = some d))

theorem tablesOK_true : tablesOK = true := by decide +kernel

/-- `tablesOK` without its `l ≠ 10`: `Enc.skips` needs that of every case letter, not only of those in the printer's table,
and has it from `escAct_newline` -/
structure TableFacts : Prop where
  entry : ∀ c < 32, ∀ bs, lookupNat c Expected.reprEscapes = some bs →
    ∃ l, bs = [92, l] ∧ l < 128 ∧ escAct l = .byte c
  x : escAct 120 = .number 1 2 16 8
  u : escAct 117 = .number 1 4 16 16
  U : escAct 85 = .number 1 8 16 32
  backslash : escAct 92 = .byte 92
  sq : escAct 39 = .byte 39
  dq : escAct 34 = .byte 34
  hex : ∀ d < 16, digitVal 16 (hexDigit d) = some d

theorem tableFacts : TableFacts := by
  have h := tablesOK_true
  simp only [tablesOK, Bool.and_eq_true, decide_eq_true_eq, List.all_eq_true, List.mem_range] at h
  obtain ⟨⟨⟨⟨⟨⟨⟨entry, x⟩, u⟩, U⟩, backslash⟩, sq⟩, dq⟩, hex⟩ := h
  refine ⟨fun c hc bs hl => ?_, x, u, U, backslash, sq, dq, hex⟩
  have h1 := entry c hc
  rw [hl] at h1
  split at h1
  · next l heq =>
    cases heq
    simp only [Bool.and_eq_true, decide_eq_true_eq] at h1
    exact ⟨l, rfl, h1.1.1, h1.2⟩
  · cases h1
  · next heq => cases heq

theorem escAct_newline : escAct 10 = .bad := by decide +kernel

theorem hexDigit_plain {d : Nat} (h : d < 16) : hexDigit d < 128 ∧ hexDigit d ≠ 92 ∧ hexDigit d ≠ 39 ∧ hexDigit d ≠ 34 := by
  unfold hexDigit; split <;> omega

theorem parseDigits_hex : ∀ (ds : List Nat) (acc : Nat), (∀ d ∈ ds, d < 16) →
    parseDigits 16 acc (ds.map hexDigit) = some (ds.foldl (fun a d => a * 16 + d) acc)
  | [], _, _ => rfl
  | d :: ds, acc, h => by
    rw [List.map_cons, parseDigits, tableFacts.hex d (h d (by simp))]
    exact parseDigits_hex ds _ (fun x hx => h x (by simp [hx]))

/-- the `n` low hex digits of `c` (`%02x`, and the `\u%04x`, `\U%08x` of strconv) -/
def hexDigits : Nat → Nat → List Nat
  | 0, _ => []
  | n + 1, c => hexDigits n (c / 16) ++ [c % 16]

theorem length_hexDigits : ∀ (n c : Nat), (hexDigits n c).length = n
  | 0, _ => rfl
  | n + 1, c => by rw [hexDigits, List.length_append, length_hexDigits n]; rfl

theorem hexDigits_lt : ∀ (n c : Nat), ∀ d ∈ hexDigits n c, d < 16
  | 0, _ => nofun
  | n + 1, c => by
    intro d hd
    rcases List.mem_append.1 hd with h | h
    · exact hexDigits_lt n _ d h
    · rw [List.mem_singleton.1 h]; exact Nat.mod_lt _ (by decide)

theorem foldl_hexDigits : ∀ (n c : Nat), (hexDigits n c).foldl (fun a d => a * 16 + d) 0 = c % 16 ^ n
  | 0, c => by rw [Nat.pow_zero, Nat.mod_one]; rfl
  | n + 1, c => by
    rw [hexDigits, List.foldl_append, foldl_hexDigits n, Nat.pow_succ, Nat.mul_comm (16 ^ n), Nat.mod_mul]
    simp only [List.foldl_cons, List.foldl_nil]
    omega

theorem parseUint_hexDigits {n c bits : Nat} (hn : 0 < n) (hc : c < 16 ^ n) (hb : c < 2 ^ bits) :
    parseUint ((hexDigits n c).map hexDigit) 16 bits = some c := by
  have : ((hexDigits n c).map hexDigit).isEmpty = false := by
    have : hexDigits n c ≠ [] := List.ne_nil_of_length_pos (by rw [length_hexDigits]; exact hn)
    simpa using this
  simp only [parseUint, this, Bool.false_eq_true, if_false, parseDigits_hex _ 0 (hexDigits_lt n c), foldl_hexDigits,
    Nat.mod_eq_of_lt hc, if_pos hb]

/-! ## one rune as the reader spells it (`Enc`); the index loop (`Reads`) -/

/-- `enc` is one of the reader's spellings of the rune `c` between `q`-quotes; a one-letter escape is written with
`sb.WriteByte`, hence `c < 128` in `byte` -/
inductive Enc (q : Nat) : List Nat → Nat → Prop
  | self {c : Nat} : c ≠ 92 → c ≠ q → Enc q [c] c
  | byte {l c : Nat} : l < 128 → c < 128 → escAct l = .byte c → Enc q [92, l] c
  | hex {e n bits c : Nat} {enc : List Nat} : e < 128 → escAct e = .number 1 n 16 bits → 0 < n → c < 16 ^ n →
      c < 2 ^ bits → enc = 92 :: e :: (hexDigits n c).map hexDigit → Enc q enc c

/-- the loop of parseArraiStringFragment gets past the bytes `bs`, wherever they stand, having written `out`;
`k ≤ bs.length` so that the reader's own fuel (`len(s) + 1`) is enough -/
def Reads (indent bs out : List Nat) : Prop :=
  ∃ k, k ≤ bs.length ∧ ∀ (s : List Nat) (i f : Nat) (acc r : List Nat), s.drop i = bs ++ r →
    loop s indent (f + k) i acc = loop s indent f (i + bs.length) (acc ++ out)

theorem Reads.nil (indent : List Nat) : Reads indent [] [] :=
  ⟨0, Nat.le_refl _, fun s i f acc r _ => by simp⟩

theorem Reads.append {indent a b x y : List Nat} (ha : Reads indent a x) (hb : Reads indent b y) :
    Reads indent (a ++ b) (x ++ y) := by
  obtain ⟨k1, l1, e1⟩ := ha
  obtain ⟨k2, l2, e2⟩ := hb
  refine ⟨k2 + k1, by rw [List.length_append]; omega, fun s i f acc r hd => ?_⟩
  rw [List.append_assoc] at hd
  have hd2 : s.drop (i + a.length) = b ++ r := by rw [← List.drop_drop, hd, List.drop_left]
  rw [← Nat.add_assoc, e1 s i _ acc _ hd, e2 s _ f _ r hd2, List.length_append, Nat.add_assoc, List.append_assoc]

theorem getElem?_of_drop {α : Type} {s t : List α} {i : Nat} (h : s.drop i = t) (j : Nat) : s[i + j]? = t[j]? := by
  rw [← h, List.getElem?_drop]

theorem Reads.plain (indent : List Nat) {c : Nat} (h : c ≠ 92) : Reads indent [c] [c] :=
  ⟨1, Nat.le_refl _, fun s i f acc r hd => by
    have h0 : s[i]? = some c := getElem?_of_drop hd 0
    rw [loop]; simp only [h0, if_neg h]; rfl⟩

theorem Reads.byte (indent : List Nat) {e b : Nat} (h : escAct e = .byte b) : Reads indent [92, e] [b] :=
  ⟨1, by simp, fun s i f acc r hd => by
    have h0 : s[i]? = some 92 := getElem?_of_drop hd 0
    have h1 : s[i + 1]? = some e := getElem?_of_drop hd 1
    rw [loop]; simp only [h0, h1, h, if_true]; rfl⟩

theorem Reads.number (indent : List Nat) {e base bits n : Nat} (ds : List Nat)
    (h : escAct e = .number 1 ds.length base bits) (hn : parseUint ds base bits = some n) :
    Reads indent (92 :: e :: ds) (utf8 n) :=
  ⟨1, by simp, fun s i f acc r hd => by
    have h0 : s[i]? = some 92 := getElem?_of_drop hd 0
    have h1 : s[i + 1]? = some e := getElem?_of_drop hd 1
    have hlen : i + 1 + 1 + ds.length ≤ s.length := by
      have := congrArg List.length hd
      simp only [List.length_drop, List.length_cons, List.length_append] at this; omega
    have hds : (s.drop (i + 1 + 1)).take ds.length = ds := by
      rw [Nat.add_assoc, ← List.drop_drop, hd]; simp
    rw [loop]
    simp only [h0, h1, h, if_true, Impl.number, if_pos hlen, hds, hn]
    congr 1
    simp only [List.length_cons]; omega⟩

theorem Reads.plain_list (indent : List Nat) : ∀ (bs : List Nat), (∀ b ∈ bs, b ≠ 92) → Reads indent bs bs
  | [], _ => Reads.nil indent
  | b :: bs, h =>
    Reads.append (Reads.plain indent (h b (by simp))) (Reads.plain_list indent bs (fun x hx => h x (by simp [hx])))

theorem Reads.fragment {indent bs out : List Nat} (h : Reads indent bs out) : parseFragment bs indent = some out := by
  obtain ⟨k, hk, e⟩ := h
  obtain ⟨f, hf⟩ : ∃ f, bs.length + 1 = f + 1 + k := ⟨bs.length - k, by omega⟩
  rw [parseFragment, hf, e bs 0 (f + 1) [] [] (by simp), loop]
  simp

theorem Enc.reads (indent : List Nat) {q c : Nat} {enc : List Nat} (h : Enc q enc c) :
    Reads indent (utf8s enc) (utf8 c) := by
  cases h with
  | self h92 _ =>
    have hp : ∀ b ∈ utf8 c, b ≠ 92 := by
      by_cases h : c < 128
      · rw [utf8_ascii h]; simpa using h92
      · intro b hb; have := (utf8_ge128 (Nat.le_of_not_lt h)).2 b hb; omega
    simpa [utf8s] using Reads.plain_list indent (utf8 c) hp
  | @byte l c hl hc hact =>
    rw [utf8s_hex_list [92, l] (by simp [hl]), utf8_ascii hc]
    exact Reads.byte indent hact
  | @hex e n bits c enc he hact hn hc hb henc =>
    subst henc
    have hasc : ∀ x ∈ 92 :: e :: (hexDigits n c).map hexDigit, x < 128 := by
      intro x hx
      simp only [List.mem_cons, List.mem_map] at hx
      rcases hx with rfl | rfl | ⟨d, hd, rfl⟩
      · decide
      · exact he
      · exact (hexDigit_plain (hexDigits_lt n c d hd)).1
    rw [utf8s_hex_list _ hasc]
    exact Reads.number indent _ (by rw [List.length_map, length_hexDigits]; exact hact) (parseUint_hexDigits hn hc hb)

theorem Reads.utf8s_flatMap {indent : List Nat} (enc : Nat → List Nat) :
    ∀ (s : List Nat), (∀ c ∈ s, Reads indent (utf8s (enc c)) (utf8 c)) → Reads indent (utf8s (s.flatMap enc)) (utf8s s)
  | [], _ => Reads.nil indent
  | c :: s, h => by
    rw [List.flatMap_cons, utf8s_append, utf8s_cons]
    exact (h c (by simp)).append (Reads.utf8s_flatMap enc s (fun x hx => h x (by simp [hx])))

/-! ## the STR scanner (`Skips`) -/

def Skips (q : Nat) (l : List Nat) : Prop :=
  ∀ t, scanStr q (l ++ t) = (scanStr q t).map (fun p => (l ++ p.1, p.2))

theorem Skips.nil (q : Nat) : Skips q [] := fun t => by simp

theorem Skips.append {q : Nat} {a b : List Nat} (ha : Skips q a) (hb : Skips q b) : Skips q (a ++ b) := fun t => by
  rw [List.append_assoc, ha, hb, Option.map_map]
  simp [Function.comp_def]

theorem Skips.plain {q c : Nat} (h1 : c ≠ 92) (h2 : c ≠ q) : Skips q [c] := fun t => by
  cases t <;> simp [scanStr, h1, h2]

theorem Skips.esc (q : Nat) {d : Nat} (h : d ≠ 10) : Skips q [92, d] := fun t => by
  simp [scanStr, h]

theorem Skips.flatMap {q : Nat} (enc : Nat → List Nat) : ∀ (s : List Nat), (∀ c ∈ s, Skips q (enc c)) → Skips q (s.flatMap enc)
  | [], _ => Skips.nil q
  | c :: s, h => by
    rw [List.flatMap_cons]
    exact (h c (by simp)).append (Skips.flatMap enc s (fun x hx => h x (by simp [hx])))

theorem Skips.token {q : Nat} {body : List Nat} (h : Skips q body) (hq : q ≠ 92) (rest : List Nat) :
    scanStr q (body ++ q :: rest) = some (body, rest) := by
  rw [h]
  cases rest <;> simp [scanStr, hq]

theorem Enc.skips {q c : Nat} {enc : List Nat} (hq : q = 39 ∨ q = 34) (h : Enc q enc c) : Skips q enc := by
  cases h with
  | self h1 h2 => exact Skips.plain h1 h2
  | @byte l c _ _ hact =>
    exact Skips.esc q (by rintro rfl; rw [escAct_newline] at hact; cases hact)
  | @hex e n bits c enc _ hact _ _ _ henc =>
    subst henc
    refine (Skips.esc q (d := e) (by rintro rfl; rw [escAct_newline] at hact; cases hact)).append
      (List.map_eq_flatMap ▸ Skips.flatMap _ _ fun d hd => ?_)
    obtain ⟨-, h92, h39, h34⟩ := hexDigit_plain (hexDigits_lt n c d hd)
    rcases hq with rfl | rfl
    · exact Skips.plain h92 h39
    · exact Skips.plain h92 h34

/-! ## both printers write `Enc` spellings -/

theorem Enc.x {q c : Nat} (h : c < 256) : Enc q [92, 120, hexDigit (c / 16), hexDigit (c % 16)] c :=
  .hex (by decide) tableFacts.x (by decide) h h (by simp [hexDigits, Nat.mod_eq_of_lt (show c / 16 < 16 by omega)])

theorem escRune_enc {q : Nat} (hq : q = 39 ∨ q = 34) (c : Nat) : Enc q (escRune q c) c := by
  unfold escRune
  by_cases h1 : c = 92 ∨ c = q
  · -- backslash or the delimiter: `\` followed by the character itself
    rw [if_pos (by simpa using h1)]
    have hact : escAct c = .byte c := by
      rcases h1 with rfl | rfl
      · exact tableFacts.backslash
      · rcases hq with rfl | rfl
        · exact tableFacts.sq
        · exact tableFacts.dq
    have hc : c < 128 := by omega
    exact .byte hc hc hact
  · rw [if_neg (by simpa using h1)]
    by_cases h2 : 32 ≤ c
    · rw [if_pos (by simpa using h2)]
      exact .self (fun h => h1 (.inl h)) (fun h => h1 (.inr h))
    · rw [if_neg (by simpa using h2)]
      -- a control character: table escape or \xNN
      cases hl : lookupNat c Expected.reprEscapes with
      | some bs =>
        obtain ⟨l, rfl, hl128, hact⟩ := tableFacts.entry c (by omega) bs hl
        exact .byte hl128 (by omega) hact
      | none => exact .x (by omega)

theorem Enc.ite_byte {q c k l : Nat} {rest : List Nat} (hl : l < 128) (hk : k < 128) (hact : escAct l = .byte k)
    (h : c ≠ k → Enc q rest c) : Enc q (if c = k then [92, l] else rest) c := by
  by_cases e : c = k
  · rw [if_pos e, e]; exact .byte hl hk hact
  · rw [if_neg e]; exact h e

/-- `c < 2 ^ 32`: what `\U%08x` can spell -/
theorem goQuoteRune_enc (isPrint : Nat → Bool) {c : Nat} (hc : c < 2 ^ 32) : Enc 34 (goQuoteRune isPrint c) c := by
  unfold goQuoteRune
  by_cases h1 : c = 34 ∨ c = 92
  · rw [if_pos (by simpa using h1)]
    rcases h1 with rfl | rfl
    · exact .byte (by decide) (by decide) tableFacts.dq
    · exact .byte (by decide) (by decide) tableFacts.backslash
  rw [if_neg (by simpa using h1)]
  by_cases hp : isPrint c = true
  · rw [if_pos hp]; exact .self (fun h => h1 (.inr h)) (fun h => h1 (.inl h))
  rw [if_neg hp]
  refine .ite_byte (by decide) (by decide) (by decide +kernel) fun _ => ?_
  refine .ite_byte (by decide) (by decide) (by decide +kernel) fun _ => ?_
  refine .ite_byte (by decide) (by decide) (by decide +kernel) fun _ => ?_
  refine .ite_byte (by decide) (by decide) (by decide +kernel) fun _ => ?_
  refine .ite_byte (by decide) (by decide) (by decide +kernel) fun _ => ?_
  refine .ite_byte (by decide) (by decide) (by decide +kernel) fun _ => ?_
  refine .ite_byte (by decide) (by decide) (by decide +kernel) fun _ => ?_
  by_cases hx : c < 32 ∨ c = 127
  · rw [if_pos (by simpa using hx)]
    exact .x (by omega)
  rw [if_neg (by simpa using hx)]
  by_cases hu : c < 65536
  · rw [if_pos hu]
    exact .hex (by decide) tableFacts.u (by decide) hu hu (by simp [hexDigits, Nat.div_div_eq_div_mul])
  · rw [if_neg hu]
    exact .hex (by decide) tableFacts.U (by decide) hc hc (by simp [hexDigits, Nat.div_div_eq_div_mul])

/-! ## whole strings -/

theorem reads_back {q : Nat} (hq : q = 39 ∨ q = 34) (enc : Nat → List Nat) (s : List Nat) (h : ∀ c ∈ s, Enc q (enc c) c)
    (indent rest : List Nat) :
    parseFragment (utf8s (s.flatMap enc)) indent = some (utf8s s) ∧
      scanStr q (s.flatMap enc ++ q :: rest) = some (s.flatMap enc, rest) := by
  constructor
  · exact (Reads.utf8s_flatMap enc s (fun c hc => (h c hc).reads indent)).fragment
  · exact (Skips.flatMap enc s (fun c hc => (h c hc).skips hq)).token (by omega) rest

theorem chooseQuote_cases (s : List Nat) : chooseQuote s = 39 ∨ chooseQuote s = 34 := by
  unfold chooseQuote; split <;> simp

theorem reprEscapeBody_reads_back {q : Nat} (hq : q = 39 ∨ q = 34) (s indent rest : List Nat) :
    parseFragment (utf8s (reprEscapeBody s q)) indent = some (utf8s s) ∧
      scanStr q (reprEscapeBody s q ++ q :: rest) = some (reprEscapeBody s q, rest) :=
  reads_back hq (escRune q) s (fun c _ => escRune_enc hq c) indent rest

theorem goQuoteBody_reads_back (isPrint : Nat → Bool) (s : List Nat) (h : ∀ c ∈ s, c < 2 ^ 32) (indent rest : List Nat) :
    parseFragment (utf8s (goQuoteBody isPrint s)) indent = some (utf8s s) ∧
      scanStr 34 (goQuoteBody isPrint s ++ 34 :: rest) = some (goQuoteBody isPrint s, rest) :=
  reads_back (.inr rfl) (goQuoteRune isPrint) s (fun c hc => goQuoteRune_enc isPrint (h c hc)) indent rest

/-! ## attribute names -/

theorem parseName_tupleNameRepr (n : List Nat) (h : n.all isScalar = true) : parseName (tupleNameRepr n) = some n := by
  unfold tupleNameRepr
  by_cases hi : isIdent n = true
  · rw [if_pos hi, parseName, if_pos hi]
  · rw [if_neg hi, parseName, (reprEscapeBody_reads_back (chooseQuote_cases n) n [] []).1, Option.map_some,
      utf8dec_utf8s n (List.all_eq_true.1 h)]

end Arrai.C12
