/-
  Relation.Format's projection to the sorted heading, and the tree level: printing then reading is the identity on
  meanings (`den_repr`), from the token lemmas of `Escape` and `Number`.  Of `sortNames` only that it permutes is proved;
  that its result is in Go's string order is left to the correspondence run, whose generator sorts with it and predicts
  the printed text.
-/
import Arrai.C12.Escape
import Arrai.C12.Number
import Arrai.Core.Assoc
import Arrai.Core.ListLemmas

namespace Arrai.C12
open Impl

/-! ## Relation.Format: projection to the sorted heading -/

theorem lookupName_eq_lookup {α : Type} (n : List Nat) : ∀ l : List (List Nat × α), lookupName n l = l.lookup n :=
  eq_lookup_of_first_wins rfl (fun _ _ => if_pos rfl) fun _ _ _ h => if_neg h

theorem lookupName_zip_map {α : Type} (f : List Nat → α) (l : List (List Nat)) (n : List Nat) (h : n ∈ l) :
    lookupName n (l.zip (l.map f)) = some (f n) := by
  rw [lookupName_eq_lookup, ← List.map_id l, List.map_map, List.zip_map']
  exact (lookup_map_key l f n).trans (if_pos h)

theorem insName_perm (n : List Nat) : ∀ l : List (List Nat), (insName n l).Perm (n :: l) :=
  perm_cons_of_insert rfl fun m r => by by_cases h : nameLt m n <;> simp [insName, h]

/-! ## the tree level -/

/-- without the 15-character guard of `Rep.printable`: that bounds what Number.String is modelled for, `Impl.repr` does
not consult it -/
theorem den_repr_num (n : Int) : (Impl.repr (.num n)).den = some (Rep.den (.num n)) := by
  simp only [Impl.repr, PT.den, readNum_formatG, Option.map_some, Rep.den]

theorem den_str (off : Off) {q : Nat} {body s : List Nat}
    (h : parseFragment (utf8s body) = some (utf8s s) ∧ scanStr q (body ++ [q]) = some (body, []))
    (hs : ∀ c ∈ s, isScalar c = true) :
    (PT.str off q body).den = some (V.mkSeq "@char" (readOff off) (s.map numV)) := by
  rw [PT.den, if_pos h.2, h.1, Option.map_some, utf8dec_utf8s s hs]

theorem isScalar_sanitize (r : Int) : isScalar (sanitize r) = true := by
  unfold sanitize
  split
  · decide
  · split
    · assumption
    · decide

/-- for any String: the general form of what the witnesses of KF-string-holes-print and KF-string-nonscalar-print show -/
theorem den_repr_str (off : Int) (rs : List Int) :
    (Impl.repr (.str off rs)).den = some (V.mkSeq "@char" off ((rs.map sanitize).map numV)) := by
  have hsc : ∀ c ∈ rs.map sanitize, isScalar c = true := by
    intro c hc
    obtain ⟨r, _, rfl⟩ := List.mem_map.1 hc
    exact isScalar_sanitize r
  rw [Impl.repr, den_str _ (reprEscapeBody_reads_back (chooseQuote_cases _) _ [] []) hsc, readOff_reprOff]

theorem map_sanitize_of_printable (rs : List Int) (h : rs.all (fun r => decide (0 ≤ r) && isScalar r.toNat) = true) :
    (rs.map sanitize).map numV = rs.map (fun r => if r < 0 then none else some (V.num r)) := by
  rw [List.map_map]
  refine List.map_congr_left fun r hr => ?_
  have hr := List.all_eq_true.1 h r hr
  simp only [Bool.and_eq_true, decide_eq_true_eq] at hr
  have hv : Int.ofNat r.toNat = r := by simp; omega
  simp only [Function.comp, sanitize, numV, if_neg (Int.not_lt.2 hr.1), hr.2, if_true, hv]

theorem renderable_ascii {bs : List Nat} (h : renderable bs = true) : ∀ b ∈ bs, b < 128 := by
  intro b hb
  simp only [renderable, Bool.and_eq_true, List.all_eq_true] at h
  have hm := h.2 b hb
  have hall : Expected.renderableBytes.all (fun x => decide (x < 128)) = true := by decide +kernel
  rw [List.all_eq_true] at hall
  have := hall b (by simpa using hm)
  simpa using this

theorem den_repr_bytes (off : Int) (bs : List Nat) : (Impl.repr (.bytes off bs)).den = some (Rep.den (.bytes off bs)) := by
  by_cases hr : renderable bs = true
  · obtain ⟨hp, hs⟩ := reprEscapeBody_reads_back (chooseQuote_cases bs) bs [] []
    rw [Impl.repr, if_pos hr, PT.den, if_pos hs, hp, Option.map_some, utf8s_hex_list bs (renderable_ascii hr),
      readOff_reprOff, Rep.den]
  · simp only [Impl.repr, hr, Bool.false_eq_true, if_false, PT.den, readOff_reprOff, Rep.den, List.map_map]
    congr 2
    apply List.map_congr_left
    intro b _
    simp [ofMSD_natDigits]

theorem reprOpts_eq_map (xs : List (Option Rep)) : reprOpts xs = xs.map (Option.map Impl.repr) :=
  eq_map_of rfl (fun x _ => by cases x <;> rfl) xs

theorem holeEnds_reprOpts (xs : List (Option Rep)) : holeEnds (reprOpts xs) = holeEnds xs := by
  have e : (Option.isNone ∘ Option.map Impl.repr) = Option.isNone := by funext o; cases o <;> rfl
  unfold holeEnds
  rw [reprOpts_eq_map, List.head?_map, List.getLast?_map, Option.map_map, Option.map_map, e]

theorem reprList_eq_map (xs : List Rep) : reprList xs = xs.map Impl.repr := eq_map_of rfl (fun _ _ => rfl) xs

theorem denList_eq_map (xs : List Rep) : Rep.denList xs = xs.map Rep.den := eq_map_of rfl (fun _ _ => rfl) xs

theorem length_reprList (xs : List Rep) : (reprList xs).length = xs.length := by
  rw [reprList_eq_map, List.length_map]

theorem length_denList (xs : List Rep) : (Rep.denList xs).length = xs.length := by
  rw [denList_eq_map, List.length_map]

/-- what `Rep.printable` asks of the heading of a relation -/
def NamesOK (names : List (List Nat)) : Prop := (names.all fun n => n.all isScalar && decide (n ≠ [42])) = true

/-- one step of `PT.denAttrs` at a printed attribute: the name reads back and is not `*`, which the reader refuses -/
theorem denAttrs_printed {n : List Nat} {x : PT} {r : List (NameTok × PT)} {v : V} {as : List (String × V)}
    (hn : n.all isScalar = true ∧ n ≠ [42]) (hx : x.den = some v) (hr : PT.denAttrs r = some as) :
    PT.denAttrs ((tupleNameRepr n, x) :: r) = some ((nameStr n, v) :: as) := by
  simp only [PT.denAttrs, parseName_tupleNameRepr n hn.1, hx, hr, hn.2, if_false]

theorem NamesOK.of_cons {n : List Nat} {ns : List (List Nat)} (h : NamesOK (n :: ns)) :
    (n.all isScalar = true ∧ n ≠ [42]) ∧ NamesOK ns := by
  simpa only [NamesOK, List.all_cons, Bool.and_eq_true, decide_eq_true_eq] using h

theorem denAttrs_zipNT : ∀ (names : List (List Nat)) (pts : List PT) (vs : List V),
    NamesOK names → PT.denList pts = some vs →
    PT.denAttrs (zipNT names pts) = some (Lit.zipAttrs (names.map nameStr) vs)
  | [], _, _, _, _ => by simp [zipNT, PT.denAttrs, Lit.zipAttrs]
  | n :: ns, [], vs, _, hd => by cases hd; rfl
  | n :: ns, p :: ps, vs, hn, hd => by
    obtain ⟨hn1, hns⟩ := hn.of_cons
    rw [PT.denList] at hd
    split at hd
    · next v vs' hp hps =>
      cases hd
      exact denAttrs_printed hn1 hp (denAttrs_zipNT ns ps vs' hns hps)
    · cases hd

theorem zipNT_names : ∀ (names : List (List Nat)) (pts : List PT),
    NamesOK names → pts.length = names.length →
    (zipNT names pts).filterMap (fun p => parseName p.1) = names
  | [], [], _, _ => rfl
  | n :: ns, p :: ps, hn, hl => by
    obtain ⟨hn1, hns⟩ := hn.of_cons
    simp only [zipNT, List.filterMap_cons, parseName_tupleNameRepr n hn1.1,
      zipNT_names ns ps hns (Nat.succ.inj hl)]

theorem reprAttrs_names : ∀ (as : List (List Nat × Rep)), Rep.prAttrs as = true →
    (reprAttrs as).filterMap (fun p => parseName p.1) = as.map Prod.fst
  | [], _ => rfl
  | (n, v) :: r, h => by
    simp only [Rep.prAttrs, Bool.and_eq_true] at h
    simp only [reprAttrs, List.filterMap_cons, parseName_tupleNameRepr n h.1.1.1, reprAttrs_names r h.2, List.map_cons]

mutual
theorem den_repr (r : Rep) (h : r.printable = true) : (Impl.repr r).den = some r.den := by
  cases r with
  | num n => exact den_repr_num n
  | str off rs => rw [den_repr_str, map_sanitize_of_printable rs h, Rep.den]
  | bytes off bs => exact den_repr_bytes off bs
  | arr off xs =>
    simp only [Rep.printable, Bool.and_eq_true, Bool.not_eq_true'] at h
    simp only [Impl.repr, PT.den, holeEnds_reprOpts, h.1, Bool.false_eq_true, if_false, denOpts_repr xs h.2, Option.map_some,
      readOff_reprOff, Rep.den]
  | dict es =>
    simp only [Rep.printable, Bool.and_eq_true] at h
    simp only [Impl.repr, PT.den, denPairs_repr es h.1, h.2, if_true, Rep.den]
  | set xs => simp only [Impl.repr, PT.den, denList_repr xs h, Option.map_some, Rep.den]
  | tup as =>
    simp only [Rep.printable, Bool.and_eq_true, Bool.not_eq_true'] at h
    simp only [Impl.repr, PT.den, reprAttrs_names as h.2, h.1, Bool.false_eq_true, if_false, denAttrs_repr as h.2,
      Option.map_some, Rep.den]
  | rel names rows =>
    simp only [Rep.printable, Bool.and_eq_true, Bool.not_eq_true'] at h
    by_cases hid : names.all isIdent = true
    · simp only [Impl.repr, hid, if_true, PT.den, denRows_repr names rows h.2, Option.map_some, Rep.den]
    · simp only [Impl.repr, hid, Bool.false_eq_true, if_false, PT.den, denRowTups_repr names rows h.1.1 h.1.2 h.2,
        Option.map_some, Rep.den]
  | tt => rfl
theorem denOpts_repr (xs : List (Option Rep)) (h : Rep.prOpts xs = true) :
    PT.denOpts (reprOpts xs) = some (Rep.denOpts xs) := by
  cases xs with
  | nil => rfl
  | cons x r =>
    cases x with
    | none =>
      simp only [Rep.prOpts] at h
      simp only [reprOpts, PT.denOpts, Rep.denOpts, denOpts_repr r h, Option.map_some]
    | some x =>
      simp only [Rep.prOpts, Bool.and_eq_true] at h
      simp only [reprOpts, PT.denOpts, Rep.denOpts, den_repr x h.1, denOpts_repr r h.2]
theorem denPairs_repr (es : List (Rep × Rep)) (h : Rep.prPairs es = true) :
    PT.denPairs (reprPairs es) = some (Rep.denPairs es) := by
  cases es with
  | nil => rfl
  | cons e r =>
    obtain ⟨k, v⟩ := e
    simp only [Rep.prPairs, Bool.and_eq_true] at h
    simp only [reprPairs, PT.denPairs, Rep.denPairs, den_repr k h.1.1, den_repr v h.1.2, denPairs_repr r h.2]
theorem denList_repr (xs : List Rep) (h : Rep.prList xs = true) :
    PT.denList (reprList xs) = some (Rep.denList xs) := by
  cases xs with
  | nil => rfl
  | cons x r =>
    simp only [Rep.prList, Bool.and_eq_true] at h
    simp only [reprList, PT.denList, Rep.denList, den_repr x h.1, denList_repr r h.2]
theorem denAttrs_repr (as : List (List Nat × Rep)) (h : Rep.prAttrs as = true) :
    PT.denAttrs (reprAttrs as) = some (Rep.denAttrs as) := by
  cases as with
  | nil => rfl
  | cons a r =>
    obtain ⟨n, v⟩ := a
    simp only [Rep.prAttrs, Bool.and_eq_true, decide_eq_true_eq] at h
    exact denAttrs_printed h.1.1 (den_repr v h.1.2) (denAttrs_repr r h.2)
theorem denRows_repr (names : List (List Nat)) (rows : List (List Rep)) (h : Rep.prRows names.length rows = true) :
    PT.denRows names (reprRows rows) = some (Rep.denRows names rows) := by
  cases rows with
  | nil => rfl
  | cons row r =>
    simp only [Rep.prRows, Bool.and_eq_true, decide_eq_true_eq] at h
    simp only [reprRows, PT.denRows, Rep.denRows, denList_repr row h.1.2, denRows_repr names r h.2, length_denList, h.1.1,
      if_true]
theorem denRowTups_repr (names : List (List Nat)) (rows : List (List Rep)) (ha : ampPair names = false)
    (hn : (names.all (fun n => n.all isScalar && decide (n ≠ [42]))) = true) (h : Rep.prRows names.length rows = true) :
    PT.denList (reprRowTups names rows) = some (Rep.denRows names rows) := by
  cases rows with
  | nil => rfl
  | cons row r =>
    simp only [Rep.prRows, Bool.and_eq_true, decide_eq_true_eq] at h
    have h1 := denAttrs_zipNT names (reprList row) (Rep.denList row) hn (denList_repr row h.1.2)
    have h2 := zipNT_names names (reprList row) hn (by rw [length_reprList]; exact h.1.1)
    simp only [reprRowTups, PT.denList, PT.den, Rep.denRows, h1, h2, ha, Bool.false_eq_true, if_false, Option.map_some,
      denRowTups_repr names r ha hn h.2]
end

end Arrai.C12
