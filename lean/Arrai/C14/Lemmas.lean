/-
  Helper lemmas for C14: the textbook characterisations of the `Spec` functions, `Impl.f_eq : Impl.f = Spec.f` for
  every transliterated array helper, and for the seven dispatch operations `Model.f_uniform` (the dispatch is the same
  whatever the kind of the subject) and `Model.f_spec` (hence `Model.f` is `SpecRes.f` on kind-consistent arguments).
-/
import Arrai.C14.Model

namespace Arrai.C14
variable {α : Type} [DecidableEq α]

namespace Spec

theorem hasPrefix_iff (p s : List α) : hasPrefix p s = true ↔ p <+: s := by
  induction p generalizing s with
  | nil => simp [hasPrefix]
  | cons a p ih =>
    cases s with
    | nil => simp [hasPrefix]
    | cons x xs => simp only [hasPrefix, Bool.and_eq_true, decide_eq_true_eq, ih, List.cons_prefix_cons]

theorem hasPrefix_length {p s : List α} (h : hasPrefix p s = true) : p.length ≤ s.length := by
  obtain ⟨t, rfl⟩ := (hasPrefix_iff p s).1 h
  simp

theorem hasPrefix_eq_drop {p s : List α} (h : hasPrefix p s = true) : s = p ++ s.drop p.length := by
  obtain ⟨t, rfl⟩ := (hasPrefix_iff p s).1 h
  simp

theorem hasPrefix_nil_right (p : List α) : hasPrefix p [] = p.isEmpty := by
  cases p <;> rfl

theorem hasPrefix_iff_eq (p s : List α) (hl : s.length = p.length) : hasPrefix p s = true ↔ s = p := by
  rw [hasPrefix_iff]
  constructor
  · rintro ⟨t, rfl⟩
    rw [List.length_append] at hl
    rw [List.length_eq_zero_iff.1 (Nat.add_eq_left.1 hl), List.append_nil]
  · rintro rfl; exact ⟨[], List.append_nil _⟩

theorem hasSuffix_iff (p s : List α) : hasSuffix p s = true ↔ p <:+ s := by
  unfold hasSuffix
  rw [hasPrefix_iff]
  exact List.reverse_prefix

theorem contains_iff (p s : List α) : contains p s = true ↔ p <:+: s := by
  induction s with
  | nil => cases p <;> simp [contains]
  | cons x xs ih => rw [contains, Bool.or_eq_true, ih, hasPrefix_iff, List.infix_cons_iff]

theorem hasSuffix_nil_right (p : List α) : hasSuffix p [] = p.isEmpty := by
  rw [hasSuffix, List.reverse_nil, hasPrefix_nil_right, List.isEmpty_reverse]

theorem trimPrefix_nil_right (p : List α) : trimPrefix p [] = [] := by
  unfold trimPrefix; split
  · exact List.drop_nil
  · rfl

theorem trimSuffix_nil_right (p : List α) : trimSuffix p [] = [] := by
  unfold trimSuffix; split
  · exact List.take_nil
  · rfl

theorem splitGo_ne_nil (d : List α) (k : Nat) (acc s : List α) : splitGo d k acc s ≠ [] := by
  induction s generalizing k acc with
  | nil => cases k <;> exact List.cons_ne_nil _ _
  | cons x xs ih =>
    cases k with
    | zero => simp only [splitGo]; split <;> simp [ih]
    | succ k => exact ih k acc

theorem join_cons (d a : List α) {r : List (List α)} (h : r ≠ []) : join d (a :: r) = a ++ d ++ join d r := by
  cases r with
  | nil => exact absurd rfl h
  | cons y r => rfl

theorem splitGo_skip (d : List α) (k : Nat) (acc s : List α) :
    splitGo d k acc s = splitGo d 0 acc (s.drop k) := by
  induction s generalizing k with
  | nil => cases k <;> rfl
  | cons x xs ih =>
    cases k with
    | zero => rfl
    | succ k => exact ih k

theorem join_splitGo (d : List α) (hd : d ≠ []) (k : Nat) (acc s : List α) :
    join d (splitGo d k acc s) = acc.reverse ++ s.drop k := by
  induction s generalizing k acc with
  | nil => simp [splitGo, join]
  | cons x xs ih =>
    cases k with
    | succ k => exact ih k acc
    | zero =>
      simp only [splitGo, List.drop_zero]
      split
      · rename_i h
        rw [join_cons _ _ (splitGo_ne_nil _ _ _ _), ih]
        have e := hasPrefix_eq_drop h
        have hl : d.length = (d.length - 1) + 1 := by
          have : 0 < d.length := List.length_pos_iff.2 hd
          omega
        rw [hl, List.drop_succ_cons] at e
        simp only [List.reverse_nil, List.nil_append, List.append_assoc]
        rw [← e]
      · rw [ih]; simp

/-- join inverts split (non-empty delimiter) -/
theorem join_split (d s : List α) (hd : d ≠ []) : join d (split d s) = s := by
  unfold split
  have : d.isEmpty = false := by cases d <;> simp_all
  simp [this, join_splitGo d hd]

theorem join_nil (xss : List (List α)) : join [] xss = xss.flatten := by
  fun_induction join [] xss with
  | case1 => rfl
  | case2 x => simp
  | case3 x y r ih => rw [ih]; simp

end Spec

namespace Impl

/-- the length test of `search` is implied by its window test -/
theorem searchFrom_cons (d : List α) (start : Nat) (x : α) (xs : List α) :
    searchFrom d start (x :: xs) =
      if Spec.hasPrefix d (x :: xs) then some start else searchFrom d (start + 1) xs := by
  rw [searchFrom]
  cases h : Spec.hasPrefix d (x :: xs)
  · rw [Bool.and_false]
  · rw [Bool.and_true, decide_eq_true (Spec.hasPrefix_length h)]

theorem searchFrom_succ (d : List α) (start : Nat) (s : List α) :
    searchFrom d (start + 1) s = (searchFrom d start s).map (· + 1) := by
  induction s generalizing start with
  | nil => rw [searchFrom, searchFrom]; split <;> rfl
  | cons x xs ih => rw [searchFrom_cons, searchFrom_cons, ih]; split <;> rfl

theorem search_nil (d : List α) : search [] d = if d.isEmpty then some 0 else none := rfl

theorem search_cons (d : List α) (x : α) (xs : List α) :
    search (x :: xs) d = if Spec.hasPrefix d (x :: xs) then some 0 else (search xs d).map (· + 1) := by
  rw [search, searchFrom_cons, searchFrom_succ]; rfl

theorem search_le {s d : List α} {i : Nat} (h : search s d = some i) : i + d.length ≤ s.length := by
  induction s generalizing i with
  | nil =>
    rw [search_nil] at h
    split at h
    · rename_i hd; cases h; rw [List.isEmpty_iff.1 hd]; exact Nat.le_refl 0
    · cases h
  | cons x xs ih =>
    rw [search_cons] at h
    split at h
    · cases h; rw [Nat.zero_add]; exact Spec.hasPrefix_length ‹_›
    · obtain ⟨j, hj, rfl⟩ := Option.map_eq_some_iff.1 h
      rw [Nat.add_right_comm]
      exact Nat.succ_le_succ (ih hj)

theorem splitGo_search (d : List α) (hd : d ≠ []) (acc s : List α) :
    Spec.splitGo d 0 acc s = match search s d with
      | none => [acc.reverse ++ s]
      | some i => (acc.reverse ++ s.take i) :: Spec.splitGo d 0 [] (s.drop (i + d.length)) := by
  induction s generalizing acc with
  | nil =>
    rw [search_nil, if_neg (by simpa using hd)]
    simp only [Spec.splitGo, List.append_nil]
  | cons x xs ih =>
    rw [search_cons, Spec.splitGo]
    cases h : Spec.hasPrefix d (x :: xs)
    · rw [if_neg Bool.false_ne_true, if_neg Bool.false_ne_true, ih]
      cases search xs d with
      | none => simp
      | some i => simp [Nat.add_right_comm i 1]
    · -- the delimiter starts here: `splitGo` skips the rest of it, `drop` takes all of it at once
      obtain ⟨y, d', rfl⟩ := List.exists_cons_of_ne_nil hd
      rw [if_pos rfl, if_pos rfl, Spec.splitGo_skip]
      simp

theorem arraySplitLoop_eq (d : List α) (hd : d ≠ []) (fuel : Nat) (s : List α) (hf : s.length < fuel) :
    arraySplitLoop d fuel s = Spec.splitGo d 0 [] s := by
  induction fuel generalizing s with
  | zero => omega
  | succ f ih =>
    rw [arraySplitLoop, splitGo_search d hd]
    cases hs : search s d with
    | none => rfl
    | some i =>
      have hp : 0 < i + d.length := Nat.add_pos_right i (List.length_pos_iff.2 hd)
      have hlt : (s.drop (i + d.length)).length < f := by
        rw [List.length_drop]
        exact Nat.lt_of_lt_of_le (Nat.sub_lt (Nat.lt_of_lt_of_le hp (search_le hs)) hp) (Nat.le_of_lt_succ hf)
      simp only [List.reverse_nil, List.nil_append]
      rw [ih _ hlt]

theorem arraySplit_eq (d s : List α) : arraySplit d s = Spec.split d s := by
  unfold arraySplit Spec.split
  split
  · rfl
  · rename_i h
    exact arraySplitLoop_eq d (by simpa using h) _ s (Nat.lt_succ_self _)

theorem arraySplitLoop_ne_nil (d : List α) (fuel : Nat) (s : List α) : arraySplitLoop d fuel s ≠ [] := by
  cases fuel with
  | zero => exact List.cons_ne_nil _ _
  | succ f => unfold arraySplitLoop; split <;> exact List.cons_ne_nil _ _

theorem arraySubLoop_eq_join (old new : List α) (fuel : Nat) (s : List α) :
    arraySubLoop old new fuel s = Spec.join new (arraySplitLoop old fuel s) := by
  induction fuel generalizing s with
  | zero => rfl
  | succ f ih =>
    unfold arraySubLoop arraySplitLoop
    split
    · rw [Spec.join_cons _ _ (arraySplitLoop_ne_nil _ _ _), ih]
    · rfl

theorem arraySub_eq (old new s : List α) : arraySub old new s = Spec.sub old new s := by
  unfold arraySub Spec.sub
  split
  · induction s with
    | nil => simp
    | cons x xs ih => simp [ih]
  · rename_i h
    rw [arraySubLoop_eq_join, arraySplitLoop_eq old (by simpa using h) _ s (Nat.lt_succ_self _)]

theorem search_isSome (s sub : List α) : (search s sub).isSome = Spec.contains sub s := by
  induction s with
  | nil => rw [search_nil, Spec.contains]; cases sub.isEmpty <;> rfl
  | cons x xs ih =>
    rw [search_cons, Spec.contains, ← ih]
    cases Spec.hasPrefix sub (x :: xs)
    · simp
    · rfl

theorem arrayHasPrefixLoop_eq (p s : List α) (h : p.length ≤ s.length) :
    arrayHasPrefixLoop p s = Spec.hasPrefix p s := by
  induction p generalizing s with
  | nil => simp [arrayHasPrefixLoop, Spec.hasPrefix]
  | cons a p ih =>
    cases s with
    | nil => simp at h
    | cons x xs =>
      simp only [arrayHasPrefixLoop, Spec.hasPrefix]
      by_cases e : x = a
      · subst e; simp [ih xs (by simpa using h)]
      · have : ¬ a = x := fun h' => e h'.symm
        simp [e, this]

theorem arrayHasPrefix_eq (p s : List α) : arrayHasPrefix p s = Spec.hasPrefix p s := by
  unfold arrayHasPrefix
  split
  · rename_i hp; rw [List.isEmpty_iff.1 hp]; rfl
  · split
    · rename_i hl
      exact (Bool.eq_false_iff.2 fun h => Nat.not_le_of_lt hl (Spec.hasPrefix_length h)).symm
    · rename_i hl
      exact arrayHasPrefixLoop_eq p s (Nat.le_of_not_lt hl)

theorem arrayHasSuffix_eq (p s : List α) : arrayHasSuffix p s = Spec.hasSuffix p s := by
  unfold arrayHasSuffix
  split
  · rename_i hp; rw [List.isEmpty_iff.1 hp]; rfl
  · split
    · rename_i hl
      refine (Bool.eq_false_iff.2 fun h => ?_).symm
      obtain ⟨t, rfl⟩ := (Spec.hasSuffix_iff p s).1 h
      exact Nat.not_le_of_lt hl (List.length_append ▸ Nat.le_add_left ..)
    · -- `s = t ++ q` with `q` as long as `p`: the window test on `q` and the suffix test on `s` both say `q = p`
      rename_i hl
      have hq : (s.drop (s.length - p.length)).length = p.length :=
        (List.length_drop ..).trans (Nat.sub_sub_self (Nat.le_of_not_lt hl))
      have hs : s = s.take (s.length - p.length) ++ s.drop (s.length - p.length) :=
        (List.take_append_drop ..).symm
      generalize s.drop (s.length - p.length) = q at hq hs ⊢
      generalize s.take (s.length - p.length) = t at hs
      subst hs
      rw [decide_eq_true hq, Bool.and_true, Bool.eq_iff_iff, Spec.hasPrefix_iff_eq _ _ hq, Spec.hasSuffix_iff]
      constructor
      · rintro rfl; exact ⟨t, rfl⟩
      · rintro ⟨t', h⟩; exact (List.append_inj' h hq.symm).2.symm

theorem arrayJoin_eq (d : List α) (xss : List (List α)) : arrayJoin d xss = Spec.join d xss := by
  cases xss with
  | nil => rfl
  | cons x r =>
    simp only [arrayJoin]
    induction r generalizing x with
    | nil => simp [Spec.join]
    | cons y r ih =>
      simp only [List.map_cons, List.flatten_cons, Spec.join]
      rw [← ih y]
      simp

theorem indexed_append (k : Nat) (a b : List α) :
    indexed k (a ++ b) = indexed k a ++ indexed (k + a.length) b := by
  induction a generalizing k with
  | nil => simp [indexed]
  | cons x xs ih => simp [indexed, ih, Nat.add_assoc, Nat.add_comm 1]

theorem mem_indexed {k : Nat} {a : List α} {e : Nat × α} (h : e ∈ indexed k a) :
    k ≤ e.1 ∧ e.1 < k + a.length := by
  induction a generalizing k with
  | nil => cases h
  | cons x xs ih =>
    rw [indexed, List.mem_cons] at h
    rcases h with rfl | h
    · exact ⟨Nat.le_refl k, Nat.lt_add_of_pos_right (Nat.succ_pos _)⟩
    · have := ih h
      rw [Nat.add_right_comm] at this
      exact ⟨Nat.le_of_succ_le this.1, this.2⟩

theorem map_snd_indexed (k : Nat) (a : List α) : (indexed k a).map (·.2) = a := by
  induction a generalizing k with
  | nil => rfl
  | cons x xs ih => simp [indexed, ih]

theorem not_mem_indexed {k j : Nat} {a w : List α} {e : Nat × α} (he : e ∈ indexed k a)
    (h : k + a.length ≤ j ∨ j + w.length ≤ k) : (!decide (e ∈ indexed j w)) = true := by
  rw [Bool.not_eq_true', decide_eq_false_iff_not]
  intro he'
  have h1 := mem_indexed he
  have h2 := mem_indexed he'
  rcases h with h | h
  · exact Nat.lt_irrefl _ (Nat.lt_of_lt_of_le h1.2 (Nat.le_trans h h2.1))
  · exact Nat.lt_irrefl _ (Nat.lt_of_lt_of_le h2.2 (Nat.le_trans h h1.1))

/-- the `Difference` of both trims: `arrayTrimPrefix` is `a = []`, `arrayTrimSuffix` is `b = []` -/
theorem filter_window (a w b : List α) :
    ((indexed 0 (a ++ (w ++ b))).filter (fun e => !decide (e ∈ indexed a.length w))).map (·.2) = a ++ b := by
  have ha : ∀ e ∈ indexed 0 a, (!decide (e ∈ indexed (0 + a.length) w)) = true :=
    fun e he => not_mem_indexed he (Or.inl (Nat.le_refl _))
  have hw : ∀ e ∈ indexed (0 + a.length) w, ¬ (!decide (e ∈ indexed (0 + a.length) w)) = true :=
    fun e he => by simp only [he, decide_true, Bool.not_true, Bool.false_eq_true, not_false_eq_true]
  have hb : ∀ e ∈ indexed (0 + a.length + w.length) b, (!decide (e ∈ indexed (0 + a.length) w)) = true :=
    fun e he => not_mem_indexed he (Or.inr (Nat.le_refl _))
  rw [← Nat.zero_add a.length, indexed_append, indexed_append, List.filter_append, List.filter_append,
    List.filter_eq_self.2 ha, List.filter_eq_nil_iff.2 hw, List.filter_eq_self.2 hb]
  simp only [List.map_append, map_snd_indexed, List.nil_append]

theorem arrayTrimPrefix_eq (p s : List α) : arrayTrimPrefix p s = Spec.trimPrefix p s := by
  unfold arrayTrimPrefix Spec.trimPrefix
  rw [arrayHasPrefix_eq]
  cases h : Spec.hasPrefix p s
  · rw [Bool.and_false]; rfl
  · obtain ⟨t, rfl⟩ := (Spec.hasPrefix_iff p s).1 h
    rw [if_pos rfl, List.drop_left, Bool.and_true]
    split
    · exact filter_window [] p t
    · rename_i hg
      cases p with
      | nil => rfl
      | cons a p => simp at hg

theorem arrayTrimSuffix_eq (p s : List α) : arrayTrimSuffix p s = Spec.trimSuffix p s := by
  unfold arrayTrimSuffix Spec.trimSuffix
  rw [arrayHasSuffix_eq]
  cases h : Spec.hasSuffix p s
  · rw [Bool.and_false]; rfl
  · obtain ⟨t, rfl⟩ := (Spec.hasSuffix_iff p s).1 h
    rw [if_pos rfl, Bool.and_true, List.length_append, Nat.add_sub_cancel, List.take_left]
    split
    · have := filter_window t p []
      rwa [List.append_nil, List.append_nil] at this
    · rename_i hg
      cases p with
      | nil => exact (List.append_nil t)
      | cons a p => simp at hg

theorem repeatLoop_eq (s : List α) (n : Nat) : repeatLoop s n = Spec.repeat_ n s := by
  unfold Spec.repeat_
  induction n with
  | zero => rfl
  | succ n ih => simp [repeatLoop, ih, List.replicate_succ']

end Impl

theorem Sq.as_of_isE {p : Sq} (h : p.isE = true) (k : Kind) : p.as k = true := by
  rw [Sq.as, h, Bool.true_or]

theorem Sq.as_of_consistent {p s : Sq} (h : consistent p s = true) (hs : s.isE = false) :
    p.as s.kind = true := by
  simp only [consistent, hs, Bool.or_false, Bool.or_eq_true, decide_eq_true_eq] at h
  simpa only [Sq.as, Bool.or_eq_true, decide_eq_true_eq] using h

theorem dispatch_consistent {p s : Sq} (h : consistent p s = true) (e r : Res) :
    (if s.isE then e else if p.as s.kind then r else .err) = if s.isE then e else r := by
  cases hs : s.isE
  · rw [if_neg Bool.false_ne_true, if_neg Bool.false_ne_true, if_pos (Sq.as_of_consistent h hs)]
  · rfl

theorem dispatch_spec {p s : Sq} (h : consistent p s = true) {e r : Res} (he : s.xs = [] → e = r) :
    (if s.isE then e else if p.as s.kind then r else .err) = r := by
  rw [dispatch_consistent h]
  split
  · exact he (List.isEmpty_iff.1 ‹_›)
  · rfl

namespace Model

theorem contains_uniform (p s : Sq) : contains p s =
    if s.isE then .bool p.isE
    else if p.as s.kind then .bool (Spec.contains p.xs s.xs) else .err := by
  unfold contains
  cases s.kind
  · rfl
  · rfl
  · rw [Impl.search_isSome]

theorem hasPrefix_uniform (p s : Sq) : hasPrefix p s =
    if s.isE then .bool p.isE
    else if p.as s.kind then .bool (Spec.hasPrefix p.xs s.xs) else .err := by
  unfold hasPrefix
  cases s.kind
  · rfl
  · rfl
  · -- the array branch answers an empty prefix before it looks at its kind
    simp only [Impl.arrayHasPrefix_eq]
    cases hp : p.isE
    · rfl
    · rw [Sq.as_of_isE hp, List.isEmpty_iff.1 hp]; rfl

theorem hasSuffix_uniform (p s : Sq) : hasSuffix p s =
    if s.isE then .bool p.isE
    else if p.as s.kind then .bool (Spec.hasSuffix p.xs s.xs) else .err := by
  unfold hasSuffix
  cases s.kind
  · rfl
  · rfl
  · rw [Impl.arrayHasSuffix_eq]

theorem split_uniform (d s : Sq) : split d s =
    if s.isE then (if d.isE then .seq .A [] else .seqs .A [[]])
    else if d.as s.kind then .seqs s.kind (Spec.split d.xs s.xs) else .err := by
  unfold split
  cases s.kind
  · rfl
  · rfl
  · rw [Impl.arraySplit_eq]

theorem sub_uniform (old new s : Sq) : sub old new s =
    if s.isE then (if old.isE then .seq new.kind new.xs else .seq .A [])
    else if old.as s.kind && new.as s.kind then .seq s.kind (Spec.sub old.xs new.xs s.xs) else .err := by
  unfold sub
  cases s.kind
  · rfl
  · rfl
  · rw [Impl.arraySub_eq]

theorem trimPrefix_uniform (p s : Sq) : trimPrefix p s =
    if s.isE then .seq s.kind s.xs
    else if p.as s.kind then .seq s.kind (Spec.trimPrefix p.xs s.xs) else .err := by
  unfold trimPrefix
  rw [hasPrefix_uniform]
  cases hs : s.isE
  · cases hp : p.as s.kind
    · rfl
    · cases hb : Spec.hasPrefix p.xs s.xs
      · simp only [Spec.trimPrefix, hb]; rfl
      · cases s.kind
        · rfl
        · rfl
        · rw [Impl.arrayTrimPrefix_eq]; rfl
  · cases p.isE <;> rfl

theorem trimSuffix_uniform (p s : Sq) : trimSuffix p s =
    if s.isE then .seq s.kind s.xs
    else if p.as s.kind then .seq s.kind (Spec.trimSuffix p.xs s.xs) else .err := by
  unfold trimSuffix
  cases s.kind
  · rfl
  · rfl
  · simp only [Impl.arrayTrimSuffix_eq]
    cases hp : p.isE
    · rfl
    · rw [Sq.as_of_isE hp, List.isEmpty_iff.1 hp]
      simp [Spec.trimSuffix]

theorem contains_spec {p s : Sq} (h : consistent p s = true) : contains p s = SpecRes.contains p s := by
  rw [contains_uniform, SpecRes.contains]
  exact dispatch_spec h fun hs => by rw [hs]; rfl

theorem hasPrefix_spec {p s : Sq} (h : consistent p s = true) : hasPrefix p s = SpecRes.hasPrefix p s := by
  rw [hasPrefix_uniform, SpecRes.hasPrefix]
  exact dispatch_spec h fun hs => by rw [hs, Spec.hasPrefix_nil_right]; rfl

theorem hasSuffix_spec {p s : Sq} (h : consistent p s = true) : hasSuffix p s = SpecRes.hasSuffix p s := by
  rw [hasSuffix_uniform, SpecRes.hasSuffix]
  exact dispatch_spec h fun hs => by rw [hs, Spec.hasSuffix_nil_right]; rfl

theorem split_spec {d s : Sq} (h : consistent d s = true) : split d s = SpecRes.split d s := by
  rw [split_uniform, dispatch_consistent h, SpecRes.split]

theorem sub_spec {old new s : Sq} (h₁ : consistent old s = true) (h₂ : consistent new s = true) :
    sub old new s = SpecRes.sub old new s := by
  rw [sub_uniform, SpecRes.sub]
  cases hs : s.isE
  · rw [Sq.as_of_consistent h₁ hs, Sq.as_of_consistent h₂ hs]; rfl
  · rfl

theorem trimPrefix_spec {p s : Sq} (h : consistent p s = true) : trimPrefix p s = SpecRes.trimPrefix p s := by
  rw [trimPrefix_uniform, SpecRes.trimPrefix]
  exact dispatch_spec h fun hs => by rw [hs, Spec.trimPrefix_nil_right]

theorem trimSuffix_spec {p s : Sq} (h : consistent p s = true) : trimSuffix p s = SpecRes.trimSuffix p s := by
  rw [trimSuffix_uniform, SpecRes.trimSuffix]
  exact dispatch_spec h fun hs => by rw [hs, Spec.trimSuffix_nil_right]

theorem join_string {d : Sq} {x0 : List Nat} {r : List (List Nat)} (hd : d.as .S = true)
    (h : x0.isEmpty = false ∨ d.isE = false) :
    join d .S (x0 :: r) = .seq .S (Spec.join d.xs (x0 :: r)) := by
  cases hx : x0.isEmpty
  · simp only [join, hx, hd, decide_true, Bool.not_false, Bool.and_self, if_true]
  · have hE : d.isE = false := by simpa [hx] using h
    have hS : d.kind = .S := by simpa [Sq.as, hE] using hd
    simp only [join, hx, hE, hS, decide_true, Bool.not_true, Bool.and_false, Bool.false_eq_true, if_false,
      Bool.not_false, Bool.and_self, Bool.true_or, if_true]

theorem join_array {d : Sq} {k : Kind} {x0 : List Nat} {r : List (List Nat)} (hd : d.as .A = true)
    (h1 : (decide (k = .S) && !x0.isEmpty) = false) (h2 : (!d.isE && decide (d.kind = .S)) = false)
    (h3 : (decide (k = .A) || (x0 :: r).all (·.isEmpty)) = true) :
    join d k (x0 :: r) = .seq .A (Spec.join d.xs (x0 :: r)) := by
  unfold join
  simp only [h1, h2, hd, h3, Bool.false_eq_true, if_false, if_true, Impl.arrayJoin_eq]

end Model
end Arrai.C14
