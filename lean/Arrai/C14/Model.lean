/-
  C14 — //seq functions.  `Spec`: textbook list functions.  `Impl`: transliteration of
  syntax/std_seq.go + std_seq_array_helper.go + std_seq_bytes_helper.go (the array helpers
  loop by loop, except that the element-wise comparison of a window is written `Spec.hasPrefix` in
  `searchFrom` and `arrayHasSuffix`; Go's `strings.*`/`bytes.*` by the textbook function — trusted,
  see DESIGN §7).
  Core-only.
-/
import Arrai.Core.Canon

namespace Arrai.C14

/-! ## Spec: textbook sequence functions -/
namespace Spec
variable {α : Type} [DecidableEq α]

def hasPrefix : List α → List α → Bool
  | [], _ => true
  | _ :: _, [] => false
  | p :: ps, x :: xs => p = x && hasPrefix ps xs

def hasSuffix (p s : List α) : Bool := hasPrefix p.reverse s.reverse

/-- some window of `s` equals `p` -/
def contains (p : List α) : List α → Bool
  | [] => p.isEmpty
  | x :: xs => hasPrefix p (x :: xs) || contains p xs

def join (d : List α) : List (List α) → List α
  | [] => []
  | [x] => x
  | x :: y :: r => x ++ d ++ join d (y :: r)

/-- leftmost, non-overlapping split by a non-empty delimiter (`skip` = delimiter elements
still to be consumed; `acc` = current segment, reversed) -/
def splitGo (d : List α) : Nat → List α → List α → List (List α)
  | _, acc, [] => [acc.reverse]
  | skip + 1, acc, _ :: xs => splitGo d skip acc xs
  | 0, acc, x :: xs =>
    if hasPrefix d (x :: xs) then acc.reverse :: splitGo d (d.length - 1) [] xs
    else splitGo d 0 (x :: acc) xs

/-- `split d s`; with an empty delimiter every element becomes its own segment
(Go `strings.Split(s, "")`, `arraySplit` with an empty delimiter) -/
def split (d s : List α) : List (List α) :=
  if d.isEmpty then s.map (fun x => [x]) else splitGo d 0 [] s

/-- replace every (leftmost, non-overlapping) occurrence of `old` by `new`; with an empty
`old`, `new` is inserted before every element and at the end (Go `strings.ReplaceAll`) -/
def sub (old new s : List α) : List α :=
  if old.isEmpty then new ++ (s.map (fun x => x :: new)).flatten
  else join new (splitGo old 0 [] s)

def repeat_ (n : Nat) (s : List α) : List α := (List.replicate n s).flatten

def trimPrefix (p s : List α) : List α := if hasPrefix p s then s.drop p.length else s
def trimSuffix (p s : List α) : List α := if hasSuffix p s then s.take (s.length - p.length) else s
def concat (xs : List (List α)) : List α := xs.flatten

end Spec

/-! ## Impl: the Go code -/
namespace Impl
variable {α : Type} [DecidableEq α]

/-- `search` (std_seq_array_helper.go): first index at which `sub` occurs in `subject`, or none.
The loop tries every start position `start` with `start + len(sub) <= len(subject)`. -/
def searchFrom (sub : List α) : Nat → List α → Option Nat
  | start, [] => if sub.isEmpty then some start else none
  | start, x :: xs =>
    if sub.length ≤ (x :: xs).length && Spec.hasPrefix sub (x :: xs) then some start
    else searchFrom sub (start + 1) xs

def search (subject sub : List α) : Option Nat := searchFrom sub 0 subject

/-- the `for { if i := search(...); i >= 0 {...} else {...; break} }` loop of `arraySplit` -/
def arraySplitLoop (d : List α) : Nat → List α → List (List α)
  | 0, s => [s]
  | fuel + 1, s =>
    match search s d with
    | some i => s.take i :: arraySplitLoop d fuel (s.drop (i + d.length))
    | none => [s]

def arraySplit (d s : List α) : List (List α) :=
  if d.isEmpty then s.map (fun x => [x]) else arraySplitLoop d (s.length + 1) s

def arraySubLoop (old new : List α) : Nat → List α → List α
  | 0, s => s
  | fuel + 1, s =>
    match search s old with
    | some i => s.take i ++ new ++ arraySubLoop old new fuel (s.drop (i + old.length))
    | none => s

def arraySub (old new s : List α) : List α :=
  if old.isEmpty then (s.map (fun e => new ++ [e])).flatten ++ new
  else arraySubLoop old new (s.length + 1) s

/-- `arrayHasPrefix`: walks the subject's enumerator while counting matched prefix elements -/
def arrayHasPrefixLoop : List α → List α → Bool
  | [], _ => true            -- prefixOffset == count: break
  | _ :: _, [] => true       -- enumerator exhausted: falls out of the loop (guarded by the count test)
  | p :: ps, x :: xs => if x = p then arrayHasPrefixLoop ps xs else false

def arrayHasPrefix (p s : List α) : Bool :=
  if p.isEmpty then true
  else if s.length < p.length then false
  else arrayHasPrefixLoop p s

/-- `arrayHasSuffix`: compares the last `len(suffix)` elements -/
def arrayHasSuffix (p s : List α) : Bool :=
  if p.isEmpty then true
  else if s.length < p.length then false
  else Spec.hasPrefix p (s.drop (s.length - p.length)) && (s.drop (s.length - p.length)).length = p.length

def arrayJoin (d : List α) : List (List α) → List α
  | [] => []
  | x :: r => x ++ (r.map (fun y => d ++ y)).flatten

/-- the (index, item) pairs of an array whose first index is `off` -/
def indexed (off : Nat) : List α → List (Nat × α)
  | [] => []
  | x :: xs => (off, x) :: indexed (off + 1) xs

/-- `arrayTrimPrefix`: `Difference(subject, prefix).Shift(-count)` on (index, item) pairs -/
def arrayTrimPrefix (p s : List α) : List α :=
  if !p.isEmpty && !s.isEmpty && arrayHasPrefix p s then
    ((indexed 0 s).filter (fun e => !decide (e ∈ indexed 0 p))).map (·.2)
  else s

def arrayTrimSuffix (p s : List α) : List α :=
  if !p.isEmpty && !s.isEmpty && arrayHasSuffix p s then
    ((indexed 0 s).filter (fun e => !decide (e ∈ indexed (s.length - p.length) p))).map (·.2)
  else s

def repeatLoop (s : List α) : Nat → List α
  | 0 => []
  | n + 1 => repeatLoop s n ++ s

end Impl

/-! ## The value-level dispatch of std_seq.go -/

inductive Kind | S | B | A
  deriving DecidableEq, Inhabited, Repr

/-- a sequence argument: `xs = []` is the one empty set whatever `kind` says -/
structure Sq where
  kind : Kind
  xs : List Nat
  deriving DecidableEq, Inhabited

inductive Res
  | bool (b : Bool)
  | seq (k : Kind) (xs : List Nat)
  | seqs (k : Kind) (xss : List (List Nat))
  | err
  | panic
  deriving DecidableEq, Inhabited

def Sq.isE (s : Sq) : Bool := s.xs.isEmpty
/-- `ValueAsString`/`ValueAsBytes`/`AsArray` succeed for the matching kind and for the empty set -/
def Sq.as (s : Sq) (k : Kind) : Bool := s.isE || s.kind = k

namespace Model

def contains (sub subject : Sq) : Res :=
  if subject.isE then .bool sub.isE
  else match subject.kind with
    | .S => if sub.as .S then .bool (Spec.contains sub.xs subject.xs) else .err
    | .B => if sub.as .B then .bool (Spec.contains sub.xs subject.xs) else .err
    | .A => if sub.as .A then .bool ((Impl.search subject.xs sub.xs).isSome) else .err

def hasPrefix (p subject : Sq) : Res :=
  if subject.isE then .bool p.isE
  else match subject.kind with
    | .S => if p.as .S then .bool (Spec.hasPrefix p.xs subject.xs) else .err
    | .B => if p.as .B then .bool (Spec.hasPrefix p.xs subject.xs) else .err
    | .A => if p.isE then .bool true else if p.as .A then .bool (Impl.arrayHasPrefix p.xs subject.xs) else .err

def hasSuffix (p subject : Sq) : Res :=
  if subject.isE then .bool p.isE
  else match subject.kind with
    | .S => if p.as .S then .bool (Spec.hasSuffix p.xs subject.xs) else .err
    | .B => if p.as .B then .bool (Spec.hasSuffix p.xs subject.xs) else .err
    | .A => if p.as .A then .bool (Impl.arrayHasSuffix p.xs subject.xs) else .err

def split (d subject : Sq) : Res :=
  if subject.isE then
    (if d.isE then .seq .A [] else .seqs .A [[]])
  else match subject.kind with
    | .S => if d.as .S then .seqs .S (Spec.split d.xs subject.xs) else .err
    | .B => if d.as .B then .seqs .B (Spec.split d.xs subject.xs) else .err
    | .A => if d.as .A then .seqs .A (Impl.arraySplit d.xs subject.xs) else .err

def sub (old new subject : Sq) : Res :=
  if subject.isE then (if old.isE then .seq new.kind new.xs else .seq .A [])
  else match subject.kind with
    | .S => if old.as .S && new.as .S then .seq .S (Spec.sub old.xs new.xs subject.xs) else .err
    | .B => if old.as .B && new.as .B then .seq .B (Spec.sub old.xs new.xs subject.xs) else .err
    | .A => if old.as .A && new.as .A then .seq .A (Impl.arraySub old.xs new.xs subject.xs) else .err

def trimPrefix (p subject : Sq) : Res :=
  match hasPrefix p subject with
  | .bool true =>
    if subject.isE then .seq subject.kind subject.xs
    else (match subject.kind with
      | .S => .seq .S (Spec.trimPrefix p.xs subject.xs)
      | .B => .seq .B (Spec.trimPrefix p.xs subject.xs)
      | .A => .seq .A (Impl.arrayTrimPrefix p.xs subject.xs))
  | .bool false => .seq subject.kind subject.xs
  | r => r

def trimSuffix (p subject : Sq) : Res :=
  if subject.isE then .seq subject.kind subject.xs
  else match subject.kind with
    | .S => if p.as .S then .seq .S (Spec.trimSuffix p.xs subject.xs) else .err
    | .B => if p.as .B then .seq .B (Spec.trimSuffix p.xs subject.xs) else .err
    | .A => if p.isE then .seq .A subject.xs
            else if p.as .A then .seq .A (Impl.arrayTrimSuffix p.xs subject.xs) else .err

/-- `//seq.repeat(n, seq)` for an integral `n ≥ 0`; byte arrays are rejected (KF-seq-bytes-repeat) -/
def repeat_ (n : Nat) (s : Sq) : Res :=
  if s.isE then .seq .A []
  else match s.kind with
    | .S => .seq .S (Spec.repeat_ n s.xs)
    | .A => .seq .A (Impl.repeatLoop s.xs n)
    | .B => .err

/-- `//seq.join(joiner, subject)` where `subject` is an array of sequences of kind `k` -/
def join (d : Sq) (k : Kind) (xss : List (List Nat)) : Res :=
  match xss with
  | [] => .seq .A []
  | x0 :: _ =>
    -- Values()[0] is a String iff k = S and x0 ≠ []
    if k = .S && !x0.isEmpty then
      (if d.as .S then .seq .S (Spec.join d.xs xss) else .err)
    else if !d.isE && d.kind = .S then
      (if k = .S || xss.all (·.isEmpty) then .seq .S (Spec.join d.xs xss) else .err)
    else if d.as .A then
      (if k = .A || xss.all (·.isEmpty) then .seq .A (Impl.arrayJoin d.xs xss) else .err)
    else .err

/-- `//seq.concat(array of sequences of kind k)` -/
def concat (k : Kind) (xss : List (List Nat)) : Res :=
  match xss with
  | [] => .seq .A []
  | _ :: _ => .seq k (Spec.concat xss)

end Model

/-! ## What the specification demands (kind-consistent arguments) -/
namespace SpecRes

def contains (sub subject : Sq) : Res := .bool (Spec.contains sub.xs subject.xs)
def hasPrefix (p subject : Sq) : Res := .bool (Spec.hasPrefix p.xs subject.xs)
def hasSuffix (p subject : Sq) : Res := .bool (Spec.hasSuffix p.xs subject.xs)
def split (d subject : Sq) : Res :=
  if subject.isE then (if d.isE then .seq .A [] else .seqs .A [[]])
  else .seqs subject.kind (Spec.split d.xs subject.xs)
def sub (old new subject : Sq) : Res :=
  if subject.isE then (if old.isE then .seq new.kind new.xs else .seq .A [])
  else .seq subject.kind (Spec.sub old.xs new.xs subject.xs)
def trimPrefix (p subject : Sq) : Res := .seq subject.kind (Spec.trimPrefix p.xs subject.xs)
def trimSuffix (p subject : Sq) : Res := .seq subject.kind (Spec.trimSuffix p.xs subject.xs)
def repeat_ (n : Nat) (s : Sq) : Res := .seq s.kind (Spec.repeat_ n s.xs)
def join (d : Sq) (k : Kind) (xss : List (List Nat)) : Res := .seq k (Spec.join d.xs xss)
def concat (k : Kind) (xss : List (List Nat)) : Res := .seq k (Spec.concat xss)

end SpecRes

/-! ## Rendering: source text and canonical observables -/

def elemV (k : Kind) (x : Nat) : V :=
  match k with
  | .A => .num x
  | _ => .num (97 + x)

def seqV (k : Kind) (xs : List Nat) : V :=
  match k with
  | .S => V.mkSeq "@char" 0 (xs.map (fun x => some (elemV .S x)))
  | .B => V.mkSeq "@byte" 0 (xs.map (fun x => some (elemV .B x)))
  | .A => V.mkSeq "@item" 0 (xs.map (fun x => some (elemV .A x)))

/-- all empty sequences are the one empty set: forget the kind tag of an empty result -/
def Res.norm : Res → Res
  | .seq _ [] => .seq .A []
  | r => r

def Res.render : Res → String
  | .bool b => (V.bool b).canon
  | .seq k xs => (seqV k xs).canon
  | .seqs k xss => (V.mkArr (xss.map (seqV k))).canon
  | .err => "error"
  | .panic => "panic"

def Res.obs (r : Res) : String := r.norm.render

/-- join: a joiner of the elements' kind (or empty), and neither of the two classes on which std_seq.go departs from
the specification (KF-seq-bytes-join: byte-array elements are rejected; KF-seq-join-empty-first: an empty joiner with
an empty first string element is dispatched to the array path) -/
def joinGood (d : Sq) (k : Kind) (xss : List (List Nat)) : Bool :=
  (d.isE || d.kind = k) &&
  (match k with
   | .B => xss.all (·.isEmpty) && d.isE
   | .S => !(d.isE && (xss.head?.map (·.isEmpty)).getD false && !xss.all (·.isEmpty))
   | .A => true)

/-- kind-consistent arguments: the same kind, or one of them the empty set -/
def consistent (p subject : Sq) : Bool := p.isE || subject.isE || p.kind = subject.kind

def seqSrc (k : Kind) (xs : List Nat) : String :=
  match k with
  | .S => "'" ++ String.ofList (xs.map (fun x => Char.ofNat (97 + x))) ++ "'"
  | .B => "<<" ++ ", ".intercalate (xs.map (fun x => toString (97 + x))) ++ ">>"
  | .A => "[" ++ ", ".intercalate (xs.map toString) ++ "]"

def Sq.src (s : Sq) : String := seqSrc s.kind s.xs
def seqsSrc (k : Kind) (xss : List (List Nat)) : String :=
  "[" ++ ", ".intercalate (xss.map (seqSrc k)) ++ "]"

end Arrai.C14
